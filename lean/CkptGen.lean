import CkptGen.Prelude
import CkptGen.Src
import CkptGen.RefineLib
import CkptGen.RefineNAdv
import CkptGen.RefineArgmin
import CkptGen.RefineExtra
import CkptGen.RefineMixed
import CkptGen.RefineCommon
import CkptGen.RefineBasic
import CkptGen.RefineMethods
import CkptGen.RefineMultistage
import CkptGen.RefineTwoLevel
import CkptGen.RefineMixedIter
import CkptGen.RefineTab
import CkptGen.RefineInit
import CkptGen.RefineRevolveIter
import CkptGen.RefinePeriod
import CkptGen.RefineTables
import CkptGen.RefineHopt
import CkptGen.Capstone
import CkptGen.RefineSeqRevolve
import CkptGen.RefineSeqDisk
import CkptGen.RefineSeqHRevolve
import CkptGen.RefineSeqObj
import CkptGen.RefineAlloc
