-- Root of the `CkptVerif` library.
import CkptVerif.Model.Basic
import CkptVerif.Model.NAdv
import CkptVerif.Spec.Exec
import CkptVerif.Spec.Monitor
import CkptVerif.Spec.Configs
import CkptVerif.Model.Segment
import CkptVerif.Model.Machine
import CkptVerif.Model.Multistage
import CkptVerif.Model.Online
import CkptVerif.Model.DP
import CkptVerif.Model.Mixed
import CkptVerif.Model.Revolve
import CkptVerif.Proofs.NAdv
import CkptVerif.Proofs.DP
import CkptVerif.Proofs.MixedDP
import CkptVerif.Proofs.ExecLemmas
import CkptVerif.Proofs.SegOk
import CkptVerif.Proofs.MultistageOk
import CkptVerif.Proofs.Binom
import CkptVerif.Proofs.Period
import CkptVerif.Proofs.Argmin
import CkptVerif.Proofs.TopK
import CkptVerif.Model.Cache
import CkptVerif.Proofs.MixedPlanner
import CkptVerif.Proofs.MixedTab
import CkptVerif.Proofs.Cache
import CkptVerif.Model.ActionApi
import CkptVerif.Proofs.Machine
import CkptVerif.Proofs.Canon
import CkptVerif.Proofs.ActionApi
import CkptVerif.Proofs.MixedSegLemmas
import CkptVerif.Proofs.MixedOk
import CkptVerif.Proofs.MixedSteps
import CkptVerif.Proofs.MixedStream
import CkptVerif.Proofs.RevolveOk
import CkptVerif.Proofs.PeriodicOps
import CkptVerif.Proofs.Opt0
import CkptVerif.Proofs.OfflineGlue
import CkptVerif.Proofs.SegLabels
import CkptVerif.Proofs.MultistageE2E
import CkptVerif.Properties.C06
import CkptVerif.Properties.C10
import CkptVerif.Properties.C14
import CkptVerif.Properties.C15
import CkptVerif.Properties.C16
import CkptVerif.Properties.C18
import CkptVerif.Properties.C19
import CkptVerif.Properties.Streams
import CkptVerif.Proofs.Planners
import CkptVerif.Properties.C17
import CkptVerif.Proofs.HRevolveStruct
import CkptVerif.Proofs.HOpt
import CkptVerif.Proofs.HRevolveOk
import CkptVerif.Proofs.Cost
import CkptVerif.Proofs.RevolveCost
import CkptVerif.Proofs.OptInf
import CkptVerif.Proofs.DiskCost
import CkptVerif.Proofs.HOptBase
import CkptVerif.Proofs.HOptTables
import CkptVerif.Proofs.OnlineGlue
import CkptVerif.Proofs.ExtraRec
import CkptVerif.Proofs.StepCount
import CkptVerif.Proofs.GW
import CkptVerif.Proofs.NAdvOpt
import CkptVerif.Proofs.MultistageSteps
import CkptVerif.Proofs.BasicOk
import CkptVerif.Proofs.TwoLevelOk
import CkptVerif.Proofs.CanonObs
import CkptVerif.Proofs.Meaning
import CkptVerif.Properties.C05
import CkptVerif.Properties.C07
import CkptVerif.Proofs.StepBridges
import CkptVerif.Proofs.MultistageLabels
import CkptVerif.Properties.StreamsMore
import CkptVerif.Properties.C13
import CkptVerif.Model.MixedIter
import CkptVerif.Model.MultistageIter
import CkptVerif.Model.TwoLevelIter
import CkptVerif.Model.BasicIter
import CkptVerif.Model.Ops
import CkptVerif.Proofs.RevolveSteps
import CkptVerif.Proofs.PeriodicCost
import CkptVerif.Proofs.HRevolveCost
import CkptVerif.Proofs.SegWith
import CkptVerif.Proofs.MixedIterRefine
import CkptVerif.Proofs.MultistageIterRefine
import CkptVerif.Proofs.TwoLevelIterRefine
import CkptVerif.Proofs.BasicIterRefine
import CkptVerif.Proofs.OpsRefine
import CkptVerif.Proofs.OpsRevolve
import CkptVerif.Proofs.OpsDisk
import CkptVerif.Proofs.OpsPeriodic
import CkptVerif.Proofs.OpsHRevolve
import CkptVerif.Proofs.OpsHRevolveMain
import CkptVerif.Properties.Twins
import CkptVerif.Proofs.Plans
import CkptVerif.Proofs.LBPlans
import CkptVerif.Proofs.LowerBound
import CkptVerif.Proofs.MixedCost
import CkptVerif.Proofs.MixedPlans
import CkptVerif.Proofs.MixedLowerBound
import CkptVerif.Model.Process
import CkptVerif.Proofs.Process
import CkptVerif.Proofs.ProcessRefine
import CkptVerif.Proofs.RevolveOptimal
import CkptVerif.Proofs.DiskCounterexamples
import CkptVerif.Proofs.HRevolveNoDisk
import CkptVerif.Proofs.DiskOneReadG
import CkptVerif.Proofs.DiskOneReadSeq
import CkptVerif.Proofs.DiskOneReadPlans
import CkptVerif.Proofs.DiskOneReadLB
import CkptVerif.Proofs.Disciplines
import CkptVerif.Proofs.HRevolveLBTab
import CkptVerif.Proofs.HRevolveLBLink
import CkptVerif.Proofs.HRevolveLBPlans
import CkptVerif.Proofs.HRevolveLB
import CkptVerif.Proofs.HRevolveLBFull
import CkptVerif.Proofs.HRevolveLBFullLifo
import CkptVerif.Proofs.HRevolveLBFullGame
