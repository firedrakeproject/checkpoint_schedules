import CkptGen.Src
import CkptVerif.Model.MixedIter
import CkptVerif.Proofs.MixedDP
import Mathlib.Tactic
/-!
# Stepping through the generated text: the combinators of `CkptGen/Prelude.lean` on the values the models use

The refinement proofs evaluate the generated functions on casts of naturals.  Collected here is what several of them
need: floor division; list indexing (also with a default, on the empty list, outside the list), `pop` and writing to a
list; `range` ascending and descending, `for` loops that never break, list comprehensions (`mapM`); the `yield` of the
literal twins; the guard of `cache_step` (mixed.py); truncated subtraction and halving under the casts to `Int`/`Rat`.
-/
namespace Ckpt.Py

/-! ## `//` -/

theorem floordiv_nat (a b : Nat) (hb : b ≠ 0) : floordiv (a : Int) (b : Int) = .ok (((a / b : Nat)) : Int) := by
  unfold floordiv
  have : (b : Int) ≠ 0 := by exact_mod_cast hb
  rw [if_neg this]
  show Except.ok _ = _
  congr 1
  rw [Int.fdiv_eq_ediv_of_nonneg _ (by positivity)]
  exact (Int.natCast_ediv a b).symm

/-- the same for integer expressions that are casts of naturals -/
theorem floordiv_cast {x y : Int} (a b : Nat) (hx : x = a) (hy : y = b) (hb : b ≠ 0) :
    floordiv x y = .ok (((a / b : Nat)) : Int) := by
  rw [hx, hy, floordiv_nat a b hb]

/-- `n (n + 1) // 2 - 1` (the cost of a chain with one snapshot) stays a natural -/
theorem triangle_pos (n : Nat) (hn : 1 ≤ n) : 1 ≤ n * (n + 1) / 2 := by
  have : 1 * 2 ≤ n * (n + 1) := Nat.mul_le_mul hn (by omega)
  omega

/-! ## lists -/

theorem pyIndex_nat_ms {α : Type} (xs : List α) (i : Nat) (h : i < xs.length) :
    pyIndex xs (i : Int) = .ok xs[i] := by
  unfold pyIndex
  have h1 : ¬ ((i : Int) < 0) := by omega
  simp only [h1, if_false, Int.toNat_natCast, List.getElem?_eq_getElem h]
  rfl

/-- `xs[-1]` -/
theorem pyIndex_last {α : Type} (xs : List α) (x : α) : pyIndex (xs ++ [x]) (-1) = .ok x := by
  unfold pyIndex
  have e : (-1 : Int) + ((xs ++ [x]).length : Int) = (xs.length : Nat) := by simp
  have h0 : ((-1 : Int) < 0) := by omega
  have h1 : ¬ (((xs.length : Nat) : Int) < 0) := by omega
  simp only [h0, if_true, e, h1, if_false, Int.toNat_natCast]
  simp
  rfl

theorem pyPop_snoc {α : Type} (xs : List α) (x : α) : pyPop (xs ++ [x]) = .ok xs := by
  unfold pyPop
  simp
  rfl

/-! ## `range` and `for` -/

/-- `range(lo, hi)` between integers, possibly empty -/
theorem pyRange_eq2 (a k : Nat) (lo hi : Int) (h1 : lo = (a : Int)) (h2 : (hi - lo).toNat = k) :
    pyRange lo hi = (List.range' a k).map (fun k : Nat => (k : Int)) := by
  subst h1
  unfold pyRange
  rw [h2, List.range'_eq_map_range, List.map_map]
  apply List.map_congr_left
  intro k _
  simp

/-- `range(a, b)` for non-negative bounds -/
theorem pyRange_nat (a b : Nat) :
    pyRange (a : Int) (b : Int) = (List.range' a (b - a)).map (fun k : Nat => (k : Int)) :=
  pyRange_eq2 a (b - a) _ _ rfl (by omega)

/-- a `for` loop in `Except` whose body always yields is a `foldl` -/
theorem forIn_yield {σ α : Type} (xs : List α) (f : α → σ → M (ForInStep σ)) (g : σ → α → σ)
    (h : ∀ x ∈ xs, ∀ s, f x s = .ok (.yield (g s x))) (s : σ) :
    forIn xs s f = .ok (xs.foldl g s) := by
  induction xs generalizing s with
  | nil => rfl
  | cons x xs ih =>
    rw [List.forIn_cons, h x (List.mem_cons_self ..) s]
    simp only [bind, Except.bind, List.foldl_cons]
    exact ih (fun y hy => h y (List.mem_cons_of_mem _ hy)) _

/-- the same over (the casts of) a list of naturals, when the body is only known on the states `R t` that represent
a model state `t` -/
theorem forIn_yield_map {σ τ : Type} (R : τ → σ) (g : τ → Nat → τ) (body : Int → σ → M (ForInStep σ)) :
    ∀ (l : List Nat) (t0 : τ), (∀ x ∈ l, ∀ t, body (x : Int) (R t) = .ok (.yield (R (g t x)))) →
      forIn (l.map (fun k : Nat => (k : Int))) (R t0) body = .ok (R (l.foldl g t0)) := by
  intro l
  induction l with
  | nil => intro t0 _; rfl
  | cons x xs ih =>
    intro t0 h
    rw [List.map_cons, List.forIn_cons, h x (List.mem_cons_self ..) t0]
    show forIn (List.map (fun k : Nat => (k : Int)) xs) (R (g t0 x)) body = _
    rw [List.foldl_cons]
    exact ih (g t0 x) (fun y hy t => h y (List.mem_cons_of_mem _ hy) t)

theorem forIn_yield_map' {σ τ : Type} (R : τ → σ) (g : τ → Nat → τ) (l : List Nat) (t0 : τ) (init : σ)
    (body : Int → σ → M (ForInStep σ)) (hi : init = R t0)
    (h : ∀ x ∈ l, ∀ t, body (x : Int) (R t) = .ok (.yield (R (g t x)))) :
    forIn (l.map (fun k : Nat => (k : Int))) init body = .ok (R (l.foldl g t0)) := by
  subst hi; exact forIn_yield_map R g body l t0 h

/-! ## indexing with a default, the empty list, `range(0, n)` -/

theorem pyIndex_getElem! {α : Type} [Inhabited α] (l : List α) (k : Nat) (h : k < l.length) :
    pyIndex l (k : Int) = .ok l[k]! := by
  rw [pyIndex_nat_ms l k h, getElem!_pos l k h]

theorem pyIndex_nil {α : Type} (i : Int) : pyIndex ([] : List α) i = .error .indexError := by
  unfold pyIndex
  simp only [List.length_nil, Int.natCast_zero, Int.add_zero, ite_self, List.getElem?_nil]
  rfl

theorem pyRange_zero (n : Nat) : pyRange 0 (n : Int) = (List.range n).map (fun k : Nat => (k : Int)) := by
  unfold pyRange
  simp

/-! ## `range(n - 1, -1, -1)` -/

theorem pyRangeDown_succ (i : Nat) :
    pyRangeDown (((i + 1 : Nat) : Int) - 1) (-1) = (i : Int) :: pyRangeDown ((i : Int) - 1) (-1) := by
  unfold pyRangeDown
  have e1 : (((i + 1 : Nat) : Int) - 1 - (-1)).toNat = i + 1 := by omega
  have e2 : ((i : Int) - 1 - (-1)).toNat = i := by omega
  rw [e1, e2, List.range_succ_eq_map]
  simp only [List.map_cons, List.map_map]
  congr 1
  · simp
  · apply List.map_congr_left
    intro k _
    simp only [Function.comp]
    push_cast
    omega

/-- a descending `for` loop whose body appends `g index` to the list it builds -/
theorem forIn_down_append {β : Type} (body : Int → List β → M (ForInStep (List β))) (g : Nat → List β)
    (hb : ∀ (i : Nat) (s : List β), body (i : Int) s = .ok (.yield (s ++ g i))) :
    ∀ (n : Nat) (s : List β),
      forIn (pyRangeDown ((n : Int) - 1) (-1)) s body = .ok (s ++ (List.range n).reverse.flatMap g) := by
  intro n
  induction n with
  | zero => intro s; simp [pyRangeDown]; rfl
  | succ n ih =>
    intro s
    rw [pyRangeDown_succ, List.forIn_cons, hb]
    simp only [bind, Except.bind]
    rw [ih, List.range_succ, List.reverse_append, List.reverse_singleton, List.singleton_append,
      List.flatMap_cons, List.append_assoc]

/-! ## the guard of `cache_step` (mixed.py): `s = min(s, n - 1)`, then `n <= 0`, `s < min(1, n - 1)`, `s > n - 1` -/

open Ckpt in
/-- the clamp on integers is the model's clamp on naturals -/
theorem clamp_cast (n s : Nat) (hn : 1 ≤ n) : min (s : Int) ((n : Int) - 1) = ((clampS n s : Nat) : Int) := by
  unfold clampS
  omega

open Ckpt in
/-- a key the model calls invalid is one the guard rejects -/
theorem guard_of_invalid (n s : Nat) (hv : ¬ validKey n (clampS n s) = true) :
    (n : Int) ≤ 0 ∨ min (s : Int) ((n : Int) - 1) < min 1 ((n : Int) - 1) ∨
      min (s : Int) ((n : Int) - 1) > (n : Int) - 1 := by
  by_cases hn : 1 ≤ n
  · rw [clamp_cast n s hn]
    rw [validKey_iff] at hv
    omega
  · exact Or.inl (by omega)

open Ckpt in
/-- a valid key passes the guard -/
theorem guard_of_valid (n s : Nat) (hv : validKey n (clampS n s) = true) :
    ¬ (n : Int) ≤ 0 ∧ min (s : Int) ((n : Int) - 1) = ((clampS n s : Nat) : Int) ∧
      ¬ (((clampS n s : Nat) : Int) < min 1 ((n : Int) - 1) ∨ ((clampS n s : Nat) : Int) > (n : Int) - 1) := by
  obtain ⟨h1, h2, h3⟩ := (validKey_iff _ _).1 hv
  exact ⟨by omega, clamp_cast n s h1, by omega⟩

/-! ## truncated subtraction under the cast

The generated text computes in `Int` what the models compute with truncated `Nat` subtraction.  These are the ways
in which a test or a difference of the model carries over; each is used with the model's hypothesis at hand. -/

theorem cast_lt_sub {a b c : Nat} (h : a < b - c) : (a : Int) < (b : Int) - (c : Int) := by omega

theorem cast_not_lt_sub {a b c : Nat} (h : ¬ a < b - c) : ¬ (a : Int) < (b : Int) - (c : Int) := by omega

theorem cast_lt_sub_sub {a b c d : Nat} (h : a < b - c - d) : (a : Int) < (b : Int) - (c : Int) - (d : Int) := by
  omega

theorem cast_not_lt_sub_sub {a b c d : Nat} (h : ¬ a < b - c - d) :
    ¬ (a : Int) < (b : Int) - (c : Int) - (d : Int) := by
  omega

theorem cast_ne_sub_sub {a b c d : Nat} (h : ¬ a = b - c - d) : ¬ (a : Int) = (b : Int) - (c : Int) - (d : Int) := by
  omega

theorem cast_eq_sub_sub {a b c d : Nat} (h : a = b - c - d) (hb : c + d ≤ b) :
    (a : Int) = (b : Int) - (c : Int) - (d : Int) := by
  omega

theorem cast_add_sub {a b c : Nat} (h : c ≤ a + b) : (a : Int) + (b : Int) - (c : Int) = ((a + b - c : Nat) : Int) := by
  omega

theorem cast_succ_eq_sub {a b c : Nat} (h : a + 1 = b - c) : (b : Int) - (c : Int) - 1 = (a : Int) := by omega

theorem cast_succ_ne_sub {a b c : Nat} (h : a + 1 ≠ b - c) : ¬ (a : Int) = (b : Int) - (c : Int) - 1 := by omega

/-- a difference that is not zero has not been truncated -/
theorem cast_sub_sub {b c d : Nat} (h : b - c - d ≠ 0) :
    (b : Int) - (c : Int) - (d : Int) = ((b - c - d : Nat) : Int) := by
  omega

/-! ## writing to a list, reading outside it; list comprehensions; `range(lo, hi)`; `/ 2` -/

theorem pySetAt_nat {α : Type} (xs : List α) (i : Nat) (v : α) (h : i < xs.length) :
    pySetAt xs (i : Int) v = .ok (xs.set i v) := by
  unfold pySetAt
  have c1 : ¬ ((i : Int) < 0) := by omega
  have c2 : ¬ ((i : Int) < 0 ∨ (i : Int) ≥ (xs.length : Int)) := by omega
  simp only [if_neg c1, if_neg c2, Int.toNat_natCast]
  rfl

theorem pyIndex_oob {α : Type} (xs : List α) (i : Nat) (h : xs.length ≤ i) :
    pyIndex xs (i : Int) = .error .indexError := by
  unfold pyIndex
  have c1 : ¬ ((i : Int) < 0) := by omega
  simp only [c1, if_false, Int.toNat_natCast, List.getElem?_eq_none h]
  rfl

/-- a list comprehension whose body never raises -/
theorem mapM_ok_map {α β γ : Type} (c : α → β) (f : β → M γ) (g : α → γ) :
    ∀ (l : List α), (∀ a ∈ l, f (c a) = .ok (g a)) → (l.map c).mapM f = .ok (l.map g)
  | [], _ => rfl
  | a :: l, h => by
    rw [List.map_cons, List.mapM_cons, h a (by simp),
      mapM_ok_map c f g l (fun b hb => h b (by simp [hb]))]
    rfl

theorem mapM_ok {α β : Type} (f : α → M β) (g : α → β) (xs : List α) (h : ∀ x ∈ xs, f x = .ok (g x)) :
    xs.mapM f = .ok (xs.map g) := by
  have := mapM_ok_map id f g xs h
  rwa [List.map_id] at this

theorem mapM_range_ok {β : Type} (f : Int → M β) (g : Nat → β) (a k : Nat)
    (h : ∀ j : Nat, a ≤ j → j < a + k → f (j : Int) = .ok (g j)) :
    ((List.range' a k).map (fun k : Nat => (k : Int))).mapM f = .ok ((List.range' a k).map g) := by
  rw [mapM_ok f (fun i => g i.toNat)]
  · rw [List.map_map]
    congr 1
  · intro x hx
    obtain ⟨j, hj, rfl⟩ := List.mem_map.1 hx
    rw [List.mem_range'_1] at hj
    rw [h j hj.1 hj.2, Int.toNat_natCast]

theorem pyRange_two (n : Nat) :
    pyRange 2 ((n : Int) + 1) = (List.range' 2 (n - 1)).map (fun k : Nat => (k : Int)) :=
  pyRange_eq2 2 (n - 1) 2 _ rfl (by omega)

theorem pyRange_one (l : Nat) :
    pyRange 1 (l : Int) = (List.range' 1 (l - 1)).map (fun k : Nat => (k : Int)) :=
  pyRange_eq2 1 (l - 1) 1 _ rfl (by omega)

theorem ratDiv_two (a : Rat) : ratDiv a (((2 : Int) : Int) : Rat) = .ok (a / 2) := by
  unfold ratDiv
  have : ¬ ((((2 : Int) : Int) : Rat) = 0) := by norm_num
  rw [if_neg this]
  norm_num
  rfl

theorem pyRange_cons (a b : Int) (h : a < b) : pyRange a b = a :: pyRange (a + 1) b := by
  unfold pyRange
  have e : (b - a).toNat = (b - (a + 1)).toNat + 1 := by omega
  rw [e, List.range_succ_eq_map, List.map_cons, List.map_map]
  congr 1
  · simp
  · apply List.map_congr_left
    intro k _
    simp only [Function.comp]
    push_cast
    ring

theorem pySetAt_oob {α : Type} (xs : List α) (i : Nat) (v : α) (h : xs.length ≤ i) :
    pySetAt xs (i : Int) v = .error .indexError := by
  unfold pySetAt
  have h1 : ¬ ((i : Int) < 0) := by omega
  simp only [h1, if_false]
  have h2 : (False ∨ (i : Int) ≥ (xs.length : Int)) := Or.inr (by omega)
  rw [if_pos h2]
  rfl

/-- `l (l+1) / 2` is exact -/
theorem tri_cast (l : Nat) : ((l : Rat) * ((l : Rat) + 1)) / 2 = ((l * (l + 1) / 2 : Nat) : Rat) := by
  have h2 : 2 ∣ l * (l + 1) := (Nat.even_mul_succ_self l).two_dvd
  rw [Nat.cast_div h2 (by norm_num)]
  push_cast
  rfl

/-! ## `if … : raise` -/

/-- a test that raises did not fire -/
theorem ok_of_ite_error {α ε : Type} {c : Prop} [Decidable c] {e : ε} {x : Except ε α} {z : α}
    (h : (if c then Except.error e else x) = .ok z) : ¬ c ∧ x = .ok z := by
  split_ifs at h with hc
  exact ⟨hc, h⟩

end Ckpt.Py
