import CkptGen.RefineArgmin
import CkptGen.RefineTables
import CkptGen.Capstone
import CkptVerif.Proofs.OpsRevolve
import Mathlib.Tactic
/-!
# The operation-sequence builder `revolve` (hrevolve_sequences/revolve.py) as generated computes the twin `revolveOps`

`Ckpt.Py.revolve`, `Ckpt.Py.argmin_rat` are produced by `harness/py2lean.py` from `revolve.py` / `basic_functions.py`
(a `Sequence` is the flattened list of its operations).  They are related here to stage 1 of the twin
(`CkptVerif/Model/Ops.lean`: `revolveOps`, `shiftOps`, `removeUselessWm`, `revolveOpsTop`).

1. `argmin_rat_refines`: `argmin` on a list of (cast) naturals is the model's `argminO` (`argmin_rat_spec`: the 1-based
   index of the LAST minimum; `argmin_rat_empty`: `IndexError`).
2. `seqShift_opPy`, `seqRemoveUselessWm_opPy`: `Sequence.shift`, `Sequence.remove_useless_wm` commute with `opPy`.
3. `revolve_some_refines` (any table `T` with `TabOk T t0 L M`: rows `1 … M`, columns `0 … L` hold `opt0Get t0`),
   `revolve_refines` (`opt_0 = some (tabQ (opt0Table lmax mmax uf ub))`, `l ≤ max lmax 1`, `cm ≤ mmax`: what the recursion
   and the disk builders pass), `revolve_refines_none` (`opt_0 = None`, `1 ≤ cm ∨ l ≤ 1`): for EVERY fuel
   `revolve fuel l cm rd wd uf ub opt_0 = match revolveOps t0 uf fuel l cm with | some ops => .ok (ops.map opPy)
   | none => .error (revolveErr fuel cm)`, `revolveErr` = `ValueError` for `cm = 0` (fuel left), `PyErr.fuel` otherwise;
   `rd`, `wd` are arbitrary rationals (unused; the recursion swaps them).  The generated function and the twin consume
   fuel in step (one unit per recursion level), so the fuel is the same on both sides; `l + 1` suffices
   (`revolveOps_isSome`, `revolve_ok`, `revolve_ok_none`).  Exceptions: `revolve_valueError` (`cm = 0`, `l ≥ 1`, a table
   passed), `revolve_valueError_none` (`opt_0 = None`, `l = 1`), and `revolve_none_indexError`: `opt_0 = None`, `cm = 0`,
   `l ≥ 2` raises the `IndexError` of `get_opt_0_table`, NOT the `ValueError` (Python does the same).
4. `revolveClass_run` = `Revolve.__init__` + `_iterator`, builder AND iterator as generated.  `revolve_builder_top`: the
   generated builder returns `revolveOpsTop N cm c` (fuel `N`; at most `8 N` operations, `revolveOps_length`:
   `≤ 8 l + 5`); `revolveClass_run_refines`: the result is the stream model `revolveEvs`;
   `source_revolve_accepted_full`, `source_revolve_C01_C18_full`: accepted by the checking executor, complete.
   Fuel: builder `N ≤ fuelB`, iterator `8 N + 1 ≤ fuelI`.
-/
namespace Ckpt.Py
open Ckpt Ckpt.Ops

theorem argmin_rat_eq_fold (l : List Rat) (h : l ≠ []) :
    argmin_rat l = .ok ((1 : Int) + ((List.range l.length).foldl (argStepPy l) ((0 : Int), l[0]!)).1) := by
  have hpos : 0 < l.length := List.length_pos_iff.2 h
  unfold argmin_rat
  simp only [bind, Except.bind, pure, Except.pure]
  have h0 := pyIndex_getElem! l 0 hpos
  simp only [Nat.cast_zero] at h0
  rw [h0]
  simp only []
  rw [pyRange_zero, forIn_yield (g := fun s (i : Int) => argStepPy l s i.toNat), List.foldl_map]
  · simp only [Int.toNat_natCast]
  · intro x hx s
    obtain ⟨k, hk, rfl⟩ := List.mem_map.1 hx
    have hk' : k < l.length := List.mem_range.1 hk
    simp only [pyIndex_getElem! l k hk', Int.toNat_natCast, argStepPy]
    split_ifs <;> rfl

/-- `list[0]` on an empty list -/
theorem argmin_rat_empty : argmin_rat [] = .error .indexError := by
  unfold argmin_rat
  simp only [bind, Except.bind, pyIndex_nil]

/-- characterisation independent of the model: the result is the 1-based index of the LAST minimum -/
theorem argmin_rat_spec (l : List Rat) (h : l ≠ []) :
    ∃ k : Nat, argmin_rat l = .ok ((k : Int) + 1) ∧ k < l.length ∧
      (∀ j, j < l.length → l[k]! ≤ l[j]!) ∧ (∀ j, k < j → j < l.length → l[k]! < l[j]!) := by
  have hpos : 0 < l.length := List.length_pos_iff.2 h
  obtain ⟨i, e, hi, hle, hlt⟩ := argLoop_inv l l.length
  refine ⟨i, ?_, by omega, hle, hlt⟩
  rw [argmin_rat_eq_fold l h, e, Int.add_comm]

theorem argmin_rat_refines (l : List Nat) (h : l ≠ []) :
    argmin_rat (l.map (fun a : Nat => (a : Rat))) = .ok ((argminO (l.map some) : Nat) : Int) := by
  obtain ⟨k, e, hk, hle, hlt⟩ := argmin_rat_spec (l.map (fun a : Nat => (a : Rat))) (by simpa using h)
  simp only [List.length_map] at hk hle hlt
  rw [e, argminO_eq_of_last_min (fun a : Nat => (a : Rat)) Nat.strictMono_cast l h k hk hle hlt]
  push_cast
  rfl

example : argmin_rat ([3, 1, 2, 1].map (fun a : Nat => (a : Rat))) = .ok 4 :=
  argmin_rat_refines [3, 1, 2, 1] (by decide)

theorem opShift_opPy (o : Ops.Op) (k : Nat) : opShift (opPy o) (k : Int) = opPy (shiftOp k o) := by
  obtain ⟨kind, lvl, a, b⟩ := o
  cases kind <;> simp [opShift, opPy, opIdxPy, opKindStr, shiftOp]

theorem seqShift_opPy (ops : List Ops.Op) (k : Nat) :
    seqShift (ops.map opPy) (k : Int) = (shiftOps k ops).map opPy := by
  unfold seqShift shiftOps
  rw [List.map_map, List.map_map]
  apply List.map_congr_left
  intro o _
  exact opShift_opPy o k

theorem seqRemoveUselessWm_opPy (ops : List Ops.Op) :
    seqRemoveUselessWm (ops.map opPy) (-1) = (removeUselessWm ops).map opPy := by
  cases ops with
  | nil => rfl
  | cons o rest =>
    obtain ⟨kind, lvl, a, b⟩ := o
    cases kind <;> simp [seqRemoveUselessWm, removeUselessWm, opPy, opIdxPy, opKindStr]

example : seqShift ([Op.wm 0, Op.fwd 0 2, Op.w 1 3].map opPy) ((5 : Nat) : Int)
    = (shiftOps 5 [Op.wm 0, Op.fwd 0 2, Op.w 1 3]).map opPy := seqShift_opPy _ 5
example : seqRemoveUselessWm ([Op.wm 0, Op.fwd 0 2].map opPy) (-1) = [Op.fwd 0 2].map opPy :=
  seqRemoveUselessWm_opPy _

/- One lemma per branch of the generated `revolve`.  The facts that select the branch are handed to `simp` together with
`↓reduceIte`: an `if` is then decided before its branches are visited, and the branches not taken are never normalised. -/
theorem revolve_l0 (fuel : Nat) (l cm : Int) (hl : l = 0) (rd wd uf ub : Rat) (T : List (List Rat)) :
    revolve (fuel + 1) l cm rd wd uf ub (some T)
      = .ok ([Op.wfm 1, Op.fwd 0 1, Op.bwd 1 0, Op.dfm 1, Op.dm 0].map opPy) := by
  rw [revolve]
  simp only [↓reduceIte, reduceCtorEq, hl, pure, Except.pure]
  rfl

theorem revolve_cm0 (fuel : Nat) (l cm : Int) (hl : l ≠ 0) (hcm : cm = 0) (rd wd uf ub : Rat) (T : List (List Rat)) :
    revolve (fuel + 1) l cm rd wd uf ub (some T) = .error .valueError := by
  rw [revolve]
  simp only [↓reduceIte, reduceCtorEq, hl, hcm]
  rfl

theorem revolve_l1 (fuel : Nat) (l cm : Int) (hl : l = 1) (hcm : cm ≠ 0) (rd wd uf ub : Rat) (T : List (List Rat)) :
    revolve (fuel + 1) l cm rd wd uf ub (some T)
      = .ok ([Op.wm 0, Op.fwd 0 1, Op.wfm 2, Op.fwd 1 2, Op.bwd 2 1, Op.dfm 2, Op.rm 0,
            Op.wfm 1, Op.fwd 0 1, Op.bwd 1 0, Op.dfm 1, Op.dm 0].map opPy) := by
  rw [revolve]
  simp only [↓reduceIte, reduceCtorEq, hl, hcm, pure, Except.pure]
  rfl

theorem revolve_cm1 (fuel : Nat) (l : Nat) (cm : Int) (hl : 2 ≤ l) (hcm : cm = 1) (rd wd uf ub : Rat) (T : List (List Rat)) :
    revolve (fuel + 1) (l : Int) cm rd wd uf ub (some T)
      = .ok (([Op.wm 0] ++ (List.range l).reverse.flatMap (revolveLoopBody l) ++
        [Op.rm 0, Op.wfm 1, Op.fwd 0 1, Op.bwd 1 0, Op.dfm 1, Op.dm 0]).map opPy) := by
  have h0 : ¬ (l : Int) = 0 := by omega
  have h1 : ¬ (l : Int) = 1 := by omega
  rw [revolve]
  simp only [↓reduceIte, reduceCtorEq, h0, h1, hcm, bind, Except.bind, pure, Except.pure]
  rw [forIn_down_append _ (fun i => (revolveLoopBody l i).map opPy)]
  · simp only [List.map_append, List.map_flatMap, List.append_assoc, List.nil_append, List.map_cons, List.map_nil,
      List.cons_append]
    rfl
  · intro i s
    have h1 : (i : Int) + 1 ≠ 0 := by omega
    have h1' : i + 1 ≠ 0 := by omega
    by_cases h : i = l - 1
    · have h2 : ¬ ((i : Int) ≠ (l : Int) - 1) := by omega
      rw [if_neg h2, if_pos h1]
      simp [revolveLoopBody, h, opPy, opIdxPy, opKindStr, Op.fwd, Op.bwd, Op.wfm, Op.dfm]
    · have h2 : ((i : Int) ≠ (l : Int) - 1) := by omega
      rw [if_pos h2, if_pos h1]
      simp [revolveLoopBody, h, opPy, opIdxPy, opKindStr, Op.fwd, Op.bwd, Op.wfm, Op.dfm, Op.rm]

/-- the table `T` (Python's `opt_0`) holds the model's entries in rows `1 … M`, columns `0 … L` -/
def TabOk (T : List (List Rat)) (t0 : Array (Array Nat)) (L M : Nat) : Prop :=
  ∀ m, 1 ≤ m → m ≤ M → ∃ row, T[m]? = some row ∧
    ∀ l, l ≤ L → row[l]? = some ((opt0Get t0 m l : Nat) : Rat)

/-- the candidates of the model's `argmin` -/
def revListMem (t0 : Array (Array Nat)) (uf l cm : Nat) : List Nat :=
  (List.range' 1 (l - 1)).map (fun j => j * uf + opt0Get t0 (cm - 1) (l - j) + opt0Get t0 cm (j - 1))

def revJmin (t0 : Array (Array Nat)) (uf l cm : Nat) : Nat := argminO ((revListMem t0 uf l cm).map some)

theorem revListMem_length (t0 : Array (Array Nat)) (uf l cm : Nat) : (revListMem t0 uf l cm).length = l - 1 := by
  rw [revListMem, List.length_map, List.length_range']

theorem revListMem_ne (t0 : Array (Array Nat)) (uf l cm : Nat) (hl : 2 ≤ l) : revListMem t0 uf l cm ≠ [] := by
  intro h
  have := revListMem_length t0 uf l cm
  rw [h] at this
  exact absurd this (by simp; omega)

theorem revJmin_range (t0 : Array (Array Nat)) (uf l cm : Nat) (hl : 2 ≤ l) :
    1 ≤ revJmin t0 uf l cm ∧ revJmin t0 uf l cm ≤ l - 1 := by
  have hr := argminO_map_some_range _ (revListMem_ne t0 uf l cm hl)
  rw [revListMem_length] at hr
  exact hr

theorem revolve_rec (fuel : Nat) (l cm L M uf : Nat) (T : List (List Rat)) (t0 : Array (Array Nat))
    (hT : TabOk T t0 L M) (hl : 2 ≤ l) (hlL : l ≤ L) (hcm : 2 ≤ cm) (hcmM : cm ≤ M) (rd wd ub : Rat) :
    revolve (fuel + 1) (l : Int) (cm : Int) rd wd (uf : Rat) ub (some T)
      = (revolve fuel ((l - revJmin t0 uf l cm : Nat) : Int) ((cm - 1 : Nat) : Int) wd rd (uf : Rat) ub (some T) >>= fun right =>
         revolve fuel ((revJmin t0 uf l cm - 1 : Nat) : Int) (cm : Int) wd rd (uf : Rat) ub (some T) >>= fun left =>
         pure ([Op.wm 0, Op.fwd 0 (revJmin t0 uf l cm)].map opPy ++ seqShift right (revJmin t0 uf l cm : Int) ++ [opPy (Op.rm 0)]
            ++ seqRemoveUselessWm left (-1))) := by
  have h0 : ¬ (l : Int) = 0 := by omega
  have h1 : ¬ (l : Int) = 1 := by omega
  have hc0 : ¬ (cm : Int) = 0 := by omega
  have hc1 : ¬ (cm : Int) = 1 := by omega
  rw [revolve]
  simp only [↓reduceIte, reduceCtorEq, h0, h1, hc0, hc1, bind, Except.bind, pure, Except.pure]
  obtain ⟨rowc, hTc, hrowc⟩ := hT cm (by omega) hcmM
  obtain ⟨rowp, hTp, hrowp⟩ := hT (cm - 1) (by omega) (by omega)
  have hu : unwrap (some T) = Except.ok T := rfl
  have ecm : (cm : Int) - 1 = ((cm - 1 : Nat) : Int) := by omega
  rw [pyRange_one l, mapM_ok_map _ _
      ((fun x : Nat => (x : Rat)) ∘ (fun j => j * uf + opt0Get t0 (cm - 1) (l - j) + opt0Get t0 cm (j - 1)))]
  swap
  · intro j hj
    have hj' := List.mem_range'_1.1 hj
    have el : (l : Int) - (j : Int) = ((l - j : Nat) : Int) := by omega
    have ej : (j : Int) - 1 = ((j - 1 : Nat) : Int) := by omega
    simp only [Function.comp_apply, hu]
    rw [ecm, pyIndex_of_getElem? _ _ _ hTp]
    simp only []
    rw [el, pyIndex_of_getElem? _ _ _ (hrowp (l - j) (by omega))]
    simp only []
    rw [pyIndex_of_getElem? _ _ _ hTc]
    simp only []
    rw [ej, pyIndex_of_getElem? _ _ _ (hrowc (j - 1) (by omega))]
    simp only []
    push_cast
    rfl
  simp only []
  rw [← List.map_map]
  have ec : List.map (fun j => j * uf + opt0Get t0 (cm - 1) (l - j) + opt0Get t0 cm (j - 1))
      (List.range' 1 (l - 1)) = revListMem t0 uf l cm := rfl
  rw [ec, argmin_rat_refines _ (revListMem_ne t0 uf l cm hl)]
  simp only []
  have hr := revJmin_range t0 uf l cm hl
  have ej1 : (l : Int) - (revJmin t0 uf l cm : Int) = ((l - revJmin t0 uf l cm : Nat) : Int) := by omega
  have ej2 : (revJmin t0 uf l cm : Int) - 1 = ((revJmin t0 uf l cm - 1 : Nat) : Int) := by omega
  rw [show argminO ((revListMem t0 uf l cm).map some) = revJmin t0 uf l cm from rfl]
  rw [ej1, ej2, ecm]
  rfl

theorem revolveOps_rec (t0 : Array (Array Nat)) (uf fuel l cm : Nat) (hl : 2 ≤ l) (hcm : 2 ≤ cm) :
    revolveOps t0 uf (fuel + 1) l cm =
      match revolveOps t0 uf fuel (l - revJmin t0 uf l cm) (cm - 1) with
      | none => none
      | some right =>
        match revolveOps t0 uf fuel (revJmin t0 uf l cm - 1) cm with
        | none => none
        | some left =>
          some ([Op.wm 0, Op.fwd 0 (revJmin t0 uf l cm)] ++ shiftOps (revJmin t0 uf l cm) right ++ [Op.rm 0] ++
            removeUselessWm left) := by
  have e : (revListMem t0 uf l cm).map some = (List.range' 1 (l - 1)).map (fun j =>
        some (j * uf + opt0Get t0 (cm - 1) (l - j) + opt0Get t0 cm (j - 1))) := by
    simp [revListMem, List.map_map]
  rw [revolveOps]
  rw [if_neg (by omega), if_neg (by omega), if_neg (by omega), if_neg (by omega)]
  unfold revJmin
  rw [e]
  rfl

/-- the exception of the generated `revolve` where the twin has no sequence -/
def revolveErr (fuel cm : Nat) : PyErr := if cm = 0 ∧ fuel ≠ 0 then .valueError else .fuel

theorem revolve_some_refines (T : List (List Rat)) (t0 : Array (Array Nat)) (L M uf : Nat) (hT : TabOk T t0 L M)
    (ub : Rat) : ∀ (fuel l cm : Nat) (rd wd : Rat), l ≤ L → cm ≤ M →
    revolve fuel (l : Int) (cm : Int) rd wd (uf : Rat) ub (some T) =
      match revolveOps t0 uf fuel l cm with
      | some ops => .ok (ops.map opPy)
      | none => .error (revolveErr fuel cm) := by
  intro fuel
  induction fuel with
  | zero =>
    intro l cm rd wd _ _
    rw [revolve, revolveOps]
    simp [revolveErr]
    rfl
  | succ fuel ih =>
    intro l cm rd wd hlL hcmM
    by_cases hl0 : l = 0
    · rw [revolve_l0 fuel _ _ (by omega), revolveOps, if_pos hl0]
    by_cases hcm0 : cm = 0
    · rw [revolve_cm0 fuel _ _ (by omega) (by omega), revolveOps, if_neg hl0, if_pos hcm0]
      simp [revolveErr, hcm0]
    by_cases hl1 : l = 1
    · rw [revolve_l1 fuel _ _ (by omega) (by omega), revolveOps, if_neg hl0, if_neg hcm0, if_pos hl1]
    by_cases hcm1 : cm = 1
    · rw [revolve_cm1 fuel l _ (by omega) (by omega), revolveOps, if_neg hl0, if_neg hcm0, if_neg hl1, if_pos hcm1]
    have hj := revJmin_range t0 uf l cm (by omega)
    rw [revolve_rec fuel l cm L M uf T t0 hT (by omega) hlL (by omega) hcmM,
      revolveOps_rec t0 uf fuel l cm (by omega) (by omega),
      ih _ _ wd rd (by omega) (by omega), ih _ _ wd rd (by omega) hcmM]
    simp only [bind, Except.bind, pure, Except.pure]
    cases h1 : revolveOps t0 uf fuel (l - revJmin t0 uf l cm) (cm - 1) with
    | none =>
      simp only []
      unfold revolveErr
      rw [if_neg (by omega), if_neg (by omega)]
    | some right =>
      simp only []
      cases h2 : revolveOps t0 uf fuel (revJmin t0 uf l cm - 1) cm with
      | none =>
        simp only []
        unfold revolveErr
        rw [if_neg (by omega), if_neg (by omega)]
      | some left =>
        simp only []
        rw [seqShift_opPy, seqRemoveUselessWm_opPy]
        simp only [List.map_append, List.map_cons, List.map_nil]

/-- the model's table, cast, is a table in the sense of `TabOk` (rows `1 … mmax`, columns `0 … max lmax 1`) -/
theorem tabOk_tabQ (lmax mmax uf ub : Nat) :
    TabOk (tabQ (opt0Table lmax mmax uf ub)) (opt0Table lmax mmax uf ub) (max lmax 1) mmax := by
  intro m hm1 hm
  exact tabQ_row_ok lmax mmax uf ub m (max lmax 1) hm1 hm (Nat.le_refl _)

theorem revolveOps_isSome (t0 : Array (Array Nat)) (uf : Nat) : ∀ (fuel l cm : Nat), l + 1 ≤ fuel → 1 ≤ cm →
    ∃ ops, revolveOps t0 uf fuel l cm = some ops := by
  intro fuel
  induction fuel with
  | zero => intro l cm h; omega
  | succ fuel ih =>
    intro l cm hf hcm
    by_cases hl0 : l = 0
    · exact ⟨_, by rw [revolveOps, if_pos hl0]⟩
    by_cases hl1 : l = 1
    · exact ⟨_, by rw [revolveOps, if_neg hl0, if_neg (by omega), if_pos hl1]⟩
    by_cases hcm1 : cm = 1
    · exact ⟨_, by rw [revolveOps, if_neg hl0, if_neg (by omega), if_neg hl1, if_pos hcm1]⟩
    have hj := revJmin_range t0 uf l cm (by omega)
    obtain ⟨right, hr⟩ := ih (l - revJmin t0 uf l cm) (cm - 1) (by omega) (by omega)
    obtain ⟨left, hl⟩ := ih (revJmin t0 uf l cm - 1) cm (by omega) hcm
    exact ⟨_, by rw [revolveOps_rec t0 uf fuel l cm (by omega) (by omega), hr, hl]⟩

theorem revolveOps_cm0 (t0 : Array (Array Nat)) (uf fuel l : Nat) (hl : 1 ≤ l) :
    revolveOps t0 uf fuel l 0 = none := by
  cases fuel with
  | zero => rw [revolveOps]
  | succ fuel => rw [revolveOps, if_neg (by omega), if_pos rfl]

/-- `opt_0 = None`: the table is computed first -/
theorem revolve_none_eq (fuel : Nat) (l cm : Int) (rd wd uf ub : Rat) :
    revolve (fuel + 1) l cm rd wd uf ub none
      = (get_opt_0_table l cm uf ub >>= fun T => revolve (fuel + 1) l cm rd wd uf ub (some T)) := by
  conv_lhs => rw [revolve]
  cases get_opt_0_table l cm uf ub with
  | error e => rfl
  | ok T =>
    show _ = revolve (fuel + 1) l cm rd wd uf ub (some T)
    conv_rhs => rw [revolve]
    rfl

/-- **`revolve` with the table passed on** (`opt_0 = some (tabQ (opt0Table lmax mmax uf ub))`, a table for at least `l`
steps and `cm` slots: this is what the recursion, `disk_revolve` and `periodic_disk_revolve` pass): the generated
function returns the twin's sequence, for every fuel (the same fuel on both sides), and raises where the twin has
none. -/
theorem revolve_refines (lmax mmax uf ub : Nat) (rd wd : Rat) (fuel l cm : Nat) (hl : l ≤ max lmax 1) (hcm : cm ≤ mmax) :
    revolve fuel (l : Int) (cm : Int) rd wd (uf : Rat) (ub : Rat) (some (tabQ (opt0Table lmax mmax uf ub))) =
      match revolveOps (opt0Table lmax mmax uf ub) uf fuel l cm with
      | some ops => .ok (ops.map opPy)
      | none => .error (revolveErr fuel cm) :=
  revolve_some_refines _ _ _ _ uf (tabOk_tabQ lmax mmax uf ub) (ub : Rat) fuel l cm rd wd hl hcm

/-- **`revolve` with `opt_0 = None`** on the domain where `get_opt_0_table(l, cm, …)` does not raise -/
theorem revolve_refines_none (uf ub : Nat) (rd wd : Rat) (fuel l cm : Nat) (h : 1 ≤ cm ∨ l ≤ 1) :
    revolve fuel (l : Int) (cm : Int) rd wd (uf : Rat) (ub : Rat) none =
      match revolveOps (opt0Table l cm uf ub) uf fuel l cm with
      | some ops => .ok (ops.map opPy)
      | none => .error (revolveErr fuel cm) := by
  cases fuel with
  | zero =>
    rw [revolve, revolveOps]
    simp [revolveErr]
    rfl
  | succ fuel =>
    rw [revolve_none_eq, get_opt_0_table_refines l cm uf ub h]
    exact revolve_refines l cm uf ub rd wd (fuel + 1) l cm (by omega) (Nat.le_refl _)

/-- … and outside (`cm = 0`, `l ≥ 2`): the `IndexError` of `get_opt_0_table`, not the `ValueError` -/
theorem revolve_none_indexError (uf ub : Nat) (rd wd : Rat) (fuel l : Nat) (hl : 2 ≤ l) :
    revolve (fuel + 1) (l : Int) ((0 : Nat) : Int) rd wd (uf : Rat) (ub : Rat) none = .error .indexError := by
  rw [revolve_none_eq, get_opt_0_table_raises l 0 uf ub (by omega)]
  rfl

theorem revolve_ok (lmax mmax uf ub : Nat) (rd wd : Rat) (fuel l cm : Nat) (hl : l ≤ max lmax 1) (hcm1 : 1 ≤ cm)
    (hcm : cm ≤ mmax) (hf : l + 1 ≤ fuel) :
    ∃ ops, revolveOps (opt0Table lmax mmax uf ub) uf fuel l cm = some ops ∧
      revolve fuel (l : Int) (cm : Int) rd wd (uf : Rat) (ub : Rat) (some (tabQ (opt0Table lmax mmax uf ub)))
        = .ok (ops.map opPy) := by
  obtain ⟨ops, h⟩ := revolveOps_isSome (opt0Table lmax mmax uf ub) uf fuel l cm hf hcm1
  refine ⟨ops, h, ?_⟩
  rw [revolve_refines lmax mmax uf ub rd wd fuel l cm hl hcm, h]

theorem revolve_ok_none (uf ub : Nat) (rd wd : Rat) (fuel l cm : Nat) (hcm1 : 1 ≤ cm) (hf : l + 1 ≤ fuel) :
    ∃ ops, revolveOps (opt0Table l cm uf ub) uf fuel l cm = some ops ∧
      revolve fuel (l : Int) (cm : Int) rd wd (uf : Rat) (ub : Rat) none = .ok (ops.map opPy) := by
  obtain ⟨ops, h⟩ := revolveOps_isSome (opt0Table l cm uf ub) uf fuel l cm hf hcm1
  refine ⟨ops, h, ?_⟩
  rw [revolve_refines_none uf ub rd wd fuel l cm (Or.inl hcm1), h]

/-- `cm = 0`, `l ≥ 1`: `ValueError`, whatever table is passed … -/
theorem revolve_valueError (fuel : Nat) (l : Nat) (hl : 1 ≤ l) (rd wd uf ub : Rat) (T : List (List Rat)) :
    revolve (fuel + 1) (l : Int) 0 rd wd uf ub (some T) = .error .valueError :=
  revolve_cm0 fuel _ _ (by omega) rfl rd wd uf ub T

/-- … and with `opt_0 = None` for `l = 1` (for `l ≥ 2`: `revolve_none_indexError`) -/
theorem revolve_valueError_none (fuel : Nat) (uf ub : Nat) (rd wd : Rat) :
    revolve (fuel + 1) ((1 : Nat) : Int) ((0 : Nat) : Int) rd wd (uf : Rat) (ub : Rat) none = .error .valueError := by
  rw [revolve_refines_none uf ub rd wd (fuel + 1) 1 0 (Or.inr (Nat.le_refl _)), revolveOps_cm0 _ _ _ _ (Nat.le_refl _)]
  rfl

/-- non-vacuity of `revolve_refines` / `revolve_ok`: `l = 3`, `cm = 2`, a table for 4 steps and 2 slots, fuel 4 -/
example : (3 : Nat) ≤ max 4 1 ∧ (1 : Nat) ≤ 2 ∧ (2 : Nat) ≤ 2 ∧ (3 : Nat) + 1 ≤ 4 := by decide
example := revolve_refines 4 2 1 1 2 2 4 3 2 (by decide) (by decide)
example := revolve_ok 4 2 1 1 2 2 4 3 2 (by decide) (by decide) (by decide) (by decide)
example := revolve_ok_none 1 1 2 2 4 3 2 (by decide) (by decide)
/-- the twin's sequence for `revolve(3, 2)` with unit costs (the list Python prints) … -/
example : (revolveOps (opt0Table 3 2 1 1) 1 4 3 2).map ppOps = some ("[WM_0, F_0->2, WM_2, F_2->3, WFM_4, F_3->4, " ++
    "B_4->3, DFM_4, RM_2, WFM_3, F_2->3, B_3->2, DFM_3, DM_2, RM_0, F_0->1, WFM_2, F_1->2, B_2->1, DFM_2, RM_0, " ++
    "WFM_1, F_0->1, B_1->0, DFM_1, DM_0]") := by decide +kernel
/-- … and the generated text EVALUATED on the same arguments (`opt_0 = None`, `wd = rd = 2`) -/
example : revolve 4 3 2 2 2 1 1 none = .ok (((revolveOps (opt0Table 3 2 1 1) 1 4 3 2).getD []).map opPy) := by
  decide +kernel
example : revolve 4 3 0 2 2 1 1 (some [[1]]) = .error .valueError := revolve_valueError 3 3 (by decide) 2 2 1 1 _
example : revolve 4 ((1 : Nat) : Int) ((0 : Nat) : Int) 2 2 ((1 : Nat) : Rat) ((1 : Nat) : Rat) none = .error .valueError :=
  revolve_valueError_none 3 1 1 2 2
example : revolve 4 ((3 : Nat) : Int) ((0 : Nat) : Int) 2 2 ((1 : Nat) : Rat) ((1 : Nat) : Rat) none = .error .indexError :=
  revolve_none_indexError 1 1 2 2 3 3 (by decide)

theorem match_some_mono {o o' : Option (List Ops.Op)} {f f' : List Ops.Op → Option (List Ops.Op)} {y : List Ops.Op} :
    (match o with | none => none | some x => f x) = some y →
    (∀ x, o = some x → o' = some x) → (∀ x y, f x = some y → f' x = some y) →
    (match o' with | none => none | some x => f' x) = some y := by
  intro h ho hf
  cases o with
  | none => cases h
  | some x => rw [ho x rfl]; exact hf x y h

theorem revolveOps_mono (t0 : Array (Array Nat)) (uf : Nat) : ∀ (fuel fuel' l cm : Nat) (ops : List Ops.Op),
    fuel ≤ fuel' → revolveOps t0 uf fuel l cm = some ops → revolveOps t0 uf fuel' l cm = some ops := by
  intro fuel
  induction fuel with
  | zero => intro fuel' l cm ops _ h; rw [revolveOps] at h; cases h
  | succ fuel ih =>
    intro fuel' l cm ops hf h
    obtain ⟨f', rfl⟩ : ∃ f', fuel' = f' + 1 := ⟨fuel' - 1, by omega⟩
    by_cases hl0 : l = 0
    · rw [revolveOps, if_pos hl0] at h ⊢; exact h
    by_cases hcm0 : cm = 0
    · rw [revolveOps, if_neg hl0, if_pos hcm0] at h; cases h
    by_cases hl1 : l = 1
    · rw [revolveOps, if_neg hl0, if_neg hcm0, if_pos hl1] at h ⊢; exact h
    by_cases hcm1 : cm = 1
    · rw [revolveOps, if_neg hl0, if_neg hcm0, if_neg hl1, if_pos hcm1] at h ⊢; exact h
    rw [revolveOps_rec t0 uf _ l cm (by omega) (by omega)] at h ⊢
    exact match_some_mono h (fun x => ih f' _ _ x (by omega))
      (fun _ _ h => match_some_mono h (fun x => ih f' _ _ x (by omega)) (fun _ _ h => h))

/-- `revolve_refines` as the builders that call `revolve` use it: a sequence the twin finds with model fuel `f` is what
the generated function returns with any fuel `≥ f` -/
theorem revolve_of_ops (lmax mmax uf ub : Nat) (rd wd : Rat) (f fuel l cm : Nat) (ops : List Ops.Op) (hl : l ≤ lmax)
    (hcm : cm ≤ mmax) (hf : f ≤ fuel) (h : revolveOps (opt0Table lmax mmax uf ub) uf f l cm = some ops) :
    revolve fuel (l : Int) (cm : Int) rd wd (uf : Rat) (ub : Rat) (some (tabQ (opt0Table lmax mmax uf ub)))
      = .ok (ops.map opPy) := by
  rw [revolve_refines lmax mmax uf ub rd wd fuel l cm (le_trans hl (le_max_left _ _)) hcm,
    revolveOps_mono _ _ f fuel l cm ops hf h]

theorem revolveLoopBody_length (l i : Nat) : (revolveLoopBody l i).length ≤ 6 := by
  unfold revolveLoopBody
  split_ifs <;> simp

theorem removeUselessWm_length (ops : List Ops.Op) : (removeUselessWm ops).length ≤ ops.length := by
  cases ops with
  | nil => simp [removeUselessWm]
  | cons o rest =>
    simp only [removeUselessWm]
    split_ifs <;> simp

theorem revolveOps_length (t0 : Array (Array Nat)) (uf : Nat) : ∀ (fuel l cm : Nat) (ops : List Ops.Op),
    revolveOps t0 uf fuel l cm = some ops → ops.length ≤ 8 * l + 5 := by
  intro fuel
  induction fuel with
  | zero => intro l cm ops h; rw [revolveOps] at h; cases h
  | succ fuel ih =>
    intro l cm ops h
    by_cases hl0 : l = 0
    · rw [revolveOps, if_pos hl0] at h; cases h; simp
    by_cases hcm0 : cm = 0
    · rw [revolveOps, if_neg hl0, if_pos hcm0] at h; cases h
    by_cases hl1 : l = 1
    · rw [revolveOps, if_neg hl0, if_neg hcm0, if_pos hl1] at h; cases h; simp; omega
    by_cases hcm1 : cm = 1
    · rw [revolveOps, if_neg hl0, if_neg hcm0, if_neg hl1, if_pos hcm1] at h
      cases h
      have := List.sum_le_card_nsmul ((List.range l).reverse.map fun i => (revolveLoopBody l i).length) 6
        (fun x hx => by obtain ⟨i, _, rfl⟩ := List.mem_map.1 hx; exact revolveLoopBody_length l i)
      simp only [List.length_append, List.length_cons, List.length_nil, List.length_reverse, List.length_range,
        List.length_flatMap, List.length_map, smul_eq_mul] at this ⊢
      omega
    have hj := revJmin_range t0 uf l cm (by omega)
    rw [revolveOps_rec t0 uf _ l cm (by omega) (by omega)] at h
    cases h1 : revolveOps t0 uf fuel (l - revJmin t0 uf l cm) (cm - 1) with
    | none => rw [h1] at h; cases h
    | some right =>
      rw [h1] at h
      cases h2 : revolveOps t0 uf fuel (revJmin t0 uf l cm - 1) cm with
      | none => rw [h2] at h; cases h
      | some left =>
        rw [h2] at h
        cases h
        have a1 := ih _ _ _ h1
        have a2 := ih _ _ _ h2
        have a3 := removeUselessWm_length left
        simp only [List.length_append, List.length_cons, List.length_nil, shiftOps, List.length_map]
        omega

/-- `Revolve.__init__(max_n, snapshots_in_ram, uf, ub, wd, rd)` (hrevolve.py:336-338):
`schedule = list(revolve(max_n - 1, snapshots_in_ram, wd, rd, uf, ub))`, both stages as generated from the source: the
GENERATED builder `revolve`, then (`revolve_run`) the generated base-class constructor and the generated `_iterator` -/
def revolveClass_run (fuelB fuelI : Nat) (max_n snapshots_in_ram : Int) (uf ub wd rd : Rat) : M (List PyEv) := do
  let schedule ← revolve fuelB (max_n - 1) snapshots_in_ram wd rd uf ub none
  revolve_run fuelI max_n schedule

/-- the generated builder, called as the class `Revolve` calls it, returns the twin's `revolveOpsTop N cm c`
(fuel: `N`, one per step) -/
theorem revolve_builder_top (N cm : Nat) (c : Costs) (hN : 1 ≤ N) (hcm : 1 ≤ cm) (wd rd : Rat) :
    ∃ ops, revolveOpsTop N cm c = some ops ∧ ops.length ≤ 8 * N ∧ ∀ fuelB, N ≤ fuelB →
      revolve fuelB ((N : Int) - 1) (cm : Int) wd rd (c.uf : Rat) (c.ub : Rat) none = .ok (ops.map opPy) := by
  obtain ⟨ops, h⟩ := revolveOps_isSome (opt0Table (N - 1) cm c.uf c.ub) c.uf N (N - 1) cm (by omega) hcm
  have hlen := revolveOps_length _ _ _ _ _ _ h
  refine ⟨ops, h, by omega, fun fuelB hf => ?_⟩
  have e : (N : Int) - 1 = ((N - 1 : Nat) : Int) := by omega
  rw [e, revolve_refines_none c.uf c.ub wd rd fuelB (N - 1) cm (Or.inl hcm),
    revolveOps_mono _ _ N fuelB _ _ _ hf h]

/-- **Revolve: builder + iterator, both as generated from the source, yield the stream model `revolveEvs`.** -/
theorem revolveClass_run_refines (N cm : Nat) (c : Costs) (hN : 1 ≤ N) (hcm : 1 ≤ cm) (wd rd : Rat) :
    ∃ evs, revolveEvs N cm c = .ok evs ∧ ∀ fuelB fuelI, N ≤ fuelB → 8 * N + 1 ≤ fuelI →
      revolveClass_run fuelB fuelI (N : Int) (cm : Int) (c.uf : Rat) (c.ub : Rat) wd rd
        = .ok (markLast (evs.map (evPy · false))) := by
  obtain ⟨ops, hops, hlen, hb⟩ := revolve_builder_top N cm c hN hcm wd rd
  obtain ⟨ops', evs, hops', hev, hrun⟩ := revolve_iterator_revolve N cm c hN hcm
  rw [hops] at hops'
  cases hops'
  refine ⟨evs, hev, fun fuelB fuelI hB hI => ?_⟩
  unfold revolveClass_run
  rw [hb fuelB hB]
  exact (revolve_run_eq fuelI N _ hN).trans (hrun fuelI (by omega))

/-- **Revolve, the translated source, builder included**: for all valid parameters the stream of the generated builder
followed by the generated iterator is accepted by the checking executor (no violation of any tag) and complete. -/
theorem source_revolve_accepted_full (N cm : Nat) (c : Costs) (hv : validRevolve N cm c.uf c.ub = true) (k : Nat)
    (wd rd : Rat) (fuelB fuelI : Nat) (hB : N ≤ fuelB) (hI : 8 * N + 1 ≤ fuelI) :
    ∃ pevs, revolveClass_run fuelB fuelI (N : Int) (cm : Int) (c.uf : Rat) (c.ub : Rat) wd rd = .ok pevs ∧
      Accepted (cfgRevolve cm N) k (obsOfPy false N pevs) := by
  obtain ⟨hN, hcm, _, _⟩ := (validRevolve_iff _ _ _ _).1 hv
  obtain ⟨ops, hops, hlen, hb⟩ := revolve_builder_top N cm c hN hcm wd rd
  obtain ⟨ops', hops', hacc⟩ := source_revolve_accepted N cm c hv k
  rw [hops] at hops'
  cases hops'
  obtain ⟨pevs, hp, ha⟩ := hacc fuelI (by omega)
  refine ⟨pevs, ?_, ha⟩
  unfold revolveClass_run
  rw [hb fuelB hB]
  exact hp

theorem source_revolve_C01_C18_full (N cm : Nat) (c : Costs) (hv : validRevolve N cm c.uf c.ub = true)
    (wd rd : Rat) (fuelB fuelI : Nat) (hB : N ≤ fuelB) (hI : 8 * N + 1 ≤ fuelI) :
    ∃ pevs, revolveClass_run fuelB fuelI (N : Int) (cm : Int) (c.uf : Rat) (c.ub : Rat) wd rd = .ok pevs ∧
      NoViolation (cfgRevolve cm N) (obsOfPy false N pevs) ∧
      finished (cfgRevolve cm N) (run (cfgRevolve cm N) (obsOfPy false N pevs)).1 = true := by
  obtain ⟨pevs, hp, ha⟩ := source_revolve_accepted_full N cm c hv 1 wd rd fuelB fuelI hB hI
  exact ⟨pevs, hp, ha.noViolation, ha.finished rfl⟩

example : validRevolve 3 2 (⟨1, 1, 1, 1⟩ : Costs).uf (⟨1, 1, 1, 1⟩ : Costs).ub = true ∧ 3 ≤ 3 ∧ 8 * 3 + 1 ≤ 25 := by decide
example := revolveClass_run_refines 3 2 ⟨1, 1, 1, 1⟩ (by decide) (by decide) 2 2
example := source_revolve_accepted_full 3 2 ⟨1, 1, 1, 1⟩ (by decide) 1 2 2 3 25 (by decide) (by decide)
/-- builder and iterator evaluated, the executor's verdict decided -/
example : (match revolveClass_run 3 25 3 2 1 1 2 2 with
    | .ok pevs => decide (pevs.length = 12 ∧ (run (cfgRevolve 2 3) (obsOfPy false 3 pevs)).2 = [])
    | .error _ => false) = true := by decide +kernel

end Ckpt.Py

#print axioms Ckpt.Py.argmin_rat_refines
#print axioms Ckpt.Py.argmin_rat_spec
#print axioms Ckpt.Py.argmin_rat_empty
#print axioms Ckpt.Py.seqShift_opPy
#print axioms Ckpt.Py.seqRemoveUselessWm_opPy
#print axioms Ckpt.Py.revolve_some_refines
#print axioms Ckpt.Py.revolve_refines
#print axioms Ckpt.Py.revolve_refines_none
#print axioms Ckpt.Py.revolve_none_indexError
#print axioms Ckpt.Py.revolve_ok
#print axioms Ckpt.Py.revolve_ok_none
#print axioms Ckpt.Py.revolve_valueError
#print axioms Ckpt.Py.revolve_valueError_none
#print axioms Ckpt.Py.revolveOps_length
#print axioms Ckpt.Py.revolve_builder_top
#print axioms Ckpt.Py.revolveClass_run_refines
#print axioms Ckpt.Py.source_revolve_accepted_full
#print axioms Ckpt.Py.source_revolve_C01_C18_full
