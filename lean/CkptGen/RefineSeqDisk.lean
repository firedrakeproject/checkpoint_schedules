import CkptGen.RefineSeqRevolve
import CkptGen.RefinePeriod

/-!
# The builders `disk_revolve` and `periodic_disk_revolve` as generated from the Python source compute the twins
`diskRevolveOps` / `periodicOps` of `CkptVerif/Model/Ops.lean`

`Ckpt.Py.disk_revolve`, `Ckpt.Py.periodic_disk_revolve` (+ `.while1`, `.while2`) are produced by `harness/py2lean.py` from
`hrevolve_sequences/disk_revolve.py`, `hrevolve_sequences/periodic_disk_revolve.py` (`one_read_disk = True`); a `Sequence`
is the flattened list of its operations.  Costs are natural numbers cast to `Rat`.

Both builders call the generated `revolve`; its refinement enters as `revolve_of_ops` (`RefineSeqRevolve.lean`).
`RevolveRefines` states that fact as a proposition about `revolve` alone (whenever the twin `revolveOps` with model fuel
`l + 2` returns `ops` for a table `opt0Table lmax mmax uf ub` with `l ≤ lmax`, `1 ≤ cm ≤ mmax`, the generated `revolve` with
any fuel `≥ l + 2` and `opt_0 = ` that table returns `ops.map opPy`, whatever `rd`, `wd`).  It is a theorem
(`revolveRefines`).  The theorems below that take `hR : RevolveRefines` keep it as a hypothesis of their statements, but
their proofs do not use it (they call `revolve_of_ops`); `source_diskRevolve_accepted_all`,
`source_periodic_accepted_all` are the statements without it, `source_…_accepted_full hR` their instances.

* `disk_revolve_core` (tables in force), `disk_revolve_opt0`, `disk_revolve_optinf` (a table that is not passed is computed
  first), hence `disk_revolve_refines` (tables passed), `disk_revolve_refines_none` (both computed),
  `disk_revolve_refines_some_none`, `disk_revolve_refines_none_some` :
  `diskRevolveOps … = some ops → disk_revolve fuel … = .ok (ops.map opPy)`, fuel `l + 3`.
* `periodic_disk_revolve_ok` (`periodic_eq_tail`: the preamble; `periodicTail_refines`: the two loops around `revolve`), hence
  `periodic_disk_revolve_refines` (`opt_0 = None`, `mmax = None`), `periodic_disk_revolve_refines_some` (`opt_0` passed),
  `periodic_disk_revolve_refines_mmax` (`mmax` passed) : `periodicOps … = some ops → periodic_disk_revolve fuel … =
  .ok (ops.map opPy)`, fuel `max (wd + rd + 2) (l + mx + 2)`, `mx` the period `mxrr cm uf (wd + rd)`.
* `source_diskRevolve_accepted_all`, `source_periodic_accepted_all` : the GENERATED builder followed by the GENERATED
  iterator (`revolve_run`) is accepted by the checking executor (composition with `source_diskRevolve_accepted`,
  `source_periodic_accepted` of `Capstone.lean`).
-/

namespace Ckpt.Py
open Ckpt Ckpt.Ops

theorem seqRemoveUselessWm_map_opPy (ops : List Ops.Op) :
    seqRemoveUselessWm (ops.map opPy) (-1 : Int) = (removeUselessWm ops).map opPy :=
  seqRemoveUselessWm_opPy ops

example : argmin_rat ([3, 1, 2, 1].map (fun a : Nat => (a : Rat))) = .ok 4 := argmin_rat_refines [3, 1, 2, 1] (by simp)

def RevolveRefines : Prop := ∀ (l cm uf ub lmax mmax fuel : Nat) (rd wd : Rat) (ops : List Ops.Op),
  1 ≤ cm → cm ≤ mmax → l ≤ lmax → l + 2 ≤ fuel →
  revolveOps (opt0Table lmax mmax uf ub) uf (l + 2) l cm = some ops →
  revolve fuel l cm rd wd uf ub (some (tabQ (opt0Table lmax mmax uf ub))) = .ok (ops.map opPy)

theorem revolveRefines : RevolveRefines :=
  fun l cm uf ub lmax mmax fuel rd wd ops _ hcm hl hf h =>
    revolve_of_ops lmax mmax uf ub rd wd (l + 2) fuel l cm ops hl hcm hf h

theorem diskCands_length (t0 : Array (Array Nat)) (tinf : Array Nat) (cm uf wr l : Nat) :
    (diskCands t0 tinf cm uf wr l).length = l - 1 := by
  rw [diskCands, List.length_map, List.length_range']

theorem diskCands_ne (t0 : Array (Array Nat)) (tinf : Array Nat) (cm uf wr l : Nat) (hl : 2 ≤ l) :
    diskCands t0 tinf cm uf wr l ≠ [] := by
  intro h
  have := diskCands_length t0 tinf cm uf wr l
  rw [h] at this
  exact absurd this (by simp; omega)

/-- the list comprehension `list_mem` of `disk_revolve` -/
theorem disk_list_mem (lmax mmax cm uf ub rd wd l : Nat) (tinf : Array Nat) (hcm1 : 1 ≤ cm) (hcm : cm ≤ mmax)
    (hl : l ≤ lmax) (hti : l < tinf.size) {f : Int → M Rat}
    (hf : ∀ j : Int, f j = (pyIndex (rowQ tinf) ((l : Int) - j) >>= fun v =>
        pyIndex (tabQ (opt0Table lmax mmax uf ub)) (cm : Int) >>= fun v_1 =>
        pyIndex v_1 (j - 1) >>= fun v_2 =>
        (Except.ok ((wd : Rat) + (j : Rat) * (uf : Rat) + v + (rd : Rat) + v_2) : M Rat))) :
    (pyRange 1 (l : Int)).mapM f
      = .ok ((diskCands (opt0Table lmax mmax uf ub) tinf cm uf (wd + rd) l).map (fun x : Nat => (x : Rat))) := by
  obtain ⟨rowc, hTc, hrow⟩ := tabQ_row_ok lmax mmax uf ub cm lmax hcm1 hcm (by omega)
  rw [pyRange_one l, mapM_ok_map _ _
    ((fun x : Nat => (x : Rat)) ∘ (fun j => wd + rd + j * uf + tinf.getD (l - j) 0 + opt0Get (opt0Table lmax mmax uf ub) cm (j - 1)))]
  · rw [← List.map_map]; rfl
  · intro j hj
    have hj' := List.mem_range'_1.1 hj
    have el : (l : Int) - (j : Int) = ((l - j : Nat) : Int) := by omega
    have ej : (j : Int) - 1 = ((j - 1 : Nat) : Int) := by omega
    rw [hf]
    simp only [Function.comp_apply, bind, Except.bind]
    rw [el, pyIndex_rowQ tinf (l - j) (by omega)]
    simp only []
    rw [pyIndex_of_getElem? _ _ _ hTc]
    simp only []
    rw [ej, pyIndex_of_getElem? _ _ _ (hrow (j - 1) (by omega))]
    simp only []
    push_cast
    congr 1
    ring

theorem disk_revolve_core (lmax mmax cm uf ub rd wd : Nat) (tinf : Array Nat)
    (hcm1 : 1 ≤ cm) (hcm : cm ≤ mmax) :
    ∀ (mfuel l : Nat) (ops : List Ops.Op) (fuel : Nat), l ≤ lmax → l < tinf.size → l + 3 ≤ fuel →
      diskRevolveOps (opt0Table lmax mmax uf ub) tinf cm uf (wd + rd) mfuel l = some ops →
      disk_revolve fuel (l : Int) (cm : Int) (rd : Rat) (wd : Rat) (uf : Rat) (ub : Rat)
        (some (tabQ (opt0Table lmax mmax uf ub))) (some (rowQ tinf)) = .ok (ops.map opPy) := by
  intro mfuel
  induction mfuel with
  | zero => intro l ops fuel _ _ _ h; simp [diskRevolveOps] at h
  | succ mfuel ih =>
    intro l ops fuel hl hti hf h
    obtain ⟨fuel, rfl⟩ : ∃ g, fuel = g + 1 := ⟨fuel - 1, by omega⟩
    rw [disk_revolve]
    unfold diskRevolveOps at h
    by_cases hl0 : l = 0
    · have hl0' : (l : Int) = 0 := by omega
      rw [if_pos hl0] at h
      injection h with h; subst h
      simp only [↓reduceIte, reduceCtorEq, hl0', pure, Except.pure]
      rfl
    rw [if_neg hl0] at h
    have hl0' : ¬ ((l : Int) = 0) := by omega
    have hc : ¬ ((cm : Int) = 0) := by omega
    by_cases hl1 : l = 1
    · have hl1' : (l : Int) = 1 := by omega
      rw [if_pos hl1, if_neg (by omega)] at h
      injection h with h; subst h
      simp only [↓reduceIte, reduceCtorEq, hl1', hc, pure, Except.pure]
      rfl
    rw [if_neg hl1] at h
    have hl1' : ¬ ((l : Int) = 1) := by omega
    have hl2 : 2 ≤ l := by omega
    simp only at h
    obtain ⟨rowc, hTc, hrow⟩ := tabQ_row_ok lmax mmax uf ub cm lmax hcm1 hcm (by omega)
    simp only [↓reduceIte, reduceCtorEq, hl0', hl1', bind, Except.bind, pure, Except.pure, unwrap]
    rw [disk_list_mem lmax mmax cm uf ub rd wd l tinf hcm1 hcm hl hti]
    swap
    · intro j; rfl
    simp only []
    rw [pyMin_cast _ (diskCands_ne _ _ _ _ _ _ hl2)]
    simp only []
    rw [pyIndex_of_getElem? _ _ _ hTc]
    simp only []
    rw [pyIndex_of_getElem? _ _ _ (hrow l hl)]
    simp only []
    have hC : List.map (fun j => wd + rd + j * uf + tinf.getD (l - j) 0 + opt0Get (opt0Table lmax mmax uf ub) cm (j - 1))
        (List.range' 1 (l - 1)) = diskCands (opt0Table lmax mmax uf ub) tinf cm uf (wd + rd) l := rfl
    rw [hC] at h
    have hCne := diskCands_ne (opt0Table lmax mmax uf ub) tinf cm uf (wd + rd) l hl2
    have hlen := diskCands_length (opt0Table lmax mmax uf ub) tinf cm uf (wd + rd) l
    generalize diskCands (opt0Table lmax mmax uf ub) tinf cm uf (wd + rd) l = C at h hCne hlen ⊢
    by_cases hlt : C.foldl min (C.headD 0) < opt0Get (opt0Table lmax mmax uf ub) cm l
    · rw [if_pos hlt] at h
      rw [if_pos (by exact_mod_cast hlt), argmin_rat_refines C hCne]
      simp only []
      obtain ⟨hj1, hj2⟩ := argminO_map_some_range C hCne
      generalize argminO (C.map some) = jmin at h hj1 hj2 ⊢
      cases hr : diskRevolveOps (opt0Table lmax mmax uf ub) tinf cm uf (wd + rd) mfuel (l - jmin) with
      | none => rw [hr] at h; cases h
      | some right =>
        rw [hr] at h
        simp only at h
        cases hlft : revolveOps (opt0Table lmax mmax uf ub) uf jmin (jmin - 1) cm with
        | none => rw [hlft] at h; cases h
        | some left =>
          rw [hlft] at h
          injection h with h; subst h
          have e1 : (l : Int) - (jmin : Int) = ((l - jmin : Nat) : Int) := by omega
          have e2 : (jmin : Int) - 1 = ((jmin - 1 : Nat) : Int) := by omega
          rw [e1, ih (l - jmin) right fuel (by omega) (by omega) (by omega) hr]
          simp only []
          rw [e2, revolve_of_ops lmax mmax uf ub _ _ jmin fuel (jmin - 1) cm left (by omega) hcm (by omega) hlft]
          simp only []
          rw [seqShift_opPy]
          simp only [List.map_append, List.map_cons, List.map_nil, List.nil_append]
          rfl
    · rw [if_neg hlt] at h
      rw [if_neg (by exact_mod_cast hlt), revolve_of_ops lmax mmax uf ub _ _ (l + 1) fuel l cm ops hl hcm (by omega) h]
      rfl

/-- `opt_0 = None`: the table is computed first … -/
theorem disk_revolve_opt0 (fuel : Nat) (l cm : Int) (rd wd uf ub : Rat) (oinf : Option (List Rat)) (T0 : List (List Rat))
    (h0 : get_opt_0_table l cm uf ub = .ok T0) :
    disk_revolve fuel l cm rd wd uf ub none oinf = disk_revolve fuel l cm rd wd uf ub (some T0) oinf := by
  cases fuel with
  | zero => rfl
  | succ fuel =>
    conv_lhs => rw [disk_revolve, h0]
    conv_rhs => rw [disk_revolve]
    rfl

/-- … then, for `opt_inf = None`, `opt_inf` from the `opt_0` in force -/
theorem disk_revolve_optinf (fuel : Nat) (l cm : Int) (rd wd uf ub : Rat) (T0 : List (List Rat)) (Tinf : List Rat)
    (hinf : get_opt_inf_table l cm uf ub rd wd (some T0) = .ok Tinf) :
    disk_revolve fuel l cm rd wd uf ub (some T0) none = disk_revolve fuel l cm rd wd uf ub (some T0) (some Tinf) := by
  cases fuel with
  | zero => rfl
  | succ fuel =>
    conv_lhs => rw [disk_revolve]
    conv_rhs => rw [disk_revolve]
    simp only [reduceCtorEq, if_false, if_true, hinf]
    rfl

/-- **`disk_revolve`, tables passed explicitly.**  `opt_0` is the memory-only table for `lmax ≥ l` steps and `mmax ≥ cm`
slots, `opt_inf` any table with more than `l` entries (e.g. `optInfTable lmax' cm …` with `l ≤ lmax'`).  Whenever the twin
`diskRevolveOps` (any model fuel) returns `ops`, the generated `disk_revolve` returns the same operations.
Fuel: `l + 3`. -/
theorem disk_revolve_refines (hR : RevolveRefines) (lmax mmax l cm uf ub rd wd : Nat) (tinf : Array Nat)
    (hcm1 : 1 ≤ cm) (hcm : cm ≤ mmax) (hl : l ≤ lmax) (hti : l < tinf.size) (mfuel : Nat) (ops : List Ops.Op)
    (fuel : Nat) (hf : l + 3 ≤ fuel)
    (h : diskRevolveOps (opt0Table lmax mmax uf ub) tinf cm uf (wd + rd) mfuel l = some ops) :
    disk_revolve fuel (l : Int) (cm : Int) (rd : Rat) (wd : Rat) (uf : Rat) (ub : Rat)
      (some (tabQ (opt0Table lmax mmax uf ub))) (some (rowQ tinf)) = .ok (ops.map opPy) :=
  disk_revolve_core lmax mmax cm uf ub rd wd tinf hcm1 hcm mfuel l ops fuel hl hti hf h

/-- **`disk_revolve`, both tables computed** (`opt_0 = None`, `opt_inf = None`: the call of `DiskRevolve.__init__`) -/
theorem disk_revolve_refines_none (hR : RevolveRefines) (l cm uf ub rd wd : Nat) (hcm1 : 1 ≤ cm) (mfuel : Nat)
    (ops : List Ops.Op) (fuel : Nat) (hf : l + 3 ≤ fuel)
    (h : diskRevolveOps (opt0Table l cm uf ub) (optInfTable l cm uf ub (wd + rd) (opt0Table l cm uf ub)) cm uf
      (wd + rd) mfuel l = some ops) :
    disk_revolve fuel (l : Int) (cm : Int) (rd : Rat) (wd : Rat) (uf : Rat) (ub : Rat) none none
      = .ok (ops.map opPy) := by
  have h0 := get_opt_0_table_refines l cm uf ub (Or.inl hcm1)
  rw [disk_revolve_opt0 fuel _ _ _ _ _ _ _ _ h0,
    disk_revolve_optinf fuel _ _ _ _ _ _ _ _ ((get_opt_inf_table_refines l cm uf ub rd wd hcm1).2 _ h0)]
  exact disk_revolve_core l cm cm uf ub rd wd _ hcm1 (Nat.le_refl _) mfuel l ops fuel (Nat.le_refl _)
    (by rw [optInfTable_size]; omega) hf h

/-- **`disk_revolve`, `opt_0` passed, `opt_inf` computed** -/
theorem disk_revolve_refines_some_none (hR : RevolveRefines) (lmax mmax l cm uf ub rd wd : Nat) (hcm1 : 1 ≤ cm)
    (hcm : cm ≤ mmax) (hl : l ≤ lmax) (mfuel : Nat) (ops : List Ops.Op) (fuel : Nat) (hf : l + 3 ≤ fuel)
    (h : diskRevolveOps (opt0Table lmax mmax uf ub)
      (optInfTable l cm uf ub (wd + rd) (opt0Table lmax mmax uf ub)) cm uf (wd + rd) mfuel l = some ops) :
    disk_revolve fuel (l : Int) (cm : Int) (rd : Rat) (wd : Rat) (uf : Rat) (ub : Rat)
      (some (tabQ (opt0Table lmax mmax uf ub))) none = .ok (ops.map opPy) := by
  rw [disk_revolve_optinf fuel _ _ _ _ _ _ _ _ (get_opt_inf_table_larger l lmax cm mmax uf ub rd wd hcm1 hcm hl)]
  exact disk_revolve_core lmax mmax cm uf ub rd wd _ hcm1 hcm mfuel l ops fuel hl
    (by rw [optInfTable_size]; omega) hf h

/-- **`disk_revolve`, `opt_0` computed, `opt_inf` passed** -/
theorem disk_revolve_refines_none_some (hR : RevolveRefines) (l cm uf ub rd wd : Nat) (tinf : Array Nat)
    (hcm1 : 1 ≤ cm) (hti : l < tinf.size) (mfuel : Nat) (ops : List Ops.Op) (fuel : Nat) (hf : l + 3 ≤ fuel)
    (h : diskRevolveOps (opt0Table l cm uf ub) tinf cm uf (wd + rd) mfuel l = some ops) :
    disk_revolve fuel (l : Int) (cm : Int) (rd : Rat) (wd : Rat) (uf : Rat) (ub : Rat) none (some (rowQ tinf))
      = .ok (ops.map opPy) := by
  rw [disk_revolve_opt0 fuel _ _ _ _ _ _ _ _ (get_opt_0_table_refines l cm uf ub (Or.inl hcm1))]
  exact disk_revolve_core l cm cm uf ub rd wd _ hcm1 (Nat.le_refl _) mfuel l ops fuel (Nat.le_refl _) hti hf h

/-- non-vacuity: `l = 5`, `cm = 2`, unit costs `uf = ub = 1`, `wd = rd = 1`: the hypotheses hold and the twin returns a
sequence (with a disk checkpoint) -/
example : (1 : Nat) ≤ 2 ∧ 5 + 3 ≤ 8 ∧
    (diskRevolveOps (opt0Table 5 2 1 1) (optInfTable 5 2 1 1 (1 + 1) (opt0Table 5 2 1 1)) 2 1 (1 + 1) 6 5).isSome = true := by
  decide

/-- **DiskRevolve, builder and iterator both GENERATED**: `DiskRevolve(N, cm, uf, ub, wd, rd).__init__` calls
`disk_revolve(N - 1, cm, wd, rd, uf, ub)` (sic: `wd` in the position of `rd`; only `wd + rd` matters, so the statement
covers both orders), then iterates.  Builder fuel: `N + 2`; iterator fuel: one more than the number of operations. -/
theorem source_diskRevolve_accepted_all (N cm : Nat) (c : Costs)
    (hv : validRevolve N cm c.uf c.ub = true) (k : Nat) (rd wd : Nat) (hwr : wd + rd = c.wd + c.rd)
    (bfuel : Nat) (hb : N + 2 ≤ bfuel) :
    ∃ pops, disk_revolve bfuel ((N : Int) - 1) (cm : Int) (rd : Rat) (wd : Rat) (c.uf : Rat) (c.ub : Rat) none none
        = .ok pops ∧
      ∀ fuel, pops.length + 1 ≤ fuel →
        ∃ pevs, revolve_run fuel (N : Int) pops = .ok pevs ∧
          Accepted (cfgDiskRevolve cm N) k (obsOfPy false N pevs) := by
  obtain ⟨hN, hcm, _, _⟩ := (validRevolve_iff _ _ _ _).1 hv
  obtain ⟨ops, hops, hacc⟩ := source_diskRevolve_accepted N cm c hv k
  unfold diskRevolveOpsTop at hops
  simp only at hops
  rw [← hwr] at hops
  have e : (N : Int) - 1 = ((N - 1 : Nat) : Int) := by omega
  refine ⟨ops.map opPy, ?_, ?_⟩
  · rw [e]
    exact disk_revolve_refines_none revolveRefines (N - 1) cm c.uf c.ub rd wd hcm N ops bfuel (by omega) hops
  · intro fuel hf
    rw [List.length_map] at hf
    exact hacc fuel hf

/-- the same, stated relative to `RevolveRefines` -/
theorem source_diskRevolve_accepted_full (hR : RevolveRefines) (N cm : Nat) (c : Costs)
    (hv : validRevolve N cm c.uf c.ub = true) (k : Nat) (rd wd : Nat) (hwr : wd + rd = c.wd + c.rd)
    (bfuel : Nat) (hb : N + 2 ≤ bfuel) :
    ∃ pops, disk_revolve bfuel ((N : Int) - 1) (cm : Int) (rd : Rat) (wd : Rat) (c.uf : Rat) (c.ub : Rat) none none
        = .ok pops ∧
      ∀ fuel, pops.length + 1 ≤ fuel →
        ∃ pevs, revolve_run fuel (N : Int) pops = .ok pevs ∧
          Accepted (cfgDiskRevolve cm N) k (obsOfPy false N pevs) :=
  source_diskRevolve_accepted_all N cm c hv k rd wd hwr bfuel hb

example (hR : RevolveRefines) := source_diskRevolve_accepted_full hR 3 2 ⟨1, 1, 1, 1⟩ (by decide) 1 1 1 rfl 5 (by decide)

theorem periodic_while1_sim (l mx : Nat) (hmx : 1 ≤ mx) :
    ∀ (mfuel q0 : Nat) (seq : List PyOp) (fuel : Nat), l - q0 * mx + 1 ≤ mfuel → l - q0 * mx + 1 ≤ fuel → q0 * mx ≤ l →
      ∃ q, (periodicSweepOps l mx mfuel (q0 * mx)).2 = q * mx ∧ q * mx ≤ l ∧ l - q * mx ≤ mx ∧
        periodic_disk_revolve.while1 (some (mx : Int)) (l : Int) fuel (((q0 * mx : Nat) : Int), seq)
          = .ok (((q * mx : Nat) : Int), seq ++ (periodicSweepOps l mx mfuel (q0 * mx)).1.map opPy) := by
  intro mfuel
  induction mfuel with
  | zero => intro q0 seq fuel h; omega
  | succ mfuel ih =>
    intro q0 seq fuel hm hf hq
    obtain ⟨fuel, rfl⟩ : ∃ g, fuel = g + 1 := ⟨fuel - 1, by omega⟩
    rw [periodic_disk_revolve.while1]
    unfold periodicSweepOps
    simp only [bind, Except.bind, pure, Except.pure, unwrap]
    by_cases hc : l - q0 * mx > mx
    · have hc' : (l : Int) - ((q0 * mx : Nat) : Int) > (mx : Int) := by omega
      rw [if_pos hc, if_pos hc']
      obtain ⟨q, h2, h3, h4, h5⟩ := ih (q0 + 1) (seq ++ [opPy (Op.wd (q0 * mx))] ++ [opPy (Op.fwd (q0 * mx) (q0 * mx + mx))]) fuel
        (by rw [Nat.succ_mul]; omega) (by rw [Nat.succ_mul]; omega) (by rw [Nat.succ_mul]; omega)
      rw [Nat.succ_mul] at h2 h5
      refine ⟨q, ?_, h3, h4, ?_⟩
      · rw [← h2]
      · have e : ((q0 * mx : Nat) : Int) + (mx : Int) = ((q0 * mx + mx : Nat) : Int) := by push_cast; rfl
        rw [e]
        exact h5.trans (by simp only [List.map_cons, List.append_assoc, List.cons_append, List.nil_append])
    · have hc' : ¬ ((l : Int) - ((q0 * mx : Nat) : Int) > (mx : Int)) := by omega
      rw [if_neg hc, if_neg hc']
      exact ⟨q0, rfl, hq, by omega, by simp⟩

theorem periodic_while2_sim (lmax mmax cm uf ub mx : Nat) (rd wd : Rat) (hmx : 1 ≤ mx)
    (hcm : cm ≤ mmax) (hlm : mx - 1 ≤ lmax) :
    ∀ (b : Nat) (blocks : List Ops.Op) (seq : List PyOp) (fuel : Nat), b + mx + 1 ≤ fuel →
      periodicBlockOps (opt0Table lmax mmax uf ub) uf cm mx b = some blocks →
      periodic_disk_revolve.while2 (some (mx : Int)) (cm : Int) rd wd (uf : Rat) (ub : Rat)
          (some (tabQ (opt0Table lmax mmax uf ub))) fuel (((b * mx : Nat) : Int), seq)
        = .ok ((0 : Int), seq ++ blocks.map opPy) := by
  intro b
  induction b with
  | zero =>
    intro blocks seq fuel hf h
    obtain ⟨fuel, rfl⟩ : ∃ g, fuel = g + 1 := ⟨fuel - 1, by omega⟩
    simp only [periodicBlockOps, Option.some.injEq] at h
    subst h
    rw [periodic_disk_revolve.while2]
    simp only [bind, Except.bind, pure, Except.pure, unwrap, Nat.zero_mul, Nat.cast_zero, gt_iff_lt, lt_self_iff_false,
      if_false, List.map_nil, List.append_nil]
  | succ b ih =>
    intro blocks seq fuel hf h
    obtain ⟨fuel, rfl⟩ : ∃ g, fuel = g + 1 := ⟨fuel - 1, by omega⟩
    unfold periodicBlockOps at h
    cases hblk : revolveOps (opt0Table lmax mmax uf ub) uf mx (mx - 1) cm with
    | none => rw [hblk] at h; cases h
    | some blk =>
      rw [hblk] at h
      simp only at h
      cases hrest : periodicBlockOps (opt0Table lmax mmax uf ub) uf cm mx b with
      | none => rw [hrest] at h; cases h
      | some rest =>
        rw [hrest] at h
        injection h with h; subst h
        rw [periodic_disk_revolve.while2]
        have hpos : (((b + 1) * mx : Nat) : Int) > 0 := by
          have : 0 < (b + 1) * mx := Nat.mul_pos (by omega) (by omega)
          omega
        have e1 : (((b + 1) * mx : Nat) : Int) - (mx : Int) = ((b * mx : Nat) : Int) := by
          rw [Nat.succ_mul]; push_cast; ring
        have e2 : (mx : Int) - 1 = ((mx - 1 : Nat) : Int) := by omega
        simp only [bind, Except.bind, pure, Except.pure, unwrap, if_pos hpos, e1, e2]
        rw [revolve_of_ops lmax mmax uf ub _ _ mx fuel (mx - 1) cm blk hlm hcm (by omega) hblk]
        simp only []
        rw [seqShift_opPy, ih rest _ fuel (by omega) hrest]
        simp only [List.map_append, List.map_cons, List.map_nil, List.append_assoc]
        rfl

/-- the part of `periodic_disk_revolve` after the period `mx` and the table `opt_0` have been determined -/
def periodicTail (fuel : Nat) (l cm : Int) (rd wd uf ub : Rat) (T0 : List (List Rat)) (mx : Int) : M (List PyOp) := do
  let (ct, seq) ← periodic_disk_revolve.while1 (some mx) l fuel ((0 : Int), [])
  let mid ← revolve fuel (l - ct) cm rd wd uf ub (some T0)
  let (_, seq) ← periodic_disk_revolve.while2 (some mx) cm rd wd uf ub (some T0) fuel (ct, seq ++ seqShift mid ct)
  pure seq

/-- the preamble of `periodic_disk_revolve`: the period `mx` is `mxrr_close_formula(cm, uf, rd, wd)`, and a table that is
not passed is computed for `mmax` steps, `mmax = max(mx, mx) + 1` unless given -/
theorem periodic_eq_tail (fuel : Nat) (l cm : Int) (rd wd uf ub : Rat) (mx : Int) (T0 : List (List Rat))
    (o0 : Option (List (List Rat))) (om : Option Int) (hmx : mxrr_close_formula fuel cm uf rd wd = .ok mx)
    (h0 : o0 = some T0 ∨ o0 = none ∧ get_opt_0_table (om.getD (max mx mx + 1)) cm uf ub = .ok T0) :
    periodic_disk_revolve fuel l cm rd wd uf ub o0 om = periodicTail fuel l cm rd wd uf ub T0 mx := by
  unfold periodic_disk_revolve periodicTail
  rw [hmx]
  rcases h0 with rfl | ⟨rfl, h0⟩
  · cases om <;> rfl
  -- `whnf` runs the preamble up to the call of `get_opt_0_table`
  · cases om <;> rw [Option.getD] at h0
    · conv_lhs => whnf
      rw [h0]
      rfl
    · conv_lhs => whnf
      rw [h0]
      rfl

theorem periodicTail_refines (lmax mmax l cm uf ub mx : Nat) (rd wd : Rat) (hmx : 1 ≤ mx)
    (hcm : cm ≤ mmax) (hlm : mx ≤ lmax) (ops : List Ops.Op) (fuel : Nat) (hf : l + mx + 2 ≤ fuel)
    (h : periodicOps (opt0Table lmax mmax uf ub) uf cm mx l = some ops) :
    periodicTail fuel (l : Int) (cm : Int) rd wd (uf : Rat) (ub : Rat) (tabQ (opt0Table lmax mmax uf ub)) (mx : Int)
      = .ok (ops.map opPy) := by
  obtain ⟨q, h2, h3, h4, h5⟩ := periodic_while1_sim l mx hmx (l + 1) 0 [] fuel (by omega) (by omega) (by omega)
  simp only [Nat.zero_mul, Nat.cast_zero, List.nil_append] at h2 h5
  unfold periodicOps at h
  rcases hps : periodicSweepOps l mx (l + 1) 0 with ⟨sweep, ct⟩
  rw [hps] at h h2 h5
  simp only at h h2 h5
  subst h2
  have hdiv : q * mx / mx = q := Nat.mul_div_cancel _ (by omega)
  rw [hdiv] at h
  have hq : q ≤ l := le_trans (Nat.le_mul_of_pos_right q (by omega)) h3
  cases hmid : revolveOps (opt0Table lmax mmax uf ub) uf (l - q * mx + 1) (l - q * mx) cm with
  | none => rw [hmid] at h; cases h
  | some mid =>
    rw [hmid] at h
    simp only at h
    cases hblocks : periodicBlockOps (opt0Table lmax mmax uf ub) uf cm mx q with
    | none => rw [hblocks] at h; cases h
    | some blocks =>
      rw [hblocks] at h
      injection h with h; subst h
      unfold periodicTail
      have e1 : (l : Int) - ((q * mx : Nat) : Int) = ((l - q * mx : Nat) : Int) := by omega
      simp only [bind, Except.bind, pure, Except.pure, h5, e1]
      rw [revolve_of_ops lmax mmax uf ub _ _ (l - q * mx + 1) fuel (l - q * mx) cm mid (by omega) hcm (by omega) hmid]
      simp only []
      rw [seqShift_opPy, periodic_while2_sim lmax mmax cm uf ub mx rd wd hmx hcm (by omega) q blocks _ fuel
        (by omega) hblocks]
      simp only [List.map_append, List.append_assoc]

/-- **`periodic_disk_revolve`** with the memory-only table `opt0Table lmax mmax uf ub` (`mx ≤ lmax`, `cm ≤ mmax`) in
force, passed or computed: `mx` is the period, the twin's `mxrr`.  Fuel: `max (wd + rd + 2) (l + mx + 2)`. -/
theorem periodic_disk_revolve_ok (lmax mmax l cm uf ub rd wd mx : Nat) (o0 : Option (List (List Rat))) (om : Option Int)
    (hcm : cm ≤ mmax) (hmx : mxrr cm uf (wd + rd) = some mx) (hlm : mx ≤ lmax) (ops : List Ops.Op)
    (fuel : Nat) (hf1 : wd + rd + 2 ≤ fuel) (hf2 : l + mx + 2 ≤ fuel)
    (h : periodicOps (opt0Table lmax mmax uf ub) uf cm mx l = some ops)
    (h0 : o0 = some (tabQ (opt0Table lmax mmax uf ub)) ∨ o0 = none ∧
      get_opt_0_table (om.getD (max (mx : Int) (mx : Int) + 1)) (cm : Int) (uf : Rat) (ub : Rat)
        = .ok (tabQ (opt0Table lmax mmax uf ub))) :
    periodic_disk_revolve fuel (l : Int) (cm : Int) (rd : Rat) (wd : Rat) (uf : Rat) (ub : Rat) o0 om
      = .ok (ops.map opPy) := by
  have hm : mxrr_close_formula fuel (cm : Int) (uf : Rat) (rd : Rat) (wd : Rat) = .ok (mx : Int) := by
    rw [mxrr_close_formula_refines cm uf wd rd fuel hf1, hmx]
  rw [periodic_eq_tail fuel _ _ _ _ _ _ _ _ o0 om hm h0]
  exact periodicTail_refines lmax mmax l cm uf ub mx _ _ (mxrr_pos _ _ _ _ hmx) hcm hlm ops fuel hf2 h

/-- **`periodic_disk_revolve`, table computed** (`opt_0 = None`, `mmax = None`: the call of
`PeriodicDiskRevolve.__init__`).  `mx` is the period `mxrr_close_formula(cm, uf, rd, wd)`; the table is computed for
`max(mx, mx) + 1 = mx + 1` steps.  Fuel: `max (wd + rd + 2) (l + mx + 2)`. -/
theorem periodic_disk_revolve_refines (hR : RevolveRefines) (l cm uf ub rd wd mx : Nat) (hcm1 : 1 ≤ cm)
    (hmx : mxrr cm uf (wd + rd) = some mx) (ops : List Ops.Op) (fuel : Nat) (hf1 : wd + rd + 2 ≤ fuel)
    (hf2 : l + mx + 2 ≤ fuel)
    (h : periodicOps (opt0Table (mx + 1) cm uf ub) uf cm mx l = some ops) :
    periodic_disk_revolve fuel (l : Int) (cm : Int) (rd : Rat) (wd : Rat) (uf : Rat) (ub : Rat) none none
      = .ok (ops.map opPy) := by
  have e : max (mx : Int) (mx : Int) + 1 = ((mx + 1 : Nat) : Int) := by rw [max_self]; push_cast; rfl
  exact periodic_disk_revolve_ok (mx + 1) cm l cm uf ub rd wd mx none none (Nat.le_refl _) hmx (by omega) ops fuel
    hf1 hf2 h (Or.inr ⟨rfl, by rw [Option.getD_none, e]; exact get_opt_0_table_refines (mx + 1) cm uf ub (Or.inl hcm1)⟩)

/-- **`periodic_disk_revolve`, `opt_0` passed** (a memory-only table for `lmax ≥ mx` steps and `mmax ≥ cm` slots; the
argument `mmax` of the Python function, the number of steps of the table to compute, is then not used: any `om`) -/
theorem periodic_disk_revolve_refines_some (hR : RevolveRefines) (lmax mmax l cm uf ub rd wd mx : Nat) (om : Option Int)
    (hcm1 : 1 ≤ cm) (hcm : cm ≤ mmax) (hmx : mxrr cm uf (wd + rd) = some mx) (hlm : mx ≤ lmax) (ops : List Ops.Op)
    (fuel : Nat) (hf1 : wd + rd + 2 ≤ fuel) (hf2 : l + mx + 2 ≤ fuel)
    (h : periodicOps (opt0Table lmax mmax uf ub) uf cm mx l = some ops) :
    periodic_disk_revolve fuel (l : Int) (cm : Int) (rd : Rat) (wd : Rat) (uf : Rat) (ub : Rat)
      (some (tabQ (opt0Table lmax mmax uf ub))) om = .ok (ops.map opPy) :=
  periodic_disk_revolve_ok lmax mmax l cm uf ub rd wd mx _ om hcm hmx hlm ops fuel hf1 hf2 h (Or.inl rfl)

/-- **`periodic_disk_revolve`, `mmax = m ≥ mx` passed, table computed** (for `m` steps) -/
theorem periodic_disk_revolve_refines_mmax (hR : RevolveRefines) (l cm uf ub rd wd mx m : Nat) (hcm1 : 1 ≤ cm)
    (hmx : mxrr cm uf (wd + rd) = some mx) (hm : mx ≤ m) (ops : List Ops.Op) (fuel : Nat) (hf1 : wd + rd + 2 ≤ fuel)
    (hf2 : l + mx + 2 ≤ fuel)
    (h : periodicOps (opt0Table m cm uf ub) uf cm mx l = some ops) :
    periodic_disk_revolve fuel (l : Int) (cm : Int) (rd : Rat) (wd : Rat) (uf : Rat) (ub : Rat) none (some (m : Int))
      = .ok (ops.map opPy) :=
  periodic_disk_revolve_ok m cm l cm uf ub rd wd mx none (some (m : Int)) (Nat.le_refl _) hmx hm ops fuel hf1 hf2 h
    (Or.inr ⟨rfl, get_opt_0_table_refines m cm uf ub (Or.inl hcm1)⟩)

/-- non-vacuity: `l = 9`, `cm = 2`, `uf = ub = 1`, `wd = rd = 1`: period `mx = 3`; the hypotheses hold and the twin returns
a sequence -/
example : (1 : Nat) ≤ 2 ∧ mxrr 2 1 (1 + 1) = some 3 ∧ 1 + 1 + 2 ≤ 14 ∧ 9 + 3 + 2 ≤ 14 ∧
    (periodicOps (opt0Table (3 + 1) 2 1 1) 1 2 3 9).isSome = true := by decide

/-- **PeriodicDiskRevolve, builder and iterator both GENERATED**: `PeriodicDiskRevolve(N, cm, uf, ub, wd, rd).__init__`
calls `periodic_disk_revolve(N - 1, cm, wd, rd, uf, ub)` (`wd` in the position of `rd`; only `wd + rd` matters, the
statement covers both orders), then iterates.  Builder fuel: `max (wd + rd + 2) (N + mx + 1)` with `mx` the period. -/
theorem source_periodic_accepted_all (N cm : Nat) (c : Costs)
    (hv : validRevolve N cm c.uf c.ub = true) (k : Nat) (rd wd : Nat) (hwr : wd + rd = c.wd + c.rd) :
    ∃ mx, mxrr cm c.uf (c.wd + c.rd) = some mx ∧ ∀ bfuel, c.wd + c.rd + 2 ≤ bfuel → N + mx + 1 ≤ bfuel →
      ∃ pops, periodic_disk_revolve bfuel ((N : Int) - 1) (cm : Int) (rd : Rat) (wd : Rat) (c.uf : Rat) (c.ub : Rat)
          none none = .ok pops ∧
        ∀ fuel, pops.length + 1 ≤ fuel →
          ∃ pevs, revolve_run fuel (N : Int) pops = .ok pevs ∧
            Accepted (cfgDiskRevolve cm N) k (obsOfPy false N pevs) := by
  obtain ⟨hN, hcm, huf, _⟩ := (validRevolve_iff _ _ _ _).1 hv
  obtain ⟨ops, hops, hacc⟩ := source_periodic_accepted N cm c hv k
  unfold periodicOpsTop at hops
  cases hmx : mxrr cm c.uf (c.wd + c.rd) with
  | none => rw [hmx] at hops; cases hops
  | some mx =>
    rw [hmx] at hops
    simp only at hops
    refine ⟨mx, rfl, fun bfuel hb1 hb2 => ⟨ops.map opPy, ?_, ?_⟩⟩
    · have e : (N : Int) - 1 = ((N - 1 : Nat) : Int) := by omega
      rw [e]
      exact periodic_disk_revolve_refines revolveRefines (N - 1) cm c.uf c.ub rd wd mx hcm (by rw [hwr]; exact hmx) ops bfuel
        (by omega) (by omega) hops
    · intro fuel hf
      rw [List.length_map] at hf
      exact hacc fuel hf

/-- the same, stated relative to `RevolveRefines` -/
theorem source_periodic_accepted_full (hR : RevolveRefines) (N cm : Nat) (c : Costs)
    (hv : validRevolve N cm c.uf c.ub = true) (k : Nat) (rd wd : Nat) (hwr : wd + rd = c.wd + c.rd) :
    ∃ mx, mxrr cm c.uf (c.wd + c.rd) = some mx ∧ ∀ bfuel, c.wd + c.rd + 2 ≤ bfuel → N + mx + 1 ≤ bfuel →
      ∃ pops, periodic_disk_revolve bfuel ((N : Int) - 1) (cm : Int) (rd : Rat) (wd : Rat) (c.uf : Rat) (c.ub : Rat)
          none none = .ok pops ∧
        ∀ fuel, pops.length + 1 ≤ fuel →
          ∃ pevs, revolve_run fuel (N : Int) pops = .ok pevs ∧
            Accepted (cfgDiskRevolve cm N) k (obsOfPy false N pevs) :=
  source_periodic_accepted_all N cm c hv k rd wd hwr

example (hR : RevolveRefines) := source_periodic_accepted_full hR 3 2 ⟨1, 1, 1, 1⟩ (by decide) 1 1 1 rfl

/-- an instance of the conclusion of `RevolveRefines` (`l = 3`, `cm = 2`, unit costs), checked by evaluation -/
example : ∃ ops, revolveOps (opt0Table 3 2 1 1) 1 (3 + 2) 3 2 = some ops ∧
    revolve 5 (3 : Nat) (2 : Nat) 1 1 ((1 : Nat) : Rat) ((1 : Nat) : Rat) (some (tabQ (opt0Table 3 2 1 1)))
      = .ok (ops.map opPy) :=
  ⟨_, rfl, by decide +kernel⟩

/-- the conclusions of `disk_revolve_refines_none` and `periodic_disk_revolve_refines` on instances, checked by evaluation
(independently of `RevolveRefines`): `l = 5`, `cm = 2`, `uf = ub = 1`, `wd = rd = 1` -/
example : ∃ ops, diskRevolveOps (opt0Table 5 2 1 1) (optInfTable 5 2 1 1 (1 + 1) (opt0Table 5 2 1 1)) 2 1 (1 + 1) 6 5 = some ops ∧
    disk_revolve 8 (5 : Nat) (2 : Nat) ((1 : Nat) : Rat) ((1 : Nat) : Rat) ((1 : Nat) : Rat) ((1 : Nat) : Rat) none none
      = .ok (ops.map opPy) :=
  ⟨_, rfl, by decide +kernel⟩

example : ∃ ops, periodicOps (opt0Table (3 + 1) 2 1 1) 1 2 3 9 = some ops ∧
    periodic_disk_revolve 14 (9 : Nat) (2 : Nat) ((1 : Nat) : Rat) ((1 : Nat) : Rat) ((1 : Nat) : Rat) ((1 : Nat) : Rat) none none
      = .ok (ops.map opPy) :=
  ⟨_, rfl, by decide +kernel⟩

/-- non-vacuity of `disk_revolve_refines` (tables passed: a table for `lmax = 6 ≥ 5` steps and `mmax = 3 ≥ 2` slots) -/
example : (1 : Nat) ≤ 2 ∧ 2 ≤ 3 ∧ 5 ≤ 6 ∧ 5 < (optInfTable 6 2 1 1 (1 + 1) (opt0Table 6 3 1 1)).size ∧ 5 + 3 ≤ 8 ∧
    (diskRevolveOps (opt0Table 6 3 1 1) (optInfTable 6 2 1 1 (1 + 1) (opt0Table 6 3 1 1)) 2 1 (1 + 1) 6 5).isSome = true := by
  decide

/-- the properties discharged for the translated builder + iterator of `DiskRevolve` (under `RevolveRefines`) -/
theorem source_diskRevolve_C01_C18_full (hR : RevolveRefines) (N cm : Nat) (c : Costs)
    (hv : validRevolve N cm c.uf c.ub = true) (rd wd : Nat) (hwr : wd + rd = c.wd + c.rd)
    (bfuel : Nat) (hb : N + 2 ≤ bfuel) :
    ∃ pops, disk_revolve bfuel ((N : Int) - 1) (cm : Int) (rd : Rat) (wd : Rat) (c.uf : Rat) (c.ub : Rat) none none
        = .ok pops ∧
      ∀ fuel, pops.length + 1 ≤ fuel →
        ∃ pevs, revolve_run fuel (N : Int) pops = .ok pevs ∧
          NoViolation (cfgDiskRevolve cm N) (obsOfPy false N pevs) ∧
          finished (cfgDiskRevolve cm N) (run (cfgDiskRevolve cm N) (obsOfPy false N pevs)).1 = true := by
  obtain ⟨pops, hp, h⟩ := source_diskRevolve_accepted_all N cm c hv 1 rd wd hwr bfuel hb
  refine ⟨pops, hp, fun fuel hf => ?_⟩
  obtain ⟨pevs, hpe, ha⟩ := h fuel hf
  exact ⟨pevs, hpe, ha.noViolation, ha.finished rfl⟩

/-- the same for `PeriodicDiskRevolve` -/
theorem source_periodic_C01_C18_full (hR : RevolveRefines) (N cm : Nat) (c : Costs)
    (hv : validRevolve N cm c.uf c.ub = true) (rd wd : Nat) (hwr : wd + rd = c.wd + c.rd) :
    ∃ mx, mxrr cm c.uf (c.wd + c.rd) = some mx ∧ ∀ bfuel, c.wd + c.rd + 2 ≤ bfuel → N + mx + 1 ≤ bfuel →
      ∃ pops, periodic_disk_revolve bfuel ((N : Int) - 1) (cm : Int) (rd : Rat) (wd : Rat) (c.uf : Rat) (c.ub : Rat)
          none none = .ok pops ∧
        ∀ fuel, pops.length + 1 ≤ fuel →
          ∃ pevs, revolve_run fuel (N : Int) pops = .ok pevs ∧
            NoViolation (cfgDiskRevolve cm N) (obsOfPy false N pevs) ∧
            finished (cfgDiskRevolve cm N) (run (cfgDiskRevolve cm N) (obsOfPy false N pevs)).1 = true := by
  obtain ⟨mx, hmx, h⟩ := source_periodic_accepted_all N cm c hv 1 rd wd hwr
  refine ⟨mx, hmx, fun bfuel hb1 hb2 => ?_⟩
  obtain ⟨pops, hp, h'⟩ := h bfuel hb1 hb2
  refine ⟨pops, hp, fun fuel hf => ?_⟩
  obtain ⟨pevs, hpe, ha⟩ := h' fuel hf
  exact ⟨pevs, hpe, ha.noViolation, ha.finished rfl⟩

example : validRevolve 5 2 1 1 = true := by decide

#print axioms seqRemoveUselessWm_map_opPy
#print axioms disk_revolve_refines
#print axioms disk_revolve_refines_none
#print axioms disk_revolve_refines_some_none
#print axioms disk_revolve_refines_none_some
#print axioms periodic_disk_revolve_refines
#print axioms periodic_disk_revolve_refines_some
#print axioms periodic_disk_revolve_refines_mmax
#print axioms source_diskRevolve_accepted_full
#print axioms source_periodic_accepted_full
#print axioms source_diskRevolve_C01_C18_full
#print axioms source_periodic_C01_C18_full
#print axioms revolveRefines
#print axioms source_diskRevolve_accepted_all
#print axioms source_periodic_accepted_all

end Ckpt.Py
