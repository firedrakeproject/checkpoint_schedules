import CkptGen.RefineLib
import CkptVerif.Proofs.NAdv
/-!
# The Lean text generated from `n_advance` (multistage.py) computes the model `nAdvance`

`Ckpt.Py.n_advance` is produced by `harness/py2lean.py` from the current Python source; `Ckpt.nAdvance` is the
hand-written model all stream theorems are about.
-/
namespace Ckpt.Py
open Ckpt

/-- the Python spelling of a trajectory -/
def trajStr : Traj → String
  | .maximum => "maximum"
  | .revolve => "revolve"

/-- `Option` answers of the model as outcomes of the generated function: `none` is `ValueError` -/
def ofOpt {α β : Type} (f : α → β) : Option α → M β
  | some a => .ok (f a)
  | none => .error .valueError

/-- the generated loop is the model's loop -/
theorem while1_eq (n s : Nat) : ∀ (fuel t b2 b1 b0 : Nat),
    n_advance.while1 (n : Int) (s : Int) fuel ((t : Int), (b2 : Int), (b1 : Int), (b0 : Int)) =
      match advLoop fuel n s t b2 b1 b0 with
      | none => .error .fuel
      | some (t', c2, c1, c0) => .ok ((t' : Int), (c2 : Int), (c1 : Int), (c0 : Int)) := by
  intro fuel
  induction fuel with
  | zero => intro t b2 b1 b0; rfl
  | succ fuel ih =>
    intro t b2 b1 b0
    unfold n_advance.while1 advLoop
    -- the test of the loop says the same on integers and on naturals
    have hc' : ((b1 : Int) ≥ (n : Int) ∨ (n : Int) > (b0 : Int)) ↔ (b1 ≥ n ∨ n > b0) :=
      or_congr Nat.cast_le Nat.cast_lt
    by_cases hc : b1 ≥ n ∨ n > b0
    · have hd : floordiv ((b0 : Int) * ((s : Int) + ((t : Int) + 1))) ((t : Int) + 1)
          = .ok ((((b0 * (s + (t + 1))) / (t + 1) : Nat)) : Int) :=
        floordiv_cast (b0 * (s + (t + 1))) (t + 1) (by rw [Nat.cast_mul]; rfl) rfl (Nat.succ_ne_zero t)
      simp only [hc, hc', if_true, bind, Except.bind, hd]
      exact ih (t + 1) b1 b0 ((b0 * (s + (t + 1))) / (t + 1))
    · simp only [hc, hc', if_false]
      rfl

open Nat

/-- `n < 1` or `snapshots ≤ 0` (zero included): `ValueError` -/
theorem n_advance_invalid (n s : Int) (tr : String) (fuel : Nat) (h : n < 1 ∨ s ≤ 0) :
    n_advance fuel n s tr = .error .valueError := by
  by_cases h1 : n < 1
  · simp only [n_advance, ↓reduceIte, h1]; rfl
  · have : s ≤ 0 := by omega
    simp only [n_advance, ↓reduceIte, h1, this]; rfl

/-- an `if` on integers whose condition says the same as one on naturals, both sides returning casts -/
theorem ite_ok_cast {c c' : Prop} [Decidable c] [Decidable c'] {x y : M Int} {a b : Nat} (hc : c ↔ c')
    (hx : c' → x = Except.ok (a : Int)) (hy : ¬ c' → y = Except.ok (b : Int)) :
    (if c then x else y) = Except.ok (((if c' then a else b : Nat)) : Int) := by
  by_cases h : c'
  · rw [if_pos (hc.2 h), if_pos h, hx h]
  · rw [if_neg (mt hc.1 h), if_neg h, hy h]

/-- a division of the text by `s + t - c`, where `c < s + t` -/
theorem floordiv_add_sub {x : Int} (a s t c : Nat) (hx : x = a) (hc : c < s + t) :
    floordiv x ((s : Int) + (t : Int) - (c : Int)) = .ok ((a / (s + t - c) : Nat) : Int) :=
  floordiv_cast a (s + t - c) hx (cast_add_sub hc.le) (Nat.sub_ne_zero_of_lt hc)

/-- the clamp of the text is the cast of the model's clamp -/
theorem max_clamp_cast (n s : Nat) (hn : 1 ≤ n) :
    max (min (s : Int) ((n : Int) - 1)) 1 = ((max (min s (n - 1)) 1 : Nat) : Int) := by
  rw [Nat.cast_max, Nat.cast_min, Nat.cast_pred hn, Nat.cast_one]

/-- the clamped number of snapshots is `1`: the first branch of the text -/
theorem n_advance_clamp_one (n s : Nat) (tr : String) (fuel : Nat) (hn : 1 ≤ n) (hs : 1 ≤ s)
    (h : min s (n - 1) ≤ 1) : n_advance fuel (n : Int) (s : Int) tr = .ok ((n - 1 : Nat) : Int) := by
  have h1 : ¬ (n : Int) < 1 := by omega
  have h0 : ¬ (s : Int) ≤ 0 := by omega
  have hc : max (min (s : Int) ((n : Int) - 1)) 1 = 1 := by rw [max_clamp_cast n s hn, max_eq_right h]; rfl
  simp only [n_advance, ↓reduceIte, pure, Except.pure, h1, h0, hc]
  exact congrArg Except.ok (Nat.cast_pred hn).symm

/-- the clamped number of snapshots is `n - 1 ≥ 2`: the second branch of the text -/
theorem n_advance_full (n s : Nat) (tr : String) (fuel : Nat) (hn : 3 ≤ n) (hs : n - 1 ≤ s) :
    n_advance fuel (n : Int) (s : Int) tr = .ok 1 := by
  have h1 : ¬ (n : Int) < 1 := by omega
  have h0 : ¬ (s : Int) ≤ 0 := by omega
  have hc : max (min (s : Int) ((n : Int) - 1)) 1 = (n : Int) - 1 := by
    rw [max_clamp_cast n s (by omega), min_eq_right hs, max_eq_left (by omega), Nat.cast_pred (by omega)]
  have hn1 : ¬ (n : Int) - 1 = 1 := by omega
  simp only [n_advance, ↓reduceIte, pure, Except.pure, h1, h0, hc, hn1]

/-- `2 ≤ s ≤ n - 2`: the loop, then the choice by trajectory -/
theorem n_advance_loop (n s : Nat) (traj : Traj) (fuel : Nat) (hf : n + 1 ≤ fuel) (hs2 : 2 ≤ s) (hs3 : s + 2 ≤ n) :
    n_advance fuel (n : Int) (s : Int) (trajStr traj) = ofOpt (fun a : Nat => (a : Int)) (nAdvance n s traj) := by
  obtain ⟨t, b2, b1, b0, hl, inv, -⟩ :=
    advLoop_spec (n+1) n s 2 1 (s+1) _ (by omega) (LoopInv.init n s (by omega)) (by omega)
  rw [nAdvance_loop n s traj hs2 hs3, hl]
  have hw := while1_eq n s fuel 2 1 (s+1) (((s+1)*(s+2))/2)
  have e : n + 1 + (fuel - (n + 1)) = fuel := Nat.add_sub_cancel' hf
  rw [← e, advLoop_fuel_mono n s (n+1) _ 2 1 (s+1) _ _ hl, e] at hw
  have ht := inv.t2
  have hb1lt := inv.lt
  clear hl inv e hf
  -- the four divisions of the generated text are the model's
  have hd0 : floordiv (((s : Int) + 1) * ((s : Int) + 2)) 2 = .ok ((((s+1)*(s+2))/2 : Nat) : Int) :=
    floordiv_cast ((s+1)*(s+2)) 2 (by rw [Nat.cast_mul]; rfl) rfl (Nat.succ_ne_zero 1)
  have l2 : 2 < s + t := by omega
  have hd1 : floordiv ((b1 : Int) * (s : Int)) ((s : Int) + (t : Int) - 1) = .ok (((b1 * s) / (s + t - 1) : Nat) : Int) :=
    floordiv_add_sub (b1 * s) s t 1 (Nat.cast_mul _ _).symm (Nat.lt_of_succ_lt l2)
  have hd3 : floordiv ((b2 : Int) * (s : Int)) ((s : Int) + (t : Int) - 2) = .ok (((b2 * s) / (s + t - 2) : Nat) : Int) :=
    floordiv_add_sub (b2 * s) s t 2 (Nat.cast_mul _ _).symm l2
  have hd2 (x1 : Nat) : floordiv ((x1 : Int) * ((s : Int) - 1)) ((s : Int) + (t : Int) - 2)
      = .ok (((x1 * (s - 1)) / (s + t - 2) : Nat) : Int) :=
    floordiv_add_sub (x1 * (s - 1)) s t 2 (by rw [Nat.cast_mul, Nat.cast_pred (Nat.lt_of_lt_of_le Nat.zero_lt_two hs2)]) l2
  have hm1le : (b1 * s) / (s + t - 1) ≤ b1 :=
    Nat.div_le_of_le_mul (by rw [Nat.mul_comm]; exact Nat.mul_le_mul_right _ (by omega))
  clear l2 ht
  -- the tests of the text before the loop
  have h1 : ¬ (n : Int) < 1 := by omega
  have h0 : ¬ (s : Int) ≤ 0 := by omega
  have hc : max (min (s : Int) ((n : Int) - 1)) 1 = (s : Int) := by
    rw [max_clamp_cast n s (by omega), min_eq_left (by omega), max_eq_left (by omega)]
  have hs1 : ¬ (s : Int) = 1 := by omega
  have hsn : ¬ (s : Int) = (n : Int) - 1 := by omega
  simp only [Nat.cast_ofNat, Nat.cast_one, Nat.cast_add] at hw
  simp only [n_advance, ↓reduceIte, bind, Except.bind, pure, Except.pure, h1, h0, hc, hs1, hsn, hd0, hw, hd1, hd3, hd2,
    Option.map, ofOpt, advPick]
  clear hd0 hd1 hd2 hd3 hw hs2 hs3 hc hs1 hsn h0 h1
  generalize (b1 * s) / (s + t - 1) = x1 at hm1le ⊢
  generalize (x1 * (s - 1)) / (s + t - 2) = x2
  generalize (b2 * s) / (s + t - 2) = x3
  -- what is left are the same comparisons on both sides, of integers here and of naturals there; the casts of the
  -- results need `b1 < n` and `x1 ≤ b1` only
  cases traj
  · rw [if_pos (show trajStr .maximum = "maximum" from rfl)]
    refine ite_ok_cast (by omega) (fun _ => congrArg Except.ok ?_) fun _ => ?_
    · rw [Nat.cast_add, Nat.cast_sub hb1lt.le]
    refine ite_ok_cast (by omega) (fun _ => congrArg Except.ok (Nat.cast_add _ _).symm) fun _ => ?_
    exact ite_ok_cast (by omega) (fun _ => congrArg Except.ok (by omega)) fun _ => rfl
  · rw [if_neg (show ¬ trajStr .revolve = "maximum" by decide), if_pos (show trajStr .revolve = "revolve" from rfl)]
    refine ite_ok_cast (by omega) (fun _ => rfl) fun _ => ?_
    exact ite_ok_cast (by omega) (fun _ => congrArg Except.ok (by omega)) fun _ => rfl

/-- **`n_advance` as generated from the Python source computes the model `nAdvance`** (for every `n`,
`snapshots ≥ 0`, both trajectories; `ValueError` exactly where the model says so), for any fuel `≥ n + 1` -/
theorem n_advance_refines (n s : Nat) (traj : Traj) (fuel : Nat) (hf : n + 1 ≤ fuel) :
    n_advance fuel (n : Int) (s : Int) (trajStr traj) = ofOpt (fun a : Nat => (a : Int)) (nAdvance n s traj) := by
  by_cases hbad : n = 0 ∨ s = 0
  · rw [n_advance_invalid _ _ _ _ (by omega), nAdvance_eq_none n s traj hbad]; rfl
  have hn : 1 ≤ n := Nat.pos_of_ne_zero fun h => hbad (.inl h)
  have hs : 1 ≤ s := Nat.pos_of_ne_zero fun h => hbad (.inr h)
  clear hbad
  -- the clamped number of snapshots is `1`, `n - 1`, or `s` itself: the three branches of the text
  by_cases c1 : min s (n - 1) ≤ 1
  · rw [nAdvance_clamp_one n s traj hn hs c1, n_advance_clamp_one n s _ fuel hn hs c1]
    rfl
  have hn3 : 3 ≤ n := by omega
  by_cases c2 : n - 1 ≤ s
  · rw [nAdvance_full n s traj hn3 c2, n_advance_full n s _ fuel hn3 c2]
    rfl
  exact n_advance_loop n s traj fuel hf (by omega) (by omega)

/-- the form in which the generators call it: integer expressions that are casts, a model answer at hand -/
theorem n_advance_ok {m s a : Nat} {x y : Int} {traj : Traj} {fuel : Nat} (h : nAdvance m s traj = some a)
    (hx : x = m) (hy : y = s) (hf : m + 1 ≤ fuel) : n_advance fuel x y (trajStr traj) = .ok (a : Int) := by
  rw [hx, hy, n_advance_refines m s traj fuel hf, h]; rfl

end Ckpt.Py

#print axioms Ckpt.Py.n_advance_refines
#print axioms Ckpt.Py.n_advance_invalid
