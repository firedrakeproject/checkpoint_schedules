import CkptGen.RefineSeqDisk
import CkptGen.RefineSeqHRevolve
import Mathlib.Tactic
/-!
# The constructors of the Revolve family as generated, and the object-level capstones

The constructors of the Revolve family (`RevolveCheckpointSchedule.__init__`, `HRevolve.__init__`,
`DiskRevolve.__init__`, `PeriodicDiskRevolve.__init__`, `Revolve.__init__`, hrevolve.py) as GENERATED from the source
(`Src.lean`: `revolveBase_init`, `hrevolve_init`, `diskRevolve_init`, `periodicDiskRevolve_init`, `revolve_init`),
and the object-level capstones: construct the object with the generated constructor (which runs the generated
sequence builder), then iterate the generated `_iterator` over the object's fields (`objRun`).

1. `revolveBase_init_spec` / `revolveBase_init_ok` / `revolveBase_init_valueError` / `revolveBase_init_assertionError`
2. `X_init_unfold` (constructor = builder, then base constructor) and `X_init_fields` (the fields on valid parameters:
   `(0, 0, some N, false, sd_X, cm, ops.map opPy)` with `ops` the twin's `…OpsTop`)
3. `object_X_accepted` (the stream of `objRun (X_init …)` is accepted by the checking executor) and `object_X_model`
   (that stream is the stream model's: `revolveEvs`, `diskRevolveEvs`, `periodicEvs`, `hrevolveEvs`).

Fuel: builder `fuelB ≥ N` (Revolve), `N + 2` (DiskRevolve), `max (wd + rd + 2) (N + mx + 1)` with `mx` the period
(PeriodicDiskRevolve), `4 N + 8` (HRevolve); iterator `fuelI ≥ ops.length + 1` (`8 N + 1` suffices for Revolve).
-/
namespace Ckpt.Py
open Ckpt Ckpt.Ops

/-- the object fields of the Revolve family: `(n, r, max_n, exhausted, snapshots_on_disk, snapshots_in_ram, schedule)` -/
abbrev RevObj := Int × Int × Option Int × Bool × Option Int × Int × List PyOp

/-- construct the object with the generated constructor, then iterate the generated `_iterator` over its fields -/
def objRun (init : M (Int × Int × Option Int × Bool × Option Int × Int × List PyOp)) (fuelI : Nat) : M (List PyEv) := do
  let (n, r, mx, ex, _sd, _sr, sch) ← init
  revolve_iterator fuelI n r mx sch ex

theorem objRun_ok (n r : Int) (mx : Option Int) (ex : Bool) (sd : Option Int) (sr : Int) (sch : List PyOp) (fuelI : Nat) :
    objRun (.ok (n, r, mx, ex, sd, sr, sch)) fuelI = revolve_iterator fuelI n r mx sch ex := rfl

theorem objRun_error (e : PyErr) (fuelI : Nat) : objRun (.error e) fuelI = .error e := rfl

/-- the generated base constructor, in closed form: `ValueError` from `CheckpointSchedule.__init__` when `max_n < 1`
(before the asserts), `AssertionError` when `snapshots_in_ram ≤ 0`, the fields otherwise -/
theorem revolveBase_init_spec (mx cm : Int) (sd : Option Int) (s : List PyOp) :
    revolveBase_init mx cm sd s =
      if mx < 1 then .error .valueError
      else if cm ≤ 0 then .error .assertionError
      else .ok (0, 0, some mx, false, sd, cm, s) := by
  unfold revolveBase_init
  rw [init_spec]
  simp only
  by_cases h1 : mx < 1
  · rw [if_pos h1, if_pos h1]; rfl
  · rw [if_neg h1, if_neg h1]
    by_cases h2 : cm ≤ 0
    · rw [if_pos h2]
      simp only [bind, Except.bind, pure, Except.pure]
      rw [if_pos (by omega)]
      rfl
    · rw [if_neg h2]
      simp only [bind, Except.bind, pure, Except.pure]
      rw [if_neg (by omega), if_neg (by omega)]

theorem revolveBase_init_ok (N cm : Nat) (sd : Option Int) (s : List PyOp) (hN : 1 ≤ N) (hcm : 1 ≤ cm) :
    revolveBase_init N cm sd s = .ok (0, 0, some N, false, sd, cm, s) := by
  rw [revolveBase_init_spec, if_neg (by omega), if_neg (by omega)]

/-- `max_n < 1`: `ValueError` (raised by `CheckpointSchedule.__init__`, before the asserts) -/
theorem revolveBase_init_valueError (mx cm : Int) (sd : Option Int) (s : List PyOp) (h : mx < 1) :
    revolveBase_init mx cm sd s = .error .valueError := by
  rw [revolveBase_init_spec, if_pos h]

/-- `max_n ≥ 1`, `snapshots_in_ram ≤ 0`: `AssertionError` -/
theorem revolveBase_init_assertionError (mx cm : Int) (sd : Option Int) (s : List PyOp) (h : 1 ≤ mx) (hcm : cm ≤ 0) :
    revolveBase_init mx cm sd s = .error .assertionError := by
  rw [revolveBase_init_spec, if_neg (by omega), if_pos hcm]

example : (1 : Nat) ≤ 3 ∧ (1 : Nat) ≤ 2 := by decide
example := revolveBase_init_ok 3 2 (some 0) [] (by decide) (by decide)
example : ((0 : Int) < 1) := by decide
example : revolveBase_init 0 2 none [] = .error .valueError := revolveBase_init_valueError 0 2 none [] (by decide)
example : ((1 : Int) ≤ 3 ∧ (0 : Int) ≤ 0) := by decide
example : revolveBase_init 3 0 none [] = .error .assertionError :=
  revolveBase_init_assertionError 3 0 none [] (by decide) (by decide)

/-- re-assembling the fields of the base object (`self._n = base._n`, …) is the identity -/
theorem eta_fields (x : M RevObj) :
    (x >>= fun b => pure (b.1, b.2.1, b.2.2.1, b.2.2.2.1, b.2.2.2.2.1, b.2.2.2.2.2.1, b.2.2.2.2.2.2)) = x := by
  cases x <;> rfl

/-- `Revolve.__init__`: `schedule = list(revolve(max_n - 1, snapshots_in_ram, wd, rd, uf, ub))`, then the base constructor
with `snapshots_on_disk = 0` -/
theorem revolve_init_unfold (fuel : Nat) (mx cm : Int) (uf ub wd rd : Rat) :
    revolve_init fuel mx cm uf ub wd rd = (do
      let s ← revolve fuel (mx - 1) cm wd rd uf ub none
      revolveBase_init mx cm (some 0) s) := by
  unfold revolve_init
  cases revolve fuel (mx - 1) cm wd rd uf ub none with
  | error e => rfl
  | ok s => exact eta_fields (revolveBase_init mx cm (some 0) s)

/-- `DiskRevolve.__init__`: `schedule = list(disk_revolve(max_n - 1, snapshots_in_ram, wd, rd, uf, ub))`, then the base
constructor with `snapshots_on_disk = None` -/
theorem diskRevolve_init_unfold (fuel : Nat) (mx cm : Int) (uf ub wd rd : Rat) :
    diskRevolve_init fuel mx cm uf ub wd rd = (do
      let s ← disk_revolve fuel (mx - 1) cm wd rd uf ub none none
      revolveBase_init mx cm none s) := by
  unfold diskRevolve_init
  cases disk_revolve fuel (mx - 1) cm wd rd uf ub none none with
  | error e => rfl
  | ok s => exact eta_fields (revolveBase_init mx cm none s)

/-- `PeriodicDiskRevolve.__init__` -/
theorem periodicDiskRevolve_init_unfold (fuel : Nat) (mx cm : Int) (uf ub wd rd : Rat) :
    periodicDiskRevolve_init fuel mx cm uf ub wd rd = (do
      let s ← periodic_disk_revolve fuel (mx - 1) cm wd rd uf ub none none
      revolveBase_init mx cm none s) := by
  unfold periodicDiskRevolve_init
  cases periodic_disk_revolve fuel (mx - 1) cm wd rd uf ub none none with
  | error e => rfl
  | ok s => exact eta_fields (revolveBase_init mx cm none s)

/-- `HRevolve.__init__`: `schedule = list(hrevolve(max_n - 1, (c0, c1), [0, wd], [0, rd], uf, ub))`, then the base
constructor with `snapshots_on_disk = c1` -/
theorem hrevolve_init_unfold (fuel : Nat) (mx c0 c1 : Int) (uf ub wd rd : Rat) :
    hrevolve_init fuel mx c0 c1 uf ub wd rd = (do
      let s ← hrevolve fuel (mx - 1) [c0, c1] [0, wd] [0, rd] uf ub
      revolveBase_init mx c0 (some c1) s) := by
  unfold hrevolve_init
  have e : (((0 : Int) : Int) : Rat) = 0 := Int.cast_zero
  simp only [e]
  cases hrevolve fuel (mx - 1) [c0, c1] [0, wd] [0, rd] uf ub with
  | error e => rfl
  | ok s => exact eta_fields (revolveBase_init mx c0 (some c1) s)

/-- an error of the builder is the constructor's error; an invalid `max_n`/`snapshots_in_ram` surfaces only after the
builder has returned (the order of `__init__`) -/
theorem revolve_init_builder_error (fuel : Nat) (mx cm : Int) (uf ub wd rd : Rat) (e : PyErr)
    (h : revolve fuel (mx - 1) cm wd rd uf ub none = .error e) :
    revolve_init fuel mx cm uf ub wd rd = .error e := by
  rw [revolve_init_unfold, h]; rfl

/-- **Revolve, the fields**: for `N ≥ 1`, `cm ≥ 1` the generated constructor returns
`_n = _r = 0`, `_max_n = N`, `_exhausted = False`, `_snapshots_on_disk = 0`, `_snapshots_in_ram = cm` and the twin's
operation sequence `revolveOpsTop N cm c`.  Builder fuel: `N`. -/
theorem revolve_init_fields (N cm : Nat) (c : Costs) (hN : 1 ≤ N) (hcm : 1 ≤ cm) (wd rd : Rat) :
    ∃ ops, revolveOpsTop N cm c = some ops ∧ ops.length ≤ 8 * N ∧ ∀ fuelB, N ≤ fuelB →
      revolve_init fuelB (N : Int) (cm : Int) (c.uf : Rat) (c.ub : Rat) wd rd
        = .ok (0, 0, some (N : Int), false, some 0, (cm : Int), ops.map opPy) := by
  obtain ⟨ops, hops, hlen, hb⟩ := revolve_builder_top N cm c hN hcm wd rd
  refine ⟨ops, hops, hlen, fun fuelB hB => ?_⟩
  rw [revolve_init_unfold, hb fuelB hB]
  exact revolveBase_init_ok N cm (some 0) _ hN hcm

/-- **DiskRevolve, the fields** (`_snapshots_on_disk = None`).  Builder fuel: `N + 2`. -/
theorem diskRevolve_init_fields (N cm : Nat) (c : Costs) (hN : 1 ≤ N) (hcm : 1 ≤ cm) (ops : List Ops.Op)
    (hops : diskRevolveOpsTop N cm c = some ops) (fuelB : Nat) (hB : N + 2 ≤ fuelB) :
    diskRevolve_init fuelB (N : Int) (cm : Int) (c.uf : Rat) (c.ub : Rat) (c.wd : Rat) (c.rd : Rat)
      = .ok (0, 0, some (N : Int), false, none, (cm : Int), ops.map opPy) := by
  unfold diskRevolveOpsTop at hops
  simp only at hops
  rw [Nat.add_comm c.wd c.rd] at hops
  have e : (N : Int) - 1 = ((N - 1 : Nat) : Int) := by omega
  rw [diskRevolve_init_unfold, e,
    disk_revolve_refines_none revolveRefines (N - 1) cm c.uf c.ub c.wd c.rd hcm N ops fuelB (by omega) hops]
  exact revolveBase_init_ok N cm none _ hN hcm

theorem diskRevolve_init_fields_total (N cm : Nat) (c : Costs) (hN : 1 ≤ N) (hcm : 1 ≤ cm) :
    ∃ ops, diskRevolveOpsTop N cm c = some ops ∧ ∀ fuelB, N + 2 ≤ fuelB →
      diskRevolve_init fuelB (N : Int) (cm : Int) (c.uf : Rat) (c.ub : Rat) (c.wd : Rat) (c.rd : Rat)
        = .ok (0, 0, some (N : Int), false, none, (cm : Int), ops.map opPy) := by
  obtain ⟨ops, _, hops, _⟩ := revolve_iterator_diskRevolve N cm c hN hcm
  exact ⟨ops, hops, fun fuelB hB => diskRevolve_init_fields N cm c hN hcm ops hops fuelB hB⟩

/-- **PeriodicDiskRevolve, the fields** (`_snapshots_on_disk = None`).  Builder fuel: `max (wd + rd + 2) (N + mx + 1)`,
`mx` the period `mxrr_close_formula(cm, uf, wd, rd)`. -/
theorem periodicDiskRevolve_init_fields (N cm : Nat) (c : Costs) (hN : 1 ≤ N) (hcm : 1 ≤ cm) (ops : List Ops.Op)
    (hops : periodicOpsTop N cm c = some ops) :
    ∃ mx, mxrr cm c.uf (c.wd + c.rd) = some mx ∧ ∀ fuelB, c.wd + c.rd + 2 ≤ fuelB → N + mx + 1 ≤ fuelB →
      periodicDiskRevolve_init fuelB (N : Int) (cm : Int) (c.uf : Rat) (c.ub : Rat) (c.wd : Rat) (c.rd : Rat)
        = .ok (0, 0, some (N : Int), false, none, (cm : Int), ops.map opPy) := by
  unfold periodicOpsTop at hops
  cases hmx : mxrr cm c.uf (c.wd + c.rd) with
  | none => rw [hmx] at hops; cases hops
  | some mx =>
    rw [hmx] at hops
    simp only at hops
    refine ⟨mx, rfl, fun fuelB hb1 hb2 => ?_⟩
    have e : (N : Int) - 1 = ((N - 1 : Nat) : Int) := by omega
    rw [periodicDiskRevolve_init_unfold, e,
      periodic_disk_revolve_refines revolveRefines (N - 1) cm c.uf c.ub c.wd c.rd mx hcm
        (by rw [Nat.add_comm]; exact hmx) ops fuelB (by omega) (by omega) hops]
    exact revolveBase_init_ok N cm none _ hN hcm

theorem periodicDiskRevolve_init_fields_total (N cm : Nat) (c : Costs) (hN : 1 ≤ N) (hcm : 1 ≤ cm) (huf : 0 < c.uf) :
    ∃ ops mx, periodicOpsTop N cm c = some ops ∧ mxrr cm c.uf (c.wd + c.rd) = some mx ∧
      ∀ fuelB, c.wd + c.rd + 2 ≤ fuelB → N + mx + 1 ≤ fuelB →
        periodicDiskRevolve_init fuelB (N : Int) (cm : Int) (c.uf : Rat) (c.ub : Rat) (c.wd : Rat) (c.rd : Rat)
          = .ok (0, 0, some (N : Int), false, none, (cm : Int), ops.map opPy) := by
  obtain ⟨ops, _, hops, _⟩ := revolve_iterator_periodic N cm c hN hcm huf
  obtain ⟨mx, hmx, h⟩ := periodicDiskRevolve_init_fields N cm c hN hcm ops hops
  exact ⟨ops, mx, hops, hmx, h⟩

/-- **HRevolve, the fields** (`_snapshots_on_disk = c1`, `_snapshots_in_ram = c0`).  Builder fuel: `4 N + 8`. -/
theorem hrevolve_init_fields (N c0 c1 : Nat) (c : Costs) (hN : 1 ≤ N) (hc0 : 1 ≤ c0) (ops : List Ops.Op)
    (hops : hrevolveOpsTop N c0 c1 c = some ops) (fuelB : Nat) (hB : 4 * N + 8 ≤ fuelB) :
    hrevolve_init fuelB (N : Int) (c0 : Int) (c1 : Int) (c.uf : Rat) (c.ub : Rat) (c.wd : Rat) (c.rd : Rat)
      = .ok (0, 0, some (N : Int), false, some (c1 : Int), (c0 : Int), ops.map opPy) := by
  rw [hrevolve_init_unfold, hrevolve_refines N c0 c1 c hN hc0 ops hops fuelB hB]
  exact revolveBase_init_ok N c0 (some (c1 : Int)) _ hN hc0

theorem hrevolve_init_fields_total (N c0 c1 : Nat) (c : Costs) (hN : 1 ≤ N) (hc0 : 1 ≤ c0) :
    ∃ ops, hrevolveOpsTop N c0 c1 c = some ops ∧ ∀ fuelB, 4 * N + 8 ≤ fuelB →
      hrevolve_init fuelB (N : Int) (c0 : Int) (c1 : Int) (c.uf : Rat) (c.ub : Rat) (c.wd : Rat) (c.rd : Rat)
        = .ok (0, 0, some (N : Int), false, some (c1 : Int), (c0 : Int), ops.map opPy) := by
  obtain ⟨ops, _, hops, _⟩ := revolve_iterator_hrevolve N c0 c1 c hN hc0
  exact ⟨ops, hops, fun fuelB hB => hrevolve_init_fields N c0 c1 c hN hc0 ops hops fuelB hB⟩

/-- the `AssertionError` of the base constructor surfaces only when the builder has returned (e.g. `Revolve(1, 0, …)`:
`revolve(0, 0, …)` returns a sequence); for `N ≥ 2`, `cm = 0` the builder raises first (below) -/
theorem revolve_init_assertionError (fuel : Nat) (mx cm : Int) (uf ub wd rd : Rat) (s : List PyOp)
    (h : revolve fuel (mx - 1) cm wd rd uf ub none = .ok s) (hmx : 1 ≤ mx) (hcm : cm ≤ 0) :
    revolve_init fuel mx cm uf ub wd rd = .error .assertionError := by
  rw [revolve_init_unfold, h]
  exact revolveBase_init_assertionError mx cm (some 0) s hmx hcm

/-- non-vacuity of `revolve_init_assertionError`: `Revolve(1, 0, 1, 1, 1, 1)` -/
example : (match revolve 2 ((1 : Int) - 1) 0 1 1 1 1 none with | .ok _ => true | .error _ => false) = true ∧
    (1 : Int) ≤ 1 ∧ (0 : Int) ≤ 0 := ⟨by decide +kernel, by decide, by decide⟩
example : (match revolve_init 2 1 0 1 1 1 1 with | .error .assertionError => true | _ => false) = true := by
  decide +kernel

/-- `Revolve(N, 0, …)` with `N ≥ 3`: the builder's `IndexError` (from `get_opt_0_table`) comes first, the
`assert snapshots_in_ram > 0` of the base constructor is not reached -/
theorem revolve_init_cm0_indexError (uf ub : Nat) (wd rd : Rat) (fuel N : Nat) (hN : 3 ≤ N) :
    revolve_init (fuel + 1) (N : Int) ((0 : Nat) : Int) (uf : Rat) (ub : Rat) wd rd = .error .indexError := by
  have e : (N : Int) - 1 = ((N - 1 : Nat) : Int) := by omega
  rw [revolve_init_unfold, e, revolve_none_indexError uf ub wd rd fuel (N - 1) (by omega)]
  rfl

/-- `Revolve(2, 0, …)`: the builder's `ValueError` -/
theorem revolve_init_cm0_valueError (uf ub : Nat) (wd rd : Rat) (fuel : Nat) :
    revolve_init (fuel + 1) ((2 : Nat) : Int) ((0 : Nat) : Int) (uf : Rat) (ub : Rat) wd rd = .error .valueError := by
  have e : ((2 : Nat) : Int) - 1 = ((1 : Nat) : Int) := by norm_num
  rw [revolve_init_unfold, e, revolve_valueError_none fuel uf ub wd rd]
  rfl

example : (3 : Nat) ≤ 3 := by decide
example := revolve_init_cm0_indexError 1 1 1 1 5 3 (by decide)

example : (1 : Nat) ≤ 3 ∧ (1 : Nat) ≤ 2 ∧ 3 ≤ 3 := by decide
example := revolve_init_fields 3 2 ⟨1, 1, 1, 1⟩ (by decide) (by decide) 1 1
example : (1 : Nat) ≤ 3 ∧ (1 : Nat) ≤ 2 ∧ 3 + 2 ≤ 5 ∧ (diskRevolveOpsTop 3 2 ⟨1, 1, 1, 1⟩).isSome = true := by decide
example := diskRevolve_init_fields_total 3 2 ⟨1, 1, 1, 1⟩ (by decide) (by decide)
example : (1 : Nat) ≤ 3 ∧ (1 : Nat) ≤ 2 ∧ 0 < (⟨1, 1, 1, 1⟩ : Costs).uf ∧ mxrr 2 1 (1 + 1) = some 3 ∧
    (periodicOpsTop 3 2 ⟨1, 1, 1, 1⟩).isSome = true := by decide
example := periodicDiskRevolve_init_fields_total 3 2 ⟨1, 1, 1, 1⟩ (by decide) (by decide) (by decide)
example : (1 : Nat) ≤ 3 ∧ (1 : Nat) ≤ 2 ∧ 4 * 3 + 8 ≤ 20 := by decide
example := hrevolve_init_fields_total 3 2 1 ⟨1, 1, 1, 1⟩ (by decide) (by decide)

/-- **Revolve, the object**: `Revolve(N, cm, uf, ub, wd, rd)` constructed by the generated constructor and iterated by the
generated `_iterator` yields the stream model `revolveEvs` -/
theorem object_revolve_model (N cm : Nat) (c : Costs) (hN : 1 ≤ N) (hcm : 1 ≤ cm) (wd rd : Rat) :
    ∃ evs, revolveEvs N cm c = .ok evs ∧ ∀ fuelB fuelI, N ≤ fuelB → 8 * N + 1 ≤ fuelI →
      objRun (revolve_init fuelB (N : Int) (cm : Int) (c.uf : Rat) (c.ub : Rat) wd rd) fuelI
        = .ok (markLast (evs.map (evPy · false))) := by
  obtain ⟨ops, hops, hlen, hf⟩ := revolve_init_fields N cm c hN hcm wd rd
  obtain ⟨ops', evs, hops', hev, hrun⟩ := revolve_iterator_revolve N cm c hN hcm
  rw [hops] at hops'
  cases hops'
  refine ⟨evs, hev, fun fuelB fuelI hB hI => ?_⟩
  rw [hf fuelB hB, objRun_ok]
  exact hrun fuelI (by omega)

/-- **Revolve, the object, accepted**: for all valid parameters and every number `k` of adjoint calculations allowed,
the stream of the constructed object is accepted by the checking executor (no violation of any tag, complete).
Fuel: builder `N`, iterator `8 N + 1`. -/
theorem object_revolve_accepted (N cm : Nat) (c : Costs) (hv : validRevolve N cm c.uf c.ub = true) (k : Nat)
    (wd rd : Rat) (fuelB fuelI : Nat) (hB : N ≤ fuelB) (hI : 8 * N + 1 ≤ fuelI) :
    ∃ pevs, objRun (revolve_init fuelB (N : Int) (cm : Int) (c.uf : Rat) (c.ub : Rat) wd rd) fuelI = .ok pevs ∧
      Accepted (cfgRevolve cm N) k (obsOfPy false N pevs) := by
  obtain ⟨hN, hcm, _, _⟩ := (validRevolve_iff _ _ _ _).1 hv
  obtain ⟨ops, hops, hlen, hf⟩ := revolve_init_fields N cm c hN hcm wd rd
  obtain ⟨ops', hops', hacc⟩ := source_revolve_accepted N cm c hv k
  rw [hops] at hops'
  cases hops'
  obtain ⟨pevs, hp, ha⟩ := hacc fuelI (by omega)
  refine ⟨pevs, ?_, ha⟩
  rw [hf fuelB hB, objRun_ok, ← revolve_run_eq fuelI N _ hN]
  exact hp

/-- **DiskRevolve, the object**: the stream model `diskRevolveEvs` -/
theorem object_diskRevolve_model (N cm : Nat) (c : Costs) (hN : 1 ≤ N) (hcm : 1 ≤ cm) :
    ∃ ops evs, diskRevolveOpsTop N cm c = some ops ∧ diskRevolveEvs N cm c = .ok evs ∧
      ∀ fuelB fuelI, N + 2 ≤ fuelB → ops.length + 1 ≤ fuelI →
        objRun (diskRevolve_init fuelB (N : Int) (cm : Int) (c.uf : Rat) (c.ub : Rat) (c.wd : Rat) (c.rd : Rat)) fuelI
          = .ok (markLast (evs.map (evPy · false))) := by
  obtain ⟨ops, evs, hops, hev, hrun⟩ := revolve_iterator_diskRevolve N cm c hN hcm
  refine ⟨ops, evs, hops, hev, fun fuelB fuelI hB hI => ?_⟩
  rw [diskRevolve_init_fields N cm c hN hcm ops hops fuelB hB, objRun_ok]
  exact hrun fuelI hI

/-- **DiskRevolve, the object, accepted** (RAM bounded by `snapshots_in_ram`, DISK unbounded).
Fuel: builder `N + 2`, iterator one more than the number of operations built. -/
theorem object_diskRevolve_accepted (N cm : Nat) (c : Costs) (hv : validRevolve N cm c.uf c.ub = true) (k : Nat) :
    ∃ ops, diskRevolveOpsTop N cm c = some ops ∧ ∀ fuelB fuelI, N + 2 ≤ fuelB → ops.length + 1 ≤ fuelI →
      ∃ pevs, objRun (diskRevolve_init fuelB (N : Int) (cm : Int) (c.uf : Rat) (c.ub : Rat) (c.wd : Rat) (c.rd : Rat))
          fuelI = .ok pevs ∧
        Accepted (cfgDiskRevolve cm N) k (obsOfPy false N pevs) := by
  obtain ⟨hN, hcm, _, _⟩ := (validRevolve_iff _ _ _ _).1 hv
  obtain ⟨ops, hops, hacc⟩ := source_diskRevolve_accepted N cm c hv k
  refine ⟨ops, hops, fun fuelB fuelI hB hI => ?_⟩
  obtain ⟨pevs, hp, ha⟩ := hacc fuelI hI
  refine ⟨pevs, ?_, ha⟩
  rw [diskRevolve_init_fields N cm c hN hcm ops hops fuelB hB, objRun_ok, ← revolve_run_eq fuelI N _ hN]
  exact hp

/-- **PeriodicDiskRevolve, the object**: the stream model `periodicEvs` -/
theorem object_periodic_model (N cm : Nat) (c : Costs) (hN : 1 ≤ N) (hcm : 1 ≤ cm) (huf : 0 < c.uf) :
    ∃ ops evs mx, periodicOpsTop N cm c = some ops ∧ periodicEvs N cm c = .ok evs ∧
      mxrr cm c.uf (c.wd + c.rd) = some mx ∧
      ∀ fuelB fuelI, c.wd + c.rd + 2 ≤ fuelB → N + mx + 1 ≤ fuelB → ops.length + 1 ≤ fuelI →
        objRun (periodicDiskRevolve_init fuelB (N : Int) (cm : Int) (c.uf : Rat) (c.ub : Rat) (c.wd : Rat) (c.rd : Rat))
          fuelI = .ok (markLast (evs.map (evPy · false))) := by
  obtain ⟨ops, evs, hops, hev, hrun⟩ := revolve_iterator_periodic N cm c hN hcm huf
  obtain ⟨mx, hmx, hf⟩ := periodicDiskRevolve_init_fields N cm c hN hcm ops hops
  refine ⟨ops, evs, mx, hops, hev, hmx, fun fuelB fuelI hB1 hB2 hI => ?_⟩
  rw [hf fuelB hB1 hB2, objRun_ok]
  exact hrun fuelI hI

/-- **PeriodicDiskRevolve, the object, accepted**.  Fuel: builder `max (wd + rd + 2) (N + mx + 1)` (`mx` the period),
iterator one more than the number of operations built. -/
theorem object_periodic_accepted (N cm : Nat) (c : Costs) (hv : validRevolve N cm c.uf c.ub = true) (k : Nat) :
    ∃ ops mx, periodicOpsTop N cm c = some ops ∧ mxrr cm c.uf (c.wd + c.rd) = some mx ∧
      ∀ fuelB fuelI, c.wd + c.rd + 2 ≤ fuelB → N + mx + 1 ≤ fuelB → ops.length + 1 ≤ fuelI →
        ∃ pevs, objRun (periodicDiskRevolve_init fuelB (N : Int) (cm : Int) (c.uf : Rat) (c.ub : Rat) (c.wd : Rat)
            (c.rd : Rat)) fuelI = .ok pevs ∧
          Accepted (cfgDiskRevolve cm N) k (obsOfPy false N pevs) := by
  obtain ⟨hN, hcm, huf, _⟩ := (validRevolve_iff _ _ _ _).1 hv
  obtain ⟨ops, hops, hacc⟩ := source_periodic_accepted N cm c hv k
  obtain ⟨mx, hmx, hf⟩ := periodicDiskRevolve_init_fields N cm c hN hcm ops hops
  refine ⟨ops, mx, hops, hmx, fun fuelB fuelI hB1 hB2 hI => ?_⟩
  obtain ⟨pevs, hp, ha⟩ := hacc fuelI hI
  refine ⟨pevs, ?_, ha⟩
  rw [hf fuelB hB1 hB2, objRun_ok, ← revolve_run_eq fuelI N _ hN]
  exact hp

/-- **HRevolve, the object**: the stream model `hrevolveEvs` -/
theorem object_hrevolve_model (N c0 c1 : Nat) (c : Costs) (hN : 1 ≤ N) (hc0 : 1 ≤ c0) :
    ∃ ops evs, hrevolveOpsTop N c0 c1 c = some ops ∧ hrevolveEvs N c0 c1 c = .ok evs ∧
      ∀ fuelB fuelI, 4 * N + 8 ≤ fuelB → ops.length + 1 ≤ fuelI →
        objRun (hrevolve_init fuelB (N : Int) (c0 : Int) (c1 : Int) (c.uf : Rat) (c.ub : Rat) (c.wd : Rat) (c.rd : Rat))
          fuelI = .ok (markLast (evs.map (evPy · false))) := by
  obtain ⟨ops, evs, hops, hev, hrun⟩ := revolve_iterator_hrevolve N c0 c1 c hN hc0
  refine ⟨ops, evs, hops, hev, fun fuelB fuelI hB hI => ?_⟩
  rw [hrevolve_init_fields N c0 c1 c hN hc0 ops hops fuelB hB, objRun_ok]
  exact hrun fuelI hI

/-- **HRevolve, the object, accepted** (`c0 ≥ 1` RAM units, `c1` DISK units).  Fuel: builder `4 N + 8`, iterator one more
than the number of operations built. -/
theorem object_hrevolve_accepted (N c0 c1 : Nat) (c : Costs) (hv : validRevolve N c0 c.uf c.ub = true) (k : Nat) :
    ∃ ops, hrevolveOpsTop N c0 c1 c = some ops ∧ ∀ fuelB fuelI, 4 * N + 8 ≤ fuelB → ops.length + 1 ≤ fuelI →
      ∃ pevs, objRun (hrevolve_init fuelB (N : Int) (c0 : Int) (c1 : Int) (c.uf : Rat) (c.ub : Rat) (c.wd : Rat)
          (c.rd : Rat)) fuelI = .ok pevs ∧
        Accepted (cfgHRevolve c0 c1 N) k (obsOfPy false N pevs) := by
  obtain ⟨hN, hc0, _, _⟩ := (validRevolve_iff _ _ _ _).1 hv
  obtain ⟨ops, hops, hacc⟩ := source_hrevolve_accepted N c0 c1 c hv k
  refine ⟨ops, hops, fun fuelB fuelI hB hI => ?_⟩
  obtain ⟨pevs, hp, ha⟩ := hacc fuelI hI
  refine ⟨pevs, ?_, ha⟩
  rw [hrevolve_init_fields N c0 c1 c hN hc0 ops hops fuelB hB, objRun_ok, ← revolve_run_eq fuelI N _ hN]
  exact hp

/-- with one fuel bound for both stages (the three classes whose iterator bound is the length of the sequence built) -/
theorem object_hrevolve_accepted' (N c0 c1 : Nat) (c : Costs) (hv : validRevolve N c0 c.uf c.ub = true) (k : Nat) :
    ∃ F, ∀ fuelB fuelI, F ≤ fuelB → F ≤ fuelI →
      ∃ pevs, objRun (hrevolve_init fuelB (N : Int) (c0 : Int) (c1 : Int) (c.uf : Rat) (c.ub : Rat) (c.wd : Rat)
          (c.rd : Rat)) fuelI = .ok pevs ∧
        Accepted (cfgHRevolve c0 c1 N) k (obsOfPy false N pevs) := by
  obtain ⟨ops, _, h⟩ := object_hrevolve_accepted N c0 c1 c hv k
  exact ⟨max (4 * N + 8) (ops.length + 1), fun fuelB fuelI hB hI =>
    h fuelB fuelI (le_trans (le_max_left _ _) hB) (le_trans (le_max_right _ _) hI)⟩

theorem object_diskRevolve_accepted' (N cm : Nat) (c : Costs) (hv : validRevolve N cm c.uf c.ub = true) (k : Nat) :
    ∃ F, ∀ fuelB fuelI, F ≤ fuelB → F ≤ fuelI →
      ∃ pevs, objRun (diskRevolve_init fuelB (N : Int) (cm : Int) (c.uf : Rat) (c.ub : Rat) (c.wd : Rat) (c.rd : Rat))
          fuelI = .ok pevs ∧
        Accepted (cfgDiskRevolve cm N) k (obsOfPy false N pevs) := by
  obtain ⟨ops, _, h⟩ := object_diskRevolve_accepted N cm c hv k
  exact ⟨max (N + 2) (ops.length + 1), fun fuelB fuelI hB hI =>
    h fuelB fuelI (le_trans (le_max_left _ _) hB) (le_trans (le_max_right _ _) hI)⟩

theorem object_periodic_accepted' (N cm : Nat) (c : Costs) (hv : validRevolve N cm c.uf c.ub = true) (k : Nat) :
    ∃ F, ∀ fuelB fuelI, F ≤ fuelB → F ≤ fuelI →
      ∃ pevs, objRun (periodicDiskRevolve_init fuelB (N : Int) (cm : Int) (c.uf : Rat) (c.ub : Rat) (c.wd : Rat)
          (c.rd : Rat)) fuelI = .ok pevs ∧
        Accepted (cfgDiskRevolve cm N) k (obsOfPy false N pevs) := by
  obtain ⟨ops, mx, _, _, h⟩ := object_periodic_accepted N cm c hv k
  exact ⟨max (max (c.wd + c.rd + 2) (N + mx + 1)) (ops.length + 1), fun fuelB fuelI hB hI =>
    h fuelB fuelI (le_trans (le_trans (le_max_left _ _) (le_max_left _ _)) hB)
      (le_trans (le_trans (le_max_right _ _) (le_max_left _ _)) hB) (le_trans (le_max_right _ _) hI)⟩

/-- the properties discharged at object level: no violation of any of the tags the executor checks, stream complete -/
theorem object_revolve_C01_C18 (N cm : Nat) (c : Costs) (hv : validRevolve N cm c.uf c.ub = true)
    (wd rd : Rat) (fuelB fuelI : Nat) (hB : N ≤ fuelB) (hI : 8 * N + 1 ≤ fuelI) :
    ∃ pevs, objRun (revolve_init fuelB (N : Int) (cm : Int) (c.uf : Rat) (c.ub : Rat) wd rd) fuelI = .ok pevs ∧
      NoViolation (cfgRevolve cm N) (obsOfPy false N pevs) ∧
      finished (cfgRevolve cm N) (run (cfgRevolve cm N) (obsOfPy false N pevs)).1 = true := by
  obtain ⟨pevs, hp, ha⟩ := object_revolve_accepted N cm c hv 1 wd rd fuelB fuelI hB hI
  exact ⟨pevs, hp, ha.noViolation, ha.finished rfl⟩

example : validRevolve 3 2 (⟨1, 1, 1, 1⟩ : Costs).uf (⟨1, 1, 1, 1⟩ : Costs).ub = true ∧ 3 ≤ 3 ∧ 8 * 3 + 1 ≤ 25 := by decide
example := object_revolve_model 3 2 ⟨1, 1, 1, 1⟩ (by decide) (by decide) 1 1
example := object_revolve_accepted 3 2 ⟨1, 1, 1, 1⟩ (by decide) 1 1 1 3 25 (by decide) (by decide)
example := object_diskRevolve_model 3 2 ⟨1, 1, 1, 1⟩ (by decide) (by decide)
example := object_diskRevolve_accepted 3 2 ⟨1, 1, 1, 1⟩ (by decide) 1
example := object_periodic_model 3 2 ⟨1, 1, 1, 1⟩ (by decide) (by decide) (by decide)
example := object_periodic_accepted 3 2 ⟨1, 1, 1, 1⟩ (by decide) 1
example := object_hrevolve_model 3 2 1 ⟨1, 1, 1, 1⟩ (by decide) (by decide)
example := object_hrevolve_accepted 3 2 1 ⟨1, 1, 1, 1⟩ (by decide) 1

/-- constructor and iterator evaluated on a tuple, the executor's verdict decided -/
example : (match objRun (revolve_init 3 3 2 1 1 1 1) 25 with
    | .ok pevs => decide (pevs.length = 12 ∧ (run (cfgRevolve 2 3) (obsOfPy false 3 pevs)).2 = [])
    | .error _ => false) = true := by decide +kernel

end Ckpt.Py

#print axioms Ckpt.Py.revolveBase_init_spec
#print axioms Ckpt.Py.revolveBase_init_ok
#print axioms Ckpt.Py.revolveBase_init_valueError
#print axioms Ckpt.Py.revolveBase_init_assertionError
#print axioms Ckpt.Py.revolve_init_unfold
#print axioms Ckpt.Py.diskRevolve_init_unfold
#print axioms Ckpt.Py.periodicDiskRevolve_init_unfold
#print axioms Ckpt.Py.hrevolve_init_unfold
#print axioms Ckpt.Py.revolve_init_fields
#print axioms Ckpt.Py.revolve_init_assertionError
#print axioms Ckpt.Py.revolve_init_cm0_indexError
#print axioms Ckpt.Py.revolve_init_cm0_valueError
#print axioms Ckpt.Py.diskRevolve_init_fields
#print axioms Ckpt.Py.diskRevolve_init_fields_total
#print axioms Ckpt.Py.periodicDiskRevolve_init_fields
#print axioms Ckpt.Py.periodicDiskRevolve_init_fields_total
#print axioms Ckpt.Py.hrevolve_init_fields
#print axioms Ckpt.Py.hrevolve_init_fields_total
#print axioms Ckpt.Py.object_revolve_model
#print axioms Ckpt.Py.object_revolve_accepted
#print axioms Ckpt.Py.object_diskRevolve_model
#print axioms Ckpt.Py.object_diskRevolve_accepted
#print axioms Ckpt.Py.object_periodic_model
#print axioms Ckpt.Py.object_periodic_accepted
#print axioms Ckpt.Py.object_hrevolve_model
#print axioms Ckpt.Py.object_hrevolve_accepted
#print axioms Ckpt.Py.object_diskRevolve_accepted'
#print axioms Ckpt.Py.object_periodic_accepted'
#print axioms Ckpt.Py.object_hrevolve_accepted'
#print axioms Ckpt.Py.object_revolve_C01_C18
