import CkptGen.RefineMixed
import CkptVerif.Properties.Twins
import Mathlib.Tactic
import CkptGen.RefineCommon
/-!
# The Lean text generated from `MixedCheckpointSchedule._iterator` (mixed.py) emits the model's stream

`Ckpt.Py.mixed_iterator` is produced by `harness/py2lean.py` from the current Python source (the memoisation
path).  It is related, by a simulation with a state-correspondence invariant, to the literal twin
`mixInner`/`mixTurn`/`mixReload` (`CkptVerif/Model/MixedIter.lean`) run with the memoised planner
`memoPlan = memoSpec`, and through `mixedIter_of_mixedEvs` (the content of `twin_mixed`) to the stream model
`mixedEvs memoPlan` all property theorems are about.
-/
set_option linter.unusedSimpArgs false
namespace Ckpt.Py
open Ckpt

/-! ## the model's values as values of the generated text (`stPy`, `actPy`, `evPy`: `CkptGen/RefineCommon.lean`) -/

theorem stPy_work_mx : stPy .work = .work := rfl

/-- a model event as a `yield` of the generated text with `self._exhausted = False` -/
abbrev evF (e : Ev) : PyEv := evPy e false

/-- the last event carries `exhausted = true` -/
def markLast_mx : List PyEv → List PyEv
  | [] => []
  | [e] => [{ e with exhausted := true }]
  | e :: e' :: es => e :: markLast_mx (e' :: es)

theorem markLast_cons_ne_mx (e : PyEv) (l : List PyEv) (h : l ≠ []) : markLast_mx (e :: l) = e :: markLast_mx l := by
  cases l with
  | nil => exact absurd rfl h
  | cons a l => rfl

theorem markLast_append_ne_mx (a b : List PyEv) (h : b ≠ []) : markLast_mx (a ++ b) = a ++ markLast_mx b := by
  induction a with
  | nil => rfl
  | cons x a ih =>
    rw [List.cons_append, markLast_cons_ne_mx _ _ (by simp [h]), ih, List.cons_append]

/-- a snapshot entry `(step_type, n0, n1)` of the twin as the Python tuple -/
def tupPy (x : Nat × Nat × Nat) : StepType × Int × Int := (stepTypeOfNat x.1, (x.2.1 : Int), (x.2.2 : Int))

/-! ## step types -/

theorem stepTypeOfNat_big (k : Nat) (h : 7 ≤ k) : stepTypeOfNat k = .none := by
  obtain ⟨j, rfl⟩ : ∃ j, k = j + 7 := ⟨k - 7, by omega⟩
  rfl

/-- the numbers `1 … 6` name six different step types, and no other number names one of them: `toInt` is a left
inverse on `0 … 6`, everything above is `NONE` -/
theorem stepTypeOfNat_eq_iff {k j : Nat} (hj : 1 ≤ j) (hj6 : j ≤ 6) :
    stepTypeOfNat k = stepTypeOfNat j ↔ k = j := by
  refine ⟨fun h => ?_, fun h => h ▸ rfl⟩
  have h' := congrArg StepType.toInt h
  rw [toInt_stepTypeOfNat j hj6] at h'
  by_cases hk : k ≤ 6
  · rw [toInt_stepTypeOfNat k hk] at h'; exact_mod_cast h'
  · rw [stepTypeOfNat_big k (by omega)] at h'
    have : (0 : Int) = (j : Int) := h'
    omega

theorem stepType_fr (k : Nat) : stepTypeOfNat k = .forward_reverse ↔ k = 2 :=
  stepTypeOfNat_eq_iff (j := 2) (by decide) (by decide)

theorem stepType_fw (k : Nat) : stepTypeOfNat k = .forward ↔ k = 1 :=
  stepTypeOfNat_eq_iff (j := 1) (by decide) (by decide)

theorem stepType_wad (k : Nat) : stepTypeOfNat k = .write_adj_deps ↔ k = 3 :=
  stepTypeOfNat_eq_iff (j := 3) (by decide) (by decide)

theorem stepType_wics (k : Nat) : stepTypeOfNat k = .write_ics ↔ k = 4 :=
  stepTypeOfNat_eq_iff (j := 4) (by decide) (by decide)

/-! ## the planner's answers -/

theorem memoPlan_eq_memoSpec : memoPlan = memoSpec := rfl

/-! ## the correspondence of the two stores -/

/-- the Python set `snapshot_n` (a duplicate-free list of `Int`) against the twin's list of keys -/
abbrev KeysRel (gs : List Int) (ks : List Nat) : Prop := gs.Perm (ks.map (fun k : Nat => (k : Int)))

theorem KeysRel.mem {gs : List Int} {ks : List Nat} (h : KeysRel gs ks) (n : Nat) : (n : Int) ∈ gs ↔ n ∈ ks := by
  rw [h.mem_iff, List.mem_map]
  constructor
  · rintro ⟨a, ha, e⟩
    have : a = n := by exact_mod_cast e
    rwa [← this]
  · intro hn; exact ⟨n, hn, rfl⟩

theorem KeysRel.add {gs : List Int} {ks : List Nat} (h : KeysRel gs ks) (n : Nat) (hn : n ∉ ks) :
    KeysRel (pySetAdd gs (n : Int)) (n :: ks) := by
  unfold pySetAdd
  rw [if_neg (by rw [h.mem]; exact hn)]
  show (gs ++ [(n : Int)]).Perm ((n : Int) :: ks.map _)
  exact (List.perm_append_singleton _ _).trans (List.Perm.cons _ h)

theorem KeysRel.remove {gs : List Int} {ks : List Nat} (h : KeysRel gs ks) (n : Nat) (hn : n ∈ ks) :
    ∃ gs', pySetRemove gs (n : Int) = .ok gs' ∧ KeysRel gs' (ks.erase n) := by
  refine ⟨gs.erase (n : Int), ?_, ?_⟩
  · unfold pySetRemove
    rw [if_pos (by rw [h.mem]; exact hn)]; rfl
  · show (gs.erase (n : Int)).Perm ((ks.erase n).map _)
    rw [List.map_erase (f := fun k : Nat => (k : Int)) (fun a b e => by simpa using e)]
    exact h.erase _

theorem KeysRel.nil_iff {gs : List Int} {ks : List Nat} (h : KeysRel gs ks) : gs = [] ↔ ks = [] := by
  constructor
  · intro e; subst e
    have := h.length_eq
    simp at this
    exact List.length_eq_zero_iff.1 this.symm
  · intro e; subst e
    exact List.perm_nil.1 h

/-- the Python list `snapshots` (appended at the end) against the twin's stack (most recent first) -/
abbrev StackRel (ss : List (StepType × Int × Int)) (stack : List (Nat × Nat × Nat)) : Prop :=
  ss = stack.reverse.map tupPy

theorem StackRel.length {ss} {stack} (h : StackRel ss stack) : ss.length = stack.length := by
  rw [h]; simp

theorem StackRel.cons {ss} {stack} (h : StackRel ss stack) (x : Nat × Nat × Nat) :
    StackRel (ss ++ [tupPy x]) (x :: stack) := by
  show _ = ((x :: stack).reverse).map tupPy
  rw [List.reverse_cons, List.map_append, ← h]; rfl

theorem StackRel.snoc {ss} {stack} {x} (h : StackRel ss (x :: stack)) :
    ss = stack.reverse.map tupPy ++ [tupPy x] := by
  rw [h, List.reverse_cons, List.map_append]; rfl

/-! ## one iteration of the generated forward loop `mixed_iterator.while2` -/

section gen
variable (N S : Nat) (st : Storage)

/-- the planner's second argument: free snapshots, plus one when the snapshot at `n` is reused -/
theorem planArg_cast {gs : List Int} {ks : List Nat} {ss : List (StepType × Int × Int)}
    {stack : List (Nat × Nat × Nat)} (hks : KeysRel gs ks) (hss : StackRel ss stack) (hlen : stack.length ≤ S)
    (n : Nat) :
    (S : Int) - (ss.length : Int) + (if decide ((n : Int) ∈ gs) = true then 1 else 0)
      = ((S - stack.length + (if ks.contains n then 1 else 0) : Nat) : Int) := by
  simp only [hss.length, decide_eq_true_eq, hks.mem n, List.contains_iff_mem]
  split_ifs <;> omega

theorem g_inner_exit (g n r : Nat) (ty : StepType) (out : List PyEv) (gs : List Int)
    (ss : List (StepType × Int × Int)) (hr : r ≤ N) (h : ¬ n < N - r) :
    mixed_iterator.while2 (some (N : Int)) (r : Int) (S : Int) (stPy st) false (g + 1) (ty, (n : Int), out, gs, ss)
      = .ok (ty, (n : Int), out, gs, ss) := by
  rw [mixed_iterator.while2]
  have hc : ¬ (n : Int) < (N : Int) - (r : Int) := cast_not_lt_sub h
  simp only [↓reduceIte, bind, Except.bind, pure, Except.pure, unwrap, hc]

theorem g_inner_FR (g n r : Nat) (ks : List Nat) (stack : List (Nat × Nat × Nat)) (ty : StepType)
    (out : List PyEv) (gs : List Int) (ss : List (StepType × Int × Int)) (c : Cell)
    (hks : KeysRel gs ks) (hss : StackRel ss stack) (hlen : stack.length ≤ S) (hlt : n < N - r)
    (hc : memoSpec (N - r - n) (S - stack.length + (if ks.contains n then 1 else 0)) = some c)
    (hk : c.kind = 2) (hl : c.len = 1)
    (hbad : n ∉ ks ∨ ∃ m1 rest, stack = (2, n, m1) :: rest ∧ n + 1 ≤ m1)
    (hg : N - r - n + 1 ≤ g) :
    mixed_iterator.while2 (some (N : Int)) (r : Int) (S : Int) (stPy st) false (g + 1) (ty, (n : Int), out, gs, ss)
      = mixed_iterator.while2 (some (N : Int)) (r : Int) (S : Int) (stPy st) false g
          (.forward_reverse, ((n + 1 : Nat) : Int),
            out ++ [evF ⟨.forward n (n + 1) false true .work, n + 1, r⟩], gs, ss) := by
  rw [mixed_iterator.while2]
  have hc1 : (n : Int) < (N : Int) - (r : Int) := cast_lt_sub hlt
  have e1 : (N : Int) - (r : Int) - (n : Int) = ((N - r - n : Nat) : Int) :=
    cast_sub_sub (Nat.sub_ne_zero_of_lt hlt)
  have hpl := hc ▸ mixed_step_memoization_refines (N - r - n) _ g hg
  have e2 := planArg_cast S hks hss hlen n
  have hst2 : stepTypeOfNat 2 = StepType.forward_reverse := rfl
  have e6 : ((1 : Nat) : Int) + (n : Int) = (n : Int) + 1 := by rw [Nat.cast_one, add_comm]
  have h3 : ¬ ((n : Int) + 1 > (n : Int) + 1) := lt_irrefl _
  have h4 : ¬ ((n : Int) + 1 ≤ (n : Int)) := not_le.2 (lt_add_one _)
  have e5 : (n : Int) + 1 - 1 = (n : Int) := add_sub_cancel_right _ _
  rcases hbad with hm | ⟨m1, rest, hstk, hm1⟩
  · have hm' : ¬ (n : Int) ∈ gs := fun h => hm ((hks.mem n).1 h)
    simp only [hm', decide_false, Bool.false_eq_true, if_false] at e2
    simp only [↓reduceIte, bind, Except.bind, pure, Except.pure, unwrap, hc1, e1, e2, hpl, ofOpt, cellTuple, hk, hl,
      hm', decide_false, Bool.false_eq_true, hst2, e6, h3, h4, e5]
    simp only [evF, evPy, actPy, stPy_work_mx]
    push_cast
    rfl
  · subst hstk
    have hidx : pyIndex ss (-1) = .ok (tupPy (2, n, m1)) := by rw [hss.snoc]; exact pyIndex_last _ _
    have h5 : ¬ (m1 : Int) < (n : Int) + 1 := by omega
    simp only [↓reduceIte, bind, Except.bind, pure, Except.pure, unwrap, hc1, e1, e2, hpl, ofOpt, cellTuple, hk, hl,
      hidx, tupPy, hst2, ne_eq, not_true_eq_false, e6, h5, decide_false, Bool.false_eq_true, ite_self, h3, h4, e5]
    simp only [evF, evPy, actPy, stPy_work_mx]
    push_cast
    rfl

theorem g_inner_WAD (g n r : Nat) (ks : List Nat) (stack : List (Nat × Nat × Nat)) (ty : StepType)
    (out : List PyEv) (gs : List Int) (ss : List (StepType × Int × Int)) (c : Cell)
    (hks : KeysRel gs ks) (hss : StackRel ss stack) (hlen : stack.length < S) (hlt : n < N - r)
    (hc : memoSpec (N - r - n) (S - stack.length + (if ks.contains n then 1 else 0)) = some c)
    (hk : c.kind = 3) (hl : c.len = 1) (hre : n ∉ ks)
    (hg : N - r - n + 1 ≤ g) :
    mixed_iterator.while2 (some (N : Int)) (r : Int) (S : Int) (stPy st) false (g + 1) (ty, (n : Int), out, gs, ss)
      = mixed_iterator.while2 (some (N : Int)) (r : Int) (S : Int) (stPy st) false g
          (.write_adj_deps, ((n + 1 : Nat) : Int),
            out ++ [evF ⟨.forward n (n + 1) false true st, n + 1, r⟩], pySetAdd gs (n : Int),
            ss ++ [tupPy (3, n, n + 1)]) := by
  rw [mixed_iterator.while2]
  have hc1 : (n : Int) < (N : Int) - (r : Int) := cast_lt_sub hlt
  have e1 : (N : Int) - (r : Int) - (n : Int) = ((N - r - n : Nat) : Int) :=
    cast_sub_sub (Nat.sub_ne_zero_of_lt hlt)
  have hpl := hc ▸ mixed_step_memoization_refines (N - r - n) _ g hg
  have e2 := planArg_cast S hks hss (by omega) n
  have hst : stepTypeOfNat 3 = StepType.write_adj_deps := rfl
  have e6 : ((1 : Nat) : Int) + (n : Int) = (n : Int) + 1 := by rw [Nat.cast_one, add_comm]
  have hm' : ¬ (n : Int) ∈ gs := fun h => hre ((hks.mem n).1 h)
  simp only [hm', decide_false, Bool.false_eq_true, if_false] at e2
  have h7 : ¬ ((ss.length : Int) > (S : Int) - 1) := by rw [hss.length]; omega
  simp only [↓reduceIte, bind, Except.bind, pure, Except.pure, unwrap, hc1, e1, e2, hpl, ofOpt, cellTuple, hk, hl,
    hm', decide_false, Bool.false_eq_true, hst, e6, ne_eq, not_true_eq_false, h7, reduceCtorEq]
  simp only [evF, evPy, actPy, tupPy, hst]
  push_cast
  rfl

theorem g_inner_WICS_new (g n r : Nat) (ks : List Nat) (stack : List (Nat × Nat × Nat)) (ty : StepType)
    (out : List PyEv) (gs : List Int) (ss : List (StepType × Int × Int)) (c : Cell)
    (hks : KeysRel gs ks) (hss : StackRel ss stack) (hlen : stack.length < S) (hlt : n < N - r)
    (hc : memoSpec (N - r - n) (S - stack.length + (if ks.contains n then 1 else 0)) = some c)
    (hk : c.kind = 4) (hl : 2 ≤ c.len) (hre : n ∉ ks)
    (hg : N - r - n + 1 ≤ g) :
    mixed_iterator.while2 (some (N : Int)) (r : Int) (S : Int) (stPy st) false (g + 1) (ty, (n : Int), out, gs, ss)
      = mixed_iterator.while2 (some (N : Int)) (r : Int) (S : Int) (stPy st) false g
          (.write_ics, ((n + c.len : Nat) : Int),
            out ++ [evF ⟨.forward n (n + c.len) true false st, n + c.len, r⟩], pySetAdd gs (n : Int),
            ss ++ [tupPy (4, n, n + c.len)]) := by
  rw [mixed_iterator.while2]
  have hc1 : (n : Int) < (N : Int) - (r : Int) := cast_lt_sub hlt
  have e1 : (N : Int) - (r : Int) - (n : Int) = ((N - r - n : Nat) : Int) :=
    cast_sub_sub (Nat.sub_ne_zero_of_lt hlt)
  have hpl := hc ▸ mixed_step_memoization_refines (N - r - n) _ g hg
  have e2 := planArg_cast S hks hss (by omega) n
  have hst : stepTypeOfNat 4 = StepType.write_ics := rfl
  have e6 : (c.len : Int) + (n : Int) = (n : Int) + (c.len : Int) := add_comm _ _
  have hm' : ¬ (n : Int) ∈ gs := fun h => hre ((hks.mem n).1 h)
  simp only [hm', decide_false, Bool.false_eq_true, if_false] at e2
  have h7 : ¬ ((ss.length : Int) > (S : Int) - 1) := by rw [hss.length]; omega
  have h8 : ¬ ((n : Int) + (c.len : Int) ≤ (n : Int) + 1) := by omega
  simp only [↓reduceIte, bind, Except.bind, pure, Except.pure, unwrap, hc1, e1, e2, hpl, ofOpt, cellTuple, hk,
    hm', decide_false, Bool.false_eq_true, hst, e6, h7, h8, reduceCtorEq]
  simp only [evF, evPy, actPy, tupPy, hst]
  push_cast
  rfl

theorem g_inner_WICS_reuse (g n r : Nat) (ks : List Nat) (rest : List (Nat × Nat × Nat)) (m1 : Nat) (ty : StepType)
    (out : List PyEv) (gs : List Int) (ss : List (StepType × Int × Int)) (c : Cell)
    (hks : KeysRel gs ks) (hss : StackRel ss ((4, n, m1) :: rest)) (hlt : n < N - r)
    (hc : memoSpec (N - r - n) (S - ((4, n, m1) :: rest).length + (if ks.contains n then 1 else 0)) = some c)
    (hlen : ((4, n, m1) :: rest).length ≤ S)
    (hk : c.kind = 4) (hl : 2 ≤ c.len) (hre : n ∈ ks) (hm1 : n + c.len ≤ m1)
    (hg : N - r - n + 1 ≤ g) :
    mixed_iterator.while2 (some (N : Int)) (r : Int) (S : Int) (stPy st) false (g + 1) (ty, (n : Int), out, gs, ss)
      = mixed_iterator.while2 (some (N : Int)) (r : Int) (S : Int) (stPy st) false g
          (.write_ics, ((n + c.len : Nat) : Int),
            out ++ [evF ⟨.forward n (n + c.len) false false .work, n + c.len, r⟩], gs, ss) := by
  rw [mixed_iterator.while2]
  have hc1 : (n : Int) < (N : Int) - (r : Int) := cast_lt_sub hlt
  have e1 : (N : Int) - (r : Int) - (n : Int) = ((N - r - n : Nat) : Int) :=
    cast_sub_sub (Nat.sub_ne_zero_of_lt hlt)
  have hpl := hc ▸ mixed_step_memoization_refines (N - r - n) _ g hg
  have e2 := planArg_cast S hks hss hlen n
  have hst : stepTypeOfNat 4 = StepType.write_ics := rfl
  have e6 : (c.len : Int) + (n : Int) = (n : Int) + (c.len : Int) := add_comm _ _
  have hm' : (n : Int) ∈ gs := (hks.mem n).2 hre
  simp only [hm', decide_true, if_true] at e2
  have h8 : ¬ ((n : Int) + (c.len : Int) ≤ (n : Int) + 1) := by omega
  have h5 : ¬ (m1 : Int) < (n : Int) + (c.len : Int) := by omega
  have hidx : pyIndex ss (-1) = .ok (tupPy (4, n, m1)) := by rw [hss.snoc]; exact pyIndex_last _ _
  simp only [↓reduceIte, bind, Except.bind, pure, Except.pure, unwrap, hc1, e1, e2, hpl, ofOpt, cellTuple, hk,
    hidx, tupPy, hst, hm', decide_true, ne_eq, not_true_eq_false, e6, h5, decide_false, Bool.false_eq_true, h8,
    reduceCtorEq]
  simp only [evF, evPy, actPy, stPy_work_mx]
  push_cast
  rfl

/-! ## the forward loop against the twin's `mixInner` -/

/-- one iteration of the forward loop, both sides -/
theorem sim_inner_step (f g n r : Nat) (ks : List Nat) (stack : List (Nat × Nat × Nat)) (ty : Nat)
    (gs : List Int) (ss : List (StepType × Int × Int)) (evs : List Ev)
    (hks : KeysRel gs ks) (hss : StackRel ss stack) (hlen : stack.length ≤ S) (hlt : n < N - r)
    (hg : N - r - n + 1 ≤ g)
    (h : mixInner memoSpec N S st (f + 1) ⟨n, r, ks, stack⟩ ty = .ok evs) :
    ∃ n' ks' stack' ty' e rest gs' ss', n < n' ∧ KeysRel gs' ks' ∧ StackRel ss' stack' ∧ stack'.length ≤ S ∧
      mixInner memoSpec N S st f ⟨n', r, ks', stack'⟩ ty' = .ok rest ∧ evs = e :: rest ∧
      ∀ (ty0 : StepType) (out : List PyEv),
        mixed_iterator.while2 (some (N : Int)) (r : Int) (S : Int) (stPy st) false (g + 1)
          (ty0, (n : Int), out, gs, ss)
        = mixed_iterator.while2 (some (N : Int)) (r : Int) (S : Int) (stPy st) false g
          (stepTypeOfNat ty', (n' : Int), out ++ [evF e], gs', ss') := by
  rw [mixInner] at h
  simp only [hlt, if_true] at h
  cases hc : memoSpec (N - r - n) (S - stack.length + if ks.contains n = true then 1 else 0) with
  | none => rw [hc] at h; cases h
  | some c =>
    rw [hc] at h
    simp only [] at h
    obtain ⟨hbad, h⟩ := ok_of_ite_error h
    have hbad' : n ∉ ks ∨ ∃ m1 rest, stack = (c.kind, n, m1) :: rest ∧ c.len + n ≤ m1 := by
      by_cases hmem : n ∈ ks
      · right
        cases stack with
        | nil => simp [hmem] at hbad
        | cons x rest =>
          obtain ⟨t0, m0, m1⟩ := x
          simp [hmem] at hbad
          obtain ⟨⟨rfl, rfl⟩, h2⟩ := hbad
          exact ⟨m1, rest, rfl, h2⟩
      · exact Or.inl hmem
    clear hbad
    rcases memoSpec_shape _ _ _ hc with ⟨hm, hk, hl⟩ | ⟨hm, hk1, ⟨hk, hl⟩ | ⟨hk, hl, hl2⟩⟩
    · -- FORWARD_REVERSE, one step
      have hk' : c.kind = stForwardReverse := hk
      have h3 : ¬ (c.len + n > n + 1) := by omega
      have h4 : ¬ (c.len + n ≤ n) := by omega
      have e1 : c.len + n - 1 = n := by omega
      have e2 : c.len + n = n + 1 := by omega
      rw [if_pos hk', if_neg h3, if_neg h4, e1, e2] at h
      obtain ⟨es, hes, rfl⟩ := yieldEv_ok h
      refine ⟨n + 1, ks, stack, c.kind, _, es, gs, ss, by omega, hks, hss, hlen, hes, rfl, ?_⟩
      intro ty0 out
      rw [hk]
      refine g_inner_FR N S st g n r ks stack ty0 out gs ss c hks hss hlen hlt hc hk hl ?_ hg
      rcases hbad' with hb | ⟨m1, rest, hb1, hb2⟩
      · exact Or.inl hb
      · exact Or.inr ⟨m1, rest, by rw [hb1, hk], by omega⟩
    · -- WRITE_ADJ_DEPS
      have hk0 : ¬ c.kind = stForwardReverse := by rw [hk]; decide
      have hk1' : ¬ c.kind = stForward := by rw [hk]; decide
      have hk' : c.kind = stWriteAdjDeps := hk
      have h3 : ¬ (c.len + n ≠ n + 1) := by omega
      have e2 : c.len + n = n + 1 := by omega
      rw [if_neg hk0, if_neg hk1', if_pos hk', if_neg h3, e2] at h
      by_cases hre : ks.contains n = true
      · rw [if_pos hre] at h; cases h
      rw [if_neg hre] at h
      by_cases hS : stack.length > S - 1
      · rw [if_pos hS] at h; cases h
      rw [if_neg hS] at h
      rw [if_neg hre] at hk1
      have hre' : n ∉ ks := fun hm => hre (List.contains_iff_mem.2 hm)
      obtain ⟨es, hes, rfl⟩ := yieldEv_ok h
      refine ⟨n + 1, n :: ks, (stWriteAdjDeps, n, n + 1) :: stack, c.kind, _, es, pySetAdd gs (n : Int),
        ss ++ [tupPy (3, n, n + 1)], by omega, hks.add n hre', hss.cons _, by rw [List.length_cons]; omega, hes, rfl, ?_⟩
      intro ty0 out
      rw [hk]
      exact g_inner_WAD N S st g n r ks stack ty0 out gs ss c hks hss (by omega) hlt hc hk hl hre' hg
    · -- WRITE_ICS
      have hk0 : ¬ c.kind = stForwardReverse := by rw [hk]; decide
      have hk1' : ¬ c.kind = stForward := by rw [hk]; decide
      have hk2 : ¬ c.kind = stWriteAdjDeps := by rw [hk]; decide
      have hk' : c.kind = stWriteIcs := hk
      have h3 : ¬ (c.len + n ≤ n + 1) := by omega
      have e2 : c.len + n = n + c.len := by omega
      rw [if_neg hk0, if_neg hk1', if_neg hk2, if_pos hk', if_neg h3, e2] at h
      by_cases hre : ks.contains n = true
      · rw [if_pos hre] at h
        have hre' : n ∈ ks := List.contains_iff_mem.1 hre
        obtain ⟨es, hes, rfl⟩ := yieldEv_ok h
        rcases hbad' with hb | ⟨m1, rest, hb1, hb2⟩
        · exact absurd hre' hb
        refine ⟨n + c.len, ks, stack, c.kind, _, es, gs, ss, by omega, hks, hss, hlen, hes, rfl, ?_⟩
        intro ty0 out
        rw [hk] at hb1 ⊢
        subst hb1
        exact g_inner_WICS_reuse N S st g n r ks rest m1 ty0 out gs ss c hks hss hlt hc hlen hk hl hre'
          (by omega) hg
      · rw [if_neg hre] at h
        rw [if_neg hre] at hk1
        have hre' : n ∉ ks := fun hm => hre (List.contains_iff_mem.2 hm)
        obtain ⟨es, hes, rfl⟩ := yieldEv_ok h
        by_cases hS : stack.length > S - 1
        · rw [if_pos hS] at hes; cases hes
        rw [if_neg hS] at hes
        refine ⟨n + c.len, n :: ks, (stWriteIcs, n, n + c.len) :: stack, c.kind, _, es, pySetAdd gs (n : Int),
          ss ++ [tupPy (4, n, n + c.len)], by omega, hks.add n hre', hss.cons _, by rw [List.length_cons]; omega, hes, rfl, ?_⟩
        intro ty0 out
        rw [hk]
        exact g_inner_WICS_new N S st g n r ks stack ty0 out gs ss c hks hss (by omega) hlt hc hk hl hre' hg

/-- the whole forward loop: the generated `while2` returns the state at which the twin enters `mixTurn` -/
theorem sim_inner : ∀ (f g n r : Nat) (ks : List Nat) (stack : List (Nat × Nat × Nat)) (ty : Nat)
    (gs : List Int) (ss : List (StepType × Int × Int)) (evs : List Ev) (out : List PyEv),
    KeysRel gs ks → StackRel ss stack → stack.length ≤ S → r ≤ N → N - r - n + 2 ≤ g →
    mixInner memoSpec N S st f ⟨n, r, ks, stack⟩ ty = .ok evs →
    ∃ f' n' ks' stack' ty' pre rest gs' ss', f' < f ∧ KeysRel gs' ks' ∧ StackRel ss' stack' ∧ stack'.length ≤ S ∧
      mixTurn memoSpec N S st f' ⟨n', r, ks', stack'⟩ ty' = .ok rest ∧ evs = pre ++ rest ∧
      mixed_iterator.while2 (some (N : Int)) (r : Int) (S : Int) (stPy st) false g
          (stepTypeOfNat ty, (n : Int), out, gs, ss)
        = .ok (stepTypeOfNat ty', (n' : Int), out ++ pre.map evF, gs', ss') := by
  intro f
  induction f with
  | zero => intro g n r ks stack ty gs ss evs out _ _ _ _ _ h; rw [mixInner] at h; cases h
  | succ f ih =>
    intro g n r ks stack ty gs ss evs out hks hss hlen hr hg h
    obtain ⟨g, rfl⟩ : ∃ g', g = g' + 1 := ⟨g - 1, by omega⟩
    by_cases hlt : n < N - r
    · obtain ⟨n', ks', stack', ty', e, rest, gs', ss', hn', hks', hss', hlen', hrest, rfl, hgen⟩ :=
        sim_inner_step N S st f g n r ks stack ty gs ss evs hks hss hlen hlt (by omega) h
      obtain ⟨f', n'', ks'', stack'', ty'', pre, rest', gs'', ss'', hf', hks'', hss'', hlen'', hturn, rfl, hgen'⟩ :=
        ih g n' r ks' stack' ty' gs' ss' rest (out ++ [evF e]) hks' hss' hlen' hr (by omega) hrest
      refine ⟨f', n'', ks'', stack'', ty'', e :: pre, rest', gs'', ss'', by omega, hks'', hss'', hlen'', hturn,
        rfl, ?_⟩
      rw [hgen, hgen', List.map_cons, List.append_assoc]
      rfl
    · rw [mixInner] at h
      simp only [hlt, if_false] at h
      refine ⟨f, n, ks, stack, ty, [], evs, gs, ss, by omega, hks, hss, hlen, h, rfl, ?_⟩
      rw [g_inner_exit N S st g n r _ out gs ss hr hlt]
      simp

/-! ## one iteration of the generated outer loop `mixed_iterator.while1` -/

/-- the events of lines 140-147: `EndForward` (first turn only) and the `Reverse` -/
def turnEvs (n r : Nat) : List Ev :=
  (if r = 0 then [(⟨.endForward, n, r⟩ : Ev)] else []) ++
    [⟨.reverse (N - (r + 1) + 1) (N - (r + 1)) true, n, r + 1⟩]

/-- the generated text of lines 140-147 appends exactly `turnEvs` -/
theorem turnEvs_py (r n' : Nat) (out' : List PyEv) (hr : r + 1 ≤ N) :
    (if (r : Int) = 0 then out' ++ [PyEv.mk PyAction.endForward (n' : Int) (r : Int) false] else out') ++
        [PyEv.mk (PyAction.reverse ((N : Int) - ((r : Int) + 1) + 1) ((N : Int) - ((r : Int) + 1)) true)
          (n' : Int) ((r : Int) + 1) false] = out' ++ (turnEvs N n' r).map evF := by
  have e1 : (N : Int) - ((r : Int) + 1) + 1 = ((N - (r + 1) + 1 : Nat) : Int) := by omega
  have e2 : (N : Int) - ((r : Int) + 1) = ((N - (r + 1) : Nat) : Int) := by omega
  rw [e1, e2]
  have hr0 : (r : Int) = 0 ↔ r = 0 := by omega
  simp only [turnEvs, hr0, evF, evPy, actPy, List.map_append, List.map_cons, List.map_nil, apply_ite (List.map _),
    List.append_assoc]
  push_cast
  split_ifs <;> simp only [List.append_assoc, List.nil_append]

theorem stepTypeOfNat_turn {ty' : Nat} (hty : ty' = 0 ∨ ty' = 2) :
    stepTypeOfNat ty' = StepType.none ∨ stepTypeOfNat ty' = StepType.forward_reverse := by
  rcases hty with h | h <;> subst h
  · exact Or.inl rfl
  · exact Or.inr rfl

theorem g_outer_break (g n r : Nat) (out : List PyEv) (gs : List Int) (ss : List (StepType × Int × Int))
    (ty' n' : Nat) (out' : List PyEv) (gs' : List Int) (ss' : List (StepType × Int × Int))
    (hw : mixed_iterator.while2 (some (N : Int)) (r : Int) (S : Int) (stPy st) false g
      (StepType.none, (n : Int), out, gs, ss) = .ok (stepTypeOfNat ty', (n' : Int), out', gs', ss'))
    (hn' : n' = N - r)
    (hty : stepTypeOfNat ty' = StepType.none ∨ stepTypeOfNat ty' = StepType.forward_reverse) (hr : r + 1 = N) :
    mixed_iterator.while1 (some (N : Int)) (S : Int) (stPy st) false (g + 1) ((n : Int), (r : Int), out, gs, ss)
      = .ok ((n' : Int), ((r + 1 : Nat) : Int), out' ++ (turnEvs N n' r).map evF, gs', ss') := by
  rw [mixed_iterator.while1]
  have h1 : ¬ ((n' : Int) ≠ (N : Int) - (r : Int)) := by omega
  have h3 : (r : Int) + 1 = (N : Int) := by omega
  simp only [↓reduceIte, bind, Except.bind, pure, Except.pure, unwrap, hw, h1, hty, h3, not_true_eq_false]
  rw [← turnEvs_py N r n' out' (by omega)]
  push_cast
  simp only [h3]
  split_ifs <;> rfl

/-- what the reload branches of an outer iteration share: not the last turn, the top of the stack, the stack
without it, and the planner call in the form the generated text makes it -/
theorem reload_facts (g r : Nat) {ss' : List (StepType × Int × Int)} {x : Nat × Nat × Nat}
    {rest : List (Nat × Nat × Nat)} {c2 : Cell} (hr : r + 1 < N) (hss' : StackRel ss' (x :: rest))
    (hlen : rest.length + 1 ≤ S) (hcp : x.2.1 + 1 ≤ N - (r + 1))
    (hc : memoSpec (N - (r + 1) - x.2.1) (S - (rest.length + 1) + 1) = some c2)
    (hg : N - (r + 1) - x.2.1 + 1 ≤ g) :
    ¬ (r : Int) + 1 = (N : Int) ∧ pyIndex ss' (-1) = .ok (tupPy x) ∧ pyPop ss' = .ok (rest.reverse.map tupPy) ∧
      mixed_step_memoization g ((N : Int) - ((r : Int) + 1) - (x.2.1 : Int)) ((S : Int) - (ss'.length : Int) + 1)
        = .ok (cellTuple c2) := by
  have e3 : (S : Int) - (ss'.length : Int) + 1 = ((S - (rest.length + 1) + 1 : Nat) : Int) := by
    rw [hss'.length, List.length_cons]; omega
  have e4 : (N : Int) - ((r : Int) + 1) - (x.2.1 : Int) = ((N - (r + 1) - x.2.1 : Nat) : Int) := by omega
  refine ⟨by omega, ?_, ?_, ?_⟩
  · rw [hss'.snoc]; exact pyIndex_last _ _
  · rw [hss'.snoc]; exact pyPop_snoc _ _
  · rw [e3, e4, mixed_step_memoization_refines _ _ g hg, hc]; rfl

/-- The reload of an outer iteration.  `del` says whether the checkpoint on top of the stack is deleted (the planner
no longer asks for its kind): it is then moved and leaves both stores, otherwise it is copied.  A `WRITE_ICS`
checkpoint (kind 4) restarts the forward loop at its step `cpN`; a `WRITE_ADJ_DEPS` one (kind 3) holds the adjoint
dependencies of the very step to be reversed next, is always deleted, and the loop restarts behind it. -/
theorem g_outer_reload (g n r : Nat) (out : List PyEv) (gs : List Int) (ss : List (StepType × Int × Int))
    (ty' n' : Nat) (out' : List PyEv) (gs' gs'' : List Int) (ss' : List (StepType × Int × Int))
    (cpT cpN e0 : Nat) (rest : List (Nat × Nat × Nat)) (c2 : Cell) (del : Bool)
    (hw : mixed_iterator.while2 (some (N : Int)) (r : Int) (S : Int) (stPy st) false g
      (StepType.none, (n : Int), out, gs, ss) = .ok (stepTypeOfNat ty', (n' : Int), out', gs', ss'))
    (hn' : n' = N - r)
    (hty : stepTypeOfNat ty' = StepType.none ∨ stepTypeOfNat ty' = StepType.forward_reverse) (hr : r + 1 < N)
    (hss' : StackRel ss' ((cpT, cpN, e0) :: rest)) (hlen : rest.length + 1 ≤ S)
    (hc : memoSpec (N - (r + 1) - cpN) (S - (rest.length + 1) + 1) = some c2)
    (hdel : del = decide (cpT ≠ c2.kind))
    (hcase : (cpT = 4 ∧ cpN + 1 < N - (r + 1)) ∨ (cpT = 3 ∧ del = true ∧ cpN + 1 = N - (r + 1)))
    (hrem : del = true → pySetRemove gs' (cpN : Int) = .ok gs'') (hg : N - (r + 1) - cpN + 1 ≤ g) :
    mixed_iterator.while1 (some (N : Int)) (S : Int) (stPy st) false (g + 1) ((n : Int), (r : Int), out, gs, ss)
      = mixed_iterator.while1 (some (N : Int)) (S : Int) (stPy st) false g
          (((if cpT = 4 then cpN else cpN + 1 : Nat) : Int), ((r + 1 : Nat) : Int),
            out' ++ (turnEvs N n' r).map evF ++
              [evF (if del then ⟨.move cpN st .work, if cpT = 4 then cpN else cpN + 1, r + 1⟩
                else ⟨.copy cpN st .work, if cpT = 4 then cpN else cpN + 1, r + 1⟩)],
            if del then gs'' else gs', if del then rest.reverse.map tupPy else ss') := by
  rw [mixed_iterator.while1]
  have h1 : ¬ ((n' : Int) ≠ (N : Int) - (r : Int)) :=
    not_not.2 (by rw [hn', Nat.cast_sub (Nat.le_of_lt (Nat.lt_of_succ_lt hr))])
  obtain ⟨h3, hidx, hpop, hpl⟩ :=
    reload_facts N S g r hr hss' hlen (by rcases hcase with h | h <;> simp only <;> omega) hc hg
  have h4 : stepTypeOfNat 4 = StepType.write_ics := rfl
  have h3' : stepTypeOfNat 3 = StepType.write_adj_deps := rfl
  -- the three cases of the generated text: what `cp_delete` and the two tests on `cp_n` evaluate to
  rcases hcase with ⟨rfl, hlt⟩ | ⟨rfl, rfl, hlt⟩
  · have h5 : ¬ ((cpN : Int) + 1 ≥ (N : Int) - ((r : Int) + 1)) :=
      not_le.2 (by have := cast_lt_sub hlt; rwa [Nat.cast_add, Nat.cast_one, Nat.cast_add, Nat.cast_one] at this)
    cases del
    · have hk : StepType.write_ics = stepTypeOfNat c2.kind :=
        by rw [← h4]; exact congrArg _ (of_not_not (of_decide_eq_false hdel.symm))
      simp only [↓reduceIte, bind, Except.bind, pure, Except.pure, unwrap, hw, h1, hty, h3, hidx, tupPy, h4, hpl,
        ofOpt, cellTuple, ← hk, h5, not_true_eq_false, ne_eq, decide_false, true_or, Bool.false_eq_true]
      rw [← turnEvs_py N r n' out' (by omega)]
      simp only [evF, evPy, actPy, stPy_work_mx]
      push_cast
      split_ifs <;> rfl
    · have hk : ¬ StepType.write_ics = stepTypeOfNat c2.kind :=
        fun h => of_decide_eq_true hdel.symm ((stepType_wics _).1 h.symm).symm
      simp only [↓reduceIte, bind, Except.bind, pure, Except.pure, unwrap, hw, h1, hty, h3, hidx, tupPy, h4, hpl,
        ofOpt, cellTuple, hk, h5, hrem rfl, hpop, not_true_eq_false, not_false_eq_true, ne_eq, decide_true, true_or]
      rw [← turnEvs_py N r n' out' (by omega)]
      simp only [evF, evPy, actPy, stPy_work_mx]
      push_cast
      split_ifs <;> rfl
  · have h5 : ¬ ((cpN : Int) + 1 ≠ (N : Int) - ((r : Int) + 1)) :=
      not_not.2 (by
        have := congrArg (Nat.cast (R := Int)) hlt
        rwa [Nat.cast_add, Nat.cast_one, Nat.cast_sub hr.le, Nat.cast_add, Nat.cast_one] at this)
    have hk : ¬ StepType.write_adj_deps = stepTypeOfNat c2.kind :=
      fun h => of_decide_eq_true hdel.symm ((stepType_wad _).1 h.symm).symm
    have h34 : ¬ (3 : Nat) = 4 := by decide
    simp only [↓reduceIte, bind, Except.bind, pure, Except.pure, unwrap, hw, h1, hty, h3, hidx, tupPy, h3', hpl,
      ofOpt, cellTuple, hk, h5, hrem rfl, hpop, not_true_eq_false, not_false_eq_true, ne_eq, decide_true,
      decide_false, reduceCtorEq, Bool.false_eq_true, or_true, h34]
    rw [← turnEvs_py N r n' out' (by omega)]
    simp only [evF, evPy, actPy, stPy_work_mx]
    push_cast
    split_ifs <;> rfl

/-! ## the twin's `mixTurn` and `mixReload`, inverted -/

theorem reload_inv (f n r : Nat) (ks : List Nat) (stack : List (Nat × Nat × Nat)) (evs : List Ev) (hr : r ≠ N)
    (h : mixReload memoSpec N S st (f + 1) ⟨n, r, ks, stack⟩ = .ok evs) :
    ∃ cpT cpN e0 rest c2 del es, stack = (cpT, cpN, e0) :: rest ∧
      memoSpec (N - r - cpN) (S - (rest.length + 1) + 1) = some c2 ∧ del = decide (cpT ≠ c2.kind) ∧
      ((cpT = 4 ∧ cpN + 1 < N - r) ∨ (cpT = 3 ∧ del = true ∧ cpN + 1 = N - r)) ∧ (del = true → cpN ∈ ks) ∧
      mixInner memoSpec N S st f
        ⟨if cpT = 4 then cpN else cpN + 1, r, if del then ks.erase cpN else ks, if del then rest else stack⟩
        stNone = .ok es ∧
      evs = (if del then ⟨.move cpN st .work, if cpT = 4 then cpN else cpN + 1, r⟩
        else ⟨.copy cpN st .work, if cpT = 4 then cpN else cpN + 1, r⟩) :: es := by
  rw [mixReload] at h
  simp only [hr, if_false] at h
  cases stack with
  | nil => cases h
  | cons x rest =>
    obtain ⟨cpT, cpN, e0⟩ := x
    simp only [] at h
    obtain ⟨hT, h⟩ := ok_of_ite_error h
    simp only [List.length_cons] at h
    cases hc : memoSpec (N - r - cpN) (S - (rest.length + 1) + 1) with
    | none => rw [hc] at h; cases h
    | some c2 =>
      rw [hc] at h
      simp only [] at h
      generalize hdel : decide (cpT ≠ c2.kind) = del at h
      obtain ⟨hkey, h⟩ := ok_of_ite_error h
      have hmem : del = true → cpN ∈ ks := fun hd => by
        by_contra hm
        exact hkey (by simp [hd, hm])
      by_cases h4 : cpT = stWriteIcs
      · rw [if_pos h4] at h
        obtain ⟨h5, h⟩ := ok_of_ite_error h
        obtain ⟨es, hes, rfl⟩ := yieldEv_ok h
        have h4' : cpT = 4 := h4
        exact ⟨cpT, cpN, e0, rest, c2, del, es, rfl, hc, hdel.symm, Or.inl ⟨h4, by omega⟩, hmem,
          by rw [if_pos h4']; exact hes, by simp only [if_pos h4']⟩
      · rw [if_neg h4] at h
        have h3 : cpT = stWriteAdjDeps := by
          by_contra h3; exact hT ⟨h4, h3⟩
        obtain ⟨h5, h⟩ := ok_of_ite_error h
        obtain ⟨es, hes, rfl⟩ := yieldEv_ok h
        have hd : del = true := by
          cases del
          · exact absurd (Or.inl rfl) h5
          · rfl
        have h4' : ¬ cpT = 4 := h4
        exact ⟨cpT, cpN, e0, rest, c2, del, es, rfl, hc, hdel.symm, Or.inr ⟨h3, hd, by omega⟩, hmem,
          by rw [if_neg h4']; exact hes, by simp only [if_neg h4']⟩

theorem turn_inv (f n r : Nat) (ks : List Nat) (stack : List (Nat × Nat × Nat)) (ty : Nat) (evs : List Ev)
    (h : mixTurn memoSpec N S st (f + 1) ⟨n, r, ks, stack⟩ ty = .ok evs) :
    n = N - r ∧ (stepTypeOfNat ty = StepType.none ∨ stepTypeOfNat ty = StepType.forward_reverse) ∧
      ∃ es, mixReload memoSpec N S st f ⟨n, r + 1, ks, stack⟩ = .ok es ∧ evs = turnEvs N n r ++ es := by
  rw [mixTurn] at h
  obtain ⟨h1, hx⟩ := ok_of_ite_error h
  obtain ⟨h2, hy⟩ := ok_of_ite_error hx
  clear h hx
  simp only [] at hy
  rename' hy => h
  have h1' : n = N - r := by simpa using h1
  have h2' : ty = 0 ∨ ty = 2 := by
    by_cases h0 : ty = stNone
    · exact Or.inl h0
    · right
      by_contra h3
      exact h2 ⟨h0, h3⟩
  refine ⟨h1', stepTypeOfNat_turn h2', ?_⟩
  by_cases hr0 : r = 0
  · rw [if_pos hr0] at h
    obtain ⟨es1, ha, rfl⟩ := yieldEv_ok h
    obtain ⟨es, hb, rfl⟩ := yieldEv_ok ha
    exact ⟨es, hb, by simp [turnEvs, hr0]⟩
  · rw [if_neg hr0] at h
    obtain ⟨es, ha, rfl⟩ := yieldEv_ok h
    exact ⟨es, ha, by simp [turnEvs, hr0]⟩

theorem reload_break_inv (f n : Nat) (ks : List Nat) (stack : List (Nat × Nat × Nat)) (evs : List Ev)
    (h : mixReload memoSpec N S st (f + 1) ⟨n, N, ks, stack⟩ = .ok evs) :
    ks = [] ∧ stack = [] ∧ evs = [⟨.endReverse, n, N⟩] := by
  rw [mixReload] at h
  simp only [if_true] at h
  obtain ⟨h1, h⟩ := ok_of_ite_error h
  injection h with h
  refine ⟨?_, ?_, h.symm⟩
  · by_contra hk; exact h1 (Or.inl hk)
  · by_contra hk; exact h1 (Or.inr hk)

/-! ## the outer loop against the twin -/

theorem sim_outer : ∀ (f g n r : Nat) (ks : List Nat) (stack : List (Nat × Nat × Nat))
    (gs : List Int) (ss : List (StepType × Int × Int)) (evs : List Ev) (out : List PyEv),
    KeysRel gs ks → StackRel ss stack → stack.length ≤ S → r < N → (N - r) + N + 3 ≤ g →
    mixInner memoSpec N S st f ⟨n, r, ks, stack⟩ stNone = .ok evs →
    ∃ (pre : List Ev) (nf : Nat), evs = pre ++ [⟨.endReverse, nf, N⟩] ∧
      mixed_iterator.while1 (some (N : Int)) (S : Int) (stPy st) false g ((n : Int), (r : Int), out, gs, ss)
        = .ok ((nf : Int), (N : Int), out ++ pre.map evF, [], []) := by
  intro f
  induction f using Nat.strongRecOn with
  | ind f ih =>
    intro g n r ks stack gs ss evs out hks hss hlen hr hg h
    obtain ⟨g, rfl⟩ : ∃ g', g = g' + 1 := ⟨g - 1, by omega⟩
    obtain ⟨f1, n', ks', stack', ty', pre, rest, gs', ss', hf1, hks', hss', hlen', hturn, rfl, hw⟩ :=
      sim_inner N S st f g n r ks stack stNone gs ss evs out hks hss hlen (by omega) (by omega) h
    have hw' : mixed_iterator.while2 (some (N : Int)) (r : Int) (S : Int) (stPy st) false g
        (StepType.none, (n : Int), out, gs, ss) = .ok (stepTypeOfNat ty', (n' : Int), out ++ pre.map evF, gs', ss') := hw
    obtain ⟨f2, rfl⟩ : ∃ f2, f1 = f2 + 1 := by
      cases f1 with
      | zero => rw [mixTurn] at hturn; cases hturn
      | succ f2 => exact ⟨f2, rfl⟩
    obtain ⟨hn', hty, es, hrel, rfl⟩ := turn_inv N S st f2 n' r ks' stack' ty' rest hturn
    obtain ⟨f3, rfl⟩ : ∃ f3, f2 = f3 + 1 := by
      cases f2 with
      | zero => rw [mixReload] at hrel; cases hrel
      | succ f3 => exact ⟨f3, rfl⟩
    by_cases hrN : r + 1 = N
    · -- the last turn: `break`
      rw [hrN] at hrel
      obtain ⟨rfl, rfl, rfl⟩ := reload_break_inv N S st f3 n' ks' stack' es hrel
      have hgs : gs' = [] := hks'.nil_iff.2 rfl
      have hss0 : ss' = [] := hss'
      subst hgs hss0
      refine ⟨pre ++ turnEvs N n' r, n', by simp, ?_⟩
      rw [g_outer_break N S st g n r out gs ss ty' n' _ _ _ hw' hn' hty hrN, List.map_append, List.append_assoc]
      congr 3
      omega
    · have hr1 : r + 1 < N := by omega
      obtain ⟨cpT, cpN, e0, rest, c2, del, es', hstk, hc, hdel, hcase, hmem, hin, rfl⟩ :=
        reload_inv N S st f3 n' (r + 1) ks' stack' es hrN hrel
      subst hstk
      have hlen1 : rest.length + 1 ≤ S := by simpa using hlen'
      -- the two stores after the reload, on both sides
      obtain ⟨gs'', hrem, hks''⟩ : ∃ gs'', (del = true → pySetRemove gs' (cpN : Int) = .ok gs'') ∧
          KeysRel (if del then gs'' else gs') (if del then ks'.erase cpN else ks') := by
        cases del
        · exact ⟨gs', fun h => (Bool.false_ne_true h).elim, hks'⟩
        · obtain ⟨gs'', h1, h2⟩ := hks'.remove cpN (hmem rfl)
          exact ⟨gs'', fun _ => h1, h2⟩
      have hss'' : StackRel (if del then rest.reverse.map tupPy else ss')
          (if del then rest else (cpT, cpN, e0) :: rest) := by
        cases del
        · exact hss'
        · rfl
      have hlen'' : (if del then rest else (cpT, cpN, e0) :: rest).length ≤ S := by
        cases del
        · exact hlen'
        · exact Nat.le_of_succ_le hlen1
      obtain ⟨pre', nf, rfl, hgen⟩ := ih f3 (by omega) g _ (r + 1) _ _ _ _ es' _ hks'' hss'' hlen'' hr1
        (by omega) hin
      refine ⟨pre ++ turnEvs N n' r ++ _ :: pre', nf, by simp only [List.append_assoc, List.cons_append]; rfl, ?_⟩
      rw [g_outer_reload N S st g n r out gs ss ty' n' _ gs' gs'' ss' cpT cpN e0 rest c2 del hw' hn' hty hr1 hss'
        hlen1 hc hdel hcase hrem (by omega), hgen]
      simp only [List.map_append, List.map_cons, List.append_assoc, List.cons_append, List.nil_append]

end gen

/-! ## the whole generator -/

/-- fuel that always suffices.  Linear although the loops are nested: a nested loop is handed the whole remaining fuel,
not a share of it; a turn of the outer loop costs one unit (at most `N` turns, `r` increases), and the forward loop and
the planner calls within a turn each need at most `N + 3` of what is left (`sim_outer`: `(N - r) + N + 3 ≤ fuel`) -/
def mixedIterFuelBound (N : Nat) : Nat := 2 * N + 3

/-- the generated generator against the literal twin `mixedIter` (any twin fuel for which the twin answers) -/
theorem mixed_iterator_refines_twin (N S : Nat) (st : Storage) (evs : List Ev) (fuel twinFuel : Nat)
    (hN : 1 ≤ N) (hev : mixedIter memoPlan N S st twinFuel = .ok evs) (hf : mixedIterFuelBound N ≤ fuel) :
    mixed_iterator fuel 0 0 (some (N : Int)) (S : Int) (stPy st) false = .ok (markLast_mx (evs.map evF)) := by
  unfold mixedIterFuelBound at hf
  unfold mixedIter MixSt.init at hev
  obtain ⟨pre, nf, rfl, hgen⟩ := sim_outer N S st twinFuel fuel 0 0 [] [] [] [] evs []
    (List.Perm.refl _) rfl (Nat.zero_le _) (by omega) (by omega) hev
  unfold mixed_iterator
  simp only [bind, Except.bind, pure, Except.pure, unwrap, reduceCtorEq, if_false]
  have hgen' : mixed_iterator.while1 (some (N : Int)) (S : Int) (stPy st) false fuel (0, 0, [], [], [])
      = .ok ((nf : Int), (N : Int), [] ++ pre.map evF, [], []) := hgen
  rw [hgen']
  simp only [List.length_nil, Nat.cast_zero, gt_iff_lt, lt_self_iff_false, or_self, if_false, List.nil_append,
    List.map_append, List.map_cons, List.map_nil]
  rw [markLast_append_ne_mx _ _ (by simp)]
  rfl


/-- **`MixedCheckpointSchedule._iterator` as generated from the Python source emits the stream model `mixedEvs`**
(with the memoised planner `memoPlan = memoSpec`, i.e. `mixed_step_memoization`): the same actions with the same
values of `self._n`, `self._r` at every `yield`; `self._exhausted` is `False` at every `yield` but the last
(`EndReverse`), where it is `True`.  Any fuel `≥ 2 N + 3` suffices. -/
theorem mixed_iterator_refines (N s : Nat) (st : Storage) (evs : List Ev) (fuel : Nat)
    (hev : mixedEvs memoPlan N s st = .ok evs) (hf : mixedIterFuelBound N ≤ fuel) :
    mixed_iterator fuel 0 0 (some (N : Int)) ((min s (N - 1) : Nat) : Int) (stPy st) false
      = .ok (markLast_mx (evs.map (fun e => evPy e false))) := by
  have hN : 1 ≤ N := by
    cases N with
    | zero => simp [mixedEvs, mseg] at hev
    | succ n => omega
  exact mixed_iterator_refines_twin N (min s (N - 1)) st evs fuel (6 * N - 2) hN
    (RC.mixedIter_of_mixedEvs memoPlan memoPlan_hyp N s st hN evs hev _ (le_refl _)) hf

/-- the same against the literal twin `mixedIterEvs` (the subject of `twin_mixed`) -/
theorem mixed_iterator_refines_twinEvs (N s : Nat) (st : Storage) (evs : List Ev) (fuel : Nat) (hN : 1 ≤ N)
    (hev : mixedIterEvs memoPlan N s st = .ok evs) (hf : mixedIterFuelBound N ≤ fuel) :
    mixed_iterator fuel 0 0 (some (N : Int)) ((min s (N - 1) : Nat) : Int) (stPy st) false
      = .ok (markLast_mx (evs.map (fun e => evPy e false))) :=
  mixed_iterator_refines_twin N (min s (N - 1)) st evs fuel _ hN hev hf

/-- for all valid parameters (`storage` RAM or DISK, `max_n ≥ 1`, `snapshots ≥ min(1, max_n - 1)`) the model
answers, and the generated generator emits its stream -/
theorem mixed_iterator_refines_valid (N s : Nat) (st : Storage) (fuel : Nat)
    (hst : st = .ram ∨ st = .disk) (hN : 1 ≤ N) (hs : min 1 (N - 1) ≤ s) (hf : mixedIterFuelBound N ≤ fuel) :
    ∃ evs, mixedEvs memoPlan N s st = .ok evs ∧ mixedIterEvs memoPlan N s st = .ok evs ∧
      mixed_iterator fuel 0 0 (some (N : Int)) ((min s (N - 1) : Nat) : Int) (stPy st) false
        = .ok (markLast_mx (evs.map (fun e => evPy e false))) := by
  obtain ⟨evs, _, _, hev, _⟩ := mixed_clean N s st hst hN hs
  exact ⟨_, hev, by rw [twin_mixed memoPlan memoPlan_hyp N s st hst hN hs]; exact hev,
    mixed_iterator_refines N s st _ fuel hev hf⟩

/-! ## non-vacuity -/

-- the hypotheses of `mixed_iterator_refines` hold for a concrete parameter tuple …
example : ∃ evs, mixedEvs memoPlan 5 2 .disk = .ok evs := by
  obtain ⟨evs, _, _, h, _⟩ := mixed_clean 5 2 .disk (Or.inr rfl) (by decide) (by decide)
  exact ⟨_, h⟩

-- … and `mixed_iterator_refines_valid` applies: max_n = 5, snapshots = 2, storage = DISK, fuel 13
example : ∃ evs, mixedEvs memoPlan 5 2 .disk = .ok evs ∧ mixedIterEvs memoPlan 5 2 .disk = .ok evs ∧
    mixed_iterator 13 0 0 (some 5) 2 (stPy .disk) false = .ok (markLast_mx (evs.map (fun e => evPy e false))) :=
  mixed_iterator_refines_valid 5 2 .disk 13 (Or.inr rfl) (by decide) (by decide) (by decide)

-- the fuel bound is a concrete number
example : mixedIterFuelBound 5 = 13 := rfl

-- a concrete instance of the hypothesis `hev` and of the conclusion, computed: max_n = 1
example : mixedEvs memoPlan 1 0 .ram = .ok
    [⟨.forward 0 1 false true .work, 1, 0⟩, ⟨.endForward, 1, 0⟩, ⟨.reverse 1 0 true, 1, 1⟩, ⟨.endReverse, 1, 1⟩] := by
  simp [mixedEvs, mseg, memoPlan, clampS, validKey, memoCell_one, stForwardReverse]

example : mixed_iterator 5 0 0 (some 1) 0 .ram false = .ok
    [⟨.forward 0 1 false true .work, 1, 0, false⟩, ⟨.endForward, 1, 0, false⟩, ⟨.reverse 1 0 true, 1, 1, false⟩,
     ⟨.endReverse, 1, 1, true⟩] :=
  mixed_iterator_refines 1 0 .ram
    [⟨.forward 0 1 false true .work, 1, 0⟩, ⟨.endForward, 1, 0⟩, ⟨.reverse 1 0 true, 1, 1⟩, ⟨.endReverse, 1, 1⟩] 5
    (by simp [mixedEvs, mseg, memoPlan, clampS, validKey, memoCell_one, stForwardReverse]) (by decide)

end Ckpt.Py

#print axioms Ckpt.Py.mixed_iterator_refines
#print axioms Ckpt.Py.mixed_iterator_refines_twin
#print axioms Ckpt.Py.mixed_iterator_refines_twinEvs
#print axioms Ckpt.Py.mixed_iterator_refines_valid
