import CkptGen.Src
import CkptGen.RefineNAdv
import CkptVerif.Proofs.ExtraRec
import Mathlib.Tactic
/-!
# The Lean text generated from `optimal_extra_steps` / `optimal_steps_binomial` (multistage.py) computes the
models `extraSpec` / `optimalStepsBinomial`
-/
namespace Ckpt.Py
open Ckpt

/-! ## the loop of `optimal_extra_steps` on integers -/

/-- the loop body of the generated text, as a pure step on `Option Int` -/
def stepZ (cz : Int → Int) (m : Option Int) (i : Int) : Option Int :=
  match m with
  | none => some (cz i)
  | some c => if cz i < c then some (cz i) else some c

theorem stepZ_cast (cand : Nat → Nat) (cz : Int → Int) (m : Option Nat) (x : Nat)
    (h : cz (x : Int) = (cand x : Int)) :
    stepZ cz (m.map (fun a : Nat => (a : Int))) (x : Int) =
      (extraStep cand m x).map (fun a : Nat => (a : Int)) := by
  cases m with
  | none => simp [stepZ, extraStep, h]
  | some c =>
    simp only [stepZ, extraStep, Option.map_some, h]
    by_cases hlt : cand x < c
    · have : (cand x : Int) < (c : Int) := by exact_mod_cast hlt
      rw [if_pos hlt, if_pos this]; rfl
    · have : ¬ (cand x : Int) < (c : Int) := by exact_mod_cast hlt
      rw [if_neg hlt, if_neg this]; rfl

theorem foldl_stepZ_cast (cand : Nat → Nat) (cz : Int → Int) (l : List Nat)
    (h : ∀ x ∈ l, cz (x : Int) = (cand x : Int)) (m : Option Nat) :
    (l.map (fun k : Nat => (k : Int))).foldl (stepZ cz) (m.map (fun a : Nat => (a : Int))) =
      (l.foldl (extraStep cand) m).map (fun a : Nat => (a : Int)) := by
  induction l generalizing m with
  | nil => rfl
  | cons x xs ih =>
    rw [List.map_cons, List.foldl_cons, List.foldl_cons,
      stepZ_cast cand cz m x (h x (List.mem_cons_self ..))]
    exact ih (fun y hy => h y (List.mem_cons_of_mem _ hy)) _

/-- the loop of the model over a non-empty range has a value -/
theorem extra_fold_some (n s : Nat) (hn : 2 ≤ n) (hs : s ≠ 1) :
    (List.range' 1 (n - 1)).foldl (extraStep (splitCand n s extraCell)) none = some (extraCell n s) := by
  have e : n - 1 = (n - 2) + 1 := by omega
  rw [GW.extraCell_fold n s hn hs, e, List.range'_succ, List.foldl_cons,
    show extraStep (splitCand n s extraCell) none 1 = some (splitCand n s extraCell 1) from rfl,
    GW.extraStep_fold_eq]
  rfl

/-- valid keys: the generated function returns the model's cell; fuel `n` suffices -/
theorem extra_ok : ∀ (fuel n s : Nat), 1 ≤ n → n ≤ fuel → validKey n (clampS n s) = true →
    optimal_extra_steps fuel (n : Int) (s : Int) = .ok ((extraCell n (clampS n s) : Nat) : Int) := by
  intro fuel
  induction fuel with
  | zero => intro n s h1 h2; omega
  | succ fuel ih =>
    intro n s hn hf hv
    obtain ⟨c0, hmin, c1⟩ := guard_of_valid n s hv
    obtain ⟨-, hv1, hv2⟩ := (validKey_iff _ _).1 hv
    unfold optimal_extra_steps
    simp only [↓reduceIte, bind, Except.bind, pure, Except.pure, c0, hmin, c1]
    generalize clampS n s = s' at *
    by_cases hn1 : n = 1
    · subst hn1
      rw [if_pos (by rfl), GW.extraCell_le_one 1 s' (le_refl _)]; rfl
    have hn1' : ¬ (n : Int) = 1 := by omega
    rw [if_neg hn1']
    by_cases hs1 : s' = 1
    · subst hs1
      rw [if_pos (by rfl), GW.extraCell_s1 n (by omega)]
      have := floordiv_nat (n * (n - 1)) 2 (by omega)
      push_cast [Nat.cast_sub hn] at this ⊢
      exact this
    have hs1' : ¬ (s' : Int) = 1 := by omega
    rw [if_neg hs1']
    have hs2 : 2 ≤ s' := by omega
    have hn3 : 3 ≤ n := by omega
    have hr := pyRange_nat 1 n
    rw [Nat.cast_one] at hr
    rw [hr]
    rw [forIn_yield _ _
      (stepZ (fun i : Int => ((splitCand n s' extraCell i.toNat : Nat) : Int)))]
    · have := foldl_stepZ_cast (splitCand n s' extraCell)
        (fun i : Int => ((splitCand n s' extraCell i.toNat : Nat) : Int)) (List.range' 1 (n - 1))
        (fun x _ => by simp) none
      rw [Option.map_none] at this
      rw [this, extra_fold_some n s' (by omega) hs1]
      rfl
    · intro i hi b
      rw [List.mem_map] at hi
      obtain ⟨k, hk, rfl⟩ := hi
      rw [List.mem_range'_1] at hk
      have r1 := ih k s' (by omega) (by omega) ((validKey_clamp_iff k s').2 ⟨by omega, by omega⟩)
      have r2 := ih (n - k) (s' - 1) (by omega) (by omega) ((validKey_clamp_iff _ _).2 ⟨by omega, by omega⟩)
      have e1 : ((n : Int) - (k : Int)) = ((n - k : Nat) : Int) := by omega
      have e2 : ((s' : Int) - 1) = ((s' - 1 : Nat) : Int) := by omega
      rw [e1, e2, r1, r2]
      simp only []
      have ec : ((k : Int) + ((extraCell k (clampS k s') : Nat) : Int)
          + ((extraCell (n - k) (clampS (n - k) (s' - 1)) : Nat) : Int))
          = ((splitCand n s' extraCell k : Nat) : Int) := by
        unfold splitCand; push_cast; rfl
      rw [ec]
      cases b with
      | none => simp [stepZ]
      | some c =>
        simp only [stepZ, Int.toNat_natCast]
        by_cases hlt : ((splitCand n s' extraCell k : Nat) : Int) < c
        · simp [hlt, unwrap, pure, Except.pure]
        · simp [hlt, unwrap, pure, Except.pure]

/-! ## the refinement theorems -/

/-- every key the guard rejects is a `ValueError` -/
theorem optimal_extra_steps_guard (n s : Int) (fuel : Nat)
    (h : n ≤ 0 ∨ min s (n - 1) < min 1 (n - 1) ∨ min s (n - 1) > n - 1) :
    optimal_extra_steps (fuel + 1) n s = .error .valueError := by
  by_cases h0 : n ≤ 0
  · simp only [optimal_extra_steps, ↓reduceIte, h0]; rfl
  · have := h.resolve_left h0
    simp only [optimal_extra_steps, ↓reduceIte, h0, this]; rfl

/-- negative arguments (and `n = 0`): `ValueError`; one unit of fuel suffices -/
theorem optimal_extra_steps_invalid (n s : Int) (fuel : Nat) (h : n ≤ 0 ∨ s < 0) (hf : 1 ≤ fuel) :
    optimal_extra_steps fuel n s = .error .valueError := by
  obtain ⟨fuel, rfl⟩ : ∃ k, fuel = k + 1 := ⟨fuel - 1, by omega⟩
  exact optimal_extra_steps_guard n s fuel (by omega)

/-- **`optimal_extra_steps` as generated from the Python source computes the model `extraSpec`** (all `n, s ≥ 0`;
`ValueError` exactly where the model says so), for any fuel `≥ max n 1` -/
theorem optimal_extra_steps_refines (n s fuel : Nat) (hf : max n 1 ≤ fuel) :
    optimal_extra_steps fuel (n : Int) (s : Int) = ofOpt (fun a : Nat => (a : Int)) (extraSpec n s) := by
  unfold extraSpec
  simp only []
  by_cases hv : validKey n (clampS n s) = true
  · rw [if_pos hv]
    exact extra_ok fuel n s ((validKey_iff _ _).1 hv).1 (by omega) hv
  · rw [if_neg hv]
    obtain ⟨fuel, rfl⟩ : ∃ k, fuel = k + 1 := ⟨fuel - 1, by omega⟩
    exact optimal_extra_steps_guard _ _ fuel (guard_of_invalid n s hv)

/-- **`optimal_steps_binomial` as generated from the Python source computes the model `optimalStepsBinomial`**,
for any fuel `≥ max n 1` -/
theorem optimal_steps_binomial_refines (n s fuel : Nat) (hf : max n 1 ≤ fuel) :
    optimal_steps_binomial fuel (n : Int) (s : Int)
      = ofOpt (fun a : Nat => (a : Int)) (optimalStepsBinomial n s) := by
  unfold optimal_steps_binomial optimalStepsBinomial
  simp only [bind, Except.bind, pure, Except.pure]
  rw [optimal_extra_steps_refines n s fuel hf]
  cases extraSpec n s with
  | none => rfl
  | some a =>
    show Except.ok ((n : Int) + (a : Int)) = Except.ok (((n + a : Nat)) : Int)
    rw [Nat.cast_add]

/-- negative arguments (and `n = 0`): `optimal_steps_binomial` raises `ValueError` -/
theorem optimal_steps_binomial_invalid (n s : Int) (fuel : Nat) (h : n ≤ 0 ∨ s < 0) (hf : 1 ≤ fuel) :
    optimal_steps_binomial fuel n s = .error .valueError := by
  unfold optimal_steps_binomial
  simp only [bind, Except.bind, pure, Except.pure]
  rw [optimal_extra_steps_invalid n s fuel h hf]

/-- without fuel the generated function reports `fuel` (so the bound `max n 1` cannot be lowered to `0`) -/
theorem optimal_extra_steps_no_fuel (n s : Int) : optimal_extra_steps 0 n s = .error .fuel := rfl

/-- every pair of integers is covered by `optimal_extra_steps_refines` or `optimal_extra_steps_invalid` -/
theorem optimal_extra_steps_cases (n s : Int) :
    (n ≤ 0 ∨ s < 0) ∨ ∃ n' s' : Nat, n = (n' : Int) ∧ s = (s' : Int) := by
  by_cases h : n ≤ 0 ∨ s < 0
  · exact Or.inl h
  · exact Or.inr ⟨n.toNat, s.toNat, by omega, by omega⟩

end Ckpt.Py

#print axioms Ckpt.Py.optimal_extra_steps_refines
#print axioms Ckpt.Py.optimal_steps_binomial_refines
#print axioms Ckpt.Py.optimal_extra_steps_invalid
#print axioms Ckpt.Py.optimal_steps_binomial_invalid
