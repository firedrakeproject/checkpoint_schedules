import CkptGen.RefineCommon
import CkptGen.RefineMethods
import CkptGen.RefineMultistage
import CkptVerif.Properties.Twins
import Mathlib.Tactic
/-!
# The conversion stage of the Revolve family: the generated `_iterator` yields the twin's events

`Ckpt.Py.convert_action`, `Ckpt.Py.last_reads`, `Ckpt.Py.revolve_iterator` (+ `revolve_iterator.while1`) are produced by
`harness/py2lean.py` from `hrevolve.py` (`_convert_action`, `_last_reads`, `RevolveCheckpointSchedule._iterator`).
They are related here to stage 2 of the twin (`CkptVerif/Model/Ops.lean`: `convAct`, `lastReads`, `convLoop`,
`convertOps`):

* `opPy : Ops.Op → PyOp` builds the Python `Operation` object (type string, index shape) of a twin operation; the
  fifteen type strings are distinct (`opKindStr_injective`);
* `convert_action_refines`: `convert_action (opPy o)` is `convAct o` (results to results, exceptions to exceptions);
* `last_reads_refines`: `last_reads (ops.map opPy)` is `lastReads ops.toArray`; the generated text lists the positions
  in the order of its backward scan (descending), the twin ascending: the list is the twin's list reversed;
* `revolve_iterator_refines`: if `convertOps N ops = .ok evs`, then with `ops.length + 1 ≤ fuel`
  `revolve_iterator fuel 0 0 (some N) (ops.map opPy) false = .ok (markLast (evs.map (evPy · false)))`.
  Proof: `convBody_*_ok` (for each kind of operation: what the success of the twin's `convBody` says about its tests and
  its result), `conv_step_sim_rv` (one iteration of `revolve_iterator.while1` = one `convStep`: the loop is unrolled
  once, then, by cases on the kind, the tests of the generated text are decided by those facts), a state
  correspondence `stTup_rv` (the twin's `snapshots` are most-recent-first and duplicate free, the generated set is the
  reversed list; `w_n0` unbound in the twin is the default `0` in the generated text and is never read then), and an
  induction on the number of remaining operations (`while1_sim_rv`);
* `revolve_iterator_twin` and its four instances `revolve_iterator_revolve`, `revolve_iterator_diskRevolve`,
  `revolve_iterator_periodic`, `revolve_iterator_hrevolve`: for all valid parameters, the twin's stage-1 operation sequence exists, the stream model
  (`revolveEvs`, `diskRevolveEvs`, `periodicEvs`, `hrevolveEvs`) is defined, and the GENERATED iterator run on that
  sequence yields the stream model (through `twin_revolve`, `twin_diskRevolve`, `twin_periodic`, `twin_hrevolve`).

Fuel: `ops.length + 1`.
-/

namespace Ckpt.Py
open Ckpt Ckpt.Ops

/-- `Operation.type`: the official name of the operation -/
def opKindStr : OpKind → String
  | .forward => "Forward"
  | .backward => "Backward"
  | .writeMemory => "Write_memory"
  | .readMemory => "Read_memory"
  | .discardMemory => "Discard_memory"
  | .writeDisk => "Write_disk"
  | .readDisk => "Read_disk"
  | .discardDisk => "Discard_disk"
  | .writeForwardMemory => "Write_Forward_memory"
  | .discardForwardMemory => "Discard_Forward_memory"
  | .write => "Write"
  | .read => "Read"
  | .discard => "Discard"
  | .writeForward => "Write_Forward"
  | .discardForward => "Discard_Forward"

/-- reading the name back -/
def kindOfStr (s : String) : OpKind :=
  if s = "Forward" then .forward else if s = "Backward" then .backward else if s = "Write_memory" then .writeMemory
  else if s = "Read_memory" then .readMemory else if s = "Discard_memory" then .discardMemory
  else if s = "Write_disk" then .writeDisk else if s = "Read_disk" then .readDisk else if s = "Discard_disk" then .discardDisk
  else if s = "Write_Forward_memory" then .writeForwardMemory else if s = "Discard_Forward_memory" then .discardForwardMemory
  else if s = "Write" then .write else if s = "Read" then .read else if s = "Discard" then .discard
  else if s = "Write_Forward" then .writeForward else .discardForward

theorem kindOfStr_opKindStr (k : OpKind) : kindOfStr (opKindStr k) = k := by
  cases k <;> simp only [opKindStr, kindOfStr, String.reduceEq, ↓reduceIte]

/-- the fifteen names are distinct; the tests `cp_action == "…"` of the generated text are instances -/
theorem opKindStr_injective : Function.Injective opKindStr :=
  Function.LeftInverse.injective kindOfStr_opKindStr

/-- `Operation.index` -/
def opIdxPy (o : Ops.Op) : PyIdx :=
  match o.kind with
  | .forward | .backward => .pair (o.a : Int) (o.b : Int)
  | .write | .read | .discard | .writeForward | .discardForward => .pair (o.lvl : Int) (o.a : Int)
  | _ => .single (o.a : Int)

def opPy (o : Ops.Op) : PyOp := ⟨opKindStr o.kind, opIdxPy o⟩

def cactPy (a : CAct) : String × (Int × Option Int × Option StorageType) :=
  (opKindStr a.kind, ((a.n0 : Int), a.n1.map (fun (k : Nat) => (k : Int)), a.storage.map stPy))

def convErrPy (e : String) : PyErr := if e = "KeyError" then .keyError else .runtimeError

theorem pyDictGet_lvl_rv (l : Nat) :
    pyDictGet [((0 : Int), StorageType.ram), ((1 : Int), StorageType.disk)] (l : Int) =
      if l = 0 then .ok .ram else if l = 1 then .ok .disk else .error .keyError := by
  unfold pyDictGet
  rcases l with _ | _ | l
  · simp; rfl
  · simp; rfl
  · have h1 : ¬ ((0 : Int) = ((l + 1 + 1 : Nat) : Int)) := by omega
    have h2 : ¬ ((1 : Int) = ((l + 1 + 1 : Nat) : Int)) := by omega
    simp [List.find?]
    rfl

theorem convert_action_refines (o : Ops.Op) :
    convert_action (opPy o) =
      match convAct o with
      | .ok a => .ok (cactPy a)
      | .error e => .error (convErrPy e) := by
  obtain ⟨k, l, a, b⟩ := o
  cases k
  case forward =>
    simp only [convert_action, opPy, opKindStr, opIdxPy, convAct, idxPair, unwrap, bind, Except.bind, pure, Except.pure]
    by_cases h : b ≤ a
    · have h' : (b : Int) ≤ (a : Int) := by omega
      simp only [↓reduceIte, h', h, convErrPy, String.reduceEq]; rfl
    · have h' : ¬ (b : Int) ≤ (a : Int) := by omega
      simp only [↓reduceIte, h', h, cactPy, opKindStr, Option.map_some, Option.map_none]
  case backward =>
    simp only [convert_action, opPy, opKindStr, opIdxPy, convAct, idxPair, unwrap, bind, Except.bind, pure, Except.pure]
    by_cases h : a ≤ b
    · have h' : (a : Int) ≤ (b : Int) := by omega
      simp only [↓reduceIte, h', h, convErrPy, String.reduceEq]; rfl
    · have h' : ¬ (a : Int) ≤ (b : Int) := by omega
      simp only [String.reduceEq, ↓reduceIte, h', h, cactPy, opKindStr, Option.map_some, Option.map_none]
  case write | read | discard =>
    simp only [convert_action, opPy, opKindStr, opIdxPy, convAct, idxPair, unwrap, bind, Except.bind, pure, Except.pure,
      pyDictGet_lvl_rv]
    by_cases h0 : l = 0
    · simp only [String.reduceEq, ↓reduceIte, or_self, or_false, or_true, h0, cactPy, opKindStr, Option.map_none, Option.map_some,
        stPy]
    · by_cases h1 : l = 1
      · simp only [String.reduceEq, ↓reduceIte, or_self, or_false, or_true, h1, one_ne_zero, cactPy, opKindStr, Option.map_none,
          Option.map_some, stPy]
      · simp only [String.reduceEq, ↓reduceIte, or_self, or_false, or_true, h0, h1, convErrPy]
  all_goals
    simp only [convert_action, opPy, opKindStr, opIdxPy, String.reduceEq, ↓reduceIte, or_self, or_false, or_true, bind,
      Except.bind, idxSingle, idxPair, pure, Except.pure, pyDictGet, decide_true, List.find?_cons_of_pos, convAct, cactPy,
      Option.map_none, Option.map_some, stPy]

/-- non-vacuity / sanity: a `Forward`, a hierarchical `Write` on disk, an invalid `Forward`, an unknown level -/
example : convert_action (opPy (Op.fwd 2 5)) = .ok ("Forward", (2, some 5, none)) := by
  rw [convert_action_refines]; rfl
example : convert_action (opPy (Op.w 1 4)) = .ok ("Write", (4, none, some .disk)) := by
  rw [convert_action_refines]; rfl
example : convert_action (opPy (Op.fwd 5 5)) = .error .runtimeError := by
  rw [convert_action_refines]; rfl
example : convert_action (opPy (Op.r 2 0)) = .error .keyError := by
  rw [convert_action_refines]; rfl

/-! ## sets of `(storage, step)` pairs: most-recent-first in the twin, oldest-first in the generated text -/

def pairPy_rv (x : Option Storage × Nat) : Option StorageType × Int := (x.1.map stPy, (x.2 : Int))

theorem pairPy_inj_rv : Function.Injective pairPy_rv := by
  rintro ⟨a, n⟩ ⟨b, m⟩ h
  simp only [pairPy_rv, Prod.mk.injEq] at h
  obtain ⟨h1, h2⟩ := h
  have := Option.map_injective (fun a b h => (stPy_injective a b).1 h) h1
  have : n = m := by omega
  simp [*]

def setPy_rv (l : List (Option Storage × Nat)) : List (Option StorageType × Int) := (l.map pairPy_rv).reverse

theorem setPy_mem_rv (l : List (Option Storage × Nat)) (x : Option Storage × Nat) : pairPy_rv x ∈ setPy_rv l ↔ x ∈ l := by
  simp only [setPy_rv, List.mem_reverse]
  exact List.mem_map_of_injective pairPy_inj_rv

theorem setPy_add_rv (l : List (Option Storage × Nat)) (x : Option Storage × Nat) :
    pySetAdd (setPy_rv l) (pairPy_rv x) = setPy_rv (if l.contains x then l else x :: l) := by
  unfold pySetAdd
  simp only [setPy_mem_rv]
  by_cases h : x ∈ l
  · simp [h]
  · simp [h, setPy_rv]

theorem setPy_erase_rv [BEq (Option StorageType × Int)] [LawfulBEq (Option StorageType × Int)]
    (l : List (Option Storage × Nat)) (x : Option Storage × Nat) (hnd : l.Nodup) :
    (setPy_rv l).erase (pairPy_rv x) = setPy_rv (l.filter (· ≠ x)) := by
  have hnd' : (setPy_rv l).Nodup := by
    simp only [setPy_rv, List.nodup_reverse]
    exact hnd.map pairPy_inj_rv
  rw [hnd'.erase_eq_filter]
  simp only [setPy_rv, List.filter_reverse, List.filter_map]
  congr 2
  apply List.filter_congr
  intro y _
  by_cases hy : y = x
  · simp [hy]
  · have : pairPy_rv y ≠ pairPy_rv x := fun h => hy (pairPy_inj_rv h)
    simp [hy, this]

theorem nodup_add_rv (l : List (Option Storage × Nat)) (x : Option Storage × Nat) (hnd : l.Nodup) :
    (if l.contains x then l else x :: l).Nodup := by
  by_cases h : x ∈ l
  · simp [h, hnd]
  · simp [h, hnd]

theorem pySetRemove_setPy_rv (l : List (Option Storage × Nat)) (x : Option Storage × Nat) (hnd : l.Nodup) :
    pySetRemove (setPy_rv l) (pairPy_rv x) =
      if x ∈ l then .ok (setPy_rv (l.filter (· ≠ x))) else .error .keyError := by
  simp only [pySetRemove, setPy_mem_rv]
  split_ifs with hm
  · have := @setPy_erase_rv instBEqOfDecidableEq inferInstance l x hnd
    rw [this]
    rfl
  · rfl

/-! ## indexing the schedule -/

theorem pyIndex_map_nat_rv (ops : List Ops.Op) (j : Nat) :
    pyIndex (ops.map opPy) (j : Int) =
      match ops[j]? with
      | some o => .ok (opPy o)
      | none => .error .indexError := by
  unfold pyIndex
  have h1 : ¬ ((j : Int) < 0) := by omega
  simp only [h1, if_false, Int.toNat_natCast, List.getElem?_map]
  cases ops[j]? <;> rfl

/-! ## `_last_reads` -/

/-- one iteration of the loop of `_last_reads` at index `i` -/
def lrStep_rv (i : Nat) (a : CAct) (t : List Nat × List (Option Storage × Nat)) :
    List Nat × List (Option Storage × Nat) :=
  if a.kind.isRead then
    (if t.2.contains (a.storage, a.n0) then t.1 else i :: t.1,
     if t.2.contains (a.storage, a.n0) then t.2 else (a.storage, a.n0) :: t.2)
  else if a.kind.isWrite then (t.1, t.2.filter (· ≠ (a.storage, a.n0)))
  else t

theorem lastReadsLoop_succ_rv (sched : Array Ops.Op) (i : Nat) (t : List Nat × List (Option Storage × Nat)) :
    lastReadsLoop sched (i + 1) t =
      match convAct (sched.getD i default) with
      | .error e => .error e
      | .ok a => lastReadsLoop sched i (lrStep_rv i a t) := by
  obtain ⟨lr, rl⟩ := t
  rw [lastReadsLoop]
  cases convAct (sched.getD i default) with
  | error e => rfl
  | ok a =>
    simp only [lrStep_rv]
    split_ifs <;> rfl

/-- the positions as the generated text keeps them: in the order found (descending) -/
def lrPy_rv (l : List Nat) : List Int := (l.map (fun (k : Nat) => (k : Int))).reverse

theorem opKindStr_forward_rv (k : OpKind) : opKindStr k = "Forward" ↔ k = .forward :=
  opKindStr_injective.eq_iff (b := .forward)
theorem opKindStr_backward_rv (k : OpKind) : opKindStr k = "Backward" ↔ k = .backward :=
  opKindStr_injective.eq_iff (b := .backward)
theorem opKindStr_writeMemory_rv (k : OpKind) : opKindStr k = "Write_memory" ↔ k = .writeMemory :=
  opKindStr_injective.eq_iff (b := .writeMemory)
theorem opKindStr_readMemory_rv (k : OpKind) : opKindStr k = "Read_memory" ↔ k = .readMemory :=
  opKindStr_injective.eq_iff (b := .readMemory)
theorem opKindStr_discardMemory_rv (k : OpKind) : opKindStr k = "Discard_memory" ↔ k = .discardMemory :=
  opKindStr_injective.eq_iff (b := .discardMemory)
theorem opKindStr_writeDisk_rv (k : OpKind) : opKindStr k = "Write_disk" ↔ k = .writeDisk :=
  opKindStr_injective.eq_iff (b := .writeDisk)
theorem opKindStr_readDisk_rv (k : OpKind) : opKindStr k = "Read_disk" ↔ k = .readDisk :=
  opKindStr_injective.eq_iff (b := .readDisk)
theorem opKindStr_discardDisk_rv (k : OpKind) : opKindStr k = "Discard_disk" ↔ k = .discardDisk :=
  opKindStr_injective.eq_iff (b := .discardDisk)
theorem opKindStr_writeForwardMemory_rv (k : OpKind) : opKindStr k = "Write_Forward_memory" ↔ k = .writeForwardMemory :=
  opKindStr_injective.eq_iff (b := .writeForwardMemory)
theorem opKindStr_discardForwardMemory_rv (k : OpKind) : opKindStr k = "Discard_Forward_memory" ↔ k = .discardForwardMemory :=
  opKindStr_injective.eq_iff (b := .discardForwardMemory)
theorem opKindStr_write_rv (k : OpKind) : opKindStr k = "Write" ↔ k = .write :=
  opKindStr_injective.eq_iff (b := .write)
theorem opKindStr_read_rv (k : OpKind) : opKindStr k = "Read" ↔ k = .read :=
  opKindStr_injective.eq_iff (b := .read)
theorem opKindStr_discard_rv (k : OpKind) : opKindStr k = "Discard" ↔ k = .discard :=
  opKindStr_injective.eq_iff (b := .discard)
theorem opKindStr_writeForward_rv (k : OpKind) : opKindStr k = "Write_Forward" ↔ k = .writeForward :=
  opKindStr_injective.eq_iff (b := .writeForward)
theorem opKindStr_discardForward_rv (k : OpKind) : opKindStr k = "Discard_Forward" ↔ k = .discardForward :=
  opKindStr_injective.eq_iff (b := .discardForward)

theorem opKindStr_isRead_rv (k : OpKind) :
    (opKindStr k = "Read" ∨ opKindStr k = "Read_memory" ∨ opKindStr k = "Read_disk") ↔ k.isRead = true := by
  rw [opKindStr_read_rv, opKindStr_readMemory_rv, opKindStr_readDisk_rv]
  cases k <;> decide

theorem opKindStr_isWrite_rv (k : OpKind) :
    (opKindStr k = "Write" ∨ opKindStr k = "Write_memory" ∨ opKindStr k = "Write_disk") ↔ k.isWrite = true := by
  rw [opKindStr_write_rv, opKindStr_writeMemory_rv, opKindStr_writeDisk_rv]
  cases k <;> decide

theorem opKindStr_isWriteB_rv (k : OpKind) :
    (opKindStr k = "Write" ∨ opKindStr k = "Write_disk" ∨ opKindStr k = "Write_memory") ↔ k.isWrite = true :=
  (or_congr_right or_comm).trans (opKindStr_isWrite_rv k)

/-- the state of the loop of `_last_reads` as the generated text keeps it -/
def lrState_rv (t : List Nat × List (Option Storage × Nat)) : List Int × List (Option StorageType × Int) :=
  (lrPy_rv t.1, setPy_rv t.2)

theorem forIn_lastReads_rv (ops : List Ops.Op) (body : Int → List Int × List (Option StorageType × Int) →
      M (ForInStep (List Int × List (Option StorageType × Int))))
    (Q : Nat → List Nat × List (Option Storage × Nat) → Prop)
    (h : ∀ i t, i < ops.length → Q (i + 1) t →
      match convAct (ops.toArray.getD i default) with
      | .error e => body (i : Int) (lrState_rv t) = .error (convErrPy e)
      | .ok a => body (i : Int) (lrState_rv t) = .ok (.yield (lrState_rv (lrStep_rv i a t))) ∧ Q i (lrStep_rv i a t)) :
    ∀ i t, i ≤ ops.length → Q i t →
      forIn (pyRangeDown ((i : Int) - 1) (-1)) (lrState_rv t) body =
        match lastReadsLoop ops.toArray i t with
        | .ok t' => .ok (lrState_rv t')
        | .error e => .error (convErrPy e) := by
  intro i
  induction i with
  | zero =>
    intro t _ _
    have : pyRangeDown (((0 : Nat) : Int) - 1) (-1) = [] := by
      unfold pyRangeDown; simp
    rw [this, lastReadsLoop]
    rfl
  | succ i ih =>
    intro t hi hQ
    rw [pyRangeDown_succ, List.forIn_cons, lastReadsLoop_succ_rv]
    have := h i t (by omega) hQ
    cases hc : convAct (ops.toArray.getD i default) with
    | error e =>
      rw [hc] at this
      rw [this]; rfl
    | ok a =>
      rw [hc] at this
      rw [this.1]
      exact ih _ (by omega) this.2

/-- `_last_reads`: the generated function finds the twin's positions, listed in the order in which the backward scan
meets them (descending; the twin's list is ascending) -/
theorem last_reads_refines (ops : List Ops.Op) :
    last_reads (ops.map opPy) =
      match lastReads ops.toArray with
      | .ok l => .ok ((l.map (fun (k : Nat) => (k : Int))).reverse)
      | .error e => .error (convErrPy e) := by
  unfold last_reads
  simp only [bind, Except.bind, pure, Except.pure, List.length_map]
  rw [show (([] : List Int), ([] : List (Option StorageType × Int))) = lrState_rv ([], []) from rfl,
    forIn_lastReads_rv ops _ (fun i t => t.2.Nodup ∧ ∀ j ∈ t.1, i ≤ j) ?_ ops.length ([], []) le_rfl (by simp)]
  · unfold lastReads
    rw [List.size_toArray]
    cases lastReadsLoop ops.toArray ops.length ([], []) with
    | error e => rfl
    | ok t => rfl
  · intro i t hi hQ
    obtain ⟨lr, rl⟩ := t
    obtain ⟨hnd, hge⟩ := hQ
    simp only at hnd hge
    have hget : ops.toArray.getD i default = ops[i] := by simp [hi]
    have hidx : pyIndex (ops.map opPy) (i : Int) = .ok (opPy ops[i]) := by
      rw [pyIndex_map_nat_rv]; simp [hi]
    rw [hget]
    simp only [hidx, convert_action_refines]
    cases hc : convAct ops[i] with
    | error e => rfl
    | ok a =>
      have hp : (Option.map stPy a.storage, (a.n0 : Int)) = pairPy_rv (a.storage, a.n0) := rfl
      have hni : (i : Int) ∉ lrPy_rv lr := by
        simp only [lrPy_rv, List.mem_reverse, List.mem_map, not_exists, not_and]
        intro j hj hji
        have := hge j hj
        omega
      simp only [cactPy, opKindStr_isRead_rv, opKindStr_isWrite_rv, lrStep_rv, lrState_rv, hp, setPy_mem_rv, setPy_add_rv]
      by_cases hr : a.kind.isRead = true
      · by_cases hm : (a.storage, a.n0) ∈ rl
        · simp only [hr, hm, if_true, not_true, if_false, List.contains_iff_mem, true_and]
          exact ⟨hnd, fun j hj => by have := hge j hj; omega⟩
        · simp only [hr, hm, if_true, not_false_iff, if_false, List.contains_iff_mem]
          refine ⟨?_, ?_, ?_⟩
          · simp only [lrPy_rv] at hni
            simp only [pySetAdd, hni, if_false, lrPy_rv, List.map_cons, List.reverse_cons]
          · exact List.nodup_cons.mpr ⟨hm, hnd⟩
          · intro j hj
            rcases List.mem_cons.mp hj with rfl | hj
            · exact le_rfl
            · have := hge j hj; omega
      · rw [Bool.not_eq_true] at hr
        cases hw : a.kind.isWrite
        · simp only [hr, Bool.false_eq_true, if_false, true_and]
          exact ⟨hnd, fun j hj => by have := hge j hj; omega⟩
        · simp only [hr, Bool.false_eq_true, if_true, if_false, setPy_erase_rv _ _ hnd, true_and]
          exact ⟨hnd.filter _, fun j hj => by have := hge j hj; omega⟩

/-- non-vacuity / sanity: in `WM_0 F RM_0 RM_0 DM_0` only the second read (position 3) is a last read; two cells give
the positions in descending order -/
example : last_reads ([Op.wm 0, Op.fwd 0 1, Op.rm 0, Op.rm 0, Op.dm 0].map opPy) = .ok [3] := by
  rw [last_reads_refines]; rfl
example : last_reads ([Op.wm 0, Op.wd 1, Op.rm 0, Op.rd 1].map opPy) = .ok [3, 2] := by
  rw [last_reads_refines]; rfl

/-! ## the loop of `_iterator` -/

/-- what `_convert_action` returns besides the kind: `Forward`/`Backward` carry `n_1` (for `Backward` below `n_0`) and no
storage, every other operation a storage, the `*_Forward*` ones the working storage -/
theorem convAct_shape_rv (o : Ops.Op) (a : CAct) (h : convAct o = .ok a) :
    ((a.kind = .forward ∨ a.kind = .backward) → ∃ b, a.n1 = some b ∧ (a.kind = .backward → b < a.n0)) ∧
    (a.kind ≠ .forward → a.kind ≠ .backward → ∃ st, a.storage = some st) ∧
    ((a.kind = .writeForward ∨ a.kind = .writeForwardMemory ∨ a.kind = .discardForward ∨
      a.kind = .discardForwardMemory) → a.storage = some .work) := by
  unfold convAct at h
  split at h <;> (try split_ifs at h) <;> first | (cases h; done) | (cases h; simp_all)

theorem convAct_n1_rv (o : Ops.Op) (a : CAct) (h : convAct o = .ok a) (hk : a.kind = .forward ∨ a.kind = .backward) :
    ∃ b, a.n1 = some b :=
  ((convAct_shape_rv o a h).1 hk).imp fun _ hb => hb.1

theorem convAct_backward_rv (o : Ops.Op) (a : CAct) (h : convAct o = .ok a) (hk : a.kind = .backward) :
    ∃ b, a.n1 = some b ∧ b < a.n0 :=
  ((convAct_shape_rv o a h).1 (Or.inr hk)).imp fun _ hb => ⟨hb.1, hb.2 hk⟩

theorem convAct_storage_rv (o : Ops.Op) (a : CAct) (h : convAct o = .ok a) (hk : a.kind ≠ .forward)
    (hk' : a.kind ≠ .backward) : ∃ st, a.storage = some st :=
  (convAct_shape_rv o a h).2.1 hk hk'

theorem convAct_storage_wf_rv (o : Ops.Op) (a : CAct) (h : convAct o = .ok a)
    (hk : a.kind = .writeForward ∨ a.kind = .writeForwardMemory ∨ a.kind = .discardForward ∨
      a.kind = .discardForwardMemory) : a.storage = some .work :=
  (convAct_shape_rv o a h).2.2 hk

abbrev GenSt_rv := Int × Int × Option StorageType × Bool × Bool × Int × Int × List PyEv × List (Option StorageType × Int)

/-- the state tuple of the generated loop for the twin's state `s` at index `i` -/
def stTup_rv (s : ConvSt) (i : Nat) : GenSt_rv :=
  ((s.n : Int), ((s.wN0.getD 0 : Nat) : Int), s.wStorage.map stPy, s.writeIcs, s.adjDeps, (s.r : Int), (i : Int),
    s.out.map (fun e => evPy e false), setPy_rv s.snapshots)

/-- one iteration of the generated loop does what one `convStep` of the twin does -/
def StepOK_rv (N : Nat) (ops : List Ops.Op) (LR : List Int) (i : Nat) (s s' : ConvSt) (fuel : Nat) : Prop :=
  revolve_iterator.while1 (ops.map opPy) (some (N : Int)) LR false (fuel + 1) (stTup_rv s i) =
    revolve_iterator.while1 (ops.map opPy) (some (N : Int)) LR false fuel (stTup_rv s' (i + 1)) ∧ s'.snapshots.Nodup

theorem pyIndex_prev_rv (ops : List Ops.Op) (i : Nat) (hi : i < ops.length) :
    pyIndex (ops.map opPy) ((i : Int) - 1) =
      match pyGetPrev ops.toArray i with
      | some o => .ok (opPy o)
      | none => .error .indexError := by
  unfold pyGetPrev
  rcases i with _ | i
  · have hne : ¬ (ops.toArray.size = 0) := by rw [List.size_toArray]; omega
    simp only [if_true, hne, if_false]
    unfold pyIndex
    have h0 : (((0 : Nat) : Int) - 1 < 0) := by omega
    have e : ((0 : Nat) : Int) - 1 + ((ops.map opPy).length : Int) = ((ops.length - 1 : Nat) : Int) := by
      simp; omega
    have h1 : ¬ (((ops.length - 1 : Nat) : Int) < 0) := by omega
    simp only [h0, if_true, e, h1, if_false, Int.toNat_natCast, List.getElem?_map, List.size_toArray,
      List.getElem?_toArray]
    cases ops[ops.length - 1]? <;> rfl
  · have e : (((i + 1 : Nat) : Int) - 1) = (i : Int) := by omega
    rw [e, pyIndex_map_nat_rv]
    simp

theorem pyIndex_ahead_rv (ops : List Ops.Op) (i : Nat) :
    pyIndex (ops.map opPy) ((i : Int) + 3) =
      match ops.toArray[i + 3]? with
      | some o => .ok (opPy o)
      | none => .error .indexError := by
  have e : ((i : Int) + 3) = ((i + 3 : Nat) : Int) := by omega
  rw [e, pyIndex_map_nat_rv]
  simp

/-! ## when `convBody` succeeds -/

/-- the shape of the end of the `Forward` branch: `if … then (if … then raise else x) else y` succeeds -/
theorem ok_of_ite_ite {α ε : Type} {c1 c2 : Prop} [Decidable c1] [Decidable c2] {e : ε} {x y z : α}
    (h : (if c1 then (if c2 then Except.error e else .ok x) else .ok y) = Except.ok z) :
    (c1 → ¬ c2) ∧ z = if c1 then x else y := by
  split_ifs at h with h1 h2
  · exact ⟨fun _ => h2, by rw [if_pos h1]; exact (Except.ok.inj h).symm⟩
  · exact ⟨fun h => absurd h h1, by rw [if_neg h1]; exact (Except.ok.inj h).symm⟩

section body
variable {N : Nat} {prev ahead : Option Ops.Op} {cur : Ops.Op} {isLast early : Bool} {s s' : ConvSt} {a : CAct}

theorem convBody_write_ok (hc : convAct cur = .ok a) (hk : a.kind.isWrite = true)
    (h : convBody N prev cur ahead isLast early s = .ok s') : a.n0 = s.n ∧ s' = s := by
  unfold convBody at h
  cases hk' : a.kind <;> simp only [hk', OpKind.isWrite, Bool.false_eq_true] at hk <;> simp only [hc, hk'] at h <;>
    exact ⟨not_not.mp (ok_of_ite_error h).1, (Except.ok.inj (ok_of_ite_error h).2).symm⟩

theorem convBody_discard_ok (hc : convAct cur = .ok a) (hk : a.kind = .discard ∨ a.kind = .discardMemory)
    (h : convBody N prev cur ahead isLast early s = .ok s') : early = false ∧ s' = s := by
  unfold convBody at h
  rcases hk with hk | hk <;> simp only [hc, hk] at h <;>
    exact ⟨(Bool.not_eq_true _).mp (ok_of_ite_error h).1, (Except.ok.inj (ok_of_ite_error h).2).symm⟩

theorem convBody_discardForward_ok (hc : convAct cur = .ok a)
    (hk : a.kind = .discardForward ∨ a.kind = .discardForwardMemory)
    (h : convBody N prev cur ahead isLast early s = .ok s') : a.n0 = s.n ∧ s' = s := by
  unfold convBody at h
  rcases hk with hk | hk <;> simp only [hc, hk] at h <;>
    exact ⟨not_not.mp (ok_of_ite_error h).1, (Except.ok.inj (ok_of_ite_error h).2).symm⟩

theorem convBody_discardDisk (hc : convAct cur = .ok a) (hk : a.kind = .discardDisk) :
    convBody N prev cur ahead isLast early s ≠ .ok s' := by
  unfold convBody
  simp only [hc, hk]
  exact fun h => by cases h

theorem convBody_backward_ok (hc : convAct cur = .ok a) (hk : a.kind = .backward)
    (h : convBody N prev cur ahead isLast early s = .ok s') :
    a.n0 = s.n ∧ a.n0 = N - s.r ∧ s' = ({ s with r := s.r + 1 }).yield (.reverse a.n0 (a.n1.getD 0) true) := by
  unfold convBody at h
  simp only [hc, hk] at h
  obtain ⟨c1, h⟩ := ok_of_ite_error h
  obtain ⟨c2, h⟩ := ok_of_ite_error h
  exact ⟨not_not.mp c1, not_not.mp c2, (Except.ok.inj h).symm⟩

theorem convBody_read_ok (hc : convAct cur = .ok a) (hk : a.kind.isRead = true)
    (h : convBody N prev cur ahead isLast early s = .ok s') :
    if isLast = true then (a.storage, a.n0) ∈ s.snapshots ∧
        s' = ({ s with n := a.n0, snapshots := s.snapshots.filter (· ≠ (a.storage, a.n0)) }).yield
          (.move a.n0 (a.storage.getD .none) .work)
    else s' = ({ s with n := a.n0 }).yield (.copy a.n0 (a.storage.getD .none) .work) := by
  unfold convBody at h
  cases hk' : a.kind <;> simp only [hk', OpKind.isRead, Bool.false_eq_true] at hk <;> simp only [hc, hk'] at h <;>
    (cases isLast <;> simp only [Bool.false_eq_true, if_false, if_true] at h ⊢
     · exact (Except.ok.inj h).symm
     · obtain ⟨c, h⟩ := ok_of_ite_error h
       exact ⟨by simpa using c, (Except.ok.inj h).symm⟩)

/-- the state after a `Forward` to `b` has analysed its predecessor `w` (`w_cp_action, (w_n0, _, w_storage)`) -/
def fwdSt (s : ConvSt) (b : Nat) (w : CAct) : ConvSt :=
  if w.kind.isWrite then
    { s with n := b, wN0 := some w.n0, wStorage := w.storage, writeIcs := true, adjDeps := false,
             snapshots := if s.snapshots.contains (w.storage, w.n0) then s.snapshots
                          else (w.storage, w.n0) :: s.snapshots }
  else if w.kind = .writeForward ∨ w.kind = .writeForwardMemory then
    { s with n := b, wN0 := some w.n0, wStorage := w.storage, writeIcs := false, adjDeps := true }
  else { s with n := b, wN0 := some w.n0, wStorage := some .work, writeIcs := false, adjDeps := false }

theorem fwdSt_nodup (s : ConvSt) (b : Nat) (w : CAct) (h : s.snapshots.Nodup) : (fwdSt s b w).snapshots.Nodup := by
  unfold fwdSt
  split
  · exact nodup_add_rv _ _ h
  · split <;> exact h

/-- `yield Forward(n0, b, write_ics, adj_deps, w_storage)` -/
def fwdYield (n0 b : Nat) (t : ConvSt) : ConvSt :=
  t.yield (.forward n0 b t.writeIcs t.adjDeps (t.wStorage.getD .none))

theorem snapshots_fwdYield (n0 b N : Nat) (t : ConvSt) :
    (if b = N then (fwdYield n0 b t).yield .endForward else fwdYield n0 b t).snapshots = t.snapshots := by
  split <;> rfl

/-- the generated tuple after the `Forward` branch: `_n`, the pending write and its flags are those of `fwdSt`, the output
gains the `Forward` event (and `EndForward` at `b = N`) -/
theorem stTup_fwdYield (s : ConvSt) (n0 b N : Nat) (w : CAct) (j : Nat) :
    stTup_rv (if b = N then (fwdYield n0 b (fwdSt s b w)).yield .endForward else fwdYield n0 b (fwdSt s b w)) j =
      ((b : Int), (w.n0 : Int), (fwdSt s b w).wStorage.map stPy, (fwdSt s b w).writeIcs, (fwdSt s b w).adjDeps, (s.r : Int),
        (j : Int),
        s.out.map (fun e => evPy e false) ++
          [evPy ⟨.forward n0 b (fwdSt s b w).writeIcs (fwdSt s b w).adjDeps ((fwdSt s b w).wStorage.getD .none), b, s.r⟩ false]
          ++ (if b = N then [evPy ⟨.endForward, b, s.r⟩ false] else []),
        setPy_rv (fwdSt s b w).snapshots) := by
  have hn : (fwdSt s b w).n = b := by unfold fwdSt; split_ifs <;> rfl
  have hw : (fwdSt s b w).wN0 = some w.n0 := by unfold fwdSt; split_ifs <;> rfl
  have hr : (fwdSt s b w).r = s.r := by unfold fwdSt; split_ifs <;> rfl
  have ho : (fwdSt s b w).out = s.out := by unfold fwdSt; split_ifs <;> rfl
  by_cases c : b = N
  · subst c
    simp only [↓reduceIte, stTup_rv, fwdYield, ConvSt.yield, hn, hw, hr, ho, Option.getD_some, List.map_append,
      List.map_cons, List.map_nil]
  · simp only [c, ↓reduceIte, stTup_rv, fwdYield, ConvSt.yield, hn, hw, hr, ho, Option.getD_some, List.map_append,
      List.map_cons, List.map_nil, List.append_nil]

theorem convBody_forward_ok (hc : convAct cur = .ok a) (hk : a.kind = .forward)
    (h : convBody N prev cur ahead isLast early s = .ok s') :
    ∃ b p w, a.n1 = some b ∧ a.n0 = s.n ∧ prev = some p ∧ convAct p = .ok w ∧
      (w.kind.isWrite = true → w.n0 = a.n0) ∧
      (w.kind.isWrite = false → w.kind = .writeForward ∨ w.kind = .writeForwardMemory → w.n0 = b) ∧
      (b = N → s.r = 0) ∧
      s' = if b = N then (fwdYield a.n0 b (fwdSt s b w)).yield .endForward else fwdYield a.n0 b (fwdSt s b w) := by
  obtain ⟨b, hb⟩ := convAct_n1_rv _ _ hc (Or.inl hk)
  unfold convBody at h
  simp only [hc, hk, hb, Option.getD_some] at h
  obtain ⟨c0, h⟩ := ok_of_ite_error h
  cases hp : prev with
  | none => simp only [hp] at h; cases h
  | some p =>
    simp only [hp] at h
    cases hw : convAct p with
    | error e => simp only [hw] at h; cases h
    | ok w =>
      simp only [hw, ConvSt.yield] at h
      refine ⟨b, p, w, hb, not_not.mp c0, rfl, hw, ?_⟩
      simp only [fwdSt, fwdYield, ConvSt.yield]
      cases hiw : w.kind.isWrite <;> simp only [hiw, Bool.false_eq_true, if_false, if_true] at h ⊢
      · by_cases hwf : w.kind = .writeForward ∨ w.kind = .writeForwardMemory <;>
          simp only [hwf, if_true, if_false] at h ⊢
        · obtain ⟨c1, h⟩ := ok_of_ite_error h
          obtain ⟨h1, rfl⟩ := ok_of_ite_ite h
          exact ⟨nofun, fun _ _ => not_not.mp c1, fun e => not_not.mp (h1 e), rfl⟩
        · obtain ⟨h1, rfl⟩ := ok_of_ite_ite h
          exact ⟨nofun, nofun, fun e => not_not.mp (h1 e), rfl⟩
      · obtain ⟨c1, h⟩ := ok_of_ite_error h
        obtain ⟨h1, rfl⟩ := ok_of_ite_ite h
        exact ⟨fun _ => not_not.mp c1, nofun, fun e => not_not.mp (h1 e), rfl⟩

/-- the `Discard_Forward*` that closes a `Write_Forward*` -/
def dfKind (k : OpKind) : OpKind := if k = .writeForward then .discardForward else .discardForwardMemory

theorem convBody_writeForward_ok (hc : convAct cur = .ok a)
    (hk : a.kind = .writeForward ∨ a.kind = .writeForwardMemory)
    (h : convBody N prev cur ahead isLast early s = .ok s') :
    a.n0 = s.n + 1 ∧ ∃ nxt d, ahead = some nxt ∧ convAct nxt = .ok d ∧
      if d.kind = dfKind a.kind ∧ d.n0 = a.n0 ∧ d.storage = a.storage then s' = { s with wStorage := d.storage }
      else s.wN0 = some a.n0 ∧
        s' = if a.kind = .writeForward then { s with wStorage := d.storage, writeIcs := true, adjDeps := false }
             else { s with wStorage := d.storage } := by
  unfold convBody at h
  rcases hk with hk | hk <;> simp only [hc, hk] at h <;>
    (obtain ⟨c1, h⟩ := ok_of_ite_error h
     cases hn : ahead with
     | none => simp only [hn] at h; cases h
     | some nxt =>
       simp only [hn] at h
       cases hd : convAct nxt with
       | error e => simp only [hd] at h; cases h
       | ok d =>
         simp only [hd] at h
         refine ⟨not_not.mp c1, nxt, d, rfl, hd, ?_⟩
         simp only [hk, dfKind, reduceCtorEq, if_true, if_false]
         by_cases cm : d.kind = dfKind a.kind ∧ d.n0 = a.n0 ∧ d.storage = a.storage
         all_goals simp only [hk, dfKind, reduceCtorEq, if_true, if_false] at cm
         · rw [if_pos cm]
           rw [if_neg (fun hn => (not_and_or.trans (or_congr_right not_and_or)).mpr hn cm)] at h
           exact (Except.ok.inj h).symm
         · rw [if_neg cm]
           rw [if_pos ((not_and_or.trans (or_congr_right not_and_or)).mp cm)] at h
           cases hw : s.wN0 with
           | none => simp only [hw] at h; cases h
           | some wn0 =>
             simp only [hw] at h
             obtain ⟨c2, h⟩ := ok_of_ite_error h
             exact ⟨by rw [not_not.mp c2], (Except.ok.inj h).symm⟩)
end body

section step
variable (N : Nat) (ops : List Ops.Op) (lastR : List Nat) (LR : List Int)

/-- one iteration of the generated loop = one `convStep` of the twin (whenever the twin does not raise).  The loop is
unrolled and `schedule[i]`, `_convert_action` are evaluated once; the generated text then compares `cp_action` with the
names; for each kind the success of the twin's `convBody` gives the outcome of every test on the way. -/
theorem conv_step_sim_rv (hLR : ∀ j : Nat, ((j : Int) ∈ LR) ↔ j ∈ lastR) (i : Nat) (hi : i < ops.length) (s s' : ConvSt)
    (hnd : s.snapshots.Nodup) (h : convStep N ops.toArray lastR i s = .ok s') (fuel : Nat) :
    StepOK_rv N ops LR i s s' fuel := by
  have hget : ops.toArray.getD i default = ops[i] := by simp [hi]
  have hidx : pyIndex (ops.map opPy) (i : Int) = .ok (opPy ops[i]) := by
    rw [pyIndex_map_nat_rv]; simp [hi]
  have hcast : ((i : Int) + 1) = ((i + 1 : Nat) : Int) := by push_cast; rfl
  have hi' : (i : Int) < ((ops.map opPy).length : Int) := by simp; omega
  unfold convStep at h
  rw [hget] at h
  cases hc : convAct ops[i] with
  | error e => unfold convBody at h; rw [hc] at h; cases h
  | ok a =>
  unfold StepOK_rv
  rw [revolve_iterator.while1]
  simp only [stTup_rv, bind, Except.bind, pure, Except.pure]
  simp only [hi', ↓reduceIte, hidx]
  simp only [convert_action_refines, hc]
  have hak := Ops.convAct_kind _ _ hc
  cases hk : ops[i].kind <;> rw [hk] at hak <;>
    simp only [cactPy, hak, opKindStr, String.reduceEq, ↓reduceIte, or_true, or_false]
  case write | writeDisk | writeMemory =>
    obtain ⟨c1, rfl⟩ := convBody_write_ok hc (by rw [hak]; rfl) h
    rw [if_neg (not_not.mpr (congrArg Nat.cast c1)), hcast]
    exact ⟨rfl, hnd⟩
  case discardForward | discardForwardMemory =>
    obtain ⟨c1, rfl⟩ := convBody_discardForward_ok hc (by simp [hak]) h
    rw [if_neg (not_not.mpr (congrArg Nat.cast c1)), hcast]
    exact ⟨rfl, hnd⟩
  case discard | discardMemory =>
    obtain ⟨c1, rfl⟩ := convBody_discard_ok hc (by simp [hak]) h
    have c1' : ¬ ((i : Int) < 2) := by have := of_decide_eq_false c1; omega
    refine ⟨?_, hnd⟩
    simp only [eq_false c1', ↓reduceIte, hcast]
  case discardDisk => exact absurd h (convBody_discardDisk hc hak)
  case backward =>
    obtain ⟨c1, c2, rfl⟩ := convBody_backward_ok hc hak h
    obtain ⟨b, hb, hlt⟩ := convAct_backward_rv _ _ hc hak
    have c1' : (a.n0 : Int) = (s.n : Int) := by omega
    have c2' : (a.n0 : Int) = (N : Int) - (s.r : Int) := by omega
    simp only [eq_true c1', eq_true c2', ne_eq, not_true_eq_false, ↓reduceIte, hb, unwrap, pure, Except.pure,
      Option.map_some, Option.getD_some, hcast]
    exact ⟨by simp only [Nat.cast_add, Nat.cast_one, evPy, actPy, ConvSt.yield, List.map_append, List.map_cons, List.map_nil], hnd⟩
  case read | readMemory | readDisk =>
    have hr := convBody_read_ok hc (by rw [hak]; rfl) h
    obtain ⟨st, hst⟩ := convAct_storage_rv _ _ hc (by rw [hak]; simp) (by rw [hak]; simp)
    have hp2 : (Option.map stPy a.storage, (a.n0 : Int)) = pairPy_rv (a.storage, a.n0) := rfl
    simp only [hcast, hp2, pySetRemove_setPy_rv _ _ hnd, hLR, unwrap, pure, Except.pure]
    simp only [hst, Option.map_some, Option.getD_some] at hr ⊢
    by_cases c1 : i ∈ lastR
    · rw [if_pos (by simpa using c1)] at hr
      obtain ⟨c2, rfl⟩ := hr
      simp only [eq_true c1, eq_true c2, ↓reduceIte]
      exact ⟨by simp only [evPy, actPy, stPy, ne_eq, decide_not, ConvSt.yield, List.map_append, List.map_cons, List.map_nil],
        hnd.filter _⟩
    · rw [if_neg (by simpa using c1)] at hr
      subst hr
      simp only [eq_false c1, ↓reduceIte]
      exact ⟨by simp only [evPy, actPy, stPy, ConvSt.yield, List.map_append, List.map_cons, List.map_nil], hnd⟩
  case forward =>
    obtain ⟨b, p, w, hb, c0, hp, hw, hw1, hw2, hfin, hs'⟩ := convBody_forward_ok hc hak h
    have c0' : (a.n0 : Int) = (s.n : Int) := by omega
    simp only [eq_true c0', ne_eq, not_true_eq_false, ↓reduceIte, hb, Option.map_some, unwrap, pure, Except.pure,
      pyIndex_prev_rv ops i hi, hp, convert_action_refines, hw, cactPy, opKindStr_isWriteB_rv, opKindStr_writeForward_rv,
      opKindStr_writeForwardMemory_rv, hcast]
    subst hs'
    refine ⟨?_, by rw [snapshots_fwdYield]; exact fwdSt_nodup s b w hnd⟩
    show _ = revolve_iterator.while1 _ _ _ _ fuel (stTup_rv _ (i + 1))
    rw [stTup_fwdYield]
    have c3 : b = N → ((s.r : Nat) : Int) = 0 := fun e => by rw [hfin e]; rfl
    cases hiw : w.kind.isWrite
    · by_cases hwf : w.kind = .writeForward ∨ w.kind = .writeForwardMemory
      · have c1 : (w.n0 : Int) = (b : Int) := congrArg _ (hw2 hiw hwf)
        have hst := convAct_storage_wf_rv _ _ hw (hwf.elim Or.inl fun e => Or.inr (Or.inl e))
        simp only [hwf, Bool.false_eq_true, ↓reduceIte, eq_true c1, not_true_eq_false, hst, Option.map_some]
        by_cases c2 : b = N
        · simp only [c2, eq_true (c3 c2), not_true_eq_false, ↓reduceIte]
          simp only [stPy, evPy, actPy, c0, ↓reduceIte, fwdSt, hiw, Bool.false_eq_true, hwf, hst, Option.getD_some,
            Option.map_some]
        · have c2' : ¬ ((b : Int) = (N : Int)) := by omega
          simp only [c2, c2', ↓reduceIte]
          simp only [stPy, evPy, actPy, c0, ↓reduceIte, fwdSt, hiw, Bool.false_eq_true, hwf, hst, Option.getD_some,
            Option.map_some, List.append_nil]
      · simp only [hwf, Bool.false_eq_true, ↓reduceIte]
        by_cases c2 : b = N
        · simp only [c2, eq_true (c3 c2), not_true_eq_false, ↓reduceIte]
          simp only [stPy, evPy, actPy, c0, ↓reduceIte, fwdSt, hiw, Bool.false_eq_true, hwf, Option.getD_some,
            Option.map_some]
        · have c2' : ¬ ((b : Int) = (N : Int)) := by omega
          simp only [c2, c2', ↓reduceIte]
          simp only [stPy, evPy, actPy, c0, ↓reduceIte, fwdSt, hiw, Bool.false_eq_true, hwf, Option.getD_some,
            Option.map_some, List.append_nil]
    · obtain ⟨st, hst⟩ := convAct_storage_rv _ _ hw (by intro hh; rw [hh] at hiw; cases hiw)
        (by intro hh; rw [hh] at hiw; cases hiw)
      have c1 : (w.n0 : Int) = (a.n0 : Int) := congrArg _ (hw1 hiw)
      have hp2 : (Option.map stPy w.storage, (w.n0 : Int)) = pairPy_rv (w.storage, w.n0) := rfl
      simp only [↓reduceIte, eq_true c1, not_true_eq_false, hp2, setPy_add_rv]
      simp only [hst, Option.map_some]
      by_cases c2 : b = N
      · simp only [c2, eq_true (c3 c2), not_true_eq_false, ↓reduceIte]
        simp only [stPy, evPy, actPy, c0, ↓reduceIte, List.contains_eq_mem, decide_eq_true_eq, fwdSt, hiw, hst,
          Option.getD_some, Option.map_some]
      · have c2' : ¬ ((b : Int) = (N : Int)) := by omega
        simp only [c2, c2', ↓reduceIte]
        simp only [stPy, evPy, actPy, c0, ↓reduceIte, List.contains_eq_mem, decide_eq_true_eq, fwdSt, hiw, hst,
          Option.getD_some, Option.map_some, List.append_nil]
  case writeForward | writeForwardMemory =>
    obtain ⟨c1, nxt, d, hn, hd, hres⟩ := convBody_writeForward_ok hc (by simp [hak]) h
    have c1' : (a.n0 : Int) = (s.n : Int) + 1 := by omega
    have hsta := convAct_storage_wf_rv _ _ hc (by simp [hak])
    simp only [eq_true c1', ne_eq, not_true_eq_false, ↓reduceIte, pyIndex_ahead_rv, hn, convert_action_refines, hd, cactPy,
      opKindStr_discardForward_rv, opKindStr_discardForwardMemory_rv, hsta, Option.map_some, unwrap, hcast]
    simp only [hak, dfKind, reduceCtorEq, ↓reduceIte] at hres
    split_ifs at hres with cm
    · obtain ⟨m1, m2, m3⟩ := cm
      have m2' : (d.n0 : Int) = (a.n0 : Int) := congrArg _ m2
      subst hres
      refine ⟨?_, hnd⟩
      simp only [m1, eq_true m2', m3, hsta, not_true_eq_false, ↓reduceIte, Option.map_some, pure, Except.pure,
        decide_false, Bool.false_eq_true]
    · obtain ⟨hw0, rfl⟩ := hres
      have hw0' : ((s.wN0.getD 0 : Nat) : Int) = (a.n0 : Int) := by rw [hw0]; rfl
      refine ⟨?_, hnd⟩
      by_cases m1 : d.kind = dfKind a.kind
      · have hstd := convAct_storage_wf_rv _ _ hd (by rw [m1, dfKind, hak]; simp)
        simp only [hak, dfKind, reduceCtorEq, ↓reduceIte] at m1
        have m2 : ¬ ((d.n0 : Int) = (a.n0 : Int)) := fun e => cm ⟨m1, by omega, hstd.trans hsta.symm⟩
        simp only [m1, m2, not_true_eq_false, not_false_eq_true, ↓reduceIte, eq_true hw0']
      · simp only [hak, dfKind, reduceCtorEq, ↓reduceIte] at m1
        simp only [m1, not_false_eq_true, ↓reduceIte, eq_true hw0', not_true_eq_false]

theorem while1_exit_rv (s : ConvSt) (fuel : Nat) :
    revolve_iterator.while1 (ops.map opPy) (some (N : Int)) LR false (fuel + 1) (stTup_rv s ops.length) =
      .ok (stTup_rv s ops.length) := by
  rw [stTup_rv, revolve_iterator.while1]
  have hc : ¬ ((ops.length : Int) < ((ops.map opPy).length : Int)) := by simp
  simp only [hc, ↓reduceIte]
  rfl

/-- the whole loop: `convLoop` of the twin from index `i` on, with `k` iterations left -/
theorem while1_sim_rv (hLR : ∀ j : Nat, ((j : Int) ∈ LR) ↔ j ∈ lastR) :
    ∀ (k i : Nat) (s s' : ConvSt), i + k = ops.length → s.snapshots.Nodup →
      convLoop N ops.toArray lastR k i s = .ok s' → ∀ fuel, k + 1 ≤ fuel →
      revolve_iterator.while1 (ops.map opPy) (some (N : Int)) LR false fuel (stTup_rv s i) =
        .ok (stTup_rv s' ops.length) := by
  intro k
  induction k with
  | zero =>
    intro i s s' hik _ h fuel hf
    rw [convLoop] at h
    injection h with h; subst h
    obtain ⟨f, rfl⟩ : ∃ f, fuel = f + 1 := ⟨fuel - 1, by omega⟩
    have : i = ops.length := by omega
    subst this
    exact while1_exit_rv N ops LR s f
  | succ k ih =>
    intro i s s' hik hnd h fuel hf
    rw [convLoop] at h
    obtain ⟨f, rfl⟩ : ∃ f, fuel = f + 1 := ⟨fuel - 1, by omega⟩
    cases hs : convStep N ops.toArray lastR i s with
    | error e => rw [hs] at h; cases h
    | ok s1 =>
      rw [hs] at h
      obtain ⟨hstep, hnd1⟩ := conv_step_sim_rv N ops lastR LR hLR i (by omega) s s1 hnd hs f
      rw [hstep]
      exact ih (i + 1) s1 s' (by omega) hnd1 h f (by omega)

end step

/-- **`RevolveCheckpointSchedule._iterator`.**  Whenever the twin `convertOps N ops` yields `evs`, the generated
iterator, run on the same operations (as Python `Operation` objects), yields the same events; only the final
`EndReverse` carries `exhausted = true`.  Fuel: one more than the number of operations. -/
theorem revolve_iterator_refines (N : Nat) (ops : List Ops.Op) (evs : List Ev) (h : convertOps N ops = .ok evs)
    (fuel : Nat) (hf : ops.length + 1 ≤ fuel) :
    revolve_iterator fuel 0 0 (some (N : Int)) (ops.map opPy) false =
      .ok (markLast (evs.map (evPy · false))) := by
  unfold convertOps at h
  simp only at h
  cases hl : lastReads ops.toArray with
  | error e => rw [hl] at h; cases h
  | ok lastR =>
    rw [hl] at h
    simp only [List.size_toArray] at h
    cases hloop : convLoop N ops.toArray lastR ops.length 0 ConvSt.init with
    | error e => rw [hloop] at h; cases h
    | ok s =>
      rw [hloop] at h
      simp only at h
      by_cases hsn : s.snapshots.length > 0
      · rw [if_pos hsn] at h; cases h
      rw [if_neg hsn] at h
      injection h with h; subst h
      have hLR : ∀ j : Nat, ((j : Int) ∈ (lastR.map (fun (k : Nat) => (k : Int))).reverse) ↔ j ∈ lastR := by
        intro j
        simp only [List.mem_reverse, List.mem_map, Nat.cast_inj, exists_eq_right]
      have hw := while1_sim_rv N ops lastR _ hLR ops.length 0 ConvSt.init s (by omega) (by simp [ConvSt.init])
        hloop fuel hf
      unfold revolve_iterator
      simp only [bind, Except.bind, pure, Except.pure, reduceCtorEq, ↓reduceIte, last_reads_refines, hl]
      have hinit : ((0 : Int), (default : Int), (none : Option StorageType), false, false, (0 : Int), (0 : Int),
          ([] : List PyEv), ([] : List (Option StorageType × Int))) = stTup_rv ConvSt.init 0 := rfl
      rw [hinit, hw]
      simp only [stTup_rv]
      have hlen : ¬ (((setPy_rv s.snapshots).length : Int) > 0) := by
        simp only [setPy_rv, List.length_reverse, List.length_map]; omega
      simp only [hlen, ↓reduceIte, ConvSt.yield, List.map_append, List.map_cons, List.map_nil]
      rw [markLast_append_ne _ _ (by simp)]
      rfl

/-- non-vacuity: the operation sequence of `Revolve(3, 1)` (with a `Write_memory`, `Read_memory` as copy and as move,
`Write_Forward_memory`/`Discard_Forward_memory`, `Discard_memory`) is converted without an exception -/
example : ∃ evs, convertOps 3 [Op.wm 0, Op.fwd 0 2, Op.wfm 3, Op.fwd 2 3, Op.bwd 3 2, Op.dfm 3, Op.rm 0, Op.fwd 0 1,
    Op.wfm 2, Op.fwd 1 2, Op.bwd 2 1, Op.dfm 2, Op.rm 0, Op.wfm 1, Op.fwd 0 1, Op.bwd 1 0, Op.dfm 1, Op.dm 0]
    = .ok evs := ⟨_, rfl⟩

/-- non-vacuity with hierarchical operations (`HRevolve`, `l = 0`) -/
example : ∃ evs, convertOps 1 [Op.wf 0 1, Op.fwd 0 1, Op.bwd 1 0, Op.df 0 1] = .ok evs := ⟨_, rfl⟩

/-! ## the four classes: the twin's operation sequence fed to the generated iterator yields the stream model -/

/-- Whenever the twin of a sequence generator is a stream `evs`, its operation sequence exists and the generated
`_iterator` run on it yields `evs`. -/
theorem revolve_iterator_twin (N : Nat) (what : String) (o : Option (List Ops.Op)) (evs : List Ev)
    (h : twinOf N what o = .ok evs) :
    ∃ ops, o = some ops ∧ ∀ fuel, ops.length + 1 ≤ fuel →
      revolve_iterator fuel 0 0 (some (N : Int)) (ops.map opPy) false = .ok (markLast (evs.map (evPy · false))) := by
  cases o with
  | none => cases h
  | some ops => exact ⟨ops, rfl, revolve_iterator_refines N ops evs h⟩

/-- **Revolve.**  For all valid parameters the operation sequence `list(revolve(max_n - 1, snapshots_in_ram, …))` of the
twin exists, the stream model `revolveEvs` is defined, and the generated `_iterator` run on that sequence yields
exactly the stream model's events. -/
theorem revolve_iterator_revolve (N cm : Nat) (c : Costs) (hN : 1 ≤ N) (hcm : 1 ≤ cm) :
    ∃ ops evs, revolveOpsTop N cm c = some ops ∧ revolveEvs N cm c = .ok evs ∧
      ∀ fuel, ops.length + 1 ≤ fuel →
        revolve_iterator fuel 0 0 (some (N : Int)) (ops.map opPy) false =
          .ok (markLast (evs.map (evPy · false))) := by
  obtain ⟨evs0, _, hev, _⟩ := revolve_clean N cm c hN hcm
  obtain ⟨ops, hops, hrun⟩ := revolve_iterator_twin N _ _ _ ((twin_revolve N cm c hN hcm).trans hev)
  exact ⟨ops, _, hops, hev, hrun⟩

/-- **DiskRevolve.** -/
theorem revolve_iterator_diskRevolve (N cm : Nat) (c : Costs) (hN : 1 ≤ N) (hcm : 1 ≤ cm) :
    ∃ ops evs, diskRevolveOpsTop N cm c = some ops ∧ diskRevolveEvs N cm c = .ok evs ∧
      ∀ fuel, ops.length + 1 ≤ fuel →
        revolve_iterator fuel 0 0 (some (N : Int)) (ops.map opPy) false =
          .ok (markLast (evs.map (evPy · false))) := by
  obtain ⟨evs0, _, hev, _⟩ := diskRevolve_clean N cm c hN hcm
  obtain ⟨ops, hops, hrun⟩ := revolve_iterator_twin N _ _ _ ((twin_diskRevolve N cm c hN hcm).trans hev)
  exact ⟨ops, _, hops, hev, hrun⟩

/-- **PeriodicDiskRevolve.** -/
theorem revolve_iterator_periodic (N cm : Nat) (c : Costs) (hN : 1 ≤ N) (hcm : 1 ≤ cm) (huf : 0 < c.uf) :
    ∃ ops evs, periodicOpsTop N cm c = some ops ∧ periodicEvs N cm c = .ok evs ∧
      ∀ fuel, ops.length + 1 ≤ fuel →
        revolve_iterator fuel 0 0 (some (N : Int)) (ops.map opPy) false =
          .ok (markLast (evs.map (evPy · false))) := by
  obtain ⟨evs0, _, hev, _⟩ := periodic_clean N cm c hN hcm huf
  obtain ⟨ops, hops, hrun⟩ := revolve_iterator_twin N _ _ _ ((twin_periodic N cm c hN hcm huf).trans hev)
  exact ⟨ops, _, hops, hev, hrun⟩

/-- **HRevolve.** -/
theorem revolve_iterator_hrevolve (N c0 c1 : Nat) (c : Costs) (hN : 1 ≤ N) (hc0 : 1 ≤ c0) :
    ∃ ops evs, hrevolveOpsTop N c0 c1 c = some ops ∧ hrevolveEvs N c0 c1 c = .ok evs ∧
      ∀ fuel, ops.length + 1 ≤ fuel →
        revolve_iterator fuel 0 0 (some (N : Int)) (ops.map opPy) false =
          .ok (markLast (evs.map (evPy · false))) := by
  obtain ⟨evs0, _, hev, _⟩ := hrevolve_clean N c0 c1 c hN hc0
  obtain ⟨ops, hops, hrun⟩ := revolve_iterator_twin N _ _ _ ((twin_hrevolve N c0 c1 c hN hc0).trans hev)
  exact ⟨ops, _, hops, hev, hrun⟩

/-- without the existence statements: whatever the stream model is, if the twin's stage 1 gives `ops` and the stream
model gives `evs`, the generated iterator on `ops` gives `evs` -/
theorem revolve_iterator_revolve_of (N cm : Nat) (c : Costs) (hN : 1 ≤ N) (hcm : 1 ≤ cm) (ops : List Ops.Op) (evs : List Ev)
    (hops : revolveOpsTop N cm c = some ops) (hev : revolveEvs N cm c = .ok evs) (fuel : Nat)
    (hf : ops.length + 1 ≤ fuel) :
    revolve_iterator fuel 0 0 (some (N : Int)) (ops.map opPy) false = .ok (markLast (evs.map (evPy · false))) := by
  have ht : twinOf N "revolve" (revolveOpsTop N cm c) = .ok evs := (twin_revolve N cm c hN hcm).trans hev
  rw [hops] at ht
  exact revolve_iterator_refines N ops _ ht fuel hf

/-- non-vacuity of the hypotheses of the four corollaries -/
example : (1 : Nat) ≤ 3 ∧ (1 : Nat) ≤ 2 ∧ 0 < (⟨1, 1, 1, 1⟩ : Costs).uf := by decide

example := revolve_iterator_revolve 3 2 ⟨1, 1, 1, 1⟩ (by decide) (by decide)
example := revolve_iterator_diskRevolve 3 2 ⟨1, 1, 1, 1⟩ (by decide) (by decide)
example := revolve_iterator_periodic 3 2 ⟨1, 1, 1, 1⟩ (by decide) (by decide) (by decide)
example := revolve_iterator_hrevolve 3 2 1 ⟨1, 1, 1, 1⟩ (by decide) (by decide)

end Ckpt.Py

#print axioms Ckpt.Py.convert_action_refines
#print axioms Ckpt.Py.last_reads_refines
#print axioms Ckpt.Py.revolve_iterator_refines
#print axioms Ckpt.Py.revolve_iterator_revolve
#print axioms Ckpt.Py.revolve_iterator_diskRevolve
#print axioms Ckpt.Py.revolve_iterator_periodic
#print axioms Ckpt.Py.revolve_iterator_hrevolve
