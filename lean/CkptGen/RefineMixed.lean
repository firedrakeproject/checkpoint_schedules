import CkptGen.RefineNAdv
import CkptVerif.Proofs.MixedDP
import Mathlib.Tactic
/-!
# The Lean text generated from `mixed_step_memoization` / `optimal_steps_mixed` (mixed.py) computes the models
-/
namespace Ckpt.Py
open Ckpt

/-- inverse of `StepType.toInt` on `0..6` -/
def stepTypeOfNat : Nat → StepType
  | 1 => .forward
  | 2 => .forward_reverse
  | 3 => .write_adj_deps
  | 4 => .write_ics
  | 5 => .read_adj_deps
  | 6 => .read_ics
  | _ => .none

theorem stepTypeOfNat_toInt (t : StepType) : stepTypeOfNat t.toInt.toNat = t := by
  cases t <;> rfl

theorem toInt_stepTypeOfNat (k : Nat) (hk : k ≤ 6) : (stepTypeOfNat k).toInt = (k : Int) := by
  interval_cases k <;> rfl

/-- a model cell as the Python tuple `(StepType, int, int)` -/
def cellTuple (c : Cell) : StepType × Int × Int := (stepTypeOfNat c.kind, (c.len : Int), (c.cost : Int))

theorem memoSpec_valid (n s : Nat) (h : validKey n (clampS n s) = true) :
    memoSpec n s = some (memoCell n (clampS n s)) := by
  show (if validKey n (clampS n s) = true then some (memoCell n (clampS n s)) else none) = _
  rw [if_pos h]

theorem memoSpec_invalid (n s : Nat) (h : ¬ validKey n (clampS n s) = true) :
    memoSpec n s = none := by
  show (if validKey n (clampS n s) = true then some (memoCell n (clampS n s)) else none) = _
  rw [if_neg h]

/-- the cost candidates of the model's loop -/
abbrev mcand (n s : Nat) : Nat → Nat := splitCand n s (fun i j => (memoCell i j).cost)

/-- the guard of `cache_step` and of the function body: every key it rejects is a `ValueError` -/
theorem mixed_step_memoization_guard (n s : Int) (fuel : Nat)
    (h : n ≤ 0 ∨ min s (n - 1) < min 1 (n - 1) ∨ min s (n - 1) > n - 1) :
    mixed_step_memoization (fuel + 1) n s = .error .valueError := by
  by_cases h0 : n ≤ 0
  · simp only [mixed_step_memoization, ↓reduceIte, h0]; rfl
  · have := h.resolve_left h0
    simp only [mixed_step_memoization, ↓reduceIte, h0, this]; rfl

theorem optimal_steps_mixed_guard (n s : Int) (fuel : Nat)
    (h : n ≤ 0 ∨ min s (n - 1) < min 1 (n - 1) ∨ min s (n - 1) > n - 1) :
    optimal_steps_mixed (fuel + 1) n s = .error .valueError := by
  by_cases h0 : n ≤ 0
  · simp only [optimal_steps_mixed, ↓reduceIte, h0]; rfl
  · have := h.resolve_left h0
    simp only [optimal_steps_mixed, ↓reduceIte, h0, this]; rfl

theorem memo_main (n : Nat) : ∀ (s fuel : Nat), n + 1 ≤ fuel →
    mixed_step_memoization fuel (n : Int) (s : Int) = ofOpt cellTuple (memoSpec n s) := by
  induction n using Nat.strongRecOn with
  | ind n ih =>
  intro s fuel hf
  obtain ⟨f, rfl⟩ := Nat.exists_eq_add_one_of_ne_zero (Nat.ne_of_gt (Nat.lt_of_lt_of_le n.succ_pos hf))
  have hfn : n ≤ f := Nat.le_of_succ_le_succ hf
  by_cases hv : validKey n (clampS n s) = true
  swap
  · rw [memoSpec_invalid n s hv, mixed_step_memoization_guard _ _ f (guard_of_invalid n s hv)]; rfl
  obtain ⟨g0, hmin, g1⟩ := guard_of_valid n s hv
  rw [memoSpec_valid n s hv, memoCell_eq, memoF_def]
  obtain ⟨hn1, hlo, -⟩ := (validKey_iff _ _).1 hv
  generalize clampS n s = s' at *
  -- the three closed forms, each decided before the generated text is evaluated
  by_cases h1 : n ≤ 1
  · have c1 := eq_true (show (n : Int) = 1 by exact_mod_cast Nat.le_antisymm h1 hn1)
    rw [if_pos h1]
    simp only [mixed_step_memoization, ↓reduceIte, pure, Except.pure, g0, hmin, g1, c1]; rfl
  have c1 : ¬ (n : Int) = 1 := by exact_mod_cast Nat.ne_of_gt (Nat.lt_of_not_le h1)
  by_cases h2 : n ≤ s' + 1
  · have c2 : (n : Int) ≤ (s' : Int) + 1 := by exact_mod_cast h2
    rw [if_neg h1, if_pos h2]
    simp only [mixed_step_memoization, ↓reduceIte, pure, Except.pure, g0, hmin, g1, c1, c2]; rfl
  have c2 : ¬ (n : Int) ≤ (s' : Int) + 1 := by exact_mod_cast h2
  by_cases h3 : s' = 1
  · have c3 := eq_true (show (s' : Int) = 1 by exact_mod_cast h3)
    have e1 : (n : Int) - 1 = ((n - 1 : Nat) : Int) := by rw [Nat.cast_sub hn1, Nat.cast_one]
    have e2 : ((n * (n + 1) / 2 : Nat) : Int) - 1 = ((n * (n + 1) / 2 - 1 : Nat) : Int) := by
      rw [Nat.cast_sub (triangle_pos n hn1), Nat.cast_one]
    rw [if_neg h1, if_neg h2, if_pos h3]
    simp only [mixed_step_memoization, ↓reduceIte, bind, Except.bind, pure, Except.pure, g0, hmin, g1, c1, c2, c3,
      floordiv_cast (x := (n : Int) * ((n : Int) + 1)) (y := 2) (n * (n + 1)) 2 (by push_cast; rfl) rfl two_ne_zero]
    rw [e1, e2]; rfl
  have c3 : ¬ (s' : Int) = 1 := by exact_mod_cast h3
  rw [if_neg h1, if_neg h2, if_neg h3]
  unfold mixed_step_memoization
  simp only [↓reduceIte, bind, Except.bind, pure, Except.pure, g0, hmin, g1, c1, c2, c3]
  clear g0 hmin g1 c1 c2 c3
  have hs2 : 2 ≤ s' := by omega
  have hn : s' + 1 < n := Nat.lt_of_not_le h2
  have h1n : 1 < n := (Nat.le_add_left 1 s').trans_lt hn
  clear hlo h1 h2 h3
  have hL : ∀ x, 2 ≤ x → x < n →
      mixed_step_memoization f (x : Int) (s' : Int) = .ok (cellTuple (memoCell x (clampS x s'))) := by
    intro x hx2 hxn
    rw [ih x hxn s' f (Nat.le_trans hxn hfn), memoSpec_valid x s' (validKey_left n s' x hn hs2 hx2 hxn)]; rfl
  have hR : ∀ x, 1 ≤ x → x < n →
      mixed_step_memoization f ((n : Int) - (x : Int)) ((s' : Int) - 1)
        = .ok (cellTuple (memoCell (n - x) (clampS (n - x) (s' - 1)))) := by
    intro x hx1 hxn
    have hlt : n - x < n := Nat.sub_lt hn1 hx1
    have e1 : (n : Int) - (x : Int) = ((n - x : Nat) : Int) := (Nat.cast_sub hxn.le).symm
    have e2 : (s' : Int) - 1 = ((s' - 1 : Nat) : Int) := by rw [Nat.cast_sub (Nat.le_of_succ_le hs2), Nat.cast_one]
    rw [e1, e2, ih (n - x) hlt (s' - 1) f (Nat.le_trans hlt hfn),
      memoSpec_valid _ _ (validKey_right n s' x hn hs2 hx1 hxn)]; rfl
  have hr : pyRange 2 (n : Int) = (List.range' 2 (n - 2)).map (fun k : Nat => (k : Int)) := by
    simpa using pyRange_nat 2 n
  rw [hr, forIn_yield_map' (Option.map cellTuple) (memoStep (mcand n s')) (List.range' 2 (n - 2)) none none _ rfl]
  · obtain ⟨k, hk⟩ : ∃ k, n - 2 = k + 1 := ⟨n - 3, by omega⟩
    rw [hk, List.range'_succ, List.foldl_cons]
    have e : memoStep (mcand n s') none 2 = some ⟨stWriteIcs, 2, mcand n s' 2⟩ := rfl
    rw [e]
    obtain ⟨c', h1', -⟩ := memoStep_fold_some (mcand n s') (List.range' (2 + 1) k) ⟨stWriteIcs, 2, mcand n s' 2⟩
    rw [h1']
    simp only []
    have hne : ¬ (Option.map cellTuple (some c') = none) := by simp
    rw [if_neg hne]
    have e1 : (n : Int) - 1 = (n : Int) - ((1 : Nat) : Int) := by simp
    rw [e1, hR 1 le_rfl h1n]
    have hu : unwrap (Option.map cellTuple (some c')) = .ok (cellTuple c') := rfl
    rw [hu]
    simp only []
    have hm : (1 : Int) + (cellTuple (memoCell (n - 1) (clampS (n - 1) (s' - 1)))).2.2
        = ((1 + (memoCell (n - 1) (clampS (n - 1) (s' - 1))).cost : Nat) : Int) := by
      unfold cellTuple; push_cast; rfl
    rw [hm]
    generalize 1 + (memoCell (n - 1) (clampS (n - 1) (s' - 1))).cost = m1
    by_cases h : m1 < c'.cost
    · have h' : (m1 : Int) < (cellTuple c').2.2 := show _ < (c'.cost : Int) from Int.ofNat_lt.2 h
      rw [if_pos h']
      show _ = Except.ok (cellTuple (if m1 < c'.cost then _ else _))
      rw [if_pos h]; rfl
    · have h' : ¬ (m1 : Int) < (cellTuple c').2.2 := show ¬ _ < (c'.cost : Int) from mt Int.ofNat_lt.1 h
      rw [if_neg h']
      show _ = Except.ok (cellTuple (if m1 < c'.cost then _ else _))
      rw [if_neg h]
  · intro x hx t
    rw [List.mem_range'_1] at hx
    obtain ⟨hx2, hxn⟩ := hx
    rw [Nat.add_sub_cancel' h1n] at hxn
    rw [hL x hx2 hxn, hR x (Nat.le_of_succ_le hx2) hxn]
    have hc : (x : Int) + (cellTuple (memoCell x (clampS x s'))).2.2 +
        (cellTuple (memoCell (n - x) (clampS (n - x) (s' - 1)))).2.2 = ((mcand n s' x : Nat) : Int) := by
      unfold mcand splitCand cellTuple; push_cast; rfl
    simp only []
    rw [hc]
    cases t with
    | none => rfl
    | some c =>
      have hu : unwrap (Option.map cellTuple (some c)) = .ok (cellTuple c) := rfl
      have hne : ¬ (Option.map cellTuple (some c) = none) := by simp
      rw [if_neg hne, hu]
      simp only []
      by_cases h : mcand n s' x ≤ c.cost
      · have h' : ((mcand n s' x : Nat) : Int) ≤ (cellTuple c).2.2 := show _ ≤ (c.cost : Int) from Int.ofNat_le.2 h
        have e : memoStep (mcand n s') (some c) x = some ⟨stWriteIcs, x, mcand n s' x⟩ := by
          show (if mcand n s' x ≤ c.cost then _ else _) = _
          rw [if_pos h]
        rw [e, decide_eq_true h']
        rfl
      · have h' : ¬ ((mcand n s' x : Nat) : Int) ≤ (cellTuple c).2.2 :=
          show ¬ _ ≤ (c.cost : Int) from mt Int.ofNat_le.1 h
        have e : memoStep (mcand n s') (some c) x = some c := by
          show (if mcand n s' x ≤ c.cost then _ else _) = _
          rw [if_neg h]
        rw [e, decide_eq_false h']
        rfl

theorem optMixedSpec_valid (n s : Nat) (h : validKey n (clampS n s) = true) :
    optMixedSpec n s = some (optMixedCell n (clampS n s)) := by
  show (if validKey n (clampS n s) = true then some (optMixedCell n (clampS n s)) else none) = _
  rw [if_pos h]

theorem optMixedSpec_invalid (n s : Nat) (h : ¬ validKey n (clampS n s) = true) :
    optMixedSpec n s = none := by
  show (if validKey n (clampS n s) = true then some (optMixedCell n (clampS n s)) else none) = _
  rw [if_neg h]

theorem opt_main (n : Nat) : ∀ (s fuel : Nat), n + 1 ≤ fuel →
    optimal_steps_mixed fuel (n : Int) (s : Int) = ofOpt (fun a : Nat => (a : Int)) (optMixedSpec n s) := by
  induction n using Nat.strongRecOn with
  | ind n ih =>
  intro s fuel hf
  obtain ⟨f, rfl⟩ := Nat.exists_eq_add_one_of_ne_zero (Nat.ne_of_gt (Nat.lt_of_lt_of_le n.succ_pos hf))
  have hfn : n ≤ f := Nat.le_of_succ_le_succ hf
  by_cases hv : validKey n (clampS n s) = true
  swap
  · rw [optMixedSpec_invalid n s hv, optimal_steps_mixed_guard _ _ f (guard_of_invalid n s hv)]; rfl
  obtain ⟨g0, hmin, g1⟩ := guard_of_valid n s hv
  rw [optMixedSpec_valid n s hv, optMixedCell_eq, optMixedF_def]
  obtain ⟨hn1, hlo, -⟩ := (validKey_iff _ _).1 hv
  generalize clampS n s = s' at *
  by_cases h2 : n ≤ s' + 1
  · have c2 : (n : Int) ≤ (s' : Int) + 1 := by exact_mod_cast h2
    rw [if_pos h2]
    simp only [optimal_steps_mixed, ↓reduceIte, pure, Except.pure, g0, hmin, g1, c2]; rfl
  have c2 : ¬ (n : Int) ≤ (s' : Int) + 1 := by exact_mod_cast h2
  by_cases h3 : s' = 1
  · have c3 := eq_true (show (s' : Int) = 1 by exact_mod_cast h3)
    rw [if_neg h2, if_pos h3]
    simp only [optimal_steps_mixed, ↓reduceIte, bind, Except.bind, pure, Except.pure, g0, hmin, g1, c2, c3,
      floordiv_cast (x := (n : Int) * ((n : Int) + 1)) (y := 2) (n * (n + 1)) 2 (by push_cast; rfl) rfl two_ne_zero]
    exact congrArg Except.ok (show ((n * (n + 1) / 2 : Nat) : Int) - 1 = ((n * (n + 1) / 2 - 1 : Nat) : Int) by
      rw [Nat.cast_sub (triangle_pos n hn1), Nat.cast_one])
  have c3 : ¬ (s' : Int) = 1 := by exact_mod_cast h3
  rw [if_neg h2, if_neg h3]
  unfold optimal_steps_mixed
  simp only [↓reduceIte, bind, Except.bind, pure, Except.pure, g0, hmin, g1, c2, c3]
  clear g0 hmin g1 c2 c3
  have hn : s' + 1 < n := Nat.lt_of_not_le h2
  have hs2 : 2 ≤ s' := by omega
  have h1n : 1 < n := (Nat.le_add_left 1 s').trans_lt hn
  clear hlo h2 h3
  have hL : ∀ x, 2 ≤ x → x < n →
      optimal_steps_mixed f (x : Int) (s' : Int) = .ok ((optMixedCell x (clampS x s') : Nat) : Int) := by
    intro x hx2 hxn
    rw [ih x hxn s' f (Nat.le_trans hxn hfn), optMixedSpec_valid x s' (validKey_left n s' x hn hs2 hx2 hxn)]; rfl
  have hR : ∀ x, 1 ≤ x → x < n →
      optimal_steps_mixed f ((n : Int) - (x : Int)) ((s' : Int) - 1)
        = .ok ((optMixedCell (n - x) (clampS (n - x) (s' - 1)) : Nat) : Int) := by
    intro x hx1 hxn
    have hlt : n - x < n := Nat.sub_lt hn1 hx1
    have e1 : (n : Int) - (x : Int) = ((n - x : Nat) : Int) := (Nat.cast_sub hxn.le).symm
    have e2 : (s' : Int) - 1 = ((s' - 1 : Nat) : Int) := by rw [Nat.cast_sub (Nat.le_of_succ_le hs2), Nat.cast_one]
    rw [e1, e2, ih (n - x) hlt (s' - 1) f (Nat.le_trans hlt hfn),
      optMixedSpec_valid _ _ (validKey_right n s' x hn hs2 hx1 hxn)]; rfl
  have hr : pyRange 2 (n : Int) = (List.range' 2 (n - 2)).map (fun k : Nat => (k : Int)) := by
    simpa using pyRange_nat 2 n
  have e1 : (n : Int) - 1 = (n : Int) - ((1 : Nat) : Int) := by simp
  rw [e1, hR 1 le_rfl h1n]
  simp only []
  rw [hr, forIn_yield_map' (fun a : Nat => (a : Int)) (fun m i => min m (splitCand n s' optMixedCell i))
    (List.range' 2 (n - 2)) (1 + optMixedCell (n - 1) (clampS (n - 1) (s' - 1))) _ _ (by push_cast; rfl)]
  · rfl
  · intro x hx t
    rw [List.mem_range'_1] at hx
    obtain ⟨hx2, hxn⟩ := hx
    rw [Nat.add_sub_cancel' h1n] at hxn
    rw [hL x hx2 hxn, hR x (Nat.le_of_succ_le hx2) hxn]
    simp only []
    unfold splitCand
    push_cast
    rfl

/-- the fuel bound: every recursive call strictly decreases `n` -/
def fuelBound (n _s : Nat) : Nat := n + 1

/-- **`mixed_step_memoization` as generated from the Python source computes the model `memoSpec`**
(step type, length and cost; `ValueError` exactly where the model says so), for any fuel `≥ n + 1` -/
theorem mixed_step_memoization_refines (n s fuel : Nat) (hf : fuelBound n s ≤ fuel) :
    mixed_step_memoization fuel (n : Int) (s : Int) = ofOpt cellTuple (memoSpec n s) :=
  memo_main n s fuel hf

/-- **`optimal_steps_mixed` as generated from the Python source computes the model `optMixedSpec`**,
for any fuel `≥ n + 1` -/
theorem optimal_steps_mixed_refines (n s fuel : Nat) (hf : fuelBound n s ≤ fuel) :
    optimal_steps_mixed fuel (n : Int) (s : Int) = ofOpt (fun a : Nat => (a : Int)) (optMixedSpec n s) :=
  opt_main n s fuel hf

/-- negative arguments: `ValueError` (any positive fuel) -/
theorem mixed_step_memoization_invalid (n s : Int) (fuel : Nat) (h : n < 0 ∨ s < 0) :
    mixed_step_memoization (fuel + 1) n s = .error .valueError := by
  exact mixed_step_memoization_guard n s fuel (by omega)

/-- negative arguments: `ValueError` (any positive fuel) -/
theorem optimal_steps_mixed_invalid (n s : Int) (fuel : Nat) (h : n < 0 ∨ s < 0) :
    optimal_steps_mixed (fuel + 1) n s = .error .valueError := by
  exact optimal_steps_mixed_guard n s fuel (by omega)

end Ckpt.Py

#print axioms Ckpt.Py.mixed_step_memoization_refines
#print axioms Ckpt.Py.optimal_steps_mixed_refines
#print axioms Ckpt.Py.mixed_step_memoization_invalid
#print axioms Ckpt.Py.optimal_steps_mixed_invalid
