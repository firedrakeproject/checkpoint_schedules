import CkptGen.RefineHopt
import CkptGen.RefineSeqRevolve
import CkptVerif.Proofs.OpsHRevolveMain
/-!
# The Lean text generated from the H-Revolve builders computes the twin's operation sequence

`hrevolve`, `hrevolve_recurse`, `hrevolve_aux` (hrevolve_sequences/hrevolve.py; in `CkptGen/Src.lean` a `mutual` block by
structural recursion on the fuel, `**params` as the explicit `uf ub`, a `Sequence` as its flattened operation list)
against the twin `hrevolveRecOps` / `hrevolveAuxOps` / `hrevolveOpsTop` of `CkptVerif/Model/Ops.lean`.

1. `argmin_er_refines`: `argmin` on costs that may be `float("inf")` is the model's `argminO` (direct simulation of the
   loop, `argFold_sim`; `erOf_le`: `≤` on `ER` is `ole`).
2. `seqLast_opPy`: the last leaf commutes with `opPy` (`Sequence.shift`: `seqShift_opPy` of `RefineSeqRevolve.lean`, all
   fifteen operation kinds, the hierarchical ones included).
3. `hrevolve_sim` (same fuel on both sides, induction on the fuel; one lemma per branch: `rec_step`, `aux_small`,
   `aux_loop`, `aux_K0`, `aux_K1`; `ResOK.bind`: a recursive call and what is done with its result; `hrev_list_mem`: the
   candidates `hCands` of the split): for a two-level context `c : HCtx` (natural costs), levels `K ≤ 1`, `cmem ≤ c_K`,
   `l ≤ lmax` and tables `optp opt` of the right shape (`Shape3`) holding the model's entries on the index box (`TabsOK`),
   the generated functions return the twin's list (`hrevolve_recurse_refines`, `hrevolve_aux_refines`), and where the twin
   answers `none` they raise `KeyError` or run out of fuel (`hrevolve_recurse_error`, `hrevolve_aux_error`; the twin
   answers `none` for both, at fuel `0` the generated text raises `PyErr.fuel`); with `fuel ≥ 4·l + 3·K + 4` (beyond the
   depth of the recursion) exactly `none ↦ .error .keyError` (`hrevolve_recurse_keyError`, `hrevolve_aux_keyError`,
   `hrevolve_recurse_total`).  The induction is done once, parametrised by `FuelPre` (`preAny`, `preExact`).
4. `hrevolve_refines`: `hrevolve fuel (N - 1) [c0, c1] [0, wd] [0, rd] uf ub = .ok (ops.map opPy)` for `N ≥ 1`, `c0 ≥ 1`,
   `fuel ≥ 4·N + 8` (the first call builds the tables: `hrevolve_recurse_none`, `hopt_run`; their shape:
   `tabsOK_hoptResult`; more fuel does not change the twin's result: `hrevolveOps_mono`).
5. `source_hrevolve_accepted_full`, `source_hrevolve_C01_C18_full`, `hrevolve_full_run_model`: generated builder followed
   by generated iterator (`hrevolve_full_run`) yields the stream model `hrevolveEvs`, accepted by the checking executor.

Fuel: builder `4·N + 8` (the twin's own fuel), iterator `ops.length + 1`.
-/

namespace Ckpt.Py
open Ckpt Ckpt.Ops

theorem erOf_le (a b : Option Nat) : (erOf a ≤ erOf b) ↔ ole a b = true := by
  cases a with
  | none =>
    cases b with
    | none => exact ⟨fun _ => rfl, fun _ => trivial⟩
    | some b => exact ⟨fun h => h.elim, fun h => by cases h⟩
  | some a =>
    cases b with
    | none => exact ⟨fun _ => rfl, fun _ => trivial⟩
    | some b =>
      show ((a : Rat) ≤ (b : Rat)) ↔ ole (some a) (some b) = true
      rw [ole_some_some, Nat.cast_le]

/-- the body of the loop of `argmin_er` -/
def argStepE (L : List ER) (s : Int × ER) (k : Nat) : Int × ER :=
  if L.getD k ER.inf ≤ s.2 then ((k : Int), L.getD k ER.inf) else s

theorem argFold_sim (L : List ER) : ∀ (xs : List (Option Nat)) (k i : Nat) (v : Option Nat),
    (∀ j (h : j < xs.length), L[k + j]? = some (erOf xs[j])) →
    (List.range' k xs.length).foldl (argStepE L) ((i : Int), erOf v) =
      (((((xs.zipIdx k).foldl argStep (i, v)).1 : Nat) : Int), erOf ((xs.zipIdx k).foldl argStep (i, v)).2) := by
  intro xs
  induction xs with
  | nil => intro k i v _; rfl
  | cons y ys ih =>
    intro k i v h
    have h0 : L.getD k ER.inf = erOf y := by
      have := h 0 (by simp)
      rw [Nat.add_zero] at this
      rw [List.getD_eq_getElem?_getD, this]
      rfl
    have hrest : ∀ j (hj : j < ys.length), L[k + 1 + j]? = some (erOf ys[j]) := by
      intro j hj
      have := h (j + 1) (by simp; omega)
      rw [show k + 1 + j = k + (j + 1) by omega, this]
      rfl
    rw [List.length_cons, List.range'_succ, List.foldl_cons, List.zipIdx_cons, List.foldl_cons]
    by_cases hc : ole y v = true
    · have e1 : argStepE L ((i : Int), erOf v) k = ((k : Int), erOf y) := by
        unfold argStepE
        rw [h0, if_pos ((erOf_le y v).2 hc)]
      have e2 : argStep (i, v) (y, k) = (k, y) := by
        unfold argStep
        rw [if_pos hc]
      rw [e1, e2]
      exact ih (k + 1) k y hrest
    · have e1 : argStepE L ((i : Int), erOf v) k = ((i : Int), erOf v) := by
        unfold argStepE
        rw [h0, if_neg (fun h' => hc ((erOf_le y v).1 h'))]
      have e2 : argStep (i, v) (y, k) = (i, v) := by
        unfold argStep
        rw [if_neg hc]
      rw [e1, e2]
      exact ih (k + 1) i v hrest

/-- **`argmin` on costs that may be infinite** (the Lean text generated from basic_functions.py:63-84 at element type
`ER`) computes the model `argminO`: 1 + the index of the LAST minimal element. -/
theorem argmin_er_refines (l : List (Option Nat)) (h : l ≠ []) :
    argmin_er (l.map erOf) = .ok ((argminO l : Nat) : Int) := by
  obtain ⟨x, xs, rfl⟩ := List.exists_cons_of_ne_nil h
  unfold argmin_er
  have h0 : pyIndex ((x :: xs).map erOf) (0 : Int) = .ok (erOf x) := rfl
  have hget : ∀ k : Nat, k < (x :: xs).length →
      pyIndex ((x :: xs).map erOf) (k : Int) = .ok (((x :: xs).map erOf).getD k ER.inf) := by
    intro k hk
    apply pyIndex_of_getElem?
    rw [List.getD_eq_getElem?_getD, List.getElem?_eq_getElem (by simpa using hk)]
    rfl
  simp only [bind, Except.bind, pure, Except.pure, h0]
  rw [pyRange_eq2 0 (x :: xs).length 0 _ rfl (by simp),
    forIn_yield (g := fun s (i : Int) => argStepE ((x :: xs).map erOf) s i.toNat), List.foldl_map]
  · simp only [Int.toNat_natCast]
    have := argFold_sim ((x :: xs).map erOf) (x :: xs) 0 0 x (by
      intro j hj
      rw [Nat.zero_add, List.getElem?_map, List.getElem?_eq_getElem hj]
      rfl)
    rw [Int.natCast_zero] at this
    rw [this]
    show Except.ok _ = Except.ok _
    congr 1
  · intro i hi s
    obtain ⟨k, hk, rfl⟩ := List.mem_map.1 hi
    rw [List.mem_range'_1] at hk
    have hk' : k < (x :: xs).length := by simpa using hk.2
    simp only [hget k hk', Int.toNat_natCast, argStepE]
    split_ifs <;> rfl

example : ([some 3, none, some 1, some 1] : List (Option Nat)) ≠ [] := by decide
example : argmin_er ([some 3, none, some 1, some 1].map erOf) = .ok 4 := by
  rw [argmin_er_refines _ (by decide)]; rfl

theorem seqLast_opPy (ops : List Ops.Op) (h : ops ≠ []) :
    seqLast (ops.map opPy) = .ok (opPy (ops.getLast h)) := by
  unfold seqLast
  rw [List.getLast?_map, List.getLast?_eq_some_getLast h]
  rfl

theorem seqLast_nil : seqLast ([] : List PyOp) = .error .indexError := rfl

theorem opPy_type_discard (o : Ops.Op) : (opPy o).type ≠ "Discard" ↔ o.kind ≠ .discard := by
  obtain ⟨kind, l, a, b⟩ := o
  cases kind <;> simp [opPy, opKindStr]

example : seqShift ([Op.fwd 0 2, Op.w 1 0, Op.wf 0 3, Op.rm 4].map opPy) (5 : Nat) =
    ([Op.fwd 5 7, Op.w 1 5, Op.wf 0 8, Op.rm 9]).map opPy := by
  rw [seqShift_opPy]; rfl
example : seqLast ([Op.fwd 0 2, Op.d 0 0].map opPy) = .ok (opPy (Op.d 0 0)) := by
  rw [seqLast_opPy _ (by decide)]; rfl

/-- `cvect`, `wvect`, `rvect` of a two-level context -/
def cvI (c : HCtx) : List Int := [(c.c0 : Int), (c.c1 : Int)]
def wvQ (c : HCtx) : List Rat := [(c.w 0 : Rat), (c.w 1 : Rat)]
def rvQ (c : HCtx) : List Rat := [(c.rr 0 : Rat), (c.rr 1 : Rat)]

/-- the shape of a table returned by `get_hopt_table`: two levels, `lmax + 1` rows each, `c_k + 1` entries per row -/
structure Shape3 (T : T3) (lmax c0 c1 : Nat) : Prop where
  len : T.length = 2
  rows : ∀ (k : Nat) (rows : List (List ER)), T[k]? = some rows → rows.length = lmax + 1
  cells : ∀ (k : Nat) (rows : List (List ER)) (l : Nat) (row : List ER), T[k]? = some rows → rows[l]? = some row →
    row.length = (if k = 0 then c0 else c1) + 1

/-- the tables handed down the recursion have the right shape and, on the index box, the model's entries -/
structure TabsOK (c : HCtx) (lmax : Nat) (optp opt : T3) : Prop where
  shp : Shape3 optp lmax c.c0 c.c1
  sh : Shape3 opt lmax c.c0 c.c1
  valp : ∀ k l m, k ≤ 1 → l ≤ lmax → m ≤ cv c k → tab3 optp k l m = erOf (c.tab.optp k l m)
  val : ∀ k l m, k ≤ 1 → l ≤ lmax → m ≤ cv c k → tab3 opt k l m = erOf (c.tab.opt k l m)

/-- the three list accesses behind `T[k][l][m]` inside the box -/
theorem idx3 (T : T3) (lmax c0 c1 : Nat) (hs : Shape3 T lmax c0 c1) (k l m : Nat) (ki li mi : Int)
    (hki : ki = (k : Int)) (hli : li = (l : Int)) (hmi : mi = (m : Int))
    (hk : k ≤ 1) (hl : l ≤ lmax) (hm : m ≤ if k = 0 then c0 else c1) :
    ∃ rows row, pyIndex T ki = .ok rows ∧ pyIndex rows li = .ok row ∧ pyIndex row mi = .ok (tab3 T k l m) := by
  subst hki hli hmi
  have h1 : k < T.length := by rw [hs.len]; omega
  have e1 : T[k]? = some T[k] := List.getElem?_eq_getElem h1
  have h2 : l < T[k].length := by rw [hs.rows k _ e1]; omega
  have e2 : T[k][l]? = some T[k][l] := List.getElem?_eq_getElem h2
  have h3 : m < T[k][l].length := by rw [hs.cells k _ l _ e1 e2]; omega
  have e3 : T[k][l][m]? = some T[k][l][m] := List.getElem?_eq_getElem h3
  refine ⟨T[k], T[k][l], pyIndex_of_getElem? _ _ _ e1, pyIndex_of_getElem? _ _ _ e2, ?_⟩
  have : tab3 T k l m = T[k][l][m] := by
    unfold tab3
    rw [List.getD_eq_getElem?_getD, List.getD_eq_getElem?_getD, List.getD_eq_getElem?_getD, e1, Option.getD_some, e2,
      Option.getD_some, e3, Option.getD_some]
  rw [this]
  exact pyIndex_of_getElem? _ _ _ e3

/-- the result of the generated builder against the twin's: the same operations, or (`none`) an exception among the
allowed ones `E` (the twin answers `none` both for `KeyError` and for the exhaustion of its fuel) -/
def ResOK (E : PyErr → Prop) (o : Option (List Ops.Op)) (r : M (List PyOp)) : Prop :=
  match o with
  | some ops => r = .ok (ops.map opPy)
  | none => ∃ e, r = .error e ∧ E e

theorem ResOK_err (E : PyErr → Prop) (e : PyErr) (he : E e) : ResOK E none (.error e) := ⟨e, rfl, he⟩

/-- a recursive call and what is done with its result: the twin's `match … with | none => none | some x => f x` against
the generated `… >>= g` -/
theorem ResOK.bind {E : PyErr → Prop} {o : Option (List Ops.Op)} {r : M (List PyOp)}
    {f : List Ops.Op → Option (List Ops.Op)} {g : List PyOp → M (List PyOp)} :
    ResOK E o r → (∀ ops, ResOK E (f ops) (g (ops.map opPy))) →
      ResOK E (match o with | none => none | some ops => f ops) (r >>= g) := by
  intro h hfg
  cases o with
  | none =>
    obtain ⟨e, rfl, he⟩ := h
    exact ⟨e, rfl, he⟩
  | some ops =>
    have hr : r = .ok (ops.map opPy) := h
    rw [hr]
    exact hfg ops

/-- The simulation is proved once for two readings of "enough fuel": a set `E` of exceptions that may stand for the
twin's `none`, and preconditions `R fuel l K cmem` / `A fuel l K cmem` on the calls of `hrevolve_recurse` / `hrevolve_aux`
that are handed down the recursion (`preAny`: no precondition, `E = {KeyError, fuel}`; `preExact`: the fuel exceeds the
depth of the recursion, `E = {KeyError}`). -/
structure FuelPre (c : HCtx) where
  E : PyErr → Prop
  R : Nat → Nat → Nat → Nat → Prop
  A : Nat → Nat → Nat → Nat → Prop
  key : E .keyError
  baseR : ∀ l K cm, R 0 l K cm → E .fuel
  baseA : ∀ l K cm, A 0 l K cm → E .fuel
  RA : ∀ f l K cm, R (f + 1) l K cm → 2 ≤ l → A f l K cm
  RR : ∀ f l cm, R (f + 1) l 1 cm → R f l 0 c.c0
  AR : ∀ f l K cm j, A (f + 1) l K cm → 1 ≤ j → j ≤ l - 1 → (K = 0 → 2 ≤ cm) → R f (l - j) K (cm - 1)
  AA : ∀ f l K cm j, A (f + 1) l K cm → 1 ≤ j → j ≤ l - 1 → (K = 0 → 2 ≤ cm) → A f (j - 1) K cm
  AA1 : ∀ f l cm, A (f + 1) l 0 cm → 2 ≤ cm → A f l 0 1
  AR0 : ∀ f l cm, A (f + 1) l 1 cm → R f l 0 c.c0

/-- no precondition; the twin's `none` is `KeyError` or the exhaustion of the fuel -/
def preAny (c : HCtx) : FuelPre c where
  E := fun e => e = .keyError ∨ e = .fuel
  R := fun _ _ _ _ => True
  A := fun _ _ _ _ => True
  key := Or.inl rfl
  baseR := fun _ _ _ _ => Or.inr rfl
  baseA := fun _ _ _ _ => Or.inr rfl
  RA := fun _ _ _ _ _ _ => trivial
  RR := fun _ _ _ _ => trivial
  AR := fun _ _ _ _ _ _ _ _ _ => trivial
  AA := fun _ _ _ _ _ _ _ _ _ => trivial
  AA1 := fun _ _ _ _ _ => trivial
  AR0 := fun _ _ _ _ => trivial

/-- the fuel exceeds the depth of the recursion: `4·l + 3·K + 4` for `hrevolve_recurse`, for `hrevolve_aux` one less, and one
less again unless `cm ≥ 2` (`min (cm - 1) 1` is `1` for `cm ≥ 2`, else `0`); the twin's `none` is `KeyError` -/
def preExact (c : HCtx) : FuelPre c where
  E := fun e => e = .keyError
  R := fun f l K _ => 4 * l + 3 * K + 4 ≤ f
  A := fun f l K cm => 4 * l + 3 * K + 2 + min (cm - 1) 1 ≤ f
  key := rfl
  baseR := fun l K cm h => absurd h (by omega)
  baseA := fun l K cm h => absurd h (by omega)
  RA := fun f l K cm h _ => by omega
  RR := fun f l cm h => by omega
  AR := fun f l K cm j h h1 h2 _ => by omega
  AA := fun f l K cm j h h1 h2 _ => by omega
  AA1 := fun f l cm h h2 => by omega
  AR0 := fun f l cm h => by omega

/-- the statement about `hrevolve_recurse` at one fuel value -/
def RecP (c : HCtx) (P : FuelPre c) (lmax : Nat) (optp opt : T3) (uf ub : Rat) (fuel : Nat) : Prop :=
  ∀ l K cmem : Nat, l ≤ lmax → K ≤ 1 → cmem ≤ cv c K → P.R fuel l K cmem →
    ResOK P.E (hrevolveRecOps c fuel l K cmem)
      (hrevolve_recurse fuel (l : Int) (K : Int) (cmem : Int) (cvI c) (wvQ c) (rvQ c) (some optp) (some opt) uf ub)

/-- the statement about `hrevolve_aux` at one fuel value -/
def AuxP (c : HCtx) (P : FuelPre c) (lmax : Nat) (optp opt : T3) (uf ub : Rat) (fuel : Nat) : Prop :=
  ∀ l K cmem : Nat, l ≤ lmax → K ≤ 1 → cmem ≤ cv c K → P.A fuel l K cmem →
    ResOK P.E (hrevolveAuxOps c fuel l K cmem)
      (hrevolve_aux fuel (l : Int) (K : Int) (cmem : Int) (cvI c) (wvQ c) (rvQ c) (some optp) (some opt) uf ub)

theorem fin_erOf (v : Nat) : ER.fin (v : Rat) = erOf (some v) := rfl

theorem ResOK.nil_append {E : PyErr → Prop} {o : Option (List Ops.Op)} {r : M (List PyOp)} (h : ResOK E o r) :
    ResOK E o (r >>= fun v => pure ([] ++ v)) := by
  cases o with
  | none =>
    obtain ⟨e, rfl, he⟩ := h
    exact ⟨e, rfl, he⟩
  | some ops =>
    have hr : r = .ok (ops.map opPy) := h
    rw [hr]
    exact rfl

theorem rec_step (c : HCtx) (P : FuelPre c) (lmax : Nat) (optp opt : T3) (uf ub : Rat) (ht : TabsOK c lmax optp opt) (fuel : Nat)
    (ihR : RecP c P lmax optp opt uf ub fuel) (ihA : AuxP c P lmax optp opt uf ub fuel) :
    RecP c P lmax optp opt uf ub (fuel + 1) := by
  intro l K cmem hl hK hcm hp
  rw [hrevolveRecOps, hrevolve_recurse]
  by_cases h0 : l = 0
  · have h0' : (l : Int) = 0 := by omega
    rw [if_pos h0]
    simp only [↓reduceIte, reduceCtorEq, decide_false, Bool.false_eq_true, h0', bind, Except.bind, pure, Except.pure]
    rfl
  have h0' : ¬ (l : Int) = 0 := by omega
  rw [if_neg h0]
  by_cases hk : K = 0 ∧ cmem = 0
  · have hk' : (K : Int) = 0 ∧ (cmem : Int) = 0 := by omega
    rw [if_pos hk]
    simp only [↓reduceIte, reduceCtorEq, decide_false, Bool.false_eq_true, h0', hk', and_self, bind, Except.bind, pure,
      Except.pure]
    exact ResOK_err _ _ P.key
  have hk' : ¬ ((K : Int) = 0 ∧ (cmem : Int) = 0) := by omega
  rw [if_neg hk]
  by_cases h1 : l = 1
  · have h1' : (l : Int) = 1 := by omega
    rw [if_pos h1]
    simp only [↓reduceIte, reduceCtorEq, decide_false, Bool.false_eq_true, hk', h1', one_ne_zero, bind, Except.bind, pure,
      Except.pure]
    rfl
  have h1' : ¬ (l : Int) = 1 := by omega
  rw [if_neg h1]
  by_cases hK0 : K = 0
  · have hK0' : (K : Int) = 0 := by omega
    have hc' : ¬ (cmem : Int) = 0 := by omega
    rw [if_pos hK0]
    simp only [↓reduceIte, reduceCtorEq, decide_false, Bool.false_eq_true, h0', h1', hK0', hc', and_false, bind, Except.bind,
      pure, Except.pure]
    subst hK0
    exact (ihA l 0 cmem hl hK hcm (P.RA _ _ _ _ hp (by omega))).bind fun aux => rfl
  have hK1 : K = 1 := by omega
  subst hK1
  rw [if_neg hK0]
  obtain ⟨rows1, row1, a1, a2, a3⟩ := idx3 optp lmax c.c0 c.c1 ht.shp 1 l cmem (1 : Int) l cmem rfl rfl rfl
    (le_refl _) hl hcm
  obtain ⟨rows2, row2, b1, b2, b3⟩ := idx3 opt lmax c.c0 c.c1 ht.sh 0 l c.c0 ((1 : Int) - 1) l c.c0 rfl
    rfl rfl (by omega) hl (le_refl _)
  have hw : pyIndex (wvQ c) (1 : Int) = .ok (c.w 1 : Rat) := rfl
  have hc : pyIndex (cvI c) ((1 : Int) - 1) = .ok (c.c0 : Int) := rfl
  simp only [↓reduceIte, reduceCtorEq, decide_false, Bool.false_eq_true, h0', h1', Nat.cast_one, one_ne_zero, false_and, bind,
    Except.bind, pure, Except.pure, unwrap, hw, hc, a1, a2, a3, b1, b2, b3]
  rw [ht.valp 1 l cmem (le_refl _) hl hcm, ht.val 0 l c.c0 (by omega) hl (le_refl _), fin_erOf, ← erOf_oadd]
  have e10 : (1 : Nat) - 1 = 0 := rfl
  have ecv : cv c 0 = c.c0 := rfl
  rw [e10, ecv]
  by_cases hc : olt (oadd (some (c.w 1)) (c.tab.optp 1 l cmem)) (c.tab.opt 0 l c.c0) = true
  · rw [if_pos hc, if_pos ((erOf_lt _ _).2 hc)]
    exact (ihA l 1 cmem hl hK hcm (P.RA _ _ _ _ hp (by omega))).bind fun aux => rfl
  · rw [if_neg hc, if_neg (fun h => hc ((erOf_lt _ _).1 h))]
    exact (ihR l 0 c.c0 hl (by omega) (le_refl _) (P.RR _ _ _ hp)).nil_append

theorem aux_small (c : HCtx) (E : PyErr → Prop) (hkey : E .keyError) (optp opt : T3) (uf ub : Rat) (fuel : Nat)
    (l K cmem : Nat) (hK : K ≤ 1) (hs : cmem = 0 ∨ l = 0 ∨ l = 1) :
    ResOK E (hrevolveAuxOps c (fuel + 1) l K cmem)
      (hrevolve_aux (fuel + 1) (l : Int) (K : Int) (cmem : Int) (cvI c) (wvQ c) (rvQ c) (some optp) (some opt) uf ub) := by
  rw [hrevolveAuxOps, hrevolve_aux]
  by_cases hc0 : cmem = 0
  · have hc0' : (cmem : Int) = 0 := by omega
    rw [if_pos hc0]
    simp only [↓reduceIte, reduceCtorEq, decide_false, Bool.false_eq_true, hc0', bind, Except.bind, pure, Except.pure]
    exact ResOK_err _ _ hkey
  have hc0' : ¬ (cmem : Int) = 0 := by omega
  rw [if_neg hc0]
  by_cases h0 : l = 0
  · have h0' : (l : Int) = 0 := by omega
    rw [if_pos h0]
    simp only [↓reduceIte, reduceCtorEq, decide_false, Bool.false_eq_true, hc0', h0', bind, Except.bind, pure, Except.pure]
    rfl
  have h0' : ¬ (l : Int) = 0 := by omega
  have h1 : l = 1 := by omega
  have h1' : (l : Int) = 1 := by omega
  rw [if_neg h0, if_pos h1]
  have hw : pyIndex (wvQ c) (0 : Int) = .ok (c.w 0 : Rat) := rfl
  have hr : pyIndex (rvQ c) (0 : Int) = .ok (c.rr 0 : Rat) := rfl
  have hrK : pyIndex (rvQ c) (K : Int) = .ok (c.rr K : Rat) := by
    have : K = 0 ∨ K = 1 := by omega
    rcases this with rfl | rfl <;> rfl
  simp only [↓reduceIte, reduceCtorEq, decide_false, Bool.false_eq_true, hc0', h1', one_ne_zero, bind, Except.bind,
    pure, Except.pure, hw, hr, hrK]
  have hiff : ((c.w 0 : Rat) + (c.rr 0 : Rat) < (c.rr K : Rat)) ↔ c.w 0 + c.rr 0 < c.rr K := by
    rw [← Nat.cast_add, Nat.cast_lt]
  by_cases ht : c.w 0 + c.rr 0 < c.rr K
  · simp only [if_pos (hiff.2 ht), decide_eq_true ht, if_true]
    rfl
  · simp only [if_neg (fun h => ht (hiff.1 h)), decide_eq_false ht, Bool.false_eq_true, if_false]
    have : K = 0 ∨ K = 1 := by omega
    rcases this with rfl | rfl <;> rfl

theorem aux_loop (c : HCtx) (E : PyErr → Prop) (optp opt : T3) (uf ub : Rat) (fuel : Nat) (l K cmem : Nat) (hl2 : 2 ≤ l)
    (hK0 : K = 0) (hc1 : cmem = 1) :
    ResOK E (hrevolveAuxOps c (fuel + 1) l K cmem)
      (hrevolve_aux (fuel + 1) (l : Int) (K : Int) (cmem : Int) (cvI c) (wvQ c) (rvQ c) (some optp) (some opt) uf ub) := by
  have h0' : ¬ (l : Int) = 0 := by omega
  have h1' : ¬ (l : Int) = 1 := by omega
  have hK0' : (K : Int) = 0 := by omega
  have hc1' : (cmem : Int) = 1 := by omega
  rw [hrevolveAuxOps, hrevolve_aux, if_neg (show ¬ cmem = 0 by omega), if_neg (show ¬ l = 0 by omega),
    if_neg (show ¬ l = 1 by omega), if_pos (show K = 0 ∧ cmem = 1 from ⟨hK0, hc1⟩)]
  simp only [↓reduceIte, reduceCtorEq, decide_false, Bool.false_eq_true, h0', h1', hK0', hc1', one_ne_zero, and_self, bind,
    Except.bind, pure, Except.pure]
  rw [forIn_down_append _ (fun i => (hrevolveLoopBody l i).map opPy)]
  · show Except.ok _ = Except.ok _
    refine congrArg Except.ok ?_
    simp only [List.map_append, List.map_flatMap, List.nil_append, List.append_assoc]
    rfl
  · intro i s
    have h1 : (i : Int) + 1 ≠ 0 := by omega
    by_cases h : i = l - 1
    · have h2 : ¬ ((i : Int) ≠ (l : Int) - 1) := by omega
      rw [if_neg h2, if_pos h1]
      simp [hrevolveLoopBody, h, opPy, opKindStr, opIdxPy, Op.fwd, Op.wf, Op.bwd, Op.df]
    · have h2 : (i : Int) ≠ (l : Int) - 1 := by omega
      rw [if_pos h2, if_pos h1]
      simp [hrevolveLoopBody, h, opPy, opKindStr, opIdxPy, Op.fwd, Op.wf, Op.bwd, Op.df, Op.r]

/-- the candidates of the split in `hrevolve_aux` (the twin's `listMem`) -/
def hCands (c : HCtx) (l K cmem : Nat) : List (Option Nat) :=
  (List.range' 1 (l - 1)).map (fun j =>
    oadd (oadd (oadd (some (j * c.uf)) (c.tab.opt K (l - j) (cmem - 1))) (some (c.rr K))) (c.tab.optp K (j - 1) cmem))

theorem hCands_length (c : HCtx) (l K cmem : Nat) : (hCands c l K cmem).length = l - 1 := by
  rw [hCands, List.length_map, List.length_range']

theorem hCands_ne (c : HCtx) (l K cmem : Nat) (hl2 : 2 ≤ l) : hCands c l K cmem ≠ [] := by
  intro h
  have := hCands_length c l K cmem
  rw [h] at this
  exact absurd this (by simp; omega)

/-- the list comprehension `list_mem` of `hrevolve_aux` (level `K`, written `ki` in the generated text) -/
theorem hrev_list_mem (c : HCtx) (lmax : Nat) (optp opt : T3) (ht : TabsOK c lmax optp opt) (l K cmem : Nat) (ki : Int)
    (hki : ki = (K : Int)) (hl : l ≤ lmax) (hK : K ≤ 1) (hc0 : cmem ≠ 0) (hcm : cmem ≤ cv c K) {f : Int → M ER}
    (hf : ∀ j : Int, f j = (pyIndex opt ki >>= fun a => pyIndex a ((l : Int) - j) >>= fun b =>
      pyIndex b ((cmem : Int) - 1) >>= fun v1 => pyIndex (rvQ c) ki >>= fun r => pyIndex optp ki >>= fun a' =>
      pyIndex a' (j - 1) >>= fun b' => pyIndex b' (cmem : Int) >>= fun v2 =>
      (Except.ok (ER.fin (((j : Int) : Rat) * (c.uf : Rat)) + v1 + ER.fin r + v2) : M ER))) :
    (pyRange 1 (l : Int)).mapM f = .ok ((hCands c l K cmem).map erOf) := by
  have hcK : cv c K = if K = 0 then c.c0 else c.c1 := by
    have : K = 0 ∨ K = 1 := by omega
    rcases this with rfl | rfl <;> rfl
  have hr : pyIndex (rvQ c) ki = .ok (c.rr K : Rat) := by
    have : K = 0 ∨ K = 1 := by omega
    rcases this with rfl | rfl <;> subst hki <;> rfl
  rw [pyRange_one l, mapM_ok_map _ _ (fun j => erOf (oadd (oadd (oadd (some (j * c.uf)) (c.tab.opt K (l - j) (cmem - 1)))
    (some (c.rr K))) (c.tab.optp K (j - 1) cmem)))]
  · rw [hCands, List.map_map]
    rfl
  · intro j hj
    have hj' := List.mem_range'_1.1 hj
    obtain ⟨ra, rb, a1, a2, a3⟩ := idx3 opt lmax c.c0 c.c1 ht.sh K (l - j) (cmem - 1) ki
      ((l : Int) - (j : Int)) ((cmem : Int) - 1) hki (by omega) (by omega) hK (by omega) (by rw [← hcK]; omega)
    obtain ⟨rc, rd, b1, b2, b3⟩ := idx3 optp lmax c.c0 c.c1 ht.shp K (j - 1) cmem ki
      ((j : Int) - 1) (cmem : Int) hki (by omega) rfl hK (by omega) (by rw [← hcK]; exact hcm)
    rw [hf]
    simp only [bind, Except.bind, a1, a2, a3, b1, b2, b3, hr]
    rw [ht.val K (l - j) (cmem - 1) hK (by omega) (by omega), ht.valp K (j - 1) cmem hK (by omega) hcm, fin_mul_cast,
      fin_erOf, ← erOf_oadd, ← erOf_oadd, ← erOf_oadd]

theorem aux_K1 (c : HCtx) (P : FuelPre c) (lmax : Nat) (optp opt : T3) (uf ub : Rat) (huf : uf = (c.uf : Rat))
    (ht : TabsOK c lmax optp opt) (fuel : Nat)
    (ihR : RecP c P lmax optp opt uf ub fuel) (ihA : AuxP c P lmax optp opt uf ub fuel)
    (l K cmem : Nat) (hl : l ≤ lmax) (hl2 : 2 ≤ l) (hK1 : K = 1) (hc0 : cmem ≠ 0) (hcm : cmem ≤ c.c1)
    (hp : P.A (fuel + 1) l K cmem) :
    ResOK P.E (hrevolveAuxOps c (fuel + 1) l K cmem)
      (hrevolve_aux (fuel + 1) (l : Int) (K : Int) (cmem : Int) (cvI c) (wvQ c) (rvQ c) (some optp) (some opt) uf ub) := by
  have hc0' : ¬ (cmem : Int) = 0 := by omega
  have h0' : ¬ (l : Int) = 0 := by omega
  have h1' : ¬ (l : Int) = 1 := by omega
  subst hK1 huf
  rw [hrevolveAuxOps, hrevolve_aux, if_neg hc0, if_neg (show ¬ l = 0 by omega), if_neg (show ¬ l = 1 by omega),
    if_neg (show ¬ ((1 : Nat) = 0 ∧ cmem = 1) by omega)]
  simp only [↓reduceIte, reduceCtorEq, decide_false, Bool.false_eq_true, hc0', h0', h1', Nat.cast_one, one_ne_zero,
    false_and, bind, Except.bind, pure, Except.pure, unwrap]
  rw [hrev_list_mem c lmax optp opt ht l 1 cmem (1 : Int) rfl hl (le_refl _) hc0 hcm]
  swap
  · intro j; rfl
  have hC : (List.range' 1 (l - 1)).map (fun j => oadd (oadd (oadd (some (j * c.uf)) (c.tab.opt 1 (l - j) (cmem - 1)))
      (some (c.rr 1))) (c.tab.optp 1 (j - 1) cmem)) = hCands c l 1 cmem := rfl
  have hne := hCands_ne c l 1 cmem hl2
  obtain ⟨rows2, row2, b1, b2, b3⟩ := idx3 opt lmax c.c0 c.c1 ht.sh 0 l c.c0 ((1 : Int) - 1) l c.c0 rfl rfl rfl
    (by omega) hl (le_refl _)
  have hc : pyIndex (cvI c) ((1 : Int) - 1) = .ok (c.c0 : Int) := rfl
  simp only [hC, pyMin_erOf _ hne, argmin_er_refines _ hne, hc, b1, b2, b3]
  rw [ht.val 0 l c.c0 (by omega) hl (le_refl _)]
  obtain ⟨hj1, hj2⟩ := argminO_range _ hne
  rw [hCands_length] at hj2
  generalize argminO (hCands c l 1 cmem) = jmin at hj1 hj2 ⊢
  generalize ominList (hCands c l 1 cmem) = mn
  have e10 : (1 : Nat) - 1 = 0 := rfl
  have ecv : cv c 0 = c.c0 := rfl
  rw [e10, ecv]
  by_cases hcnd : olt mn (c.tab.opt 0 l c.c0) = true
  · rw [if_pos hcnd, if_pos ((erOf_lt _ _).2 hcnd)]
    have e1 : (l : Int) - (jmin : Int) = ((l - jmin : Nat) : Int) := (Nat.cast_sub (by omega)).symm
    have e2 : (cmem : Int) - 1 = ((cmem - 1 : Nat) : Int) := (Nat.cast_pred (by omega)).symm
    have e3 : (jmin : Int) - 1 = ((jmin - 1 : Nat) : Int) := (Nat.cast_pred hj1).symm
    rw [e1, e2, e3]
    refine (ihR (l - jmin) 1 (cmem - 1) (by omega) (le_refl _) (show cmem - 1 ≤ c.c1 by omega)
      (P.AR _ _ _ _ jmin hp hj1 hj2 (by intro h; omega))).bind fun right => ?_
    refine (ihA (jmin - 1) 1 cmem (by omega) (le_refl _) hcm
      (P.AA _ _ _ _ jmin hp hj1 hj2 (by intro h; omega))).bind fun left => ?_
    show Except.ok _ = Except.ok _
    rw [seqShift_opPy]
    simp only [List.map_append, List.nil_append]
    rfl
  · rw [if_neg hcnd, if_neg (fun h => hcnd ((erOf_lt _ _).1 h))]
    exact (ihR l 0 c.c0 hl (by omega) (le_refl _) (P.AR0 _ _ _ hp)).nil_append

theorem aux_K0 (c : HCtx) (P : FuelPre c) (lmax : Nat) (optp opt : T3) (uf ub : Rat) (huf : uf = (c.uf : Rat))
    (ht : TabsOK c lmax optp opt) (fuel : Nat)
    (ihR : RecP c P lmax optp opt uf ub fuel) (ihA : AuxP c P lmax optp opt uf ub fuel)
    (l K cmem : Nat) (hl : l ≤ lmax) (hl2 : 2 ≤ l) (hK0 : K = 0) (hc2 : 2 ≤ cmem) (hcm : cmem ≤ c.c0)
    (hp : P.A (fuel + 1) l K cmem) :
    ResOK P.E (hrevolveAuxOps c (fuel + 1) l K cmem)
      (hrevolve_aux (fuel + 1) (l : Int) (K : Int) (cmem : Int) (cvI c) (wvQ c) (rvQ c) (some optp) (some opt) uf ub) := by
  have hc0' : ¬ (cmem : Int) = 0 := by omega
  have hc1' : ¬ (cmem : Int) = 1 := by omega
  have h0' : ¬ (l : Int) = 0 := by omega
  have h1' : ¬ (l : Int) = 1 := by omega
  subst hK0 huf
  rw [hrevolveAuxOps, hrevolve_aux, if_neg (show ¬ cmem = 0 by omega), if_neg (show ¬ l = 0 by omega),
    if_neg (show ¬ l = 1 by omega), if_neg (show ¬ ((0 : Nat) = 0 ∧ cmem = 1) by omega), if_pos rfl]
  simp only [↓reduceIte, reduceCtorEq, decide_false, Bool.false_eq_true, hc0', hc1', h0', h1', Nat.cast_zero, and_false, bind,
    Except.bind, pure, Except.pure, unwrap]
  rw [hrev_list_mem c lmax optp opt ht l 0 cmem (0 : Int) rfl hl (by omega) (by omega) hcm]
  swap
  · intro j; rfl
  have hC : (List.range' 1 (l - 1)).map (fun j => oadd (oadd (oadd (some (j * c.uf)) (c.tab.opt 0 (l - j) (cmem - 1)))
      (some (c.rr 0))) (c.tab.optp 0 (j - 1) cmem)) = hCands c l 0 cmem := rfl
  have hne := hCands_ne c l 0 cmem hl2
  obtain ⟨rows2, row2, b1, b2, b3⟩ := idx3 optp lmax c.c0 c.c1 ht.shp 0 l 1 (0 : Int) l (1 : Int) rfl
    rfl rfl (by omega) hl (show 1 ≤ c.c0 by omega)
  simp only [hC, pyMin_erOf _ hne, argmin_er_refines _ hne, b1, b2, b3]
  rw [ht.valp 0 l 1 (by omega) hl (show 1 ≤ c.c0 by omega)]
  obtain ⟨hj1, hj2⟩ := argminO_range _ hne
  rw [hCands_length] at hj2
  generalize argminO (hCands c l 0 cmem) = jmin at hj1 hj2 ⊢
  generalize ominList (hCands c l 0 cmem) = mn
  by_cases hcnd : olt mn (c.tab.optp 0 l 1) = true
  · rw [if_pos hcnd, if_pos ((erOf_lt _ _).2 hcnd)]
    have e1 : (l : Int) - (jmin : Int) = ((l - jmin : Nat) : Int) := by omega
    have e2 : (cmem : Int) - 1 = ((cmem - 1 : Nat) : Int) := by omega
    have e3 : (jmin : Int) - 1 = ((jmin - 1 : Nat) : Int) := by omega
    rw [e1, e2, e3]
    refine (ihR (l - jmin) 0 (cmem - 1) (by omega) (by omega) (show cmem - 1 ≤ c.c0 by omega)
      (P.AR _ _ _ _ jmin hp hj1 hj2 (fun _ => hc2))).bind fun right => ?_
    refine (ihA (jmin - 1) 0 cmem (by omega) (by omega) hcm (P.AA _ _ _ _ jmin hp hj1 hj2 (fun _ => hc2))).bind
      fun left => ?_
    show _ = Except.ok _
    rw [seqShift_opPy]
    have hS : ([] ++ [({ type := "Forward", index := PyIdx.pair 0 (jmin : Int) } : PyOp)] ++
        (shiftOps jmin right).map opPy ++ [({ type := "Read", index := PyIdx.pair 0 0 } : PyOp)] ++ left.map opPy) =
        ([Op.fwd 0 jmin] ++ shiftOps jmin right ++ [Op.r 0 0] ++ left).map opPy := by
      simp only [List.map_append, List.nil_append]
      rfl
    rw [hS]
    generalize hs : [Op.fwd 0 jmin] ++ shiftOps jmin right ++ [Op.r 0 0] ++ left = sq
    have hsne : sq ≠ [] := by
      rw [← hs]; simp
    rw [seqLast_opPy sq hsne]
    simp only []
    rw [List.getLast?_eq_some_getLast hsne, Option.map_some]
    by_cases hd : (sq.getLast hsne).kind = .discard
    · rw [if_neg (fun h => (opPy_type_discard _).1 h hd), if_neg (fun h => h (congrArg some hd))]
    · rw [if_pos ((opPy_type_discard _).2 hd), if_pos (fun h => hd (Option.some.inj h))]
      show Except.ok _ = Except.ok _
      rw [List.map_append]
      rfl
  · rw [if_neg hcnd, if_neg (fun h => hcnd ((erOf_lt _ _).1 h))]
    exact (ihA l 0 1 hl (by omega) (show 1 ≤ c.c0 by omega) (P.AA1 _ _ _ hp hc2)).nil_append

theorem aux_step (c : HCtx) (P : FuelPre c) (lmax : Nat) (optp opt : T3) (uf ub : Rat) (huf : uf = (c.uf : Rat))
    (ht : TabsOK c lmax optp opt) (fuel : Nat)
    (ihR : RecP c P lmax optp opt uf ub fuel) (ihA : AuxP c P lmax optp opt uf ub fuel) :
    AuxP c P lmax optp opt uf ub (fuel + 1) := by
  intro l K cmem hl hK hcm hp
  by_cases hs : cmem = 0 ∨ l = 0 ∨ l = 1
  · exact aux_small c P.E P.key optp opt uf ub fuel l K cmem hK hs
  have hK' : K = 0 ∨ K = 1 := by omega
  rcases hK' with hK0 | hK1
  · by_cases hc1 : cmem = 1
    · exact aux_loop c P.E optp opt uf ub fuel l K cmem (by omega) hK0 hc1
    · have hcm' : cmem ≤ c.c0 := by
        subst hK0; exact hcm
      exact aux_K0 c P lmax optp opt uf ub huf ht fuel ihR ihA l K cmem hl (by omega) hK0 (by omega) hcm' hp
  · have hcm' : cmem ≤ c.c1 := by
      subst hK1; exact hcm
    exact aux_K1 c P lmax optp opt uf ub huf ht fuel ihR ihA l K cmem hl (by omega) hK1 (by omega) hcm' hp

/-- **the mutual simulation** (same fuel on both sides): on a two-level context with natural costs, handed tables of the
right shape holding the model's entries on the index box, the generated `hrevolve_recurse` / `hrevolve_aux` return the
twin's operation list; where the twin answers `none`, the generated function raises `KeyError` or has run out of fuel. -/
theorem hrevolve_sim (c : HCtx) (P : FuelPre c) (lmax : Nat) (optp opt : T3) (uf ub : Rat) (huf : uf = (c.uf : Rat))
    (ht : TabsOK c lmax optp opt) : ∀ fuel,
    RecP c P lmax optp opt uf ub fuel ∧ AuxP c P lmax optp opt uf ub fuel := by
  intro fuel
  induction fuel with
  | zero =>
    constructor
    · intro l K cmem _ _ _ hp
      rw [hrevolveRecOps, hrevolve_recurse]
      exact ResOK_err _ _ (P.baseR _ _ _ hp)
    · intro l K cmem _ _ _ hp
      rw [hrevolveAuxOps, hrevolve_aux]
      exact ResOK_err _ _ (P.baseA _ _ _ hp)
  | succ fuel ih =>
    exact ⟨rec_step c P lmax optp opt uf ub ht fuel ih.1 ih.2, aux_step c P lmax optp opt uf ub huf ht fuel ih.1 ih.2⟩

/-- item 3, the success side for `hrevolve_recurse` -/
theorem hrevolve_recurse_refines (c : HCtx) (lmax : Nat) (optp opt : T3) (ub : Rat) (ht : TabsOK c lmax optp opt)
    (fuel l K cmem : Nat) (hl : l ≤ lmax) (hK : K ≤ 1) (hcm : cmem ≤ cv c K) (ops : List Ops.Op)
    (h : hrevolveRecOps c fuel l K cmem = some ops) :
    hrevolve_recurse fuel (l : Int) (K : Int) (cmem : Int) [(c.c0 : Int), (c.c1 : Int)] [(c.w 0 : Rat), (c.w 1 : Rat)]
      [(c.rr 0 : Rat), (c.rr 1 : Rat)] (some optp) (some opt) (c.uf : Rat) ub = .ok (ops.map opPy) := by
  have := (hrevolve_sim c (preAny c) lmax optp opt (c.uf : Rat) ub rfl ht fuel).1 l K cmem hl hK hcm trivial
  rw [h] at this
  exact this

/-- item 3, the success side for `hrevolve_aux` -/
theorem hrevolve_aux_refines (c : HCtx) (lmax : Nat) (optp opt : T3) (ub : Rat) (ht : TabsOK c lmax optp opt)
    (fuel l K cmem : Nat) (hl : l ≤ lmax) (hK : K ≤ 1) (hcm : cmem ≤ cv c K) (ops : List Ops.Op)
    (h : hrevolveAuxOps c fuel l K cmem = some ops) :
    hrevolve_aux fuel (l : Int) (K : Int) (cmem : Int) [(c.c0 : Int), (c.c1 : Int)] [(c.w 0 : Rat), (c.w 1 : Rat)]
      [(c.rr 0 : Rat), (c.rr 1 : Rat)] (some optp) (some opt) (c.uf : Rat) ub = .ok (ops.map opPy) := by
  have := (hrevolve_sim c (preAny c) lmax optp opt (c.uf : Rat) ub rfl ht fuel).2 l K cmem hl hK hcm trivial
  rw [h] at this
  exact this

/-- non-vacuity of the hypotheses of item 3: a context, tables and arguments for which they hold -/
example : ∃ ops, hrevolveRecOps (hrevolveCtx 3 2 1 ⟨1, 1, 1, 1⟩) 20 2 1 1 = some ops ∧ (2 : Nat) ≤ 2 ∧ (1 : Nat) ≤ 1 ∧
    1 ≤ cv (hrevolveCtx 3 2 1 ⟨1, 1, 1, 1⟩) 1 := by
  obtain ⟨ops, _, hops, _⟩ := revolve_iterator_hrevolve 3 2 1 ⟨1, 1, 1, 1⟩ (by decide) (by decide)
  exact ⟨ops, hops, by decide, by decide, by decide⟩

/-- item 3, the error side: where the twin answers `none` the generated function raises, and the exception is `KeyError`
or the exhaustion of the fuel -/
theorem hrevolve_recurse_error (c : HCtx) (lmax : Nat) (optp opt : T3) (ub : Rat) (ht : TabsOK c lmax optp opt)
    (fuel l K cmem : Nat) (hl : l ≤ lmax) (hK : K ≤ 1) (hcm : cmem ≤ cv c K)
    (h : hrevolveRecOps c fuel l K cmem = none) :
    ∃ e, hrevolve_recurse fuel (l : Int) (K : Int) (cmem : Int) [(c.c0 : Int), (c.c1 : Int)] [(c.w 0 : Rat), (c.w 1 : Rat)]
      [(c.rr 0 : Rat), (c.rr 1 : Rat)] (some optp) (some opt) (c.uf : Rat) ub = .error e ∧
      (e = .keyError ∨ e = .fuel) := by
  have := (hrevolve_sim c (preAny c) lmax optp opt (c.uf : Rat) ub rfl ht fuel).1 l K cmem hl hK hcm trivial
  rw [h] at this
  exact this

theorem hrevolve_aux_error (c : HCtx) (lmax : Nat) (optp opt : T3) (ub : Rat) (ht : TabsOK c lmax optp opt)
    (fuel l K cmem : Nat) (hl : l ≤ lmax) (hK : K ≤ 1) (hcm : cmem ≤ cv c K)
    (h : hrevolveAuxOps c fuel l K cmem = none) :
    ∃ e, hrevolve_aux fuel (l : Int) (K : Int) (cmem : Int) [(c.c0 : Int), (c.c1 : Int)] [(c.w 0 : Rat), (c.w 1 : Rat)]
      [(c.rr 0 : Rat), (c.rr 1 : Rat)] (some optp) (some opt) (c.uf : Rat) ub = .error e ∧
      (e = .keyError ∨ e = .fuel) := by
  have := (hrevolve_sim c (preAny c) lmax optp opt (c.uf : Rat) ub rfl ht fuel).2 l K cmem hl hK hcm trivial
  rw [h] at this
  exact this

/-- **item 3, the error side, exact**: with fuel beyond the depth of the recursion (`4·l + 3·K + 4`), where the twin answers
`none` the generated `hrevolve_recurse` raises `KeyError` (`none ↦ .error .keyError`) -/
theorem hrevolve_recurse_keyError (c : HCtx) (lmax : Nat) (optp opt : T3) (ub : Rat) (ht : TabsOK c lmax optp opt)
    (fuel l K cmem : Nat) (hl : l ≤ lmax) (hK : K ≤ 1) (hcm : cmem ≤ cv c K) (hf : 4 * l + 3 * K + 4 ≤ fuel)
    (h : hrevolveRecOps c fuel l K cmem = none) :
    hrevolve_recurse fuel (l : Int) (K : Int) (cmem : Int) [(c.c0 : Int), (c.c1 : Int)] [(c.w 0 : Rat), (c.w 1 : Rat)]
      [(c.rr 0 : Rat), (c.rr 1 : Rat)] (some optp) (some opt) (c.uf : Rat) ub = .error .keyError := by
  have := (hrevolve_sim c (preExact c) lmax optp opt (c.uf : Rat) ub rfl ht fuel).1 l K cmem hl hK hcm hf
  rw [h] at this
  obtain ⟨e, he, rfl⟩ := this
  exact he

/-- the same for `hrevolve_aux` (fuel `≥ 4·l + 3·K + 3`) -/
theorem hrevolve_aux_keyError (c : HCtx) (lmax : Nat) (optp opt : T3) (ub : Rat) (ht : TabsOK c lmax optp opt)
    (fuel l K cmem : Nat) (hl : l ≤ lmax) (hK : K ≤ 1) (hcm : cmem ≤ cv c K) (hf : 4 * l + 3 * K + 3 ≤ fuel)
    (h : hrevolveAuxOps c fuel l K cmem = none) :
    hrevolve_aux fuel (l : Int) (K : Int) (cmem : Int) [(c.c0 : Int), (c.c1 : Int)] [(c.w 0 : Rat), (c.w 1 : Rat)]
      [(c.rr 0 : Rat), (c.rr 1 : Rat)] (some optp) (some opt) (c.uf : Rat) ub = .error .keyError := by
  have hp : (preExact c).A fuel l K cmem := by
    show 4 * l + 3 * K + 2 + min (cmem - 1) 1 ≤ fuel
    omega
  have := (hrevolve_sim c (preExact c) lmax optp opt (c.uf : Rat) ub rfl ht fuel).2 l K cmem hl hK hcm hp
  rw [h] at this
  obtain ⟨e, he, rfl⟩ := this
  exact he

/-- hence, with that much fuel, the generated function never runs out of fuel: it returns the twin's list or raises
`KeyError` -/
theorem hrevolve_recurse_total (c : HCtx) (lmax : Nat) (optp opt : T3) (ub : Rat) (ht : TabsOK c lmax optp opt)
    (fuel l K cmem : Nat) (hl : l ≤ lmax) (hK : K ≤ 1) (hcm : cmem ≤ cv c K) (hf : 4 * l + 3 * K + 4 ≤ fuel) :
    hrevolve_recurse fuel (l : Int) (K : Int) (cmem : Int) [(c.c0 : Int), (c.c1 : Int)] [(c.w 0 : Rat), (c.w 1 : Rat)]
      [(c.rr 0 : Rat), (c.rr 1 : Rat)] (some optp) (some opt) (c.uf : Rat) ub =
      match hrevolveRecOps c fuel l K cmem with
      | some ops => .ok (ops.map opPy)
      | none => .error .keyError := by
  cases h : hrevolveRecOps c fuel l K cmem with
  | none => exact hrevolve_recurse_keyError c lmax optp opt ub ht fuel l K cmem hl hK hcm hf h
  | some ops => exact hrevolve_recurse_refines c lmax optp opt ub ht fuel l K cmem hl hK hcm ops h

/-- non-vacuity of the error side: `hrevolve_recurse(2, 0, 0)` is a `KeyError` in the twin, and in the generated text -/
example : hrevolveRecOps (hrevolveCtx 3 2 1 ⟨1, 1, 1, 1⟩) 12 2 0 0 = none ∧ 4 * 2 + 3 * 0 + 4 ≤ 12 := by
  constructor
  · rw [hrevolveRecOps]; rfl
  · decide
example : hrevolveRecOps (hrevolveCtx 3 2 1 ⟨1, 1, 1, 1⟩) 1 2 0 0 = none := by
  rw [hrevolveRecOps]; rfl
example (optp opt : T3) : hrevolve_recurse 1 2 0 0 [2, 1] [0, 1] [0, 1] (some optp) (some opt) 1 1 = .error .keyError := by
  rw [hrevolve_recurse]; rfl

theorem hrevolveOps_mono (c : HCtx) : ∀ fuel,
    (∀ l K cm ops, hrevolveRecOps c fuel l K cm = some ops → hrevolveRecOps c (fuel + 1) l K cm = some ops) ∧
    (∀ l K cm ops, hrevolveAuxOps c fuel l K cm = some ops → hrevolveAuxOps c (fuel + 1) l K cm = some ops) := by
  intro fuel
  induction fuel with
  | zero =>
    constructor
    · intro l K cm ops h; rw [hrevolveRecOps] at h; cases h
    · intro l K cm ops h; rw [hrevolveAuxOps] at h; cases h
  | succ fuel ih =>
    obtain ⟨ihR, ihA⟩ := ih
    constructor
    -- without a recursive call the result does not depend on the fuel, a call handed on is the induction hypothesis, a
    -- call whose result is used is `match_some_mono`
    · intro l K cm ops h
      rw [hrevolveRecOps] at h ⊢
      by_cases h0 : l = 0
      · rw [if_pos h0] at h ⊢; exact h
      rw [if_neg h0] at h ⊢
      by_cases hk : K = 0 ∧ cm = 0
      · rw [if_pos hk] at h; cases h
      rw [if_neg hk] at h ⊢
      by_cases h1 : l = 1
      · rw [if_pos h1] at h ⊢; exact h
      rw [if_neg h1] at h ⊢
      by_cases hK : K = 0
      · rw [if_pos hK] at h ⊢
        exact match_some_mono h (ihA _ _ _) (fun _ _ h => h)
      rw [if_neg hK] at h ⊢
      by_cases ht : olt (oadd (some (c.w K)) (c.tab.optp K l cm)) (c.tab.opt (K - 1) l (cv c (K - 1))) = true
      · rw [if_pos ht] at h ⊢
        exact match_some_mono h (ihA _ _ _) (fun _ _ h => h)
      · rw [if_neg ht] at h ⊢
        exact ihR _ _ _ _ h
    · intro l K cm ops h
      rw [hrevolveAuxOps] at h ⊢
      by_cases hc : cm = 0
      · rw [if_pos hc] at h; cases h
      rw [if_neg hc] at h ⊢
      by_cases h0 : l = 0
      · rw [if_pos h0] at h ⊢; exact h
      rw [if_neg h0] at h ⊢
      by_cases h1 : l = 1
      · rw [if_pos h1] at h ⊢; exact h
      rw [if_neg h1] at h ⊢
      by_cases hk : K = 0 ∧ cm = 1
      · rw [if_pos hk] at h ⊢; exact h
      rw [if_neg hk] at h ⊢
      dsimp only at h ⊢
      by_cases hK : K = 0
      · rw [if_pos hK] at h ⊢
        split at h
        · rename_i hs
          rw [if_pos hs]
          exact match_some_mono h (ihR _ _ _) (fun _ _ h => match_some_mono h (ihA _ _ _) (fun _ _ h => h))
        · rename_i hs
          rw [if_neg hs]
          exact ihA _ _ _ _ h
      · rw [if_neg hK] at h ⊢
        split at h
        · rename_i hs
          rw [if_pos hs]
          exact match_some_mono h (ihR _ _ _) (fun _ _ h => match_some_mono h (ihA _ _ _) (fun _ _ h => h))
        · rename_i hs
          rw [if_neg hs]
          exact ihR _ _ _ _ h

theorem hrevolveRecOps_mono (c : HCtx) (f f' l K cm : Nat) (ops : List Ops.Op) (hf : f ≤ f')
    (h : hrevolveRecOps c f l K cm = some ops) : hrevolveRecOps c f' l K cm = some ops := by
  induction f', hf using Nat.le_induction with
  | base => exact h
  | succ n _ ih => exact (hrevolveOps_mono c n).1 _ _ _ _ ih

/-- both tables of a pair have `lmax + 1` rows of `c + 1` entries -/
def Shape2 (lmax c : Nat) (p : Tab2 × Tab2) : Prop := RC.Shape lmax c p.1 ∧ RC.Shape lmax c p.2

theorem Shape2.s2 {lmax c : Nat} {p : Tab2 × Tab2} (h : Shape2 lmax c p) (a b a' b' : Nat) (v v' : Option Nat) :
    Shape2 lmax c (Ckpt.s2 p.1 a b v, Ckpt.s2 p.2 a' b' v') := ⟨h.1.s2 _ _ _, h.2.s2 _ _ _⟩

theorem hBorder_shape2 (lmax w0 r0 ub uf k c : Nat) (tp t : Tab2) (h : Shape2 lmax c (tp, t)) :
    Shape2 lmax c (hBorder lmax w0 r0 ub uf k c tp t) := by
  unfold hBorder
  apply foldl_inv (Shape2 lmax c)
  · intro s m _ hs
    show Shape2 lmax c (if (m = 0 ∧ k = 0) ∨ lmax < 1 then s else _)
    split
    · exact hs
    · exact hs.s2 _ _ _ _ _ _
  · apply foldl_inv (Shape2 lmax c)
    · intro s m _ hs
      exact hs.s2 _ _ _ _ _ _
    · exact h

theorem hBlank_shape2 (lmax c : Nat) : Shape2 lmax c (hBlank lmax c, hBlank lmax c) :=
  ⟨RC.hBlank_shape lmax c, RC.hBlank_shape lmax c⟩

theorem hLevel0_shape2 (lmax c0 w0 r0 ub uf : Nat) : Shape2 lmax c0 (hLevel0 lmax c0 w0 r0 ub uf) := by
  unfold hLevel0
  apply foldl_inv (Shape2 lmax c0)
  · intro s m _ hs
    apply foldl_inv (Shape2 lmax c0)
    · intro s l _ hs
      exact hs.s2 _ _ _ _ _ _
    · exact hs
  · apply foldl_inv (Shape2 lmax c0)
    · intro s l _ hs
      exact hs.s2 _ _ _ _ _ _
    · exact hBorder_shape2 _ _ _ _ _ _ _ _ _ (hBlank_shape2 lmax c0)

theorem hLevel1_shape2 (lmax c0 c1 w1 r1 uf : Nat) (o0 : Tab2) (init : Tab2 × Tab2) (h : Shape2 lmax c1 init) :
    Shape2 lmax c1 (hLevel1 lmax c0 c1 w1 r1 uf o0 init) := by
  unfold hLevel1
  apply foldl_inv (Shape2 lmax c1)
  · intro s m _ hs
    apply foldl_inv (Shape2 lmax c1)
    · intro s l _ hs
      exact hs.s2 _ _ _ _ _ _
    · exact hs
  · refine ⟨h.1, ?_⟩
    apply foldl_inv (RC.Shape lmax c1)
    · intro s l _ hs
      exact hs.s2 _ _ _
    · exact h.2

theorem shape3_enc (a b : Tab2) (lmax c0 c1 : Nat) (ha : RC.Shape lmax c0 a) (hb : RC.Shape lmax c1 b) :
    Shape3 [enc a, enc b] lmax c0 c1 := by
  have hrow : ∀ (t : Tab2) (c l : Nat) (row : List ER), RC.Shape lmax c t → (enc t)[l]? = some row →
      row.length = c + 1 := by
    intro t c l row hs h
    unfold enc at h
    rw [List.getElem?_map, Array.getElem?_toList] at h
    cases hr : t[l]? with
    | none => rw [hr] at h; cases h
    | some r =>
      rw [hr] at h
      injection h with h
      rw [← h]
      unfold encRow
      rw [List.length_map, Array.length_toList]
      exact hs.2 l r hr
  have hlen : ∀ (t : Tab2) (c : Nat), RC.Shape lmax c t → (enc t).length = lmax + 1 := by
    intro t c hs
    unfold enc
    rw [List.length_map, Array.length_toList]
    exact hs.1
  refine ⟨rfl, ?_, ?_⟩
  · intro k rows h
    rcases k with _ | _ | k
    · injection h with h; rw [← h]; exact hlen a c0 ha
    · injection h with h; rw [← h]; exact hlen b c1 hb
    · cases h
  · intro k rows l row h h2
    rcases k with _ | _ | k
    · injection h with h; rw [← h] at h2; exact hrow a c0 l row ha h2
    · injection h with h; rw [← h] at h2; exact hrow b c1 l row hb h2
    · cases h

/-- the tables returned by `get_hopt_table` are what the recursion needs -/
theorem tabsOK_hoptResult (N c0 c1 : Nat) (c : Costs) :
    TabsOK (hrevolveCtx N c0 c1 c) (N - 1) (hoptResult (N - 1) c0 c1 0 c.wd 0 c.rd c.ub c.uf).1
      (hoptResult (N - 1) c0 c1 0 c.wd 0 c.rd c.ub c.uf).2 := by
  have h0 := hLevel0_shape2 (N - 1) c0 0 0 c.ub c.uf
  have h1 := hLevel1_shape2 (N - 1) c0 c1 c.wd c.rd c.uf (hLevel0 (N - 1) c0 0 0 c.ub c.uf).2
    (hBorder (N - 1) 0 0 c.ub c.uf 1 c1 (hBlank (N - 1) c1) (hBlank (N - 1) c1))
    (hBorder_shape2 _ _ _ _ _ _ _ _ _ (hBlank_shape2 (N - 1) c1))
  refine ⟨shape3_enc _ _ _ _ _ h0.1 h1.1, shape3_enc _ _ _ _ _ h0.2 h1.2, ?_, ?_⟩
  · intro k l m hk _ _
    exact (hoptResult_spec (N - 1) c0 c1 0 c.wd 0 c.rd c.ub c.uf k l m hk).2
  · intro k l m hk _ _
    exact (hoptResult_spec (N - 1) c0 c1 0 c.wd 0 c.rd c.ub c.uf k l m hk).1

/-- non-vacuity of `TabsOK` (the table hypothesis of item 3): the tables the generated `get_hopt_table` returns -/
example := tabsOK_hoptResult 3 2 1 ⟨1, 1, 1, 1⟩

/-- the first call (`hoptp = hopt = None`) builds the tables and continues as a call that was handed them -/
theorem hrevolve_recurse_none (f : Nat) (l K cmem : Int) (cvect : List Int) (wvect rvect : List Rat) (uf ub : Rat) :
    hrevolve_recurse (f + 1) l K cmem cvect wvect rvect none none uf ub =
      match get_hopt_table l cvect wvect rvect ub uf with
      | .error e => .error e
      | .ok t => hrevolve_recurse (f + 1) l K cmem cvect wvect rvect (some t.1) (some t.2) uf ub := by
  cases hg : get_hopt_table l cvect wvect rvect ub uf with
  | error e =>
    rw [hrevolve_recurse]
    simp only [bind, Except.bind, pure, Except.pure, if_true, hg]
  | ok t =>
    simp only [hrevolve_recurse]
    simp only [bind, Except.bind, pure, Except.pure, if_true, hg, reduceCtorEq, if_false, decide_false,
      Bool.false_eq_true]

/-- **the top level**: for `N ≥ 1`, `c0 ≥ 1` and at least `4·N + 8` units of fuel, the generated
`hrevolve(max_n - 1, (c0, c1), [0, wd], [0, rd], uf, ub)` returns the twin's operation list -/
theorem hrevolve_refines (N c0 c1 : Nat) (c : Costs) (hN : 1 ≤ N) (hc0 : 1 ≤ c0) (ops : List Ops.Op)
    (h : hrevolveOpsTop N c0 c1 c = some ops) (fuel : Nat) (hf : 4 * N + 8 ≤ fuel) :
    hrevolve fuel ((N : Int) - 1) [(c0 : Int), (c1 : Int)] [0, (c.wd : Rat)] [0, (c.rd : Rat)] (c.uf : Rat) (c.ub : Rat)
      = .ok (ops.map opPy) := by
  obtain ⟨f, rfl⟩ : ∃ f, fuel = f + 1 := ⟨fuel - 1, by omega⟩
  unfold hrevolveOpsTop at h
  have h' := hrevolveRecOps_mono _ _ (f + 1) _ _ _ _ hf h
  have hsim := hrevolve_recurse_refines (hrevolveCtx N c0 c1 c) (N - 1) _ _ (c.ub : Rat) (tabsOK_hoptResult N c0 c1 c)
    (f + 1) (N - 1) 1 c1 (le_refl _) (le_refl _) (le_refl _) ops h'
  unfold hrevolve
  have hidx : pyIndex [(c0 : Int), (c1 : Int)] (-(1 : Int)) = .ok (c1 : Int) := rfl
  simp only [bind, Except.bind, pure, Except.pure, hidx]
  rw [hrevolve_recurse_none]
  have hl : (N : Int) - 1 = ((N - 1 : Nat) : Int) := by omega
  have hg := hopt_run (N - 1) c0 c1 0 c.wd 0 c.rd c.ub c.uf
  rw [if_pos (Or.inl hc0), Nat.cast_zero] at hg
  rw [hl, hg]
  simp only []
  have hw : [(((hrevolveCtx N c0 c1 c).w 0 : Nat) : Rat), (((hrevolveCtx N c0 c1 c).w 1 : Nat) : Rat)] = [0, (c.wd : Rat)] := by
    show [((0 : Nat) : Rat), (c.wd : Rat)] = _
    rw [Nat.cast_zero]
  have hr : [(((hrevolveCtx N c0 c1 c).rr 0 : Nat) : Rat), (((hrevolveCtx N c0 c1 c).rr 1 : Nat) : Rat)] = [0, (c.rd : Rat)] := by
    show [((0 : Nat) : Rat), (c.rd : Rat)] = _
    rw [Nat.cast_zero]
  rw [hw, hr] at hsim
  have hK : (([(c0 : Int), (c1 : Int)].length : Nat) : Int) - 1 = ((1 : Nat) : Int) := by
    simp
  have hsim' : hrevolve_recurse (f + 1) ((N - 1 : Nat) : Int) ((1 : Nat) : Int) (c1 : Int) [(c0 : Int), (c1 : Int)]
      [0, (c.wd : Rat)] [0, (c.rd : Rat)] (some (hoptResult (N - 1) c0 c1 0 c.wd 0 c.rd c.ub c.uf).1)
      (some (hoptResult (N - 1) c0 c1 0 c.wd 0 c.rd c.ub c.uf).2) (c.uf : Rat) (c.ub : Rat) = .ok (ops.map opPy) := hsim
  rw [hK, hsim']

/-- the hypotheses of `hrevolve_refines` hold for all valid parameters: the twin's sequence exists -/
theorem hrevolve_refines_total (N c0 c1 : Nat) (c : Costs) (hN : 1 ≤ N) (hc0 : 1 ≤ c0) :
    ∃ ops, hrevolveOpsTop N c0 c1 c = some ops ∧ ∀ fuel, 4 * N + 8 ≤ fuel →
      hrevolve fuel ((N : Int) - 1) [(c0 : Int), (c1 : Int)] [0, (c.wd : Rat)] [0, (c.rd : Rat)] (c.uf : Rat) (c.ub : Rat)
        = .ok (ops.map opPy) := by
  obtain ⟨ops, _, hops, _⟩ := revolve_iterator_hrevolve N c0 c1 c hN hc0
  exact ⟨ops, hops, fun fuel hf => hrevolve_refines N c0 c1 c hN hc0 ops hops fuel hf⟩

example : (1 : Nat) ≤ 3 ∧ (1 : Nat) ≤ 2 ∧ 4 * 3 + 8 ≤ 20 := by decide
example := hrevolve_refines_total 3 2 1 ⟨1, 1, 1, 1⟩ (by decide) (by decide)

/-- `HRevolve(max_n, c0, c1, uf, ub, wd, rd)` (hrevolve.py:230-236) and its iteration: the GENERATED builder
(`schedule = list(hrevolve(max_n - 1, (c0, c1), [0, wd], [0, rd], uf, ub))`, fuel `fuelB`), then the generated
`CheckpointSchedule.__init__` and `RevolveCheckpointSchedule._iterator` on that schedule (`revolve_run`, fuel `fuelI`) -/
def hrevolve_full_run (fuelB fuelI : Nat) (max_n c0 c1 : Int) (uf ub wd rd : Rat) : M (List PyEv) := do
  let schedule ← hrevolve fuelB (max_n - 1) [c0, c1] [0, wd] [0, rd] uf ub
  revolve_run fuelI max_n schedule

theorem hrevolve_full_run_eq (N c0 c1 : Nat) (c : Costs) (hN : 1 ≤ N) (hc0 : 1 ≤ c0) (ops : List Ops.Op)
    (hops : hrevolveOpsTop N c0 c1 c = some ops) (fuelB fuelI : Nat) (hB : 4 * N + 8 ≤ fuelB) :
    hrevolve_full_run fuelB fuelI (N : Int) (c0 : Int) (c1 : Int) (c.uf : Rat) (c.ub : Rat) (c.wd : Rat) (c.rd : Rat) =
      revolve_run fuelI (N : Int) (ops.map opPy) := by
  unfold hrevolve_full_run
  rw [hrevolve_refines N c0 c1 c hN hc0 ops hops fuelB hB]
  rfl

/-- **HRevolve, builder and iterator both as translated from the source**: for all valid parameters
(`max_n = N ≥ 1`, `snapshots_in_ram = c0 ≥ 1`, `uf, ub > 0`) the generated `hrevolve` (fuel `≥ 4·N + 8`) followed by the
generated `_iterator` (fuel: one more than the number of operations built) returns an event list whose observations the
checking executor accepts (no violation of any tag, complete) with `c0` RAM units, `c1` DISK units and one adjoint
calculation.  The stream is the stream model `hrevolveEvs` the property theorems are about (`hrevolve_full_run_model`). -/
theorem source_hrevolve_accepted_full (N c0 c1 : Nat) (c : Costs) (hv : validRevolve N c0 c.uf c.ub = true) (k : Nat) :
    ∃ ops, hrevolveOpsTop N c0 c1 c = some ops ∧ ∀ fuelB fuelI, 4 * N + 8 ≤ fuelB → ops.length + 1 ≤ fuelI →
      ∃ pevs, hrevolve_full_run fuelB fuelI (N : Int) (c0 : Int) (c1 : Int) (c.uf : Rat) (c.ub : Rat) (c.wd : Rat)
          (c.rd : Rat) = .ok pevs ∧
        Accepted (cfgHRevolve c0 c1 N) k (obsOfPy false N pevs) := by
  obtain ⟨hN, hc0, _, _⟩ := (validRevolve_iff _ _ _ _).1 hv
  obtain ⟨ops, hops, h⟩ := source_hrevolve_accepted N c0 c1 c hv k
  refine ⟨ops, hops, fun fuelB fuelI hB hI => ?_⟩
  obtain ⟨pevs, hp, ha⟩ := h fuelI hI
  exact ⟨pevs, (hrevolve_full_run_eq N c0 c1 c hN hc0 ops hops fuelB fuelI hB).trans hp, ha⟩

/-- with one fuel bound for both stages -/
theorem source_hrevolve_accepted_full' (N c0 c1 : Nat) (c : Costs) (hv : validRevolve N c0 c.uf c.ub = true) (k : Nat) :
    ∃ F, ∀ fuel, F ≤ fuel →
      ∃ pevs, hrevolve_full_run fuel fuel (N : Int) (c0 : Int) (c1 : Int) (c.uf : Rat) (c.ub : Rat) (c.wd : Rat)
          (c.rd : Rat) = .ok pevs ∧
        Accepted (cfgHRevolve c0 c1 N) k (obsOfPy false N pevs) := by
  obtain ⟨ops, _, h⟩ := source_hrevolve_accepted_full N c0 c1 c hv k
  exact ⟨max (4 * N + 8) (ops.length + 1), fun fuel hf => h fuel fuel (le_trans (le_max_left _ _) hf)
    (le_trans (le_max_right _ _) hf)⟩

/-- the properties discharged for builder + iterator: no violation of any of the tags the executor checks, and the
stream is complete -/
theorem source_hrevolve_C01_C18_full (N c0 c1 : Nat) (c : Costs) (hv : validRevolve N c0 c.uf c.ub = true) :
    ∃ ops, hrevolveOpsTop N c0 c1 c = some ops ∧ ∀ fuelB fuelI, 4 * N + 8 ≤ fuelB → ops.length + 1 ≤ fuelI →
      ∃ pevs, hrevolve_full_run fuelB fuelI (N : Int) (c0 : Int) (c1 : Int) (c.uf : Rat) (c.ub : Rat) (c.wd : Rat)
          (c.rd : Rat) = .ok pevs ∧
        NoViolation (cfgHRevolve c0 c1 N) (obsOfPy false N pevs) ∧
        finished (cfgHRevolve c0 c1 N) (run (cfgHRevolve c0 c1 N) (obsOfPy false N pevs)).1 = true := by
  obtain ⟨ops, hops, h⟩ := source_hrevolve_accepted_full N c0 c1 c hv 1
  refine ⟨ops, hops, fun fuelB fuelI hB hI => ?_⟩
  obtain ⟨pevs, hp, ha⟩ := h fuelB fuelI hB hI
  exact ⟨pevs, hp, ha.noViolation, ha.finished rfl⟩

/-- the stream of builder + iterator is the stream model `hrevolveEvs` (the model of the property theorems) -/
theorem hrevolve_full_run_model (N c0 c1 : Nat) (c : Costs) (hN : 1 ≤ N) (hc0 : 1 ≤ c0) :
    ∃ ops evs, hrevolveOpsTop N c0 c1 c = some ops ∧ hrevolveEvs N c0 c1 c = .ok evs ∧
      ∀ fuelB fuelI, 4 * N + 8 ≤ fuelB → ops.length + 1 ≤ fuelI →
        hrevolve_full_run fuelB fuelI (N : Int) (c0 : Int) (c1 : Int) (c.uf : Rat) (c.ub : Rat) (c.wd : Rat) (c.rd : Rat) =
          .ok (markLast (evs.map (evPy · false))) := by
  obtain ⟨ops, evs, hops, hev, hrun⟩ := revolve_iterator_hrevolve N c0 c1 c hN hc0
  refine ⟨ops, evs, hops, hev, fun fuelB fuelI hB hI => ?_⟩
  rw [hrevolve_full_run_eq N c0 c1 c hN hc0 ops hops fuelB fuelI hB, revolve_run_eq fuelI N _ hN]
  exact hrun fuelI hI

example : validRevolve 3 2 (⟨1, 1, 1, 1⟩ : Costs).uf (⟨1, 1, 1, 1⟩ : Costs).ub = true := by decide
example := source_hrevolve_accepted_full 3 2 1 ⟨1, 1, 1, 1⟩ (by decide) 1
example := source_hrevolve_C01_C18_full 3 2 1 ⟨1, 1, 1, 1⟩ (by decide)
example := hrevolve_full_run_model 3 2 1 ⟨1, 1, 1, 1⟩ (by decide) (by decide)

end Ckpt.Py

#print axioms Ckpt.Py.argmin_er_refines
#print axioms Ckpt.Py.seqLast_opPy
#print axioms Ckpt.Py.hrevolve_sim
#print axioms Ckpt.Py.hrevolve_recurse_refines
#print axioms Ckpt.Py.hrevolve_aux_refines
#print axioms Ckpt.Py.hrevolve_recurse_error
#print axioms Ckpt.Py.hrevolve_aux_error
#print axioms Ckpt.Py.hrevolve_refines
#print axioms Ckpt.Py.hrevolve_refines_total
#print axioms Ckpt.Py.source_hrevolve_accepted_full
#print axioms Ckpt.Py.source_hrevolve_accepted_full'
#print axioms Ckpt.Py.source_hrevolve_C01_C18_full
#print axioms Ckpt.Py.hrevolve_full_run_model
#print axioms Ckpt.Py.hrevolve_recurse_keyError
#print axioms Ckpt.Py.hrevolve_aux_keyError
#print axioms Ckpt.Py.hrevolve_recurse_total
