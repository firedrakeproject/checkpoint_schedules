import CkptGen.RefineNAdv
import CkptVerif.Properties.Twins
import CkptVerif.Proofs.MultistageE2E
import Mathlib.Tactic
import CkptGen.RefineCommon
/-!
# The Lean text generated from `MultistageCheckpointSchedule._iterator` yields the model's events

`Ckpt.Py.multistage_iterator` (with its loops `while1/while2/while3`) is produced by `harness/py2lean.py` from the
current Python source.  It is related here to the literal twin `msFwd/msRev/msInner` (`Model/MultistageIter.lean`)
by a simulation: the generated text is cut into three continuations (`genFwd`, `genRev`, `genInner`: "the rest of
the run from the head of this loop on"), one equation per loop iteration / loop exit is proved
(`genFwd_step`, …, by evaluating the loop body with `n_advance_ok`), and an induction on the twin's fuel shows that
whenever the twin returns `.ok evs` the continuation returns `out ++ markLast (evs as PyEv)` (`sim_all`).
The twin's `snapshots` stack is most-recent-first, the generated list is oldest-first (`snapsPy`).
`twin_multistage` then gives the statement for the stream model `multistageEvs`.

Fuel: `multistageFuel N = N + 2` (the same number is handed to every loop and to `n_advance`).
-/

namespace Ckpt.Py
open Ckpt

/-! ## the model's values as values of the generated text -/

theorem stPy_work : stPy .work = .work := rfl

/-- the last event carries `exhausted = true` -/
def markLast : List PyEv → List PyEv
  | [] => []
  | [e] => [{ e with exhausted := true }]
  | e :: e' :: es => e :: markLast (e' :: es)

theorem markLast_cons_ne (e : PyEv) (l : List PyEv) (h : l ≠ []) : markLast (e :: l) = e :: markLast l := by
  cases l with
  | nil => exact absurd rfl h
  | cons a l => rfl

theorem markLast_append_ne (a b : List PyEv) (h : b ≠ []) : markLast (a ++ b) = a ++ markLast b := by
  induction a with
  | nil => rfl
  | cons x a ih =>
    rw [List.cons_append, markLast_cons_ne _ _ (by simp [h]), ih, List.cons_append]

section gen
variable (N S : Nat) (storage : List Storage) (ram disk : Int) (traj : Traj)

/-- `self._storage[len(snapshots) - 1]` once the list has grown to `snaps ++ [x]` -/
theorem pyIndex_storage (hlen : storage.length = S) (snaps : List Int) (x : Int) (hS : snaps.length < S) :
    pyIndex (storage.map stPy) (((snaps ++ [x]).length : Int) - 1)
      = .ok (stPy (storage.getD snaps.length .none)) := by
  have e : (((snaps ++ [x]).length : Int) - 1) = ((snaps.length : Nat) : Int) := by simp
  have h : snaps.length < storage.length := by omega
  rw [e, pyIndex_nat_ms _ _ (by simpa using h), List.getElem_map, List.getD_eq_getElem?_getD,
    List.getElem?_eq_getElem h]
  rfl

/-! ## the generated function as three continuations (`forward loop`, `reverse loop`, `inner loop`) -/

/-- the rest of the body of the reverse loop after the inner loop (lines 277-283) and the next iterations -/
def revTail (F : Nat) (r : Int)
    (v : Int × Int × Int × Int × StorageType × List PyEv × List Int) : M (Int × Int × List PyEv × List Int) :=
  if v.2.2.2.1 ≠ (N : Int) - r - 1 then throw .runtimeError else
    multistage_iterator.while2 (some (N : Int)) (storage.map stPy) ram disk (trajStr traj) false F
      (v.2.2.2.1 + 1, r + 1,
        v.2.2.2.2.2.1 ++ [PyEv.mk (.forward (v.2.2.2.1 + 1 - 1) (v.2.2.2.1 + 1) false true .work) (v.2.2.2.1 + 1) r false]
          ++ [PyEv.mk (.reverse (v.2.2.2.1 + 1) (v.2.2.2.1 + 1 - 1) true) (v.2.2.2.1 + 1) (r + 1) false],
        v.2.2.2.2.2.2)

/-- lines 284-290: the final checks and `EndReverse` -/
def fin2 (v : Int × Int × List PyEv × List Int) : M (List PyEv) :=
  if v.2.1 ≠ (N : Int) then throw .runtimeError else
  if ((v.2.2.2.length : Nat) : Int) ≠ 0 then throw .runtimeError else
  .ok (v.2.2.1 ++ [PyEv.mk .endReverse v.1 v.2.1 true])

/-- the generated text from the head of the reverse loop on -/
def genRev (F : Nat) (s : Int × Int × List PyEv × List Int) : M (List PyEv) :=
  multistage_iterator.while2 (some (N : Int)) (storage.map stPy) ram disk (trajStr traj) false F s >>= fin2 N

/-- the generated text from the head of the inner loop on -/
def genInner (Fw F : Nat) (r : Int) (s : Int × Int × Int × Int × StorageType × List PyEv × List Int) :
    M (List PyEv) :=
  multistage_iterator.while3 (some (N : Int)) r ram disk (trajStr traj) (storage.map stPy) false Fw s >>=
    fun v => revTail N storage ram disk traj F r v >>= fin2 N

/-- lines 230-241 and the rest -/
def fwdTail (F : Nat) (r : Int) (v : Int × List PyEv × List Int) : M (List PyEv) :=
  if v.1 ≠ (N : Int) - 1 then throw .runtimeError else
    genRev N storage ram disk traj F
      (v.1 + 1, r + 1,
        v.2.1 ++ [PyEv.mk (.forward (v.1 + 1 - 1) (v.1 + 1) false true .work) (v.1 + 1) r false]
          ++ [PyEv.mk .endForward (v.1 + 1) r false]
          ++ [PyEv.mk (.reverse (v.1 + 1) (v.1 + 1 - 1) true) (v.1 + 1) (r + 1) false],
        v.2.2)

/-- the generated text from the head of the forward loop on -/
def genFwd (Fw F : Nat) (r : Int) (s : Int × List PyEv × List Int) : M (List PyEv) :=
  multistage_iterator.while1 (some (N : Int)) ram disk (trajStr traj) (storage.map stPy) r false Fw s >>=
    fwdTail N storage ram disk traj F r

theorem multistage_iterator_eq (fuel : Nat) :
    multistage_iterator fuel 0 0 (some (N : Int)) ram disk (storage.map stPy) (trajStr traj) false =
      genFwd N storage ram disk traj fuel fuel 0 (0, [], []) := by
  unfold multistage_iterator genFwd
  simp only [bind, Except.bind, pure, Except.pure, unwrap]
  rw [if_neg (by simp)]
  generalize multistage_iterator.while1 _ _ _ _ _ _ _ _ _ = w
  cases w with
  | error e => rfl
  | ok v =>
    simp only [fwdTail]
    split_ifs
    · rfl
    · simp only [genRev, bind, Except.bind]
      generalize multistage_iterator.while2 _ _ _ _ _ _ _ _ = w2
      cases w2 with
      | error e => rfl
      | ok v2 => rfl

/-! ## one iteration, or the exit, of each loop: an equation between continuations -/

theorem genFwd_step (hlen : storage.length = S) (hrd : ram + disk = (S : Int)) (r : Nat)
    (Fw F n a : Nat) (out : List PyEv) (snaps : List Int) (h : n < N - 1)
    (ha : nAdvance (N - n) (S - snaps.length) traj = some a) (ha1 : 1 ≤ a) (hS : snaps.length < S)
    (hf : N - n + 1 ≤ Fw) :
    genFwd N storage ram disk traj (Fw + 1) F (r : Int) ((n : Int), out, snaps) =
      genFwd N storage ram disk traj Fw F (r : Int) (((n + a : Nat) : Int),
        out ++ [evPy ⟨.forward n (n + a) true false (storage.getD snaps.length .none), n + a, r⟩ false],
        snaps ++ [(n : Int)]) := by
  unfold genFwd
  rw [multistage_iterator.while1]
  have hc : (n : Int) < (N : Int) - 1 := cast_lt_sub (c := 1) h
  have hadv := n_advance_ok (x := (N : Int) - n) (y := ram + disk - snaps.length) ha
    (Nat.cast_sub (Nat.le_of_lt (Nat.lt_of_lt_of_le h (Nat.sub_le _ _)))).symm
    (by rw [hrd]; exact (Nat.cast_sub hS.le).symm) hf
  have h3 : (n : Int) + (a : Int) > (n : Int) := lt_add_of_pos_right _ (by exact_mod_cast ha1)
  have h4 : ¬ ((snaps.length : Int) ≥ ram + disk) := by rw [hrd]; exact not_le.2 (by exact_mod_cast hS)
  simp only [↓reduceIte, bind, Except.bind, pure, Except.pure, unwrap, hc, hadv, h3, h4, not_true_eq_false,
    pyIndex_storage S storage hlen snaps _ hS, evPy, actPy]
  push_cast
  rfl

theorem genFwd_exit (r : Nat) (Fw F n : Nat) (out : List PyEv) (snaps : List Int) (h : n + 1 = N) :
    genFwd N storage ram disk traj (Fw + 1) F (r : Int) ((n : Int), out, snaps) =
      genRev N storage ram disk traj F (((n + 1 : Nat) : Int), ((r + 1 : Nat) : Int),
        out ++ [evPy ⟨.forward n (n + 1) false true .work, n + 1, r⟩ false,
          evPy ⟨.endForward, n + 1, r⟩ false, evPy ⟨.reverse (n + 1) n true, n + 1, r + 1⟩ false], snaps) := by
  unfold genFwd
  rw [multistage_iterator.while1]
  have hc : ¬ (n : Int) < (N : Int) - 1 := by omega
  have h1 : ¬ ((n : Int) ≠ (N : Int) - 1) := by omega
  simp only [↓reduceIte, bind, Except.bind, pure, Except.pure, unwrap, hc, fwdTail, h1]
  simp only [evPy, actPy, stPy_work, List.append_assoc, List.cons_append, List.nil_append]
  push_cast
  simp only [add_sub_cancel_right]

theorem genRev_move (hlen : storage.length = S) (F : Nat) (n : Int) (r cp : Nat)
    (out : List PyEv) (snaps : List Int) (hr : r < N) (h : cp + 1 = N - r) (hS : snaps.length < S) :
    genRev N storage ram disk traj (F + 1) (n, (r : Int), out, snaps ++ [(cp : Int)]) =
      genRev N storage ram disk traj F (((cp + 1 : Nat) : Int), ((r + 1 : Nat) : Int),
          out ++ [evPy ⟨.move cp (storage.getD snaps.length .none) .work, cp, r⟩ false,
            evPy ⟨.forward cp (cp + 1) false true .work, cp + 1, r⟩ false,
            evPy ⟨.reverse (cp + 1) cp true, cp + 1, r + 1⟩ false], snaps) := by
  unfold genRev
  rw [multistage_iterator.while2]
  have hc : (r : Int) < (N : Int) := by exact_mod_cast hr
  have h0 : ¬ (((snaps ++ [(cp : Int)]).length : Int) = 0) := by
    rw [List.length_append, List.length_singleton]; exact_mod_cast Nat.succ_ne_zero snaps.length
  have hm : (N : Int) - (r : Int) - 1 = (cp : Int) := cast_succ_eq_sub h
  simp only [↓reduceIte, bind, Except.bind, pure, Except.pure, unwrap, hc, h0, pyIndex_last,
    pyIndex_storage S storage hlen snaps _ hS, hm, pyPop_snoc]
  simp only [evPy, actPy, stPy, List.append_assoc, List.cons_append, List.nil_append]
  push_cast
  simp only [add_sub_cancel_right]

theorem genRev_copy (hlen : storage.length = S) (hrd : ram + disk = (S : Int)) (F : Nat) (n : Int)
    (r cp a : Nat) (out : List PyEv) (snaps : List Int) (hr : r < N) (h : cp + 1 ≠ N - r)
    (ha : nAdvance (N - r - cp) (S - (snaps.length + 1) + 1) traj = some a) (ha1 : 1 ≤ a)
    (hS : snaps.length < S) (hf : N - r - cp + 1 ≤ F) :
    genRev N storage ram disk traj (F + 1) (n, (r : Int), out, snaps ++ [(cp : Int)]) =
      genInner N storage ram disk traj F F (r : Int)
        (((S - (snaps.length + 1) + 1 : Nat) : Int), (cp : Int), ((cp + a : Nat) : Int), ((cp + a : Nat) : Int),
          stPy (storage.getD snaps.length .none),
          out ++ [evPy ⟨.copy cp (storage.getD snaps.length .none) .work, cp, r⟩ false,
            evPy ⟨.forward cp (cp + a) false false .work, cp + a, r⟩ false],
          snaps ++ [(cp : Int)]) := by
  unfold genRev genInner
  rw [multistage_iterator.while2]
  have hc : (r : Int) < (N : Int) := by exact_mod_cast hr
  have h0 : ¬ (((snaps ++ [(cp : Int)]).length : Int) = 0) := by
    rw [List.length_append, List.length_singleton]; exact_mod_cast Nat.succ_ne_zero snaps.length
  have hm : ¬ (cp : Int) = (N : Int) - (r : Int) - 1 := cast_succ_ne_sub h
  have e2 : ram + disk - (((snaps ++ [(cp : Int)]).length : Nat) : Int) + 1
      = ((S - (snaps.length + 1) + 1 : Nat) : Int) := by
    rw [hrd, List.length_append, List.length_singleton]; omega
  have hpos : N - r - cp ≠ 0 := fun h0 => by rw [nAdvance_eq_none _ _ _ (Or.inl h0)] at ha; cases ha
  have hadv := n_advance_ok (x := (N : Int) - r - cp) (y := ((S - (snaps.length + 1) + 1 : Nat) : Int)) ha
    (cast_sub_sub hpos) rfl hf
  have h3 : (cp : Int) + (a : Int) > (cp : Int) := lt_add_of_pos_right _ (by exact_mod_cast ha1)
  simp only [↓reduceIte, bind, Except.bind, pure, Except.pure, unwrap, hc, h0, pyIndex_last,
    pyIndex_storage S storage hlen snaps _ hS, hm, e2, hadv, h3, not_true_eq_false]
  simp only [evPy, actPy, stPy_work, List.append_assoc, List.cons_append, List.nil_append]
  push_cast
  generalize multistage_iterator.while3 _ _ _ _ _ _ _ _ _ = w
  cases w with
  | error e => rfl
  | ok v =>
    simp only [revTail]
    split_ifs
    · rfl
    · simp only [List.append_assoc, List.cons_append, List.nil_append]

theorem genRev_exit (F n : Nat) (out : List PyEv) :
    genRev N storage ram disk traj (F + 1) ((n : Int), (N : Int), out, []) =
      .ok (out ++ [evPy ⟨.endReverse, n, N⟩ true]) := by
  unfold genRev
  rw [multistage_iterator.while2]
  simp only [↓reduceIte, bind, Except.bind, pure, Except.pure, unwrap, lt_self_iff_false, fin2, ne_eq,
    not_true_eq_false, List.length_nil, Nat.cast_zero]
  rfl

theorem genInner_step (hlen : storage.length = S) (hrd : ram + disk = (S : Int)) (r : Nat)
    (Fw F n a : Nat) (ns n0 n1 : Int) (cs : StorageType) (out : List PyEv) (snaps : List Int)
    (h : n < N - r - 1)
    (ha : nAdvance (N - r - n) (S - snaps.length) traj = some a) (ha1 : 1 ≤ a) (hS : snaps.length < S)
    (hf : N - r - n + 1 ≤ Fw) :
    genInner N storage ram disk traj (Fw + 1) F (r : Int) (ns, n0, n1, (n : Int), cs, out, snaps) =
      genInner N storage ram disk traj Fw F (r : Int)
        (((S - snaps.length : Nat) : Int), (n : Int), ((n + a : Nat) : Int), ((n + a : Nat) : Int),
          stPy (storage.getD snaps.length .none),
          out ++ [evPy ⟨.forward n (n + a) true false (storage.getD snaps.length .none), n + a, r⟩ false],
          snaps ++ [(n : Int)]) := by
  unfold genInner
  rw [multistage_iterator.while3]
  have hc : (n : Int) < (N : Int) - (r : Int) - 1 := cast_lt_sub_sub (d := 1) h
  have e2 : ram + disk - (snaps.length : Int) = ((S - snaps.length : Nat) : Int) := by
    rw [hrd]; exact (Nat.cast_sub hS.le).symm
  have hadv := n_advance_ok (x := (N : Int) - r - n) (y := ((S - snaps.length : Nat) : Int)) ha
    (cast_sub_sub (Nat.sub_ne_zero_of_lt (Nat.lt_of_lt_of_le h (Nat.sub_le _ _)))) rfl hf
  have h3 : (n : Int) + (a : Int) > (n : Int) := lt_add_of_pos_right _ (by exact_mod_cast ha1)
  have h4 : ¬ ((snaps.length : Int) ≥ ram + disk) := by rw [hrd]; exact not_le.2 (by exact_mod_cast hS)
  simp only [↓reduceIte, bind, Except.bind, pure, Except.pure, unwrap, hc, hadv, h3, h4, not_true_eq_false,
    pyIndex_storage S storage hlen snaps _ hS, e2, evPy, actPy]
  push_cast
  rfl

theorem genInner_exit (r : Nat) (Fw F n : Nat) (ns n0 n1 : Int) (cs : StorageType) (out : List PyEv)
    (snaps : List Int) (h : n + 1 = N - r) (hr : r < N) :
    genInner N storage ram disk traj (Fw + 1) F (r : Int) (ns, n0, n1, (n : Int), cs, out, snaps) =
      genRev N storage ram disk traj F (((n + 1 : Nat) : Int), ((r + 1 : Nat) : Int),
        out ++ [evPy ⟨.forward n (n + 1) false true .work, n + 1, r⟩ false,
          evPy ⟨.reverse (n + 1) n true, n + 1, r + 1⟩ false], snaps) := by
  unfold genInner
  rw [multistage_iterator.while3]
  have hc : ¬ (n : Int) < (N : Int) - (r : Int) - 1 := by omega
  have h1 : ¬ ((n : Int) ≠ (N : Int) - (r : Int) - 1) := by omega
  simp only [↓reduceIte, bind, Except.bind, pure, Except.pure, unwrap, hc, revTail, h1]
  simp only [genRev, evPy, actPy, stPy_work, List.append_assoc, List.cons_append, List.nil_append]
  push_cast
  simp only [add_sub_cancel_right]
  rfl

end gen

/-! ## simulation: twin (continuation style) against the generated text -/

theorem emits_inv (es : List Ev) (k : Except Err (List Ev)) (l : List Ev) (h : RC.emits es k = .ok l) :
    ∃ l', k = .ok l' ∧ l = es ++ l' := by
  induction es generalizing l with
  | nil => exact ⟨l, h, rfl⟩
  | cons e es ih =>
    rw [RC.emits_cons] at h
    obtain ⟨l1, h1, h2⟩ := yieldEv_ok h
    obtain ⟨l', h3, h4⟩ := ih l1 h1
    exact ⟨l', h3, by rw [h2, h4]; rfl⟩

/-- the generated `snapshots` list: oldest first -/
def snapsPy (l : List Nat) : List Int := l.reverse.map (fun k : Nat => (k : Int))

theorem snapsPy_cons (a : Nat) (l : List Nat) : snapsPy (a :: l) = snapsPy l ++ [(a : Int)] := by
  simp [snapsPy]

theorem snapsPy_length (l : List Nat) : (snapsPy l).length = l.length := by simp [snapsPy]

section sim
variable (N S : Nat) (storage : List Storage) (ram disk : Int) (traj : Traj)

def PFwd (f : Nat) : Prop :=
  ∀ (σ : MsSt) (evs : List Ev), msFwd N S (fun d => storage.getD d .none) traj f σ = .ok evs →
    σ.snapshots.length ≤ S → ∀ (Fw F : Nat) (out : List PyEv), N + 2 ≤ Fw + σ.n → N + 2 ≤ F + σ.r →
    evs ≠ [] ∧ genFwd N storage ram disk traj Fw F (σ.r : Int) ((σ.n : Int), out, snapsPy σ.snapshots) =
      .ok (out ++ markLast (evs.map (evPy · false)))

def PRev (f : Nat) : Prop :=
  ∀ (σ : MsSt) (evs : List Ev), msRev N S (fun d => storage.getD d .none) traj f σ = .ok evs →
    σ.snapshots.length ≤ S → ∀ (F : Nat) (out : List PyEv), N + 3 ≤ F + σ.r →
    evs ≠ [] ∧ genRev N storage ram disk traj F ((σ.n : Int), (σ.r : Int), out, snapsPy σ.snapshots) =
      .ok (out ++ markLast (evs.map (evPy · false)))

def PInner (f : Nat) : Prop :=
  ∀ (σ : MsSt) (evs : List Ev), msInner N S (fun d => storage.getD d .none) traj f σ = .ok evs →
    σ.snapshots.length ≤ S → σ.r < N → ∀ (Fw F : Nat) (ns n0 n1 : Int) (cs : StorageType) (out : List PyEv),
    N + 2 ≤ Fw + σ.r + σ.n → N + 2 ≤ F + σ.r →
    evs ≠ [] ∧ genInner N storage ram disk traj Fw F (σ.r : Int)
        (ns, n0, n1, (σ.n : Int), cs, out, snapsPy σ.snapshots) =
      .ok (out ++ markLast (evs.map (evPy · false)))

/-- glue: a block of events, then the continuation -/
theorem glue (es l' : List Ev) (out : List PyEv) (g : M (List PyEv)) (hl : l' ≠ [])
    (hg : g = .ok ((out ++ es.map (evPy · false)) ++ markLast (l'.map (evPy · false)))) :
    es ++ l' ≠ [] ∧ g = .ok (out ++ markLast ((es ++ l').map (evPy · false))) := by
  refine ⟨by simp [hl], ?_⟩
  rw [hg, List.map_append, markLast_append_ne _ _ (by simp [hl]), List.append_assoc]

theorem stepFwd (hN : 1 ≤ N) (hlen : storage.length = S) (hrd : ram + disk = (S : Int)) (f : Nat)
    (ihF : PFwd N S storage ram disk traj f) (ihR : PRev N S storage ram disk traj f) :
    PFwd N S storage ram disk traj (f + 1) := by
  intro σ evs h hS Fw F out hFw hF
  obtain ⟨n, r, stack⟩ := σ
  simp only at hS hFw hF ⊢
  by_cases hc : n < N - 1
  · cases ha : nAdvance (N - n) (S - stack.length) traj with
    | none => rw [msFwd] at h; simp only [hc, ha, ↓reduceIte, reduceCtorEq] at h
    | some a =>
      by_cases ha1 : 1 ≤ a
      · have hu := RC.nAdvance_units _ _ _ _ ha
        have hS' : stack.length < S := by omega
        rw [RC.fwd_iter N S _ traj f n r a stack hc ha ha1 hS'] at h
        obtain ⟨l', h1, h2⟩ := yieldEv_ok h
        obtain ⟨Fw', rfl⟩ : ∃ k, Fw = k + 1 := ⟨Fw - 1, by omega⟩
        have := ihF ⟨n + a, r, n :: stack⟩ l' h1 (by rw [List.length_cons]; omega) Fw' F
          (out ++ [evPy ⟨.forward n (n + a) true false (storage.getD stack.length .none), n + a, r⟩ false])
          (by simp only; omega) hF
        rw [genFwd_step N S storage ram disk traj hlen hrd r Fw' F n a out (snapsPy stack) hc
          (by rw [snapsPy_length]; exact ha) ha1 (by rw [snapsPy_length]; exact hS') (by omega)]
        rw [h2]
        rw [snapsPy_length]
        simp only [snapsPy_cons] at this
        exact glue [_] l' out _ this.1 this.2
      · have ha0 : a = 0 := by omega
        rw [msFwd] at h
        simp only [hc, ha, ha0, ↓reduceIte, Nat.add_zero, gt_iff_lt, lt_self_iff_false, not_false_eq_true,
          reduceCtorEq] at h
  · by_cases hn : n + 1 = N
    · rw [RC.fwd_exit N S _ traj f n r stack hn] at h
      obtain ⟨l', h1, h2⟩ := emits_inv _ _ _ h
      obtain ⟨Fw', rfl⟩ : ∃ k, Fw = k + 1 := ⟨Fw - 1, by omega⟩
      have := ihR ⟨n + 1, r + 1, stack⟩ l' h1 hS F
        (out ++ [evPy ⟨.forward n (n + 1) false true .work, n + 1, r⟩ false,
          evPy ⟨.endForward, n + 1, r⟩ false, evPy ⟨.reverse (n + 1) n true, n + 1, r + 1⟩ false])
        (by simp only; omega)
      rw [genFwd_exit N storage ram disk traj r Fw' F n out (snapsPy stack) hn, h2]
      exact glue [_, _, _] l' out _ this.1 this.2
    · rw [msFwd] at h
      have : n ≠ N - 1 := by omega
      simp only [hc, this, msErr, ↓reduceIte, ne_eq, not_false_eq_true, reduceCtorEq] at h

theorem stepInner (hlen : storage.length = S) (hrd : ram + disk = (S : Int)) (f : Nat)
    (ihI : PInner N S storage ram disk traj f) (ihR : PRev N S storage ram disk traj f) :
    PInner N S storage ram disk traj (f + 1) := by
  intro σ evs h hS hr Fw F ns n0 n1 cs out hFw hF
  obtain ⟨n, r, stack⟩ := σ
  simp only at hS hFw hF hr ⊢
  by_cases hc : n < N - r - 1
  · cases ha : nAdvance (N - r - n) (S - stack.length) traj with
    | none => rw [msInner] at h; simp only [hc, ha, ↓reduceIte, reduceCtorEq] at h
    | some a =>
      by_cases ha1 : 1 ≤ a
      · have hu := RC.nAdvance_units _ _ _ _ ha
        have hS' : stack.length < S := by omega
        rw [RC.inner_iter N S _ traj f n r a stack hc ha ha1 hS'] at h
        obtain ⟨l', h1, h2⟩ := yieldEv_ok h
        obtain ⟨Fw', rfl⟩ : ∃ k, Fw = k + 1 := ⟨Fw - 1, by omega⟩
        have := ihI ⟨n + a, r, n :: stack⟩ l' h1 (by rw [List.length_cons]; omega) hr Fw' F
          (((S - (snapsPy stack).length : Nat) : Int)) (n : Int) ((n + a : Nat) : Int)
          (stPy (storage.getD (snapsPy stack).length .none))
          (out ++ [evPy ⟨.forward n (n + a) true false (storage.getD stack.length .none), n + a, r⟩ false])
          (by simp only; omega) hF
        rw [genInner_step N S storage ram disk traj hlen hrd r Fw' F n a ns n0 n1 cs out (snapsPy stack) hc
          (by rw [snapsPy_length]; exact ha) ha1 (by rw [snapsPy_length]; exact hS') (by omega)]
        rw [h2]
        simp only [snapsPy_cons] at this
        rw [snapsPy_length] at this ⊢
        exact glue [_] l' out _ this.1 this.2
      · have ha0 : a = 0 := by omega
        rw [msInner] at h
        simp only [hc, ha, ha0, ↓reduceIte, Nat.add_zero, gt_iff_lt, lt_self_iff_false, not_false_eq_true,
          reduceCtorEq] at h
  · by_cases hn : n + 1 = N - r
    · rw [RC.inner_exit' N S _ traj f n r stack hn] at h
      obtain ⟨l', h1, h2⟩ := emits_inv _ _ _ h
      obtain ⟨Fw', rfl⟩ : ∃ k, Fw = k + 1 := ⟨Fw - 1, by omega⟩
      have := ihR ⟨n + 1, r + 1, stack⟩ l' h1 hS F
        (out ++ [evPy ⟨.forward n (n + 1) false true .work, n + 1, r⟩ false,
          evPy ⟨.reverse (n + 1) n true, n + 1, r + 1⟩ false])
        (by simp only; omega)
      rw [genInner_exit N storage ram disk traj r Fw' F n ns n0 n1 cs out (snapsPy stack) hn hr, h2]
      exact glue [_, _] l' out _ this.1 this.2
    · rw [msInner] at h
      have : n ≠ N - r - 1 := by omega
      simp only [hc, this, msErr, ↓reduceIte, ne_eq, not_false_eq_true, reduceCtorEq] at h

theorem stepRev (hlen : storage.length = S) (hrd : ram + disk = (S : Int)) (f : Nat)
    (ihI : PInner N S storage ram disk traj f) (ihR : PRev N S storage ram disk traj f) :
    PRev N S storage ram disk traj (f + 1) := by
  intro σ evs h hS F out hF
  obtain ⟨n, r, stack⟩ := σ
  simp only at hS hF ⊢
  by_cases hr : r < N
  · obtain ⟨F', rfl⟩ : ∃ k, F = k + 1 := ⟨F - 1, by omega⟩
    cases stack with
    | nil => rw [msRev] at h; simp only [hr, msErr, ↓reduceIte, reduceCtorEq] at h
    | cons cp rest =>
      simp only [List.length_cons] at hS
      by_cases hm : cp + 1 = N - r
      · rw [RC.rev_move N S _ traj f n r cp rest hr hm] at h
        obtain ⟨l', h1, h2⟩ := emits_inv _ _ _ h
        have := ihR ⟨cp + 1, r + 1, rest⟩ l' h1 (by simp only; omega) F'
          (out ++ [evPy ⟨.move cp (storage.getD rest.length .none) .work, cp, r⟩ false,
            evPy ⟨.forward cp (cp + 1) false true .work, cp + 1, r⟩ false,
            evPy ⟨.reverse (cp + 1) cp true, cp + 1, r + 1⟩ false])
          (by simp only; omega)
        rw [snapsPy_cons, genRev_move N S storage ram disk traj hlen F' n r cp out (snapsPy rest) hr hm
          (by rw [snapsPy_length]; omega), h2, snapsPy_length]
        exact glue [_, _, _] l' out _ this.1 this.2
      · cases ha : nAdvance (N - r - cp) (S - (rest.length + 1) + 1) traj with
        | none =>
          have : ¬ cp = N - r - 1 := by omega
          rw [msRev] at h; simp only [hr, ha, this, yieldEv, List.length_cons, ↓reduceIte, reduceCtorEq] at h
        | some a =>
          have hpos : 1 ≤ N - r - cp := by
            by_contra hc
            rw [nAdvance_eq_none _ _ _ (Or.inl (by omega))] at ha
            cases ha
          by_cases ha1 : 1 ≤ a
          · rw [RC.rev_copy N S _ traj f n r cp a rest hr (by omega) ha ha1] at h
            obtain ⟨l', h1, h2⟩ := emits_inv _ _ _ h
            have := ihI ⟨cp + a, r, cp :: rest⟩ l' h1 (by simp only [List.length_cons]; omega) hr F' F'
              (((S - ((snapsPy rest).length + 1) + 1 : Nat) : Int)) (cp : Int) ((cp + a : Nat) : Int)
              (stPy (storage.getD (snapsPy rest).length .none))
              (out ++ [evPy ⟨.copy cp (storage.getD rest.length .none) .work, cp, r⟩ false,
                evPy ⟨.forward cp (cp + a) false false .work, cp + a, r⟩ false])
              (by simp only; omega) (by simp only; omega)
            rw [snapsPy_cons, genRev_copy N S storage ram disk traj hlen hrd F' n r cp a out (snapsPy rest) hr hm
              (by rw [snapsPy_length]; exact ha) ha1 (by rw [snapsPy_length]; omega) (by omega), h2]
            simp only [snapsPy_cons] at this
            rw [snapsPy_length] at this ⊢
            exact glue [_, _] l' out _ this.1 this.2
          · have ha0 : a = 0 := by omega
            have : ¬ cp = N - r - 1 := by omega
            rw [msRev] at h
            simp only [hr, ha, this, ha0, yieldEv, List.length_cons, ↓reduceIte, Nat.add_zero, gt_iff_lt,
              lt_self_iff_false, not_false_eq_true, reduceCtorEq] at h
  · by_cases hrN : r = N
    · subst hrN
      obtain ⟨F', rfl⟩ : ∃ k, F = k + 1 := ⟨F - 1, by omega⟩
      cases stack with
      | nil =>
        rw [RC.rev_exit] at h
        cases h
        refine ⟨by simp, ?_⟩
        rw [show snapsPy [] = [] from rfl, genRev_exit]
        rfl
      | cons cp rest =>
        rw [msRev] at h
        simp only [msErr, ↓reduceIte, lt_self_iff_false, ne_eq, not_true_eq_false, List.length_cons,
          Nat.add_eq_zero_iff, one_ne_zero, and_false, not_false_eq_true, reduceCtorEq] at h
    · rw [msRev] at h; simp only [hr, hrN, msErr, ↓reduceIte, ne_eq, not_false_eq_true, reduceCtorEq] at h

theorem sim_all (hN : 1 ≤ N) (hlen : storage.length = S) (hrd : ram + disk = (S : Int)) : ∀ f : Nat,
    PFwd N S storage ram disk traj f ∧ PRev N S storage ram disk traj f ∧ PInner N S storage ram disk traj f := by
  intro f
  induction f with
  | zero =>
    refine ⟨?_, ?_, ?_⟩
    · intro σ evs h; rw [msFwd] at h; cases h
    · intro σ evs h; rw [msRev] at h; cases h
    · intro σ evs h; rw [msInner] at h; cases h
  | succ f ih =>
    exact ⟨stepFwd N S storage ram disk traj hN hlen hrd f ih.1 ih.2.1,
      stepRev N S storage ram disk traj hlen hrd f ih.2.2 ih.2.1,
      stepInner N S storage ram disk traj hlen hrd f ih.2.2 ih.2.1⟩

end sim

/-- RAM and DISK labels only: the two counts add up to the length -/
theorem count_ram_disk (l : List Storage) (h : ∀ x ∈ l, x.isStore = true) :
    l.count .ram + l.count .disk = l.length := by
  induction l with
  | nil => rfl
  | cons a l ih =>
    have ih' := ih (fun x hx => h x (List.mem_cons_of_mem _ hx))
    have ha := h a (by simp)
    cases a <;> simp [Storage.isStore] at ha <;> simp <;> omega

/-- sufficient fuel for `multistage_iterator` -/
def multistageFuel (N : Nat) : Nat := N + 2

/-- **`MultistageCheckpointSchedule._iterator` as generated from the Python source yields the events of the
literal twin `multistageIterEvs`** (the last one, `EndReverse`, with `exhausted = True`) -/
theorem multistage_iterator_refines_twin (N ram disk : Nat) (traj : Traj) (storage : List Storage)
    (evs : List Ev) (fuel : Nat)
    (hst : multistageStorage N ram disk traj = some storage)
    (hev : multistageIterEvs N ram disk traj = .ok evs)
    (hf : multistageFuel N ≤ fuel) :
    multistage_iterator fuel 0 0 (some (N : Int))
        ((storage.count .ram : Nat) : Int) ((storage.count .disk : Nat) : Int) (storage.map stPy)
        (trajStr traj) false
      = .ok (markLast (evs.map (evPy · false))) := by
  unfold multistageFuel at hf
  unfold multistageIterEvs at hev
  by_cases hN : N < 1
  · rw [if_pos hN] at hev; cases hev
  rw [if_neg hN, hst] at hev
  simp only at hev
  split_ifs at hev with hz
  obtain ⟨storage', hst', hstore, _, _, _⟩ := multistageStorage_spec N ram disk traj (by omega)
  rw [hst] at hst'
  cases hst'
  have hcnt := count_ram_disk storage hstore
  have hrd : ((storage.count .ram : Nat) : Int) + ((storage.count .disk : Nat) : Int) = ((storage.length : Nat) : Int) := by
    exact_mod_cast hcnt
  unfold multistageIter at hev
  have := (sim_all N storage.length storage _ _ traj (by omega) rfl hrd (multistageIterFuel N)).1
    MsSt.init evs hev (by simp [MsSt.init]) fuel fuel [] (by simp only [MsSt.init]; omega)
    (by simp only [MsSt.init]; omega)
  rw [multistage_iterator_eq]
  have h2 := this.2
  simp only [MsSt.init, List.nil_append] at h2
  exact h2

/-- **`MultistageCheckpointSchedule._iterator` as generated from the Python source yields the events of the stream
model `multistageEvs`** the property theorems are about, for all parameters for which the model is defined (all
valid ones: `multistage_ok`), with fuel `N + 2` -/
theorem multistage_iterator_refines (N ram disk : Nat) (traj : Traj) (storage : List Storage)
    (evs : List Ev) (fuel : Nat)
    (hst : multistageStorage N ram disk traj = some storage)
    (hev : multistageEvs N ram disk traj = .ok evs)
    (hf : multistageFuel N ≤ fuel) :
    multistage_iterator fuel 0 0 (some (N : Int))
        ((storage.count .ram : Nat) : Int) ((storage.count .disk : Nat) : Int) (storage.map stPy)
        (trajStr traj) false
      = .ok (markLast (evs.map (evPy · false))) :=
  multistage_iterator_refines_twin N ram disk traj storage evs fuel hst
    (by rw [twin_multistage]; exact hev) hf


/-! non-vacuity: concrete parameter tuples satisfying the hypotheses (RAM only; RAM and disk via `allocate`) -/
example : multistageStorage 4 2 0 .maximum = some [.ram, .ram] := by decide
example : (multistageEvs 4 2 0 .maximum).toBool = true := by decide
example : (multistageIterEvs 4 2 0 .maximum).toBool = true := by decide
example : multistageFuel 4 ≤ 6 := by decide
example : multistageStorage 6 2 1 .revolve = some [.disk, .ram, .ram] := by decide
example : (multistageEvs 6 2 1 .revolve).toBool = true := by decide +kernel

/-- the theorem instantiated: the generated function run on `max_n = 4`, two RAM snapshots -/
example : ∃ evs, multistageEvs 4 2 0 .maximum = .ok evs ∧
    multistage_iterator 6 0 0 (some 4) 2 0 [.ram, .ram] "maximum" false = .ok (markLast (evs.map (evPy · false))) := by
  cases h : multistageEvs 4 2 0 .maximum with
  | error e =>
    have : (multistageEvs 4 2 0 .maximum).toBool = true := by decide
    rw [h] at this; cases this
  | ok evs =>
    exact ⟨evs, rfl, multistage_iterator_refines 4 2 0 .maximum [.ram, .ram] evs 6 (by decide) h (by decide)⟩

end Ckpt.Py

#print axioms Ckpt.Py.multistage_iterator_refines_twin
#print axioms Ckpt.Py.multistage_iterator_refines
