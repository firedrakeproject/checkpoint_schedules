import CkptGen.RefineInit
import CkptGen.RefineBasic
import CkptGen.RefineRevolveIter
import CkptVerif.Properties.Streams
import CkptVerif.Properties.StreamsMore
import Mathlib.Tactic
/-!
# Capstone: the property theorems stated about the TRANSLATED SOURCE

The `source_*` theorems of this file speak about the functions of `CkptGen/Src.lean` (the Lean text generated from the
Python source by `harness/py2lean.py`); what is not translated enters explicitly: the Revolve family quantifies over the
twin of the untranslated sequence builders (`source_revolve_accepted` … `source_hrevolve_accepted`), and
`source_multistage_accepted` carries the hypothesis `OracleAgrees` on `allocate_snapshots`.  The lemmas on the way that
are about the model alone (`multistage_exec_clean`, `sd_fwdEvs_range`, `sd_fwdPhase`) stand next to their one use.
For all valid parameters the generated constructor/generator returns an event
list `pevs`, and the observations a client makes of these events (`obsOfPy`: action, `n`, `r`, `max_n`,
`exhausted`, `is_running`; for online classes before/after the client's `finalize`) are accepted by the checking
executor of `CkptVerif/Spec/Exec.lean` with NO violation of any tag (C01 executability, C02 order, C03 budgets,
C04 clean storage, C08 counters, C09 exhaustion flags, C12 working storage, C18 well-formedness), and the stream
is complete (`endViols … = []`: the permitted / requested adjoint calculations have been carried out).

Proof of each: rewrite the generated list with the refinement theorem (`CkptGen/Refine*.lean`), show that
`obsOfPy` of the mapped model events is the model's observation list, apply the model's clean-theorem
(`CkptVerif/Proofs/*Ok.lean`).  The last two steps are `accepted_offline` (single-adjoint offline classes),
`accepted_twin` (the Revolve family) and `accepted_online` / `accepted_online_snoc` (the online classes).

| class | theorem | corollary (tags) |
|---|---|---|
| Multistage | `source_multistage_accepted` | `source_multistage_C01_C18` |
| Mixed | `source_mixed_accepted` | `source_mixed_C01_C18` |
| TwoLevel | `source_twoLevel_accepted` | `source_twoLevel_C01_C18` |
| SingleMemory | `source_singleMemory_accepted` | `source_singleMemory_C01_C18` |
| SingleDisk (both `move_data`) | `source_singleDisk_accepted` | `source_singleDisk_C01_C18` |
| None | `source_none_accepted` | `source_none_C01_C18` |
| Revolve | `source_revolve_accepted` | `source_revolve_C01_C18` |
| DiskRevolve | `source_diskRevolve_accepted` | `source_diskRevolve_C01_C18` |
| PeriodicDiskRevolve | `source_periodic_accepted` | `source_periodic_C01_C18` |
| HRevolve | `source_hrevolve_accepted` | `source_hrevolve_C01_C18` |

The subjects are `multistage_run`, `mixed_run`, `twoLevel_run` (`RefineInit.lean`: generated `__init__`, then the
generated `_iterator`), and, defined here in the same way from the generated base-class constructor
`checkpointSchedule_init`: `singleMemory_run`, `singleDisk_run`, `none_run`, `revolve_run` (the Revolve family: the
generated `RevolveCheckpointSchedule._iterator` on the operation sequence of the twin of the untranslated sequence
generators, as in `revolve_iterator_twin`; the four classes of the family are instances of `accepted_twin`).  `obsGo_head_clientHook` ties `obsOfPy` to the generated `clientHook`;
`NoViolation.budgets` / `source_multistage_budgets` spell one tag out declaratively (through `Mean.M1_C03_prefix`).
Each theorem is followed by non-vacuity examples: the hypotheses on a concrete tuple, the theorem instantiated, and
the generated text EVALUATED on that tuple with the executor's verdict decided by `decide`.
-/
namespace Ckpt.Py
open Ckpt Ckpt.Ops

/-! ## from the generated values back to the model's: the client's observations -/

/-- inverse of `stPy` -/
def stOfPy : StorageType → Storage
  | .ram => .ram
  | .disk => .disk
  | .work => .work
  | .none => .none

/-- inverse of `actPy` on its range (step numbers of a schedule are never negative) -/
def actOfPy : PyAction → Action
  | .forward n0 n1 wi wa st => .forward n0.toNat n1.toNat wi wa (stOfPy st)
  | .reverse n1 n0 c => .reverse n1.toNat n0.toNat c
  | .copy n a b => .copy n.toNat (stOfPy a) (stOfPy b)
  | .move n a b => .move n.toNat (stOfPy a) (stOfPy b)
  | .endForward => .endForward
  | .endReverse => .endReverse

theorem stOfPy_stPy (s : Storage) : stOfPy (stPy s) = s := by cases s <;> rfl

theorem actOfPy_actPy (a : Action) : actOfPy (actPy a) = a := by
  cases a <;> simp [actPy, actOfPy, stOfPy_stPy]

/-- What the client observes after each `next()`, given whether it already knows `max_n` (`fin`).  The client of an
online schedule calls `finalize(N)` as soon as the reported `_n` reaches `N` (`clientHook` of the generated text):
from then on `max_n = N`, and at that moment `n` is set to `N`.  `is_running` is true after every action. -/
def obsGo (N : Nat) : Bool → List PyEv → List Obs
  | _, [] => []
  | fin, e :: es =>
    (⟨actOfPy e.act, if fin then e.n.toNat else min e.n.toNat N, e.r.toNat,
      if fin || decide ((N : Int) ≤ e.n) then some N else none, e.exhausted, true⟩ : Obs) ::
    obsGo N (fin || decide ((N : Int) ≤ e.n)) es

/-- **the client's observations of the events of a generated generator**; `online = false`: `max_n = N` was passed
to the constructor; `online = true`: `max_n` is unknown until the client finalises at `N` -/
def obsOfPy (online : Bool) (N : Nat) (pevs : List PyEv) : List Obs := obsGo N (!online) pevs

/-- `obsGo` reports what the generated client hook computes: `(n, max_n)` of the observation are the values
`clientHook` assigns to `(self._n, self._max_n)` after the yield (step counts are non-negative) -/
theorem obsGo_head_clientHook (N : Nat) (fin : Bool) (e : PyEv) (es : List PyEv) (h0 : 0 ≤ e.n) :
    ∃ o rest, obsGo N fin (e :: es) = o :: rest ∧
      ((o.n : Int), optInt o.maxN) = clientHook (N : Int) e.n (if fin then some (N : Int) else none) := by
  refine ⟨_, _, rfl, ?_⟩
  have hn : ((e.n.toNat : Nat) : Int) = e.n := Int.toNat_of_nonneg h0
  cases fin
  · by_cases h : (N : Int) ≤ e.n
    · have hm : min e.n.toNat N = N := Nat.min_eq_right (by omega)
      simp only [clientHook, h, hm, decide_true, Bool.or_true, if_true, Bool.false_eq_true, if_false, and_self, ge_iff_le,
        optInt_some]
    · have hm : min e.n.toNat N = e.n.toNat := Nat.min_eq_left (by omega)
      simp only [clientHook, h, hm, hn, decide_false, Bool.or_false, Bool.false_eq_true, if_false, and_false, ge_iff_le,
        optInt_none]
  · simp only [clientHook, hn, if_true, Bool.true_or, reduceCtorEq, false_and, if_false, optInt_some]

/-- accepted by the checking executor: no violation of any tag, and the stream is complete (`k` = the number of
adjoint calculations the client asked for; for single-adjoint classes `endViols` says `finished`) -/
def Accepted (cfg : Cfg) (k : Nat) (obs : List Obs) : Prop :=
  (run cfg obs).2 = [] ∧ endViols cfg k (run cfg obs).1 = []

/-- no violation of any of the eight tags the executor checks -/
def NoViolation (cfg : Cfg) (obs : List Obs) : Prop :=
  Mean.NoTag .C01 (run cfg obs).2 ∧ Mean.NoTag .C02 (run cfg obs).2 ∧ Mean.NoTag .C03 (run cfg obs).2 ∧
  Mean.NoTag .C04 (run cfg obs).2 ∧ Mean.NoTag .C08 (run cfg obs).2 ∧ Mean.NoTag .C09 (run cfg obs).2 ∧
  Mean.NoTag .C12 (run cfg obs).2 ∧ Mean.NoTag .C18 (run cfg obs).2

theorem Accepted.noViolation {cfg : Cfg} {k : Nat} {obs : List Obs} (h : Accepted cfg k obs) :
    NoViolation cfg obs := by
  unfold NoViolation
  rw [h.1]
  simp [Mean.NoTag]

/-- what "no C03 violation" means (`meaning_C03_budgets`): after every prefix of the stream the stored checkpoints
are within the RAM and DISK budgets of the configuration -/
theorem NoViolation.budgets {cfg : Cfg} {obs : List Obs} (h : NoViolation cfg obs) {p : List Obs} (hp : p <+: obs) :
    (∀ m, cfg.ram = some m → countSt (run cfg p).1.cps .ram ≤ m) ∧
    (∀ m, cfg.disk = some m → countSt (run cfg p).1.cps .disk ≤ m) :=
  ⟨(Mean.M1_C03_prefix h.2.2.1 hp).1, (Mean.M1_C03_prefix h.2.2.1 hp).2.1⟩

/-- for a class with a bounded number of adjoint calculations, "complete" is `finished` -/
theorem Accepted.finished {cfg : Cfg} {k m : Nat} {obs : List Obs} (h : Accepted cfg k obs)
    (hp : cfg.passes = some m) : finished cfg (run cfg obs).1 = true := by
  have h2 := h.2
  unfold endViols at h2
  rw [hp] at h2
  simp only [chk] at h2
  by_contra hc
  rw [if_neg hc] at h2
  cases h2

theorem Accepted.of_clean {cfg : Cfg} {k : Nat} {obs : List Obs} {xf : XS}
    (h : Clean cfg (XS.init cfg) obs xf) (he : endViols cfg k xf = []) : Accepted cfg k obs :=
  ⟨h.run_viols, by rw [h.run_state]; exact he⟩

/-! ## `obsGo` on mapped model events -/

theorem obsGo_cons_evPy (N : Nat) (fin : Bool) (e : Ev) (b : Bool) (rest : List PyEv) :
    obsGo N fin (evPy e b :: rest) =
      (⟨e.act, if fin then e.n else min e.n N, e.r, if fin || decide (N ≤ e.n) then some N else none, b, true⟩ : Obs)
        :: obsGo N (fin || decide (N ≤ e.n)) rest := by
  simp only [obsGo, evPy, actOfPy_actPy, Int.toNat_natCast, Nat.cast_le]

theorem obsGo_append (N : Nat) : ∀ (fin : Bool) (a b : List PyEv),
    obsGo N true (a ++ b) = obsGo N true a ++ obsGo N true b ∧
    (fin = true → obsGo N fin (a ++ b) = obsGo N fin a ++ obsGo N fin b) := by
  intro fin a b
  have h : obsGo N true (a ++ b) = obsGo N true a ++ obsGo N true b := by
    induction a with
    | nil => rfl
    | cons x a ih => simp only [List.cons_append, obsGo, Bool.true_or, ih]
  exact ⟨h, fun hf => by subst hf; exact h⟩

/-- after finalisation (or for an offline schedule): every event is decorated with `max_n = N` -/
theorem obsGo_true_map (N : Nat) (l : List Ev) :
    obsGo N true (l.map (evPy · false)) = l.map (Ev.obs · N) := by
  induction l with
  | nil => rfl
  | cons e l ih =>
    rw [List.map_cons, obsGo_cons_evPy, List.map_cons, Bool.true_or, ih]
    simp [Ev.obs]

/-- a list whose last event carries `exhausted = b` -/
theorem obsGo_true_snoc (N : Nat) (l : List Ev) (e : Ev) (b : Bool) :
    obsGo N true (l.map (evPy · false) ++ [evPy e b]) =
      l.map (Ev.obs · N) ++ [(⟨e.act, e.n, e.r, some N, b, true⟩ : Obs)] := by
  rw [(obsGo_append N true _ _).1, obsGo_true_map, obsGo_cons_evPy]
  simp [obsGo]

/-- the online forward phase: all Forwards but the last report `_n < N`, the last one reaches `N` and the client
finalises -/
theorem obsGo_fwd (N : Nat) (e : Ev) (rest : List PyEv) (he : N ≤ e.n) : ∀ (l : List Ev), (∀ x ∈ l, x.n < N) →
    obsGo N false ((l ++ [e]).map (evPy · false) ++ rest) =
      (l ++ [e]).map (On.fwdObs N) ++ obsGo N true rest := by
  intro l
  induction l with
  | nil =>
    intro _
    simp only [List.nil_append, List.map_cons, List.map_nil, List.cons_append, obsGo_cons_evPy, On.fwdObs]
    simp [he]
  | cons x l ih =>
    intro hl
    have hx : ¬ N ≤ x.n := by have := hl x (by simp); omega
    have ih' := ih (fun y hy => hl y (by simp [hy]))
    simp only [List.cons_append, List.map_cons, obsGo_cons_evPy, On.fwdObs]
    simp only [hx, decide_false, Bool.or_false, Bool.false_eq_true, if_false]
    rw [ih']

theorem markLast_mx_eq : ∀ l : List PyEv, markLast_mx l = markLast l
  | [] => rfl
  | [_] => rfl
  | e :: e' :: es => by
    rw [markLast_mx, markLast, markLast_mx_eq (e' :: es)]

/-- the observations of an offline generator: the model's events decorated with `max_n = N`, the last with
`exhausted = True` -/
theorem obsOfPy_offline (N : Nat) (evs : List Ev) (e : Ev) :
    obsOfPy false N (markLast ((evs ++ [e]).map (evPy · false))) =
      evs.map (Ev.obs · N) ++ [(⟨e.act, e.n, e.r, some N, true, true⟩ : Obs)] := by
  rw [List.map_append, markLast_append_ne _ _ (by simp)]
  simp only [List.map_cons, List.map_nil, markLast, obsOfPy, Bool.not_false]
  exact obsGo_true_snoc N evs e true

/-- the generic step for the offline single-adjoint classes: model acceptance ⇒ acceptance of the generated list -/
theorem accepted_offline (cfg : Cfg) (N k nE : Nat) (evs0 : List Ev) (xf : XS) (hp : cfg.passes = some 1)
    (hd : xf.done = 1)
    (hclean : Clean cfg (XS.init cfg) (evs0.map (Ev.obs · N) ++ [⟨.endReverse, nE, N, some N, true, true⟩]) xf) :
    Accepted cfg k (obsOfPy false N (markLast ((evs0 ++ [(⟨.endReverse, nE, N⟩ : Ev)]).map (evPy · false)))) := by
  rw [obsOfPy_offline]
  refine Accepted.of_clean hclean ?_
  simp [endViols, hp, finished, hd, chk]

/-! ## 1. Multistage -/

/-- the executor accepts the model stream under the budgets `(ram, disk)` (the first half of the proof of
`multistage_monitor_clean`) -/
theorem multistage_exec_clean (N ram disk : Nat) (traj : Traj) (hv : validMultistage N ram disk = true) :
    ∃ evs0 xf, multistageEvs N ram disk traj = .ok (evs0 ++ [⟨.endReverse, 1, N⟩]) ∧ xf.done = 1 ∧
      Clean (cfgMultistage ram disk N) (XS.init (cfgMultistage ram disk N))
        (evs0.map (Ev.obs · N) ++ [⟨.endReverse, 1, N, some N, true, true⟩]) xf := by
  simp only [validMultistage, Bool.and_eq_true, Bool.or_eq_true, decide_eq_true_eq] at hv
  obtain ⟨h1, hunit⟩ := hv
  obtain ⟨storage, hsto, hstore, hcr, hcd, hlen⟩ := multistageStorage_spec N ram disk traj h1
  have hunits : 2 ≤ N → 1 ≤ storage.length := by
    intro h; rw [hlen]; rcases hunit with h' | h' <;> omega
  obtain ⟨evs, sn, hseg, hclean⟩ := Ckpt.multistage_clean (cfgMultistage ram disk N) N storage traj
    rfl rfl rfl h1 hunits hstore (by simpa [withinOpt, cfgMultistage] using hcr)
    (by simpa [withinOpt, cfgMultistage] using hcd)
  refine ⟨evs, _, ?_, rfl, hclean⟩
  unfold multistageEvs
  rw [if_neg (by omega), hsto]
  simp only
  rw [if_neg (by intro h; have := hunits (by omega); omega), hseg]

/-- **Multistage, the translated source**: for all valid parameters, every trajectory, every oracle for
`allocate_snapshots` that agrees with the model's, and fuel `N + 2`: the generated `__init__` followed by the
generated `_iterator` returns an event list whose observations the executor accepts under the budgets
`(snapshots_in_ram, snapshots_on_disk)` with one permitted adjoint calculation, and the stream is complete. -/
theorem source_multistage_accepted (N ram disk : Nat) (traj : Traj) (oracle : AllocOracle)
    (hor : OracleAgrees oracle N ram disk traj) (hv : validMultistage N ram disk = true)
    (fuel : Nat) (hf : multistageFuel N ≤ fuel) (k : Nat) :
    ∃ pevs, multistage_run fuel (N : Int) (ram : Int) (disk : Int) (trajStr traj) oracle = .ok pevs ∧
      Accepted (cfgMultistage ram disk N) k (obsOfPy false N pevs) := by
  obtain ⟨evs, hev, hrun⟩ := multistage_construct_then_iterate N ram disk traj oracle fuel hor hv hf
  obtain ⟨evs0, xf, hev0, hd, hclean⟩ := multistage_exec_clean N ram disk traj hv
  rw [hev0] at hev
  injection hev with hev
  subst hev
  exact ⟨_, hrun, accepted_offline _ N k 1 evs0 xf rfl hd hclean⟩

/-- the properties discharged for the translated source of `MultistageCheckpointSchedule` -/
theorem source_multistage_C01_C18 (N ram disk : Nat) (traj : Traj) (oracle : AllocOracle)
    (hor : OracleAgrees oracle N ram disk traj) (hv : validMultistage N ram disk = true)
    (fuel : Nat) (hf : multistageFuel N ≤ fuel) :
    ∃ pevs, multistage_run fuel (N : Int) (ram : Int) (disk : Int) (trajStr traj) oracle = .ok pevs ∧
      NoViolation (cfgMultistage ram disk N) (obsOfPy false N pevs) ∧
      finished (cfgMultistage ram disk N) (run (cfgMultistage ram disk N) (obsOfPy false N pevs)).1 = true := by
  obtain ⟨pevs, h, ha⟩ := source_multistage_accepted N ram disk traj oracle hor hv fuel hf 1
  exact ⟨pevs, h, ha.noViolation, ha.finished rfl⟩

/-- C03 spelt out for the translated Multistage source: at no moment more than `snapshots_in_ram` checkpoints in
RAM or `snapshots_on_disk` on DISK -/
theorem source_multistage_budgets (N ram disk : Nat) (traj : Traj) (oracle : AllocOracle)
    (hor : OracleAgrees oracle N ram disk traj) (hv : validMultistage N ram disk = true)
    (fuel : Nat) (hf : multistageFuel N ≤ fuel) :
    ∃ pevs, multistage_run fuel (N : Int) (ram : Int) (disk : Int) (trajStr traj) oracle = .ok pevs ∧
      ∀ p, p <+: obsOfPy false N pevs →
        countSt (run (cfgMultistage ram disk N) p).1.cps .ram ≤ ram ∧
        countSt (run (cfgMultistage ram disk N) p).1.cps .disk ≤ disk := by
  obtain ⟨pevs, h, hn, _⟩ := source_multistage_C01_C18 N ram disk traj oracle hor hv fuel hf
  exact ⟨pevs, h, fun p hp => ⟨(hn.budgets hp).1 ram rfl, (hn.budgets hp).2 disk rfl⟩⟩

/-! non-vacuity: the hypotheses hold for a concrete tuple; the theorem instantiated; the generated text evaluated -/
example : validMultistage 6 2 1 = true ∧ multistageFuel 6 ≤ 8 ∧
    OracleAgrees (modelOracle 6 2 1 .revolve) 6 2 1 .revolve :=
  ⟨by decide, by decide, modelOracle_agrees 6 2 1 .revolve⟩
example := source_multistage_accepted 6 2 1 .revolve _ (modelOracle_agrees 6 2 1 .revolve) (by decide) 8 (by decide) 1
example : ∃ pevs, multistage_run 8 6 2 1 "revolve" (modelOracle 6 2 1 .revolve) = .ok pevs ∧
    (run (cfgMultistage 2 1 6) (obsOfPy false 6 pevs)).2 = [] :=
  ⟨_, rfl, by decide⟩

/-! ## 2. Mixed -/

/-- **Mixed, the translated source**: for all valid parameters (both storages) and fuel `2 N + 3`: the generated
`__init__` followed by the generated `_iterator` returns an event list whose observations the executor accepts
under the budget of `snapshots` units in the chosen storage (none in the other), one adjoint calculation. -/
theorem source_mixed_accepted (N s : Nat) (st : Storage) (hv : validMixed N s st = true)
    (fuel : Nat) (hf : mixedIterFuelBound N ≤ fuel) (k : Nat) :
    ∃ pevs, mixed_run fuel (N : Int) (s : Int) (stPy st) = .ok pevs ∧
      Accepted (cfgMixed s st N) k (obsOfPy false N pevs) := by
  obtain ⟨evs, hev, _, hrun⟩ := mixed_construct_then_iterate N s st fuel hv hf
  simp only [validMixed, Bool.and_eq_true, Bool.or_eq_true, decide_eq_true_eq] at hv
  obtain ⟨⟨h1, h2⟩, h3⟩ := hv
  have hst : st = .ram ∨ st = .disk := by simpa using h3
  obtain ⟨evs0, sn, f, hev0, _, hclean⟩ := mixed_clean N s st hst h1 h2
  rw [hev0] at hev
  injection hev with hev
  subst hev
  rw [markLast_mx_eq] at hrun
  exact ⟨_, hrun, accepted_offline _ N k 1 evs0 _ rfl rfl hclean⟩

/-- the properties discharged for the translated source of `MixedCheckpointSchedule` -/
theorem source_mixed_C01_C18 (N s : Nat) (st : Storage) (hv : validMixed N s st = true)
    (fuel : Nat) (hf : mixedIterFuelBound N ≤ fuel) :
    ∃ pevs, mixed_run fuel (N : Int) (s : Int) (stPy st) = .ok pevs ∧
      NoViolation (cfgMixed s st N) (obsOfPy false N pevs) ∧
      finished (cfgMixed s st N) (run (cfgMixed s st N) (obsOfPy false N pevs)).1 = true := by
  obtain ⟨pevs, h, ha⟩ := source_mixed_accepted N s st hv fuel hf 1
  exact ⟨pevs, h, ha.noViolation, ha.finished rfl⟩

example : validMixed 5 2 .disk = true ∧ mixedIterFuelBound 5 ≤ 13 := by decide
example := source_mixed_accepted 5 2 .disk (by decide) 13 (by decide) 1
example : ∃ pevs, mixed_run 13 5 2 .disk = .ok pevs ∧ (run (cfgMixed 2 .disk 5) (obsOfPy false 5 pevs)).2 = [] :=
  ⟨_, rfl, by decide⟩

/-! ## 3. the Revolve family: the generated `RevolveCheckpointSchedule._iterator`, fed the operation sequence of the
twin of the (untranslated) sequence generator -/

/-- the base-class constructor with `max_n = None` sets `_n = 0, _r = 0, _max_n = None` -/
theorem init_none_cap : checkpointSchedule_init none = .ok (0, 0, none) := by rw [init_spec]

/-- … and with `max_n = N ≥ 1`: `_n = 0, _r = 0, _max_n = N` -/
theorem init_some_cap (N : Nat) (hN : 1 ≤ N) : checkpointSchedule_init (some (N : Int)) = .ok (0, 0, some (N : Int)) := by
  rw [init_spec]
  simp only
  rw [if_neg (by omega)]

/-- construct (the generated `CheckpointSchedule.__init__` with `max_n`; `_schedule = schedule`,
`_exhausted = False`), then iterate the generated `RevolveCheckpointSchedule._iterator` -/
def revolve_run (fuel : Nat) (max_n : Int) (schedule : List PyOp) : M (List PyEv) := do
  let (n, r, mx) ← checkpointSchedule_init (some max_n)
  revolve_iterator fuel n r mx schedule false

theorem revolve_run_eq (fuel : Nat) (N : Nat) (schedule : List PyOp) (hN : 1 ≤ N) :
    revolve_run fuel (N : Int) schedule = revolve_iterator fuel 0 0 (some (N : Int)) schedule false := by
  unfold revolve_run
  rw [init_some_cap N hN]
  rfl

/-- `max_n < 1`: `ValueError` before any action -/
theorem revolve_run_invalid (fuel : Nat) (max_n : Int) (schedule : List PyOp) (h : max_n < 1) :
    revolve_run fuel max_n schedule = .error .valueError := by
  unfold revolve_run
  rw [init_spec]
  simp only
  rw [if_pos h]
  rfl

theorem validRevolve_iff (N cm uf ub : Nat) :
    validRevolve N cm uf ub = true ↔ 1 ≤ N ∧ 1 ≤ cm ∧ 0 < uf ∧ 0 < ub := by
  simp only [validRevolve, Bool.and_eq_true, decide_eq_true_eq]
  tauto

/-- the Revolve family: if the twin of a sequence generator is a stream `evs0 ++ [EndReverse]` that the executor
runs cleanly, the operation sequence of the twin exists and the generated `_iterator` run on it is accepted -/
theorem accepted_twin (cfg : Cfg) (N k : Nat) (hN : 1 ≤ N) (hp : cfg.passes = some 1) (what : String)
    (o : Option (List Ops.Op)) (evs0 : List Ev) (xf : XS) (hd : xf.done = 1)
    (htwin : twinOf N what o = .ok (evs0 ++ [⟨.endReverse, 1, N⟩]))
    (hclean : Clean cfg (XS.init cfg) (evs0.map (Ev.obs · N) ++ [⟨.endReverse, 1, N, some N, true, true⟩]) xf) :
    ∃ ops, o = some ops ∧ ∀ fuel, ops.length + 1 ≤ fuel →
      ∃ pevs, revolve_run fuel (N : Int) (ops.map opPy) = .ok pevs ∧ Accepted cfg k (obsOfPy false N pevs) := by
  obtain ⟨ops, hops, hrun⟩ := revolve_iterator_twin N what o _ htwin
  exact ⟨ops, hops, fun fuel hf => ⟨_, (revolve_run_eq fuel N _ hN).trans (hrun fuel hf),
    accepted_offline cfg N k 1 evs0 xf hp hd hclean⟩⟩

/-- **Revolve, the translated source**: for all valid parameters the operation sequence `ops` of the twin of
`revolve(max_n - 1, snapshots_in_ram, …)` exists, and the generated `_iterator` run on it (fuel: one more than the
number of operations) returns an event list whose observations the executor accepts with `snapshots_in_ram` RAM
units, no DISK, one adjoint calculation. -/
theorem source_revolve_accepted (N cm : Nat) (c : Costs) (hv : validRevolve N cm c.uf c.ub = true) (k : Nat) :
    ∃ ops, revolveOpsTop N cm c = some ops ∧ ∀ fuel, ops.length + 1 ≤ fuel →
      ∃ pevs, revolve_run fuel (N : Int) (ops.map opPy) = .ok pevs ∧
        Accepted (cfgRevolve cm N) k (obsOfPy false N pevs) := by
  obtain ⟨hN, hcm, _, _⟩ := (validRevolve_iff _ _ _ _).1 hv
  obtain ⟨evs0, sn, hev, hclean⟩ := revolve_clean N cm c hN hcm
  exact accepted_twin _ N k hN rfl _ _ evs0 _ rfl ((twin_revolve N cm c hN hcm).trans hev) hclean

/-- **DiskRevolve, the translated source** (RAM bounded by `snapshots_in_ram`, DISK unbounded) -/
theorem source_diskRevolve_accepted (N cm : Nat) (c : Costs) (hv : validRevolve N cm c.uf c.ub = true) (k : Nat) :
    ∃ ops, diskRevolveOpsTop N cm c = some ops ∧ ∀ fuel, ops.length + 1 ≤ fuel →
      ∃ pevs, revolve_run fuel (N : Int) (ops.map opPy) = .ok pevs ∧
        Accepted (cfgDiskRevolve cm N) k (obsOfPy false N pevs) := by
  obtain ⟨hN, hcm, _, _⟩ := (validRevolve_iff _ _ _ _).1 hv
  obtain ⟨evs0, sn, hev, hclean⟩ := diskRevolve_clean N cm c hN hcm
  exact accepted_twin _ N k hN rfl _ _ evs0 _ rfl ((twin_diskRevolve N cm c hN hcm).trans hev) hclean

/-- **PeriodicDiskRevolve, the translated source** -/
theorem source_periodic_accepted (N cm : Nat) (c : Costs) (hv : validRevolve N cm c.uf c.ub = true) (k : Nat) :
    ∃ ops, periodicOpsTop N cm c = some ops ∧ ∀ fuel, ops.length + 1 ≤ fuel →
      ∃ pevs, revolve_run fuel (N : Int) (ops.map opPy) = .ok pevs ∧
        Accepted (cfgDiskRevolve cm N) k (obsOfPy false N pevs) := by
  obtain ⟨hN, hcm, huf, _⟩ := (validRevolve_iff _ _ _ _).1 hv
  obtain ⟨evs0, sn, hev, hclean⟩ := periodic_clean N cm c hN hcm huf
  exact accepted_twin _ N k hN rfl _ _ evs0 _ rfl ((twin_periodic N cm c hN hcm huf).trans hev) hclean

/-- **HRevolve, the translated source** (`snapshots_in_ram = c0 ≥ 1` RAM units, `snapshots_on_disk = c1` DISK units) -/
theorem source_hrevolve_accepted (N c0 c1 : Nat) (c : Costs) (hv : validRevolve N c0 c.uf c.ub = true) (k : Nat) :
    ∃ ops, hrevolveOpsTop N c0 c1 c = some ops ∧ ∀ fuel, ops.length + 1 ≤ fuel →
      ∃ pevs, revolve_run fuel (N : Int) (ops.map opPy) = .ok pevs ∧
        Accepted (cfgHRevolve c0 c1 N) k (obsOfPy false N pevs) := by
  obtain ⟨hN, hc0, _, _⟩ := (validRevolve_iff _ _ _ _).1 hv
  obtain ⟨evs0, sn, hev, hclean⟩ := hrevolve_clean N c0 c1 c hN hc0
  exact accepted_twin _ N k hN rfl _ _ evs0 _ rfl ((twin_hrevolve N c0 c1 c hN hc0).trans hev) hclean

/-- the properties discharged for the translated `_iterator` of `RevolveCheckpointSchedule` -/
theorem source_revolve_C01_C18 (N cm : Nat) (c : Costs) (hv : validRevolve N cm c.uf c.ub = true) :
    ∃ ops, revolveOpsTop N cm c = some ops ∧ ∀ fuel, ops.length + 1 ≤ fuel →
      ∃ pevs, revolve_run fuel (N : Int) (ops.map opPy) = .ok pevs ∧
        NoViolation (cfgRevolve cm N) (obsOfPy false N pevs) ∧
        finished (cfgRevolve cm N) (run (cfgRevolve cm N) (obsOfPy false N pevs)).1 = true := by
  obtain ⟨ops, hops, h⟩ := source_revolve_accepted N cm c hv 1
  exact ⟨ops, hops, fun fuel hf => (h fuel hf).imp fun _ ha => ⟨ha.1, ha.2.noViolation, ha.2.finished rfl⟩⟩

theorem source_diskRevolve_C01_C18 (N cm : Nat) (c : Costs) (hv : validRevolve N cm c.uf c.ub = true) :
    ∃ ops, diskRevolveOpsTop N cm c = some ops ∧ ∀ fuel, ops.length + 1 ≤ fuel →
      ∃ pevs, revolve_run fuel (N : Int) (ops.map opPy) = .ok pevs ∧
        NoViolation (cfgDiskRevolve cm N) (obsOfPy false N pevs) ∧
        finished (cfgDiskRevolve cm N) (run (cfgDiskRevolve cm N) (obsOfPy false N pevs)).1 = true := by
  obtain ⟨ops, hops, h⟩ := source_diskRevolve_accepted N cm c hv 1
  exact ⟨ops, hops, fun fuel hf => (h fuel hf).imp fun _ ha => ⟨ha.1, ha.2.noViolation, ha.2.finished rfl⟩⟩

theorem source_periodic_C01_C18 (N cm : Nat) (c : Costs) (hv : validRevolve N cm c.uf c.ub = true) :
    ∃ ops, periodicOpsTop N cm c = some ops ∧ ∀ fuel, ops.length + 1 ≤ fuel →
      ∃ pevs, revolve_run fuel (N : Int) (ops.map opPy) = .ok pevs ∧
        NoViolation (cfgDiskRevolve cm N) (obsOfPy false N pevs) ∧
        finished (cfgDiskRevolve cm N) (run (cfgDiskRevolve cm N) (obsOfPy false N pevs)).1 = true := by
  obtain ⟨ops, hops, h⟩ := source_periodic_accepted N cm c hv 1
  exact ⟨ops, hops, fun fuel hf => (h fuel hf).imp fun _ ha => ⟨ha.1, ha.2.noViolation, ha.2.finished rfl⟩⟩

theorem source_hrevolve_C01_C18 (N c0 c1 : Nat) (c : Costs) (hv : validRevolve N c0 c.uf c.ub = true) :
    ∃ ops, hrevolveOpsTop N c0 c1 c = some ops ∧ ∀ fuel, ops.length + 1 ≤ fuel →
      ∃ pevs, revolve_run fuel (N : Int) (ops.map opPy) = .ok pevs ∧
        NoViolation (cfgHRevolve c0 c1 N) (obsOfPy false N pevs) ∧
        finished (cfgHRevolve c0 c1 N) (run (cfgHRevolve c0 c1 N) (obsOfPy false N pevs)).1 = true := by
  obtain ⟨ops, hops, h⟩ := source_hrevolve_accepted N c0 c1 c hv 1
  exact ⟨ops, hops, fun fuel hf => (h fuel hf).imp fun _ ha => ⟨ha.1, ha.2.noViolation, ha.2.finished rfl⟩⟩

example : validRevolve 3 2 (⟨1, 1, 1, 1⟩ : Costs).uf (⟨1, 1, 1, 1⟩ : Costs).ub = true := by decide
example : validRevolve 9 2 1 1 = true := by decide
example := source_revolve_accepted 3 2 ⟨1, 1, 1, 1⟩ (by decide) 1
example := source_diskRevolve_accepted 3 2 ⟨1, 1, 1, 1⟩ (by decide) 1
example := source_periodic_accepted 3 2 ⟨1, 1, 1, 1⟩ (by decide) 1
example := source_hrevolve_accepted 3 2 1 ⟨1, 1, 1, 1⟩ (by decide) 1
example : ∃ ops pevs, revolveOpsTop 3 2 ⟨1, 1, 1, 1⟩ = some ops ∧
    revolve_run (ops.length + 1) 3 (ops.map opPy) = .ok pevs ∧
    (run (cfgRevolve 2 3) (obsOfPy false 3 pevs)).2 = [] :=
  ⟨_, _, rfl, rfl, by decide⟩

/-! ## 4. the online classes -/

/-- the observations of an online generator whose events all carry `exhausted = False`: the forward phase
(`l ++ [e]`, the client finalises at `e`) decorated by `On.fwdObs`, the rest with `max_n = N` -/
theorem obsOfPy_online (N : Nat) (l : List Ev) (e : Ev) (rest : List Ev) (he : N ≤ e.n)
    (hl : ∀ x ∈ l, x.n < N) :
    obsOfPy true N (((l ++ [e]) ++ rest).map (evPy · false)) =
      (l ++ [e]).map (On.fwdObs N) ++ rest.map (Ev.obs · N) := by
  unfold obsOfPy
  rw [List.map_append, Bool.not_true, obsGo_fwd N e _ he l hl, obsGo_true_map]

/-- the same when the last event carries `exhausted = b` -/
theorem obsOfPy_online_snoc (N : Nat) (l : List Ev) (e : Ev) (rest : List Ev) (e' : Ev) (b : Bool) (he : N ≤ e.n)
    (hl : ∀ x ∈ l, x.n < N) :
    obsOfPy true N (((l ++ [e]) ++ rest).map (evPy · false) ++ [evPy e' b]) =
      (l ++ [e]).map (On.fwdObs N) ++ rest.map (Ev.obs · N) ++ [(⟨e'.act, e'.n, e'.r, some N, b, true⟩ : Obs)] := by
  unfold obsOfPy
  rw [List.map_append, Bool.not_true, List.append_assoc, obsGo_fwd N e _ he l hl, obsGo_true_snoc, List.append_assoc]

/-- the generic step for the online classes: the forward phase is `l ++ [e]` (the client finalises at `e`), then `rest`;
if the executor runs the model's observation list `obs` cleanly and the stream is complete, the generated list is
accepted -/
theorem accepted_online (cfg : Cfg) (N k : Nat) (l : List Ev) (e : Ev) (rest : List Ev) (obs : List Obs) (xf : XS)
    (he : N ≤ e.n) (hl : ∀ x ∈ l, x.n < N)
    (hobs : (l ++ [e]).map (On.fwdObs N) ++ rest.map (Ev.obs · N) = obs)
    (hclean : Clean cfg (XS.init cfg) obs xf) (hend : endViols cfg k xf = []) :
    Accepted cfg k (obsOfPy true N (((l ++ [e]) ++ rest).map (evPy · false))) := by
  rw [obsOfPy_online N l e rest he hl, hobs]
  exact Accepted.of_clean hclean hend

/-- the same when the generator ends: the last event `e'` carries `exhausted = b` -/
theorem accepted_online_snoc (cfg : Cfg) (N k : Nat) (l : List Ev) (e : Ev) (rest : List Ev) (e' : Ev) (b : Bool)
    (obs : List Obs) (xf : XS) (he : N ≤ e.n) (hl : ∀ x ∈ l, x.n < N)
    (hobs : (l ++ [e]).map (On.fwdObs N) ++ rest.map (Ev.obs · N) ++ [(⟨e'.act, e'.n, e'.r, some N, b, true⟩ : Obs)] = obs)
    (hclean : Clean cfg (XS.init cfg) obs xf) (hend : endViols cfg k xf = []) :
    Accepted cfg k (obsOfPy true N (((l ++ [e]) ++ rest).map (evPy · false) ++ [evPy e' b])) := by
  rw [obsOfPy_online_snoc N l e rest e' b he hl, hobs]
  exact Accepted.of_clean hclean hend

/-! ### SingleMemory -/

/-- construct (the generated `CheckpointSchedule.__init__`, called without `max_n`), then iterate with the canonical
client (`clientN` steps, `passes` adjoint calculations) -/
def singleMemory_run (fuel : Nat) (passes clientN : Int) : M (List PyEv) := do
  let (n, r, mx) ← checkpointSchedule_init none
  singleMemory_iterator fuel n r mx passes clientN

theorem singleMemory_run_eq (fuel : Nat) (passes clientN : Int) :
    singleMemory_run fuel passes clientN = singleMemory_iterator fuel 0 0 none passes clientN := by
  unfold singleMemory_run
  rw [init_none_cap]
  rfl

/-- **SingleMemory, the translated source**: for `1 ≤ N ≤ sys.maxsize` steps and `k ≥ 1` adjoint calculations the
generated generator, run by the canonical client, returns an event list whose observations the executor accepts
(nothing in RAM/DISK, all adjoint data in WORK, any number of adjoint calculations), and all `k` calculations are
complete.  Fuel `2 k + 1`. -/
theorem source_singleMemory_accepted (N k fuel : Nat) (hN : 1 ≤ N) (hmax : N ≤ maxsize) (hk : 1 ≤ k)
    (hf : 2 * k + 1 ≤ fuel) :
    ∃ pevs, singleMemory_run fuel (k : Int) (N : Int) = .ok pevs ∧
      Accepted (cfgSingleMemory N) k (obsOfPy true N pevs) := by
  refine ⟨_, (singleMemory_run_eq _ _ _).trans (singleMemory_iterator_eq N k fuel hN hmax hk hf), ?_⟩
  rw [singleMemory_fwdPhase N hN hmax, pyEvs_false]
  refine accepted_online _ N k [] ⟨.forward 0 maxsize false true .work, maxsize, 0⟩
    (⟨.endForward, N, 0⟩ :: (List.replicate k (singleMemorySched.again N)).flatten) _ _ hmax (by simp) ?_
    (On.singleMemory_clean N k hN hmax) (endViols_none _ _ _ rfl rfl rfl rfl)
  simp [On.singleMemoryObs, On.singleMemoryPass, On.fwdObs, Ev.obs, singleMemorySched, hmax,
    List.map_flatten, List.map_replicate]

theorem source_singleMemory_C01_C18 (N k fuel : Nat) (hN : 1 ≤ N) (hmax : N ≤ maxsize) (hk : 1 ≤ k)
    (hf : 2 * k + 1 ≤ fuel) :
    ∃ pevs, singleMemory_run fuel (k : Int) (N : Int) = .ok pevs ∧
      NoViolation (cfgSingleMemory N) (obsOfPy true N pevs) := by
  obtain ⟨pevs, h, ha⟩ := source_singleMemory_accepted N k fuel hN hmax hk hf
  exact ⟨pevs, h, ha.noViolation⟩

example : (1 : Nat) ≤ 5 ∧ 5 ≤ maxsize ∧ (1 : Nat) ≤ 3 ∧ 2 * 3 + 1 ≤ 7 := by decide
example := source_singleMemory_accepted 5 3 7 (by decide) (by decide) (by decide) (by decide)
example : ∃ pevs, singleMemory_run 5 2 7 = .ok pevs ∧ (run (cfgSingleMemory 7) (obsOfPy true 7 pevs)).2 = [] :=
  ⟨_, rfl, by decide⟩

/-! ### None -/

def none_run (fuel : Nat) (clientN : Int) : M (List PyEv) := do
  let (n, r, mx) ← checkpointSchedule_init none
  none_iterator fuel n r mx false clientN

theorem none_run_eq (fuel : Nat) (clientN : Int) :
    none_run fuel clientN = none_iterator fuel 0 0 none false clientN := by
  unfold none_run
  rw [init_none_cap]
  rfl

/-- **None, the translated source**: for `1 ≤ N ≤ sys.maxsize` the generated generator, run by the canonical client,
returns `Forward`, `EndForward` (exhausted), accepted by the executor with no storage and no adjoint calculation
permitted; the stream has ended (`finished`), whatever number `k` of calculations the client wanted.  Fuel `2`. -/
theorem source_none_accepted (N k fuel : Nat) (hN : 1 ≤ N) (hmax : N ≤ maxsize) (hf : 2 ≤ fuel) :
    ∃ pevs, none_run fuel (N : Int) = .ok pevs ∧ Accepted (cfgNone N) k (obsOfPy true N pevs) := by
  refine ⟨_, (none_run_eq _ _).trans (none_iterator_eq N fuel hN hmax hf), ?_⟩
  rw [none_fwdPhase N hN hmax, pyEvs_snoc]
  refine accepted_online_snoc _ N k [] ⟨.forward 0 maxsize false false .none, maxsize, 0⟩ [] ⟨.endForward, N, 0⟩ true _ _
    hmax (by simp) ?_ (On.none_clean N hmax) (by simp [endViols, cfgNone, finished, X, chk])
  simp [On.noneObs, On.fwdObs, hmax]

theorem source_none_C01_C18 (N fuel : Nat) (hN : 1 ≤ N) (hmax : N ≤ maxsize) (hf : 2 ≤ fuel) :
    ∃ pevs, none_run fuel (N : Int) = .ok pevs ∧ NoViolation (cfgNone N) (obsOfPy true N pevs) ∧
      finished (cfgNone N) (run (cfgNone N) (obsOfPy true N pevs)).1 = true := by
  obtain ⟨pevs, h, ha⟩ := source_none_accepted N 0 fuel hN hmax hf
  exact ⟨pevs, h, ha.noViolation, ha.finished rfl⟩

example : (1 : Nat) ≤ 5 ∧ 5 ≤ maxsize ∧ 2 ≤ 2 := by decide
example := source_none_accepted 5 1 2 (by decide) (by decide) (by decide)
example : ∃ pevs, none_run 2 7 = .ok pevs ∧ (run (cfgNone 7) (obsOfPy true 7 pevs)).2 = [] :=
  ⟨_, rfl, by decide⟩

/-! ### SingleDisk -/

/-- construct (base-class constructor; `_move_data = move_data`, `_exhausted = False`), then iterate -/
def singleDisk_run (fuel : Nat) (move_data : Bool) (passes clientN : Int) : M (List PyEv) := do
  let (n, r, mx) ← checkpointSchedule_init none
  singleDisk_iterator fuel n r mx move_data false passes clientN

theorem singleDisk_run_eq (fuel : Nat) (mv : Bool) (passes clientN : Int) :
    singleDisk_run fuel mv passes clientN = singleDisk_iterator fuel 0 0 none mv false passes clientN := by
  unfold singleDisk_run
  rw [init_none_cap]
  rfl

/-- the forward phase of SingleDisk: one `Forward` per step -/
theorem sd_fwdEvs_range (mv : Bool) (N : Nat) : ∀ (f n : Nat), n + f = N →
    fwdEvs (singleDiskSched mv) N f n = (List.range' n f).map (fun j => (singleDiskSched mv).fwdEv j) := by
  intro f
  induction f with
  | zero => intro n _; rfl
  | succ f ih =>
    intro n h
    unfold fwdEvs
    have hn : ((singleDiskSched mv).fwdEv n).n = n + 1 := rfl
    rw [hn]
    by_cases hle : N ≤ n + 1
    · have : f = 0 := by omega
      subst this
      simp [hle]
    · rw [if_neg hle, ih (n + 1) (by omega)]
      simp [List.range'_succ]

theorem sd_fwdPhase (mv : Bool) (N : Nat) (hN : 1 ≤ N) :
    (singleDiskSched mv).fwdPhase N =
      (List.range (N - 1)).map (fun j => (singleDiskSched mv).fwdEv j) ++ [(singleDiskSched mv).fwdEv (N - 1)] := by
  unfold Sched.fwdPhase
  rw [sd_fwdEvs_range mv N N 0 (by omega), ← List.range_eq_range']
  obtain ⟨m, rfl⟩ : ∃ m, N = m + 1 := ⟨N - 1, by omega⟩
  rw [List.range_succ, List.map_append]
  rfl

theorem sdObs_false (N : Nat) : On.sdObs false N = (Ev.obs · N) := by
  funext e
  simp [On.sdObs, Ev.obs]

theorem sdObs_true_body (N : Nat) (l : List Ev) (h : ∀ e ∈ l, e.act ≠ .endReverse) :
    l.map (On.sdObs true N) = l.map (Ev.obs · N) := by
  apply List.map_congr_left
  intro e he
  simp [On.sdObs, Ev.obs, h e he]

/-- the observation list of the SingleDisk model (`On.singleDiskObs`) in the shape `obsOfPy_online` produces -/
theorem singleDiskObs_shape (mv : Bool) (N : Nat) (hN : 1 ≤ N) :
    ((List.range (N - 1)).map (fun j => (singleDiskSched mv).fwdEv j) ++ [(singleDiskSched mv).fwdEv (N - 1)]).map
        (On.fwdObs N) = On.singleDiskFwdObs N := by
  rw [← On.singleDiskFwdObs_eq mv N]
  obtain ⟨m, rfl⟩ : ∃ m, N = m + 1 := ⟨N - 1, by omega⟩
  rw [List.range_succ]
  simp

/-- **SingleDisk, the translated source**, both values of `move_data`: for `N ≥ 1` steps and `k ≥ 1` requested
adjoint calculations the generated generator, run by the canonical client, returns an event list whose observations
the executor accepts (no RAM, at most `N` DISK checkpoints; `move_data = True`: exactly one adjoint calculation is
permitted, `False`: any number), and the stream is complete.  Fuel `N + k + 1`. -/
theorem source_singleDisk_accepted (mv : Bool) (N k fuel : Nat) (hN : 1 ≤ N) (hk : 1 ≤ k)
    (hf : N + k + 1 ≤ fuel) :
    ∃ pevs, singleDisk_run fuel mv (k : Int) (N : Int) = .ok pevs ∧
      Accepted (cfgSingleDisk mv N) k (obsOfPy true N pevs) := by
  refine ⟨_, (singleDisk_run_eq _ _ _ _).trans (singleDisk_iterator_eq mv N k fuel hN hk hf), ?_⟩
  have he : N ≤ ((singleDiskSched mv).fwdEv (N - 1)).n := by
    show N ≤ N - 1 + 1
    omega
  have hl : ∀ x ∈ (List.range (N - 1)).map (fun j => (singleDiskSched mv).fwdEv j), x.n < N := by
    intro x hx
    obtain ⟨j, hj, rfl⟩ := List.mem_map.mp hx
    have := List.mem_range.mp hj
    show j + 1 < N
    omega
  rw [sd_fwdPhase mv N hN]
  cases mv
  · simp only [Bool.false_eq_true, if_false]
    rw [pyEvs_false]
    refine accepted_online _ N k _ _ _ _ _ he hl ?_ (On.singleDisk_copy_clean N k hN hk)
      (endViols_none _ _ _ rfl rfl rfl rfl)
    rw [singleDiskObs_shape false N hN]
    simp [On.singleDiskObs, On.singleDiskPassObs, sdObs_false, List.map_flatten, List.map_replicate]
  · simp only [if_true, List.replicate_one, List.flatten_cons, List.flatten_nil, List.append_nil]
    rw [_root_.Ckpt.singleDiskPass_eq true N N]
    have e : ((List.range (N - 1)).map (fun j => (singleDiskSched true).fwdEv j) ++
          [(singleDiskSched true).fwdEv (N - 1)]) ++
        (⟨.endForward, N, 0⟩ : Ev) :: (singleDiskBody true N N ++ [⟨.endReverse, 0, if true then N else 0⟩]) =
        (((List.range (N - 1)).map (fun j => (singleDiskSched true).fwdEv j) ++
          [(singleDiskSched true).fwdEv (N - 1)]) ++
        (⟨.endForward, N, 0⟩ : Ev) :: singleDiskBody true N N) ++ [⟨.endReverse, 0, N⟩] := by
      simp
    rw [e, pyEvs_snoc]
    refine accepted_online_snoc _ N k _ _ _ _ _ _ _ he hl ?_ (On.singleDisk_move_clean N k hN)
      (by simp [endViols, cfgSingleDisk, finished, X, chk])
    rw [singleDiskObs_shape true N hN]
    have hb := sdObs_true_body N (singleDiskBody true N N) (fun e he => (singleDiskBody_noER true N N e he).1)
    simp only [On.singleDiskObs, On.singleDiskPassObs, _root_.Ckpt.singleDiskPass_eq true N N, if_true,
      List.replicate_one, List.flatten_cons, List.flatten_nil, List.append_nil, List.map_append, hb,
      List.map_cons, List.map_nil]
    simp [On.sdObs, Ev.obs]

theorem source_singleDisk_C01_C18 (mv : Bool) (N k fuel : Nat) (hN : 1 ≤ N) (hk : 1 ≤ k)
    (hf : N + k + 1 ≤ fuel) :
    ∃ pevs, singleDisk_run fuel mv (k : Int) (N : Int) = .ok pevs ∧
      NoViolation (cfgSingleDisk mv N) (obsOfPy true N pevs) := by
  obtain ⟨pevs, h, ha⟩ := source_singleDisk_accepted mv N k fuel hN hk hf
  exact ⟨pevs, h, ha.noViolation⟩

example : (1 : Nat) ≤ 2 ∧ (1 : Nat) ≤ 3 ∧ 2 + 3 + 1 ≤ 6 := by decide
example := source_singleDisk_accepted true 2 3 6 (by decide) (by decide) (by decide)
example := source_singleDisk_accepted false 2 3 6 (by decide) (by decide) (by decide)
example : ∃ pevs, singleDisk_run 6 true 2 2 = .ok pevs ∧ (run (cfgSingleDisk true 2) (obsOfPy true 2 pevs)).2 = [] :=
  ⟨_, rfl, by decide⟩

/-! ### TwoLevel -/

/-- **TwoLevel, the translated source**: for all valid parameters (`period ≥ 1`, RAM or DISK binomial storage, every
`binomial_snapshots` and trajectory), `N ≥ 1` steps and `k ≥ 1` adjoint calculations: the generated `__init__`
followed by the generated `_iterator`, run by the canonical client, returns an event list whose observations the
executor accepts (one DISK checkpoint per started period plus `binomial_snapshots` units in the binomial storage,
any number of adjoint calculations), and all `k` calculations are complete.  Fuel `2 N + k + 4`. -/
theorem source_twoLevel_accepted (p b N k : Nat) (st : Storage) (traj : Traj) (hv : validTwoLevel p st = true)
    (hN : 1 ≤ N) (hk : 1 ≤ k) (fuel : Nat) (hf : twoLevelFuel N k ≤ fuel) :
    ∃ pevs, twoLevel_run fuel (p : Int) (b : Int) (stPy st) (trajStr traj) (k : Int) (N : Int) = .ok pevs ∧
      Accepted (cfgTwoLevel p b st N) k (obsOfPy true N pevs) := by
  obtain ⟨s, first, hs, hfirst, hrun⟩ := twoLevel_construct_then_iterate p b N k st traj fuel hv hN hk hf
  simp only [validTwoLevel, Bool.and_eq_true, Bool.or_eq_true, decide_eq_true_eq] at hv
  obtain ⟨hp, h2⟩ := hv
  have hst : st = .ram ∨ st = .disk := by simpa using h2
  have hs' := On.twoLevelSched_ok p b st traj hp hst
  rw [hs'] at hs
  injection hs with hs
  subst hs
  obtain ⟨obs, hobs, hclean⟩ := On.twoLevel_clean p b N k st traj hp hst hN hk
  simp only [On.twoLevelObs, hs', hfirst] at hobs
  injection hobs with hobs
  subst hobs
  refine ⟨_, hrun, ?_⟩
  obtain ⟨m, hm⟩ : ∃ m, ceilDiv N p = m + 1 := ⟨ceilDiv N p - 1, by have := On.ceilDiv_pos N p hp hN; omega⟩
  have he : N ≤ ((On.twoLevelS p b st traj).fwdEv (m * p)).n := by
    show N ≤ m * p + p
    have := On.ceilDiv_ge N p hp
    rw [hm, Nat.succ_mul] at this
    exact this
  have hl : ∀ x ∈ (List.range m).map (fun j => (On.twoLevelS p b st traj).fwdEv (j * p)), x.n < N := by
    intro x hx
    obtain ⟨j, hj, rfl⟩ := List.mem_map.mp hx
    have hj' := List.mem_range.mp hj
    show j * p + p < N
    have := On.ceilDiv_lt N p (j + 1) hN (by omega)
    rw [Nat.succ_mul] at this
    exact this
  have hshape : (List.range (ceilDiv N p)).map (fun j => (On.twoLevelS p b st traj).fwdEv (j * p)) ++ first ++
        agains (On.twoLevelS p b st traj) N (k - 1) =
      ((List.range m).map (fun j => (On.twoLevelS p b st traj).fwdEv (j * p)) ++
        [(On.twoLevelS p b st traj).fwdEv (m * p)]) ++ (first ++ agains (On.twoLevelS p b st traj) N (k - 1)) := by
    rw [hm, List.range_succ, List.map_append, List.append_assoc]
    rfl
  rw [hshape]
  refine accepted_online _ N k _ _ _ _ _ he hl ?_ hclean (endViols_none _ _ _ rfl rfl rfl rfl)
  unfold On.twoLevelFwdObs
  rw [hm, List.range_succ]
  simp [agains, List.map_flatten, List.map_replicate]

theorem source_twoLevel_C01_C18 (p b N k : Nat) (st : Storage) (traj : Traj) (hv : validTwoLevel p st = true)
    (hN : 1 ≤ N) (hk : 1 ≤ k) (fuel : Nat) (hf : twoLevelFuel N k ≤ fuel) :
    ∃ pevs, twoLevel_run fuel (p : Int) (b : Int) (stPy st) (trajStr traj) (k : Int) (N : Int) = .ok pevs ∧
      NoViolation (cfgTwoLevel p b st N) (obsOfPy true N pevs) := by
  obtain ⟨pevs, h, ha⟩ := source_twoLevel_accepted p b N k st traj hv hN hk fuel hf
  exact ⟨pevs, h, ha.noViolation⟩

example : validTwoLevel 3 .ram = true ∧ (1 : Nat) ≤ 10 ∧ (1 : Nat) ≤ 2 ∧ twoLevelFuel 10 2 ≤ 26 := by decide
example := source_twoLevel_accepted 3 2 10 2 .ram .maximum (by decide) (by decide) (by decide) 26 (by decide)
example : ∃ pevs, twoLevel_run 26 3 2 .ram "maximum" 2 10 = .ok pevs ∧
    (run (cfgTwoLevel 3 2 .ram 10) (obsOfPy true 10 pevs)).2 = [] :=
  ⟨_, rfl, by decide⟩

end Ckpt.Py

#print axioms Ckpt.Py.source_multistage_accepted
#print axioms Ckpt.Py.source_multistage_C01_C18
#print axioms Ckpt.Py.source_mixed_accepted
#print axioms Ckpt.Py.source_mixed_C01_C18
#print axioms Ckpt.Py.source_revolve_accepted
#print axioms Ckpt.Py.source_diskRevolve_accepted
#print axioms Ckpt.Py.source_periodic_accepted
#print axioms Ckpt.Py.source_hrevolve_accepted
#print axioms Ckpt.Py.source_revolve_C01_C18
#print axioms Ckpt.Py.source_diskRevolve_C01_C18
#print axioms Ckpt.Py.source_periodic_C01_C18
#print axioms Ckpt.Py.source_hrevolve_C01_C18
#print axioms Ckpt.Py.source_singleMemory_accepted
#print axioms Ckpt.Py.source_singleMemory_C01_C18
#print axioms Ckpt.Py.source_none_accepted
#print axioms Ckpt.Py.source_none_C01_C18
#print axioms Ckpt.Py.source_singleDisk_accepted
#print axioms Ckpt.Py.source_singleDisk_C01_C18
#print axioms Ckpt.Py.source_twoLevel_accepted
#print axioms Ckpt.Py.source_twoLevel_C01_C18
#print axioms Ckpt.Py.source_multistage_budgets
#print axioms Ckpt.Py.obsGo_head_clientHook
