import CkptGen.Capstone
import CkptVerif.Proofs.TopK
import CkptVerif.Proofs.MultistageE2E
import Mathlib.Tactic
/-!
# `allocate_snapshots` as generated from the Python source, and the oracle-free Multistage capstone

1. `pySortedDescIdx_refines`: the run-time `sorted(enumerate(ws), key=itemgetter(1), reverse=True)[:k]` on natural
   weights is the model's `sortDesc … |>.take k`.
2. `multistage_actions_refines`: the nested schedule object of `allocate_snapshots` (generated constructor with no DISK
   units, generated generator, cut after the first `EndReverse`) yields the actions of `multistageSeg N S (fun _ => .ram)`.
3. `allocate_snapshots_refines`: the generated `allocate_snapshots` with the default weights `1.0 / 1.0 / 0.0` returns the
   model's `allocate N ram disk traj` for every `N ≥ 1` and ALL natural `ram`, `disk`; fuel `multistageFuel N = N + 2`.
4. `sourceOracle` (the generated function as the oracle of the generated constructor), `sourceOracle_agrees`, and the
   oracle-free corollaries `source_multistage_accepted_full`, `source_multistage_C01_C18_full`,
   `source_multistage_budgets_full`, `multistage_construct_then_iterate_full`.
-/
namespace Ckpt.Py
open Ckpt

/-! ## 1. `pySortedDescIdx` -/

/-- a model pair `(index, weight)` as a pair of the generated text -/
def pairQ (q : Nat × Nat) : Int × Rat := ((q.1 : Int), (q.2 : Rat))

theorem insDescQ_map (x : Nat × Nat) : ∀ ys : List (Nat × Nat),
    insDescQ (pairQ x) (ys.map pairQ) = (insDesc x ys).map pairQ
  | [] => rfl
  | y :: ys => by
    simp only [List.map_cons, insDescQ, insDesc]
    have e : ((pairQ x).2 ≤ (pairQ y).2) ↔ y.2 ≥ x.2 := by
      simp only [pairQ, Nat.cast_le, ge_iff_le]
    by_cases h : y.2 ≥ x.2
    · rw [if_pos (e.2 h), if_pos h, List.map_cons, insDescQ_map x ys]
    · rw [if_neg (fun h' => h (e.1 h')), if_neg h]; rfl

theorem foldl_insDescQ_map : ∀ (l acc : List (Nat × Nat)),
    (l.map pairQ).foldl (fun acc x => insDescQ x acc) (acc.map pairQ)
      = (l.foldl (fun acc x => insDesc x acc) acc).map pairQ
  | [], _ => rfl
  | x :: l, acc => by
    simp only [List.map_cons, List.foldl_cons]
    rw [insDescQ_map, foldl_insDescQ_map l]

/-- **`pySortedDescIdx`** on natural weights and a natural `k` is the model's
`((sortDesc (w.zipIdx.map (fun p => (p.2, p.1)))).take k).map (·.1)` -/
theorem pySortedDescIdx_refines (w : List Nat) (k : Nat) :
    pySortedDescIdx (w.map (fun a : Nat => (a : Rat))) (k : Int)
      = (((sortDesc (w.zipIdx.map (fun p => (p.2, p.1)))).take k).map (·.1)).map Int.ofNat := by
  unfold pySortedDescIdx
  have e : ((w.map (fun a : Nat => (a : Rat))).zipIdx.map (fun p => ((p.2 : Int), p.1)))
      = (w.zipIdx.map (fun p => (p.2, p.1))).map pairQ := by
    rw [List.zipIdx_map, List.map_map, List.map_map]
    rfl
  have h : ((w.zipIdx.map (fun p => (p.2, p.1))).map pairQ).foldl (fun acc x => insDescQ x acc) []
      = (sortDesc (w.zipIdx.map (fun p => (p.2, p.1)))).map pairQ :=
    foldl_insDescQ_map (w.zipIdx.map (fun p : Nat × Nat => (p.2, p.1))) []
  simp only [e, h]
  rw [if_neg (by omega), List.length_map]
  have : (min (k : Int) ((sortDesc (w.zipIdx.map (fun p => (p.2, p.1)))).length : Int)).toNat
      = min k (sortDesc (w.zipIdx.map (fun p => (p.2, p.1)))).length := by omega
  rw [this, ← List.map_take, List.map_map, List.map_map, ← List.take_eq_take_min]
  rfl

example : pySortedDescIdx ([3, 1, 3, 2].map (fun a : Nat => (a : Rat))) ((2 : Nat) : Int) = [0, 2] := by
  rw [pySortedDescIdx_refines]; decide


/-! ## 2. the nested schedule of `allocate_snapshots` -/

/-- the stream of a binomial segment reads the labelling only at stack positions `< S` (a split function that
refuses `0` units) -/
theorem segWith_alloc_congr (N : Nat) (σ : Nat → Nat → Option Nat) (S : Nat) (alloc alloc' : Nat → Storage)
    (persist : Bool) (hσ : ∀ m, σ m 0 = none) (hal : ∀ i, i < S → alloc i = alloc' i) :
    ∀ (fuel : Nat) (stored spine : Bool) (lo hi d : Nat), (stored = true → d < S) →
      segWith N σ S alloc persist fuel stored spine lo hi d = segWith N σ S alloc' persist fuel stored spine lo hi d := by
  intro fuel
  induction fuel with
  | zero => intro stored spine lo hi d _; rfl
  | succ fuel ih =>
    intro stored spine lo hi d hd
    by_cases hu : hi = lo + 1
    · subst hu
      rw [segWith_unit, segWith_unit]
      cases stored
      · rfl
      · rw [hal d (hd rfl)]
    · rw [segWith_step _ _ _ _ _ _ _ _ _ _ _ hu, segWith_step _ _ _ _ _ _ _ _ _ _ _ hu]
      by_cases hdS : d < S
      · rw [hal d hdS]
        cases σ (hi - lo) (S - d) with
        | none => rfl
        | some a =>
          rw [Option.bind_some, Option.bind_some, ih true false lo (lo + a) d (fun _ => hdS),
            ih false spine _ hi (d + 1) (by intro h; cases h)]
      · have : S - d = 0 := by omega
        rw [this, hσ]
        rfl

theorem multistageSeg_alloc_congr (N S : Nat) (alloc alloc' : Nat → Storage) (traj : Traj)
    (hal : ∀ i, i < S → alloc i = alloc' i) : multistageSeg N S alloc traj = multistageSeg N S alloc' traj := by
  unfold multistageSeg
  rw [segWith_alloc_congr N _ S alloc alloc' false (fun m => nAdvance_units_zero m traj) hal N false true 0 N 0
    (by intro h; cases h)]

/-- the all-RAM stream exists only with a unit (or for a single step) -/
theorem multistageSeg_units (N S : Nat) (alloc : Nat → Storage) (traj : Traj) (evs : List Ev)
    (h : multistageSeg N S alloc traj = some evs) : ¬ (N > 1 ∧ S = 0) := by
  rintro ⟨h1, rfl⟩
  unfold multistageSeg at h
  obtain ⟨f, rfl⟩ : ∃ f, N = f + 1 := ⟨N - 1, by omega⟩
  cases hs : segWith (f + 1) (fun m k => nAdvance m k traj) 0 alloc false (f + 1) false true 0 (f + 1) 0 with
  | none => rw [hs] at h; cases h
  | some body =>
    obtain ⟨a, _, _, ha, _⟩ := segWith_succ_some _ _ _ _ _ hs (by omega)
    rw [Nat.sub_zero, nAdvance_units_zero] at ha
    cases ha

/-- the `storage` tuple of the nested object: `S` RAM units, no DISK units -/
theorem multistageStorage_ramOnly (N S : Nat) (traj : Traj) (hS : S ≤ N - 1) :
    multistageStorage N S 0 traj = some (List.replicate S .ram) := by
  unfold multistageStorage
  simp only [Nat.min_eq_left hS, Nat.zero_min]
  by_cases h : S = 0
  · subst h; rfl
  · rw [if_neg h, if_pos trivial]

theorem multistageEvs_ramOnly (N S : Nat) (traj : Traj) (evs : List Ev) (hN : 1 ≤ N) (hS : S ≤ N - 1)
    (h : multistageSeg N S (fun _ => .ram) traj = some evs) : multistageEvs N S 0 traj = .ok evs := by
  unfold multistageEvs
  rw [if_neg (by omega), multistageStorage_ramOnly N S traj hS]
  simp only [List.length_replicate]
  rw [if_neg (multistageSeg_units N S _ traj evs h),
    multistageSeg_alloc_congr N S _ (fun _ => Storage.ram) traj, h]
  intro i hi
  simp [List.getD, hi]

/-- the generated constructor of the nested object (no DISK units: the allocation is never asked for) -/
theorem multistage_init_ramOnly (N S : Nat) (traj : Traj) (oracle : AllocOracle) (hN : 1 ≤ N) (hS : S ≤ N - 1) :
    multistage_init (N : Int) (S : Int) 0 (trajStr traj) oracle
      = .ok (0, 0, some (N : Int), (((List.replicate S Storage.ram).count .ram : Nat) : Int),
          (((List.replicate S Storage.ram).count .disk : Nat) : Int), (List.replicate S Storage.ram).map stPy, false,
          trajStr traj) := by
  rw [multistage_init_spec, if_neg (by omega), ← msFields_map]
  have e1 : min (S : Int) ((N : Int) - 1) = (S : Int) := by omega
  have e2 : min (0 : Int) ((N : Int) - 1) = 0 := by omega
  rw [e1, e2]
  by_cases h : S = 0
  · subst h; rfl
  · rw [if_neg (by exact_mod_cast h), if_pos rfl, Int.toNat_natCast, List.map_replicate]
    rfl

theorem actPy_endReverse (a : Action) : actPy a = .endReverse ↔ a = .endReverse := by
  cases a <;> simp [actPy]

/-- cutting after the first `EndReverse` a list whose only `EndReverse` is its last element -/
theorem cut_endReverse (a : List PyEv) (x : PyEv) (ha : ∀ e ∈ a, e.act ≠ .endReverse) (hx : x.act = .endReverse) :
    (a ++ [x]).findIdx (fun e => e.act = .endReverse) = a.length := by
  induction a with
  | nil => simp [List.findIdx_cons, hx]
  | cons b a ih =>
    have hb := ha b (by simp)
    rw [List.cons_append, List.findIdx_cons]
    simp only [hb, decide_false, cond_false, List.length_cons]
    rw [ih (fun e he => ha e (List.mem_cons_of_mem _ he))]

/-- **the nested schedule object of `allocate_snapshots`** — the generated constructor with `S` RAM and no DISK
units and a raising oracle, then the generated generator, cut after the first `EndReverse` — yields the actions
of the all-RAM stream `multistageSeg N S (fun _ => .ram)`; fuel `N + 2` -/
theorem multistage_actions_refines (N S : Nat) (traj : Traj) (evs : List Ev) (fuel : Nat)
    (hN : 1 ≤ N) (hS : S ≤ N - 1) (hf : multistageFuel N ≤ fuel)
    (h : multistageSeg N S (fun _ => .ram) traj = some evs) :
    multistage_actions fuel (N : Int) (S : Int) 0 (trajStr traj) = .ok (evs.map (fun e => actPy e.act)) := by
  have hev := multistageEvs_ramOnly N S traj evs hN hS h
  have hit := multistage_iterator_refines N S 0 traj _ evs fuel (multistageStorage_ramOnly N S traj hS) hev hf
  -- the shape of the stream
  unfold multistageSeg at h
  cases hs : segWith N (fun m k => nAdvance m k traj) S (fun _ => Storage.ram) false N false true 0 N 0 with
  | none => rw [hs] at h; cases h
  | some evs0 =>
    rw [hs] at h
    simp only [Option.map_some, Option.some.injEq] at h
    subst h
    have hno := segWith_no_endReverse hs
    unfold multistage_actions
    rw [multistage_init_ramOnly N S traj _ hN hS]
    simp only [bind, Except.bind]
    rw [hit, List.map_append, markLast_append_ne _ _ (by simp)]
    simp only [List.map_cons, List.map_nil, markLast]
    have hcut := cut_endReverse (evs0.map (evPy · false))
      ({ evPy (⟨.endReverse, 1, N⟩ : Ev) false with exhausted := true })
      (by
        intro e he
        rw [List.mem_map] at he
        obtain ⟨e0, he0, rfl⟩ := he
        intro hc
        exact hno e0 he0 ((actPy_endReverse _).1 hc)) rfl
    rw [hcut]
    rw [if_neg (by simp)]
    simp only [pure, Except.pure]
    rw [List.take_of_length_le (by simp)]
    simp [evPy, actPy]

example : (1 : Nat) ≤ 6 ∧ 3 ≤ 6 - 1 ∧ multistageFuel 6 ≤ 8 ∧ (multistageSeg 6 3 (fun _ => .ram) .revolve).isSome = true :=
  ⟨by decide, by decide, by decide, by decide⟩


/-- natural weights as the generated text's `float`s -/
def castQ (w : List Nat) : List Rat := w.map (fun a : Nat => (a : Rat))

theorem castQ_length (w : List Nat) : (castQ w).length = w.length := by simp [castQ]

theorem pyIndex_castQ (w : List Nat) (i : Nat) (h : i < w.length) :
    pyIndex (castQ w) (i : Int) = .ok ((w[i] : Nat) : Rat) := by
  rw [pyIndex_nat_ms _ _ (by rw [castQ_length]; exact h)]
  simp [castQ]

theorem castQ_bump (w : List Nat) (i : Nat) (h : i < w.length) :
    (castQ w).set i (((w[i] : Nat) : Rat) + 1) = castQ (w.modify i (· + 1)) := by
  apply List.ext_getElem
  · simp [castQ]
  · intro j h1 h2
    simp only [castQ, List.getElem_set, List.getElem_map, List.getElem_modify]
    by_cases hij : i = j
    · subst hij; simp
    · simp [hij]

theorem castQ_keep (w : List Nat) (i : Nat) (h : i < w.length) :
    (castQ w).set i (((w[i] : Nat) : Rat) + 0) = castQ w := by
  apply List.ext_getElem
  · simp [castQ]
  · intro j h1 h2
    simp only [castQ, List.getElem_set, List.getElem_map, add_zero]
    by_cases hij : i = j
    · subst hij; simp
    · simp [hij]

/-- one step of the model's dry run -/
def dryStep (S : Nat) (a : Action) (top : Nat) (w : List Nat) : Option (Nat × List Nat) :=
  match a with
  | .forward _ _ true _ _ => if top + 1 > S then none else some (top + 1, w.modify top (· + 1))
  | .copy _ _ _ => if top = 0 then none else some (top, w.modify (top - 1) (· + 1))
  | .move _ _ dst => if top = 0 then none else some (if dst = .work then top - 1 else top, w.modify (top - 1) (· + 1))
  | _ => some (top, w)

theorem dryRun_cons (S : Nat) (e : Ev) (es : List Ev) (top : Nat) (w : List Nat) :
    dryRun S (e :: es) top w = (dryStep S e.act top w).bind (fun p => dryRun S es p.1 p.2) := by
  obtain ⟨a, n, r⟩ := e
  cases a with
  | forward n0 n1 wi wa st => cases wi <;> simp only [dryRun, dryStep] <;> (try split) <;> rfl
  | copy n0 a b => simp only [dryRun, dryStep]; split <;> rfl
  | move n0 a b => simp only [dryRun, dryStep]; split <;> rfl
  | reverse n1 n0 c => simp only [dryRun, dryStep]; rfl
  | endForward => simp only [dryRun, dryStep]; rfl
  | endReverse => simp only [dryRun, dryStep]; rfl

theorem dryStep_inv (S : Nat) (a : Action) (top : Nat) (w : List Nat) (p : Nat × List Nat)
    (h : dryStep S a top w = some p) (hl : w.length = S) (ht : top ≤ S) : p.2.length = S ∧ p.1 ≤ S := by
  unfold dryStep at h
  split at h
  · split at h
    · cases h
    · cases h; simp only [List.length_modify]; omega
  · split at h
    · cases h
    · cases h; simp only [List.length_modify]; omega
  · split at h
    · cases h
    · cases h; simp only [List.length_modify]; refine ⟨hl, ?_⟩; split <;> omega
  · cases h; exact ⟨hl, ht⟩

/-- what one iteration of the generated dry-run loop has to do -/
def DryBodySpec (S : Nat) (f : PyAction → List Rat × Int → M (ForInStep (List Rat × Int))) : Prop :=
  ∀ (a : Action) (top : Nat) (w : List Nat), w.length = S → top ≤ S →
    f (actPy a) (castQ w, (top : Int) - 1) =
      match dryStep S a top w with
      | some p => .ok (.yield (castQ p.2, (p.1 : Int) - 1))
      | none => .error .runtimeError

theorem forIn_dry (S : Nat) (f : PyAction → List Rat × Int → M (ForInStep (List Rat × Int)))
    (hf : DryBodySpec S f) : ∀ (evs : List Ev) (top : Nat) (w : List Nat) (top' : Nat) (w' : List Nat),
    w.length = S → top ≤ S → dryRun S evs top w = some (top', w') →
    forIn (evs.map (fun e => actPy e.act)) (castQ w, (top : Int) - 1) f = .ok (castQ w', (top' : Int) - 1)
  | [], top, w, top', w', _, _, h => by
    simp only [dryRun, Option.some.injEq, Prod.mk.injEq] at h
    obtain ⟨rfl, rfl⟩ := h
    rfl
  | e :: es, top, w, top', w', hl, ht, h => by
    rw [dryRun_cons] at h
    cases hs : dryStep S e.act top w with
    | none => rw [hs] at h; cases h
    | some p =>
      rw [hs] at h
      obtain ⟨hl', ht'⟩ := dryStep_inv S e.act top w p hs hl ht
      have ih := forIn_dry S f hf es p.1 p.2 top' w' hl' ht' h
      rw [List.map_cons, List.forIn_cons, hf e.act top w hl ht, hs]
      exact ih


/-- the labelling with RAM at the positions satisfying `P`, DISK elsewhere -/
def markRam (P : Nat → Bool) (S : Nat) : List Storage :=
  (List.range S).map (fun i => if P i then Storage.ram else Storage.disk)

theorem markRam_length (P : Nat → Bool) (S : Nat) : (markRam P S).length = S := by simp [markRam]

theorem markRam_set (P : Nat → Bool) (S j : Nat) :
    (markRam P S).set j .ram = markRam (fun i => i == j || P i) S := by
  apply List.ext_getElem
  · simp [markRam]
  · intro i h1 h2
    simp only [markRam, List.getElem_set, List.getElem_map, List.getElem_range]
    by_cases hij : j = i
    · subst hij; simp
    · have : (i == j) = false := by simp; omega
      simp [hij, this]

theorem forIn_mark (S : Nat) (f : Int → List StorageType → M (ForInStep (List StorageType)))
    (hf : ∀ (j : Nat) (al : List StorageType), j < al.length → f (j : Int) al = .ok (.yield (al.set j .ram))) :
    ∀ (order : List Nat) (P : Nat → Bool), (∀ j ∈ order, j < S) →
      forIn (order.map Int.ofNat) ((markRam P S).map stPy) f
        = .ok ((markRam (fun i => order.contains i || P i) S).map stPy)
  | [], P, _ => by simp only [List.map_nil, List.forIn_nil, List.contains_nil, Bool.false_or]; rfl
  | j :: rest, P, h => by
    have hj := h j (by simp)
    rw [List.map_cons, List.forIn_cons]
    have e : f (Int.ofNat j) ((markRam P S).map stPy) = .ok (.yield ((markRam (fun i => i == j || P i) S).map stPy)) := by
      rw [show Int.ofNat j = (j : Int) from rfl, hf j _ (by rw [List.length_map, markRam_length]; exact hj),
        ← markRam_set, List.map_set]
      rfl
    rw [e]
    have ih := forIn_mark S f hf rest (fun i => i == j || P i) (fun k hk => h k (List.mem_cons_of_mem _ hk))
    refine ih.trans ?_
    congr 3
    funext i
    simp only [List.contains_cons]
    cases (i == j) <;> cases (rest.contains i) <;> cases P i <;> rfl

theorem allocate_snapshots_refines (N ram disk : Nat) (traj : Traj) (w : List Nat) (al : List Storage) (fuel : Nat)
    (hN : 1 ≤ N) (hfuel : multistageFuel N ≤ fuel)
    (h : allocate N ram disk traj = some (w, al)) :
    allocate_snapshots fuel (N : Int) (ram : Int) (disk : Int) 1 1 0 (trajStr traj)
      = .ok (w.map (fun a : Nat => (a : Rat)), al.map stPy) := by
  unfold allocate at h
  simp only at h
  cases hseg : multistageSeg N (min (min ram (N - 1) + min disk (N - 1)) (N - 1)) (fun _ => Storage.ram) traj with
  | none => rw [hseg] at h; cases h
  | some evs =>
    rw [hseg] at h
    simp only at h
    cases hdry : dryRun (min (min ram (N - 1) + min disk (N - 1)) (N - 1)) evs 0
        (List.replicate (min (min ram (N - 1) + min disk (N - 1)) (N - 1)) 0) with
    | none => rw [hdry] at h; cases h
    | some p =>
      obtain ⟨top, w'⟩ := p
      rw [hdry] at h
      simp only at h
      by_cases htop : top ≠ 0
      · rw [if_pos htop] at h; cases h
      rw [if_neg htop] at h
      simp only [Option.some.injEq, Prod.mk.injEq] at h
      obtain ⟨rfl, rfl⟩ := h
      have htop0 : top = 0 := by omega
      subst htop0
      generalize hS : min (min ram (N - 1) + min disk (N - 1)) (N - 1) = S at hseg hdry
      have hSN : S ≤ N - 1 := by omega
      unfold allocate_snapshots
      have e1 := clamp_cast_in N ram hN
      have e2 := clamp_cast_in N disk hN
      have e3 : min (((min ram (N - 1) : Nat) : Int) + ((min disk (N - 1) : Nat) : Int)) ((N : Int) - 1) = (S : Int) := by
        rw [← Nat.cast_add, clamp_cast_in _ _ hN, hS]
      simp only [e1, e2, e3, Int.sub_zero, Int.toNat_natCast]
      -- not needed below, and every `min` in the context costs `omega` a case split
      clear e1 e2 e3 hS
      rw [multistage_actions_refines N S traj evs fuel hN hSN hfuel hseg]
      simp only [bind, Except.bind]
      have hw0 : List.replicate S (0 : Rat) = castQ (List.replicate S 0) := by simp [castQ]
      rw [hw0, show (-1 : Int) = ((0 : Nat) : Int) - 1 from rfl]
      rw [forIn_dry S _ ?hf evs 0 (List.replicate S 0) 0 w' (by simp) (by omega) hdry]
      case hf =>
        intro a top w hl ht
        cases a with
        | forward n0 n1 wi wa st =>
          cases wi
          · simp only [actPy, dryStep]
            rfl
          · simp only [actPy, dryStep, if_true]
            have e : (top : Int) - 1 + 1 = (top : Int) := Int.sub_add_cancel _ _
            simp only [e]
            by_cases hts : top + 1 > S
            · rw [if_pos (Nat.cast_le.mpr (Nat.le_of_lt_succ hts) : (top : Int) ≥ (S : Int)), if_pos hts]; rfl
            · have htw : top < w.length := hl.symm ▸ (Nat.le_of_not_lt hts : top + 1 ≤ S)
              rw [if_neg (fun h => hts (Nat.lt_succ_of_le (Nat.cast_le.mp h)) : ¬ (top : Int) ≥ (S : Int)), if_neg hts,
                pyIndex_castQ w top htw]
              simp only []
              rw [pySetAt_nat _ _ _ (by rw [castQ_length]; exact htw), castQ_bump w top htw]
              simp only []
              have e' : ((top + 1 : Nat) : Int) - 1 = (top : Int) := by rw [Nat.cast_succ]; exact Int.add_sub_cancel _ _
              rw [e']; rfl
        | reverse n1 n0 c => simp only [actPy, dryStep]; rfl
        | endForward => simp only [actPy, dryStep]; rfl
        | endReverse => simp only [actPy, dryStep]; rfl
        | copy n0 a b =>
          simp only [actPy, dryStep]
          by_cases ht0 : top = 0
          · subst ht0
            rw [if_pos (by decide : ((0 : Nat) : Int) - 1 < 0), if_pos rfl]; rfl
          · obtain ⟨t, rfl⟩ : ∃ t, top = t + 1 := ⟨top - 1, (Nat.succ_pred_eq_of_ne_zero ht0).symm⟩
            have e : ((t + 1 : Nat) : Int) - 1 = (t : Int) := by rw [Nat.cast_succ]; exact Int.add_sub_cancel _ _
            have htw : t < w.length := hl.symm ▸ ht
            simp only [e, Nat.add_sub_cancel]
            rw [if_neg (Int.not_lt.mpr (Int.natCast_nonneg t)), if_neg ht0, pyIndex_castQ w t htw]
            simp only []
            rw [pySetAt_nat _ _ _ (by rw [castQ_length]; exact htw), castQ_bump w t htw]
            simp only [e]
            rfl
        | move n0 a b =>
          simp only [actPy, dryStep]
          by_cases ht0 : top = 0
          · subst ht0
            rw [if_pos (by decide : ((0 : Nat) : Int) - 1 < 0), if_pos rfl]; rfl
          · obtain ⟨t, rfl⟩ : ∃ t, top = t + 1 := ⟨top - 1, (Nat.succ_pred_eq_of_ne_zero ht0).symm⟩
            have e : ((t + 1 : Nat) : Int) - 1 = (t : Int) := by rw [Nat.cast_succ]; exact Int.add_sub_cancel _ _
            have htw : t < w.length := hl.symm ▸ ht
            simp only [e, Nat.add_sub_cancel]
            rw [if_neg (Int.not_lt.mpr (Int.natCast_nonneg t)), if_neg ht0, pyIndex_castQ w t htw]
            simp only []
            rw [pySetAt_nat _ _ _ (by rw [castQ_length]; exact htw), castQ_bump w t htw]
            simp only []
            have hl2 : t < (w.modify t (· + 1)).length := by rw [List.length_modify]; exact htw
            cases b
            case work =>
              simp only [stPy, or_self, if_true]
              rw [pyIndex_castQ _ t hl2]
              simp only []
              rw [pySetAt_nat _ _ _ (by rw [castQ_length]; exact hl2), castQ_keep _ t hl2]
              simp only []
              rfl
            all_goals
              simp only [stPy, or_self, reduceCtorEq, if_false, e]
              rfl
      simp only []
      rw [if_neg (by simp)]
      have hwl : w'.length = S := by
        have := dryRun_length _ _ _ _ _ _ hdry
        rw [List.length_replicate] at this
        exact this
      have hlt : ∀ j ∈ ((sortDesc (w'.zipIdx.map (fun p => (p.2, p.1)))).take (min ram (N - 1))).map (·.1), j < S := by
        intro j hj
        have := ramIdx_lt w' (min ram (N - 1)) j hj
        omega
      have hrep : List.replicate S StorageType.disk = (markRam (fun _ => false) S).map stPy := by
        simp [markRam, stPy]
      unfold castQ
      rw [pySortedDescIdx_refines, hrep, forIn_mark S _ ?hf2 _ (fun _ => false) hlt]
      case hf2 =>
        intro j al hj
        rw [pySetAt_nat _ _ _ hj]
        rfl
      simp only [Bool.or_false, markRam]
      rfl


example : (1 : Nat) ≤ 6 ∧ multistageFuel 6 ≤ 8 ∧
    allocate 6 2 1 .revolve = some ([2, 3, 3], [.disk, .ram, .ram]) :=
  ⟨by decide, by decide, by decide⟩
example : allocate_snapshots 8 6 2 1 1 1 0 "revolve"
    = .ok (([2, 3, 3] : List Nat).map (fun a : Nat => (a : Rat)), ([.disk, .ram, .ram] : List Storage).map stPy) :=
  allocate_snapshots_refines 6 2 1 .revolve _ _ 8 (by decide) (by decide) (by decide)
/-- the generated text evaluated -/
example : (allocate_snapshots 8 6 2 1 1 1 0 "revolve").toOption.map (·.2) = some [.disk, .ram, .ram] := by
  decide +kernel

/-! ## 4. the oracle that IS the generated function; the oracle-free capstone -/

/-- the generated `allocate_snapshots` (default weights) as the oracle of the generated constructor, which uses
only the second component: `_, storage = allocate_snapshots(…)` -/
def sourceOracle (fuel : Nat) : AllocOracle := fun a b c t => do
  let r ← allocate_snapshots fuel a b c 1 1 0 t
  pure ([], r.2)

theorem sourceOracle_agrees (N ram disk : Nat) (traj : Traj) (fuel : Nat) (hN : 1 ≤ N)
    (hf : multistageFuel N ≤ fuel) : OracleAgrees (sourceOracle fuel) N ram disk traj := by
  intro wa h
  refine ⟨[], ?_⟩
  unfold sourceOracle
  rw [allocate_snapshots_refines N (min ram (N - 1)) (min disk (N - 1)) traj wa.1 wa.2 fuel hN hf h]
  rfl

theorem validMultistage_pos {N ram disk : Nat} (hv : validMultistage N ram disk = true) : 1 ≤ N := by
  simp only [validMultistage, Bool.and_eq_true, decide_eq_true_eq] at hv
  exact hv.1

/-- **Multistage, the translated source, no oracle**: constructor, `allocate_snapshots` (with its nested schedule
object) and generator are all the generated text; for all valid parameters and fuel `N + 2` the executor accepts -/
theorem source_multistage_accepted_full (N ram disk : Nat) (traj : Traj) (hv : validMultistage N ram disk = true)
    (fuel : Nat) (hf : multistageFuel N ≤ fuel) (k : Nat) :
    ∃ pevs, multistage_run fuel (N : Int) (ram : Int) (disk : Int) (trajStr traj) (sourceOracle fuel) = .ok pevs ∧
      Accepted (cfgMultistage ram disk N) k (obsOfPy false N pevs) :=
  source_multistage_accepted N ram disk traj _ (sourceOracle_agrees N ram disk traj fuel (validMultistage_pos hv) hf)
    hv fuel hf k

theorem source_multistage_C01_C18_full (N ram disk : Nat) (traj : Traj) (hv : validMultistage N ram disk = true)
    (fuel : Nat) (hf : multistageFuel N ≤ fuel) :
    ∃ pevs, multistage_run fuel (N : Int) (ram : Int) (disk : Int) (trajStr traj) (sourceOracle fuel) = .ok pevs ∧
      NoViolation (cfgMultistage ram disk N) (obsOfPy false N pevs) ∧
      finished (cfgMultistage ram disk N) (run (cfgMultistage ram disk N) (obsOfPy false N pevs)).1 = true :=
  source_multistage_C01_C18 N ram disk traj _ (sourceOracle_agrees N ram disk traj fuel (validMultistage_pos hv) hf)
    hv fuel hf

theorem source_multistage_budgets_full (N ram disk : Nat) (traj : Traj) (hv : validMultistage N ram disk = true)
    (fuel : Nat) (hf : multistageFuel N ≤ fuel) :
    ∃ pevs, multistage_run fuel (N : Int) (ram : Int) (disk : Int) (trajStr traj) (sourceOracle fuel) = .ok pevs ∧
      ∀ p, p <+: obsOfPy false N pevs →
        countSt (run (cfgMultistage ram disk N) p).1.cps .ram ≤ ram ∧
        countSt (run (cfgMultistage ram disk N) p).1.cps .disk ≤ disk :=
  source_multistage_budgets N ram disk traj _ (sourceOracle_agrees N ram disk traj fuel (validMultistage_pos hv) hf)
    hv fuel hf

/-- construct (with the generated `allocate_snapshots`), then iterate = the stream model `multistageEvs` -/
theorem multistage_construct_then_iterate_full (N ram disk : Nat) (traj : Traj) (fuel : Nat)
    (hv : validMultistage N ram disk = true) (hf : multistageFuel N ≤ fuel) :
    ∃ evs, multistageEvs N ram disk traj = .ok evs ∧
      multistage_run fuel (N : Int) (ram : Int) (disk : Int) (trajStr traj) (sourceOracle fuel)
        = .ok (markLast (evs.map (evPy · false))) :=
  multistage_construct_then_iterate N ram disk traj _ fuel
    (sourceOracle_agrees N ram disk traj fuel (validMultistage_pos hv) hf) hv hf

example : validMultistage 6 2 1 = true ∧ multistageFuel 6 ≤ 8 := ⟨by decide, by decide⟩
example := source_multistage_accepted_full 6 2 1 .revolve (by decide) 8 (by decide) 1
example := multistage_construct_then_iterate_full 6 2 1 .revolve 8 (by decide) (by decide)

end Ckpt.Py

#print axioms Ckpt.Py.pySortedDescIdx_refines
#print axioms Ckpt.Py.multistage_actions_refines
#print axioms Ckpt.Py.allocate_snapshots_refines
#print axioms Ckpt.Py.sourceOracle_agrees
#print axioms Ckpt.Py.source_multistage_accepted_full
#print axioms Ckpt.Py.source_multistage_C01_C18_full
#print axioms Ckpt.Py.source_multistage_budgets_full
#print axioms Ckpt.Py.multistage_construct_then_iterate_full
