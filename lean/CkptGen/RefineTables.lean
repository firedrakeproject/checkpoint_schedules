import CkptGen.RefineTab
import CkptVerif.Proofs.OptInf
import CkptVerif.Proofs.RevolveSteps
import CkptVerif.Properties.C05
import Mathlib.Tactic
/-!
# The Lean text generated from `get_opt_0_table` (revolve.py) and `get_opt_inf_table` (disk_revolve.py)
computes the models `opt0Table` / `optInfTable`

Costs are natural numbers, cast to `Rat` (the generated code computes with exact rationals standing for Python's
floats).  `rowQ`/`tabQ` cast a row / a table of the model entry by entry.

* `get_opt_0_table_refines` : for `1 ≤ mmax ∨ lmax ≤ 1` the generated function returns `tabQ (opt0Table lmax mmax uf ub)`;
  `get_opt_0_table_raises` : for `mmax = 0 ∧ 2 ≤ lmax` it raises `IndexError` (at `opt[1]`), so the domain is exact
  (`get_opt_0_table_cases`: both in one `if`);
  `opt0Table_shape`, `get_opt_0_table_entries` : the shape (`mmax+1` rows, row `0` of length 1, the other rows of length
  `max lmax 1 + 1`) and the entries `T[m][l] = opt0Get … m l`.
* `get_opt_inf_table_some` : with `opt_0 = some T`, `T[cm][l] = opt0Get t0 cm l` for `l ≤ lmax`, the result is
  `rowQ (optInfTable lmax cm uf ub (wd+rd) t0)` (every `cm`, including the `cm = 0` branch, entry 1 = `wd+uf+2ub+rd`);
  `get_opt_inf_table_refines` : `opt_0 = none` and `opt_0 = some (the generated table)`, for `1 ≤ cm`;
  `get_opt_inf_table_larger` : `opt_0 = some` (a table for more steps / more slots);
  `get_opt_inf_table_cm_zero`, `get_opt_inf_table_cm_zero_raises` : `cm = 0` with `opt_0 = none` (`lmax ≤ 1`: the table
  `[ub, wd+uf+2ub+rd]`; `lmax ≥ 2`: `IndexError` from `get_opt_0_table`); `get_opt_inf_table_cm_zero_some_raises`:
  `cm = 0`, `lmax ≥ 2`, `opt_0 = some [[ub]]`: `IndexError` at `opt_0[0][2]` (the model reads `0` outside a table where the
  code raises: for `cm = 0`, `lmax ≥ 2` the refinement `get_opt_inf_table_some` needs a row `0` with `lmax + 1` entries).
* corollaries: `get_opt_0_table_extra` (C05 `C05_revolve_table`: the entries are `(l+1)·ub + uf·E(l+1, m)`),
  `get_opt_0_table_gwT` (`opt0_eq_gwT`), `get_opt_inf_table_rec` (`optInf_rec` and `optInf_le_opt0`).

No fuel: both functions have only `for` loops.
-/

namespace Ckpt.Py
open Ckpt

/-! ## casts -/

/-- a row of the model's table as a list of (exact) floats -/
def rowQ (r : Array Nat) : List Rat := r.toList.map (fun x : Nat => (x : Rat))
/-- the model's table as a list of lists -/
def tabQ (t : Array (Array Nat)) : List (List Rat) := t.toList.map rowQ

theorem rowQ_length (r : Array Nat) : (rowQ r).length = r.size := by unfold rowQ; simp

theorem rowQ_getElem? (r : Array Nat) (i : Nat) : (rowQ r)[i]? = r[i]?.map (fun x : Nat => (x : Rat)) := by
  unfold rowQ; rw [List.getElem?_map, Array.getElem?_toList]

theorem rowQ_push (r : Array Nat) (x : Nat) : rowQ (r.push x) = rowQ r ++ [(x : Rat)] := by
  unfold rowQ; simp

theorem tabQ_length (t : Array (Array Nat)) : (tabQ t).length = t.size := by unfold tabQ; simp

theorem tabQ_getElem? (t : Array (Array Nat)) (i : Nat) : (tabQ t)[i]? = t[i]?.map rowQ := by
  unfold tabQ; rw [List.getElem?_map, Array.getElem?_toList]

theorem tabQ_push (t : Array (Array Nat)) (r : Array Nat) : tabQ (t.push r) = tabQ t ++ [rowQ r] := by
  unfold tabQ; simp

/-- reading entry `i < r.size` of a cast row -/
theorem pyIndex_rowQ (r : Array Nat) (i : Nat) (h : i < r.size) :
    pyIndex (rowQ r) (i : Int) = .ok ((r.getD i 0 : Nat) : Rat) := by
  apply pyIndex_of_getElem?
  rw [rowQ_getElem?, Array.getD_eq_getD_getElem?, Array.getElem?_eq_getElem h]
  rfl

/-! ## run-time support -/

theorem foldl_pyMin_cast (xs : List Nat) : ∀ m : Nat,
    (xs.map (fun x : Nat => (x : Rat))).foldl (fun m y => if y < m then y else m) (m : Rat)
      = ((xs.foldl min m : Nat) : Rat) := by
  induction xs with
  | nil => intro m; rfl
  | cons y ys ih =>
    intro m
    rw [List.map_cons, List.foldl_cons, List.foldl_cons]
    by_cases h : y < m
    · have h' : (y : Rat) < (m : Rat) := by exact_mod_cast h
      rw [if_pos h', Nat.min_eq_right (by omega)]
      exact ih y
    · have h' : ¬ (y : Rat) < (m : Rat) := by exact_mod_cast h
      rw [if_neg h', Nat.min_eq_left (by omega)]
      exact ih m

/-- `min` of a non-empty list of casts is the cast of the model's minimum -/
theorem pyMin_cast (l : List Nat) (h : l ≠ []) :
    pyMin (l.map (fun x : Nat => (x : Rat))) = .ok ((l.foldl min (l.headD 0) : Nat) : Rat) := by
  cases l with
  | nil => exact absurd rfl h
  | cons x xs =>
    rw [List.map_cons, List.headD_cons, List.foldl_cons, Nat.min_self]
    show Except.ok _ = Except.ok _
    rw [foldl_pyMin_cast]

/-! ## lists of rows -/

theorem getElem?_mid {α : Type} (A B : List α) (x : α) (n : Nat) (h : A.length = n) :
    (A ++ x :: B)[n]? = some x := by
  subst h; simp

theorem set_mid {α : Type} (A B : List α) (x y : α) (n : Nat) (h : A.length = n) :
    (A ++ x :: B).set n y = A ++ y :: B := by
  subst h; simp

/-- a `for` loop over the row indices `pre.length, …, pre.length + k - 1` that replaces row `i` by `f (row i)` -/
theorem forIn_rows (f : List Rat → List Rat) (body : Int → List (List Rat) → M (ForInStep (List (List Rat))))
    (hb : ∀ (s : List (List Rat)) (i : Nat) (r : List Rat), s[i]? = some r →
      body (i : Int) s = .ok (.yield (s.set i (f r)))) :
    ∀ (k : Nat) (pre : List (List Rat)) (r : List Rat),
      forIn ((List.range' pre.length k).map (fun k : Nat => (k : Int))) (pre ++ List.replicate k r) body
        = .ok (pre ++ List.replicate k (f r)) := by
  intro k
  induction k with
  | zero => intro pre r; rfl
  | succ k ih =>
    intro pre r
    rw [List.range'_succ, List.map_cons, List.forIn_cons, List.replicate_succ,
      hb _ _ r (getElem?_mid pre _ r _ rfl), set_mid pre _ r _ _ rfl]
    show forIn (List.map (fun k : Nat => (k : Int)) (List.range' (pre.length + 1) k))
      (pre ++ f r :: List.replicate k r) body = _
    have e : pre ++ f r :: List.replicate k r = (pre ++ [f r]) ++ List.replicate k r := by simp
    have e' : pre.length + 1 = (pre ++ [f r]).length := by simp
    rw [e, e', ih (pre ++ [f r]) r, List.replicate_succ]
    simp

theorem forIn_rows' (f : List Rat → List Rat) (body : Int → List (List Rat) → M (ForInStep (List (List Rat))))
    (k : Nat) (pre : List (List Rat)) (r : List Rat) (l : List Int) (init : List (List Rat))
    (hl : l = (List.range' pre.length k).map (fun k : Nat => (k : Int)))
    (hi : init = pre ++ List.replicate k r)
    (hb : ∀ (s : List (List Rat)) (i : Nat) (r : List Rat), s[i]? = some r →
      body (i : Int) s = .ok (.yield (s.set i (f r)))) :
    forIn l init body = .ok (pre ++ List.replicate k (f r)) := by
  subst hl hi; exact forIn_rows f body hb k pre r


theorem pyIndex_one {α : Type} (xs : List α) (a : α) (h : xs[1]? = some a) : pyIndex xs 1 = .ok a :=
  pyIndex_of_getElem? xs 1 a h

theorem pySetAt_one {α : Type} (xs : List α) (v : α) (h : 1 < xs.length) : pySetAt xs 1 v = .ok (xs.set 1 v) :=
  pySetAt_nat xs 1 v h

/-! ## model side: sizes -/

theorem opt0Row1_size (lmax uf ub : Nat) : (opt0Row1 lmax uf ub).size = 2 + (lmax - 1) :=
  (pushFold_spec (fun (_ : Array Nat) l => (l + 1) * ub + l * (l + 1) / 2 * uf) (lmax - 1) 2
    #[ub, uf + 2 * ub] rfl).1

theorem opt0Row_size (uf ub lmax : Nat) (prev : Array Nat) : (opt0Row uf ub lmax prev).size = 2 + (lmax - 1) := by
  rw [opt0Row_eq]
  exact (pushFold_spec (fun row l =>
    (opt0Cands uf prev row l).foldl min ((opt0Cands uf prev row l).headD 0)) (lmax - 1) 2
    #[ub, uf + 2 * ub] rfl).1

/-! ## `get_opt_0_table` -/

theorem init2_eq (uf ub : Nat) :
    [(ub : Rat)] ++ [(uf : Rat) + (((2 : Int) : Int) : Rat) * (ub : Rat)] = rowQ #[ub, uf + 2 * ub] := by
  unfold rowQ
  simp

/-- the body shared by the first two loops: `opt[m].append(v)` -/
theorem append_body (v : Rat) (s : List (List Rat)) (i : Nat) (r : List Rat) (h : s[i]? = some r) :
    (pyIndex s (i : Int) >>= fun w => pySetAt s (i : Int) (w ++ [v]) >>= fun w =>
        (Except.ok (ForInStep.yield w) : M _))
      = .ok (.yield (s.set i (r ++ [v]))) := by
  obtain ⟨hi, _⟩ := List.getElem?_eq_some_iff.1 h
  simp only [bind, Except.bind]
  rw [pyIndex_of_getElem? _ _ _ h]
  simp only []
  rw [pySetAt_nat _ _ _ hi]

/-- the entries of row `1`: `(l + 1) ub + l (l + 1) / 2 uf`, as the generated text computes them -/
theorem row1_cast (x ub uf : Nat) :
    (((((x : Int) + 1 : Int)) : Rat) * (ub : Rat) + ((((x : Int) * ((x : Int) + 1) : Int)) : Rat) / 2 * (uf : Rat))
      = (((x + 1) * ub + x * (x + 1) / 2 * uf : Nat) : Rat) := by
  rw [Nat.cast_add, Nat.cast_mul, Nat.cast_mul, ← tri_cast, Nat.cast_add, Nat.cast_one, Int.cast_add, Int.cast_mul,
    Int.cast_add, Int.cast_one, Int.cast_natCast]

theorem sub_succ_eq {p m : Nat} (h : m < 2 + p) : p + 2 - m = (p + 1 - m) + 1 := by omega

theorem opt0_ok_pos (lmax p uf ub : Nat) :
    get_opt_0_table (lmax : Int) ((p + 1 : Nat) : Int) (uf : Rat) (ub : Rat)
      = .ok (tabQ (opt0Table lmax (p + 1) uf ub)) := by
  unfold get_opt_0_table
  simp only [bind, Except.bind, pure, Except.pure]
  -- `for m in range(mmax + 1): opt[m].append(ub)`
  rw [forIn_rows' (· ++ [(ub : Rat)]) _ (p + 2) [] [] _ _
    (pyRange_eq 0 (p + 2) _ _ (by simp) (by push_cast; ring))
    (by have e : (((p + 1 : Nat) : Int) + 1 - 0).toNat = p + 2 := by omega
        rw [e]; rfl)
    (fun s i r h => append_body _ s i r h)]
  simp only []
  -- `for m in range(1, mmax + 1): opt[m].append(uf + 2 * ub)`
  rw [forIn_rows' (· ++ [(uf : Rat) + (((2 : Int) : Int) : Rat) * (ub : Rat)]) _ (p + 1) [[(ub : Rat)]] [(ub : Rat)] _ _
    (pyRange_eq 1 (p + 1) _ _ (by simp) (by push_cast; ring))
    (by simp [List.replicate_succ])
    (fun s i r h => append_body _ s i r h)]
  simp only []
  -- `for l in range(2, lmax + 1): opt[1].append((l+1) * ub + l * (l + 1) / 2 * uf)`
  rw [forIn_range_sim' (fun row => [(ub : Rat)] :: rowQ row :: List.replicate p (rowQ #[ub, uf + 2 * ub]))
    (fun row l => row.push ((l + 1) * ub + l * (l + 1) / 2 * uf)) (fun _ _ => True) (lmax - 1) 2
    #[ub, uf + 2 * ub] _ _ _ (pyRange_two lmax)
    (by rw [init2_eq, List.replicate_succ]; rfl) trivial]
  swap
  · intro x row _ _ _
    refine ⟨?_, trivial⟩
    rw [ratDiv_two]
    simp only []
    rw [pyIndex_one _ (rowQ row) rfl]
    simp only []
    rw [pySetAt_one _ _ (by simp)]
    rw [rowQ_push]
    rw [row1_cast]
    rfl
  simp only []
  have e0 : List.foldl (fun (row : Array Nat) l => row.push ((l + 1) * ub + l * (l + 1) / 2 * uf))
      #[ub, uf + 2 * ub] (List.range' 2 (lmax - 1)) = opt0Row1 lmax uf ub := rfl
  rw [e0]
  -- `for m in range(2, mmax + 1): for l in range(2, lmax + 1): opt[m].append(min([… for j in range(1, l)]))`
  rw [forIn_range_sim' (fun t => tabQ t ++ List.replicate (p + 2 - t.size) (rowQ #[ub, uf + 2 * ub]))
    (fun t m => t.push (opt0Row uf ub lmax (t.getD (m - 1) #[])))
    (fun m t => t.size = m ∧ (t.getD (m - 1) #[]).size = 2 + (lmax - 1)) p 2
    #[#[ub], opt0Row1 lmax uf ub] _ _ _ (pyRange_two (p + 1)) (by rfl) ⟨rfl, opt0Row1_size lmax uf ub⟩]
  · simp only []
    rw [opt0Table_pos lmax (p + 1) uf ub (by omega)]
    have hsz := (pushFold_spec (fun (t : Array (Array Nat)) m =>
      opt0Row uf ub lmax (t.getD (m - 1) #[])) p 2 #[#[ub], opt0Row1 lmax uf ub] rfl).1
    show Except.ok (tabQ _ ++ List.replicate (p + 2 - Array.size _) _) = Except.ok (tabQ _)
    rw [hsz]
    rw [Nat.add_comm 2 p, Nat.sub_self, List.replicate_zero, List.append_nil]
    rfl
  intro m t hm1 hm2 ⟨hsz, hprev⟩
  refine ⟨?_, by rw [Array.size_push, hsz], by
    have : m + 1 - 1 = t.size := by omega
    rw [this, Array.getD_eq_getD_getElem?, Array.getElem?_push_size]
    exact opt0Row_size uf ub lmax _⟩
  generalize hprevdef : t.getD (m - 1) #[] = prev at hprev ⊢
  have hprevE : t[m - 1]? = some prev := by
    rw [← hprevdef, Array.getD_eq_getD_getElem?, Array.getElem?_eq_getElem (by omega : m - 1 < t.size)]
    rfl
  have hA : ∀ row : Array Nat, (tabQ t ++ rowQ row :: List.replicate (p + 1 - m) (rowQ #[ub, uf + 2 * ub]))[m - 1]?
      = some (rowQ prev) := by
    intro row
    rw [List.getElem?_append_left (by rw [tabQ_length]; omega), tabQ_getElem?, hprevE]
    rfl
  have hB : ∀ row : Array Nat, (tabQ t ++ rowQ row :: List.replicate (p + 1 - m) (rowQ #[ub, uf + 2 * ub]))[m]?
      = some (rowQ row) := fun row => getElem?_mid _ _ _ _ (by rw [tabQ_length]; exact hsz)
  rw [forIn_range_sim' (fun row => tabQ t ++ rowQ row :: List.replicate (p + 1 - m) (rowQ #[ub, uf + 2 * ub]))
    (fun row l => row.push ((opt0Cands uf prev row l).foldl min ((opt0Cands uf prev row l).headD 0)))
    (fun l row => row.size = l) (lmax - 1) 2 #[ub, uf + 2 * ub] _ _ _ (pyRange_two lmax)
    (by rw [hsz, sub_succ_eq hm2, List.replicate_succ]) (by rfl)]
  · simp only []
    rw [← opt0Row_eq, tabQ_push, Array.size_push, hsz, Nat.sub_succ, sub_succ_eq hm2, Nat.pred_succ, List.append_assoc]
    rfl
  intro l row hl1 hl2 hrow
  refine ⟨?_, by rw [Array.size_push, hrow]⟩
  have hne : opt0Cands uf prev row l ≠ [] := Ckpt.map_range'_ne_nil _ (Nat.le_sub_of_add_le hl1)
  rw [pyRange_one l, mapM_ok_map _ _
    ((fun x : Nat => (x : Rat)) ∘ (fun j => j * uf + prev.getD (l - j) 0 + row.getD (j - 1) 0))]
  swap
  · intro j hj
    have hj' := List.mem_range'_1.1 hj
    have hjl : j < l := by omega
    have em : (m : Int) - 1 = ((m - 1 : Nat) : Int) := (Nat.cast_pred (Nat.lt_of_lt_of_le Nat.zero_lt_two hm1)).symm
    have el : (l : Int) - (j : Int) = ((l - j : Nat) : Int) := (Nat.cast_sub hjl.le).symm
    have ej : (j : Int) - 1 = ((j - 1 : Nat) : Int) := (Nat.cast_pred hj'.1).symm
    simp only [Function.comp_apply]
    rw [em, pyIndex_of_getElem? _ _ _ (hA row)]
    simp only []
    rw [el, pyIndex_rowQ prev (l - j) ((Nat.sub_le l j).trans_lt (hprev.symm ▸ hl2)), pyIndex_of_getElem? _ _ _ (hB row)]
    simp only []
    rw [ej, pyIndex_rowQ row (j - 1) (hrow.symm ▸ (Nat.sub_le j 1).trans_lt hjl)]
    simp only []
    push_cast
    rfl
  simp only []
  rw [← List.map_map]
  have ec : List.map (fun j => j * uf + prev.getD (l - j) 0 + row.getD (j - 1) 0) (List.range' 1 (l - 1))
      = opt0Cands uf prev row l := rfl
  rw [ec, pyMin_cast _ hne]
  simp only []
  rw [pyIndex_of_getElem? _ _ _ (hB row)]
  simp only []
  rw [pySetAt_nat _ _ _ (by rw [List.length_append, tabQ_length, List.length_cons]; omega),
    set_mid _ _ _ _ _ (by rw [tabQ_length]; exact hsz), rowQ_push]


theorem opt0_ok_zero (lmax uf ub : Nat) (h : lmax ≤ 1) :
    get_opt_0_table (lmax : Int) ((0 : Nat) : Int) (uf : Rat) (ub : Rat) = .ok (tabQ (opt0Table lmax 0 uf ub)) := by
  unfold get_opt_0_table
  simp only [bind, Except.bind, pure, Except.pure]
  rw [forIn_rows' (· ++ [(ub : Rat)]) _ 1 [] [] _ _
    (pyRange_eq 0 1 _ _ (by simp) (by simp)) (by rfl) (fun s i r h => append_body _ s i r h)]
  simp only []
  have e1 : pyRange 1 (((0 : Nat) : Int) + 1) = [] := rfl
  have e2 : pyRange 2 ((lmax : Int) + 1) = [] := by
    rw [pyRange_two]
    have : lmax - 1 = 0 := by omega
    rw [this]; rfl
  have e3 : pyRange 2 (((0 : Nat) : Int) + 1) = [] := rfl
  rw [e1, e2, e3, opt0Table_zero]
  rfl

/-- `mmax = 0`, `lmax ≥ 2`: `opt[1]` does not exist -/
theorem opt0_raises (lmax uf ub : Nat) (h : 2 ≤ lmax) :
    get_opt_0_table (lmax : Int) ((0 : Nat) : Int) (uf : Rat) (ub : Rat) = .error .indexError := by
  unfold get_opt_0_table
  simp only [bind, Except.bind, pure, Except.pure]
  rw [forIn_rows' (· ++ [(ub : Rat)]) _ 1 [] [] _ _
    (pyRange_eq 0 1 _ _ (by simp) (by simp)) (by rfl) (fun s i r h => append_body _ s i r h)]
  simp only []
  have e1 : pyRange 1 (((0 : Nat) : Int) + 1) = [] := rfl
  obtain ⟨k, rfl⟩ : ∃ k, lmax = k + 2 := ⟨lmax - 2, by omega⟩
  rw [e1, pyRange_two]
  have e2 : k + 2 - 1 = k + 1 := by omega
  rw [e2, List.range'_succ, List.map_cons]
  simp only [List.forIn_nil, List.forIn_cons, pure, Except.pure]
  rw [ratDiv_two]
  simp only []
  rw [show pyIndex ([] ++ List.replicate 1 ([] ++ [(ub : Rat)])) 1 = .error .indexError from
    pyIndex_oob _ 1 (by simp)]
  rfl


/-- **`get_opt_0_table` as generated from revolve.py computes the model `opt0Table`** on the exact domain on which
the Python code does not raise: `mmax ≥ 1` (every `lmax`), or `mmax = 0` with `lmax ≤ 1`. -/
theorem get_opt_0_table_refines (lmax mmax uf ub : Nat) (h : 1 ≤ mmax ∨ lmax ≤ 1) :
    get_opt_0_table (lmax : Int) (mmax : Int) (uf : Rat) (ub : Rat)
      = .ok (tabQ (opt0Table lmax mmax uf ub)) := by
  rcases Nat.eq_zero_or_pos mmax with rfl | hpos
  · exact opt0_ok_zero lmax uf ub (by omega)
  · obtain ⟨p, rfl⟩ : ∃ p, mmax = p + 1 := ⟨mmax - 1, by omega⟩
    exact opt0_ok_pos lmax p uf ub

/-- outside that domain (`mmax = 0`, `lmax ≥ 2`) the third loop raises `IndexError` at `opt[1]` -/
theorem get_opt_0_table_raises (lmax mmax uf ub : Nat) (h : ¬ (1 ≤ mmax ∨ lmax ≤ 1)) :
    get_opt_0_table (lmax : Int) (mmax : Int) (uf : Rat) (ub : Rat) = .error .indexError := by
  have h0 : mmax = 0 := by omega
  subst h0
  exact opt0_raises lmax uf ub (by omega)

/-- both cases in one statement -/
theorem get_opt_0_table_cases (lmax mmax uf ub : Nat) :
    get_opt_0_table (lmax : Int) (mmax : Int) (uf : Rat) (ub : Rat)
      = if 1 ≤ mmax ∨ lmax ≤ 1 then .ok (tabQ (opt0Table lmax mmax uf ub)) else .error .indexError := by
  split
  · next h => exact get_opt_0_table_refines lmax mmax uf ub h
  · next h => exact get_opt_0_table_raises lmax mmax uf ub h

example : (1 ≤ 3 ∨ 6 ≤ 1) ∧ ¬ (1 ≤ 0 ∨ 2 ≤ 1) := by decide
example : get_opt_0_table ((3 : Nat) : Int) ((2 : Nat) : Int) ((1 : Nat) : Rat) ((1 : Nat) : Rat)
    = .ok (tabQ (opt0Table 3 2 1 1)) := get_opt_0_table_refines 3 2 1 1 (by decide)
example : tabQ (opt0Table 3 2 1 1) = [[1], [1, 3, 6, 10], [1, 3, 5, 8]] := by decide +kernel
example : get_opt_0_table ((2 : Nat) : Int) ((0 : Nat) : Int) ((1 : Nat) : Rat) ((1 : Nat) : Rat)
    = .error .indexError := get_opt_0_table_raises 2 0 1 1 (by decide)
example : get_opt_0_table ((1 : Nat) : Int) ((0 : Nat) : Int) ((1 : Nat) : Rat) ((1 : Nat) : Rat)
    = .ok [[1]] := get_opt_0_table_refines 1 0 1 1 (by decide)

/-- the shape of the table: `mmax + 1` rows; row `0` is `[ub]`; the rows `1 … mmax` have `max lmax 1 + 1` entries
(`l = 0 … max lmax 1`: the entry `l = 1` is appended whatever `lmax`) -/
theorem opt0Table_shape (lmax mmax uf ub : Nat) :
    (opt0Table lmax mmax uf ub).size = mmax + 1 ∧
    (opt0Table lmax mmax uf ub).getD 0 #[] = #[ub] ∧
    ∀ m, 1 ≤ m → m ≤ mmax → ((opt0Table lmax mmax uf ub).getD m #[]).size = max lmax 1 + 1 := by
  rcases Nat.eq_zero_or_pos mmax with rfl | hpos
  · rw [opt0Table_zero]
    exact ⟨rfl, rfl, fun m h1 h2 => by omega⟩
  · obtain ⟨r0, r1, r2⟩ := opt0Table_rows lmax mmax uf ub hpos
    refine ⟨?_, r0, ?_⟩
    · rw [opt0Table_pos lmax mmax uf ub hpos]
      have := (pushFold_spec (fun (t : Array (Array Nat)) m =>
        opt0Row uf ub lmax (t.getD (m - 1) #[])) (mmax - 1) 2 #[#[ub], opt0Row1 lmax uf ub] rfl).1
      rw [this]; omega
    · intro m hm1 hm
      rcases Nat.lt_or_ge m 2 with hlt | hge
      · have : m = 1 := by omega
        subst this
        rw [r1, opt0Row1_size]; omega
      · rw [r2 m hge hm, opt0Row_size]; omega

/-- entry by entry: `T[m][l] = opt0Get (opt0Table lmax mmax uf ub) m l`, with the row lengths -/
theorem get_opt_0_table_entries (lmax mmax uf ub : Nat) (h : 1 ≤ mmax ∨ lmax ≤ 1) :
    ∃ T, get_opt_0_table (lmax : Int) (mmax : Int) (uf : Rat) (ub : Rat) = .ok T ∧ T.length = mmax + 1 ∧
      ∀ m, m ≤ mmax → ∃ row, T[m]? = some row ∧
        row.length = (if m = 0 then 1 else max lmax 1 + 1) ∧
        ∀ l, l < row.length → row[l]? = some ((opt0Get (opt0Table lmax mmax uf ub) m l : Nat) : Rat) := by
  obtain ⟨hs, h0, hr⟩ := opt0Table_shape lmax mmax uf ub
  refine ⟨_, get_opt_0_table_refines lmax mmax uf ub h, by rw [tabQ_length, hs], ?_⟩
  intro m hm
  have hlen : ((opt0Table lmax mmax uf ub).getD m #[]).size = (if m = 0 then 1 else max lmax 1 + 1) := by
    by_cases hm0 : m = 0
    · subst hm0; rw [h0, if_pos rfl]; rfl
    · rw [if_neg hm0]; exact hr m (by omega) hm
  refine ⟨rowQ ((opt0Table lmax mmax uf ub).getD m #[]), ?_, by rw [rowQ_length, hlen], ?_⟩
  · rw [tabQ_getElem?, Array.getD_eq_getD_getElem?, Array.getElem?_eq_getElem (by omega)]; rfl
  · intro l hl
    rw [rowQ_length] at hl
    rw [rowQ_getElem?, Array.getElem?_eq_getElem hl]
    unfold opt0Get
    generalize (opt0Table lmax mmax uf ub).getD m #[] = r at hl ⊢
    rw [Array.getD_eq_getD_getElem?, Array.getElem?_eq_getElem hl]
    rfl


/-! ## `get_opt_inf_table` -/

open Ckpt.RC in
/-- `opt_0 = some T`: only row `cm` of `T` is read, at the entries `0 … lmax` (and only when `lmax ≥ 2`).  Every `cm`:
the `cm = 0` branch (entry 1 is `wd + uf + 2·ub + rd`) is the `if cm = 0` of the model. -/
theorem get_opt_inf_table_some (lmax cm uf ub rd wd : Nat) (T : List (List Rat)) (t0 : Array (Array Nat))
    (hT : 2 ≤ lmax → ∃ rowc, T[cm]? = some rowc ∧
      ∀ l, l ≤ lmax → rowc[l]? = some ((opt0Get t0 cm l : Nat) : Rat)) :
    get_opt_inf_table (lmax : Int) (cm : Int) (uf : Rat) (ub : Rat) (rd : Rat) (wd : Rat) (some T)
      = .ok (rowQ (optInfTable lmax cm uf ub (wd + rd) t0)) := by
  unfold get_opt_inf_table
  -- the two branches of `if cm == 0` continue with the same loop: they only choose its initial value
  extract_lets o0 e0 e1 eA eB jp0
  rw [if_neg (Option.some_ne_none T)]
  simp -zeta only [jp0]
  extract_lets jp
  rw [← apply_ite (jp ())]
  simp only [jp, eA, eB, e1, e0, o0, bind, Except.bind, pure, Except.pure]
  rw [forIn_range_sim' rowQ (fun tab l => tab.push (min (opt0Get t0 cm l)
      ((optInfCands cm uf (wd + rd) t0 tab l).foldl min ((optInfCands cm uf (wd + rd) t0 tab l).headD 0))))
    (fun l tab => tab.size = l) (lmax - 1) 2
    #[ub, if cm = 0 then wd + rd + uf + 2 * ub else uf + 2 * ub] _ _ _ (pyRange_two lmax)
    (by by_cases hcm : cm = 0 <;> simp [rowQ, hcm]
        ring) (by rfl)]
  · simp only []
    rw [optInfTable_eq]
  intro l tab hl1 hl2 hsz
  refine ⟨?_, by simp [hsz]⟩
  obtain ⟨rowc, hTc, hrow⟩ := hT (by omega)
  have hne : optInfCands cm uf (wd + rd) t0 tab l ≠ [] := Ckpt.map_range'_ne_nil _ (Nat.le_sub_of_add_le hl1)
  have hu : unwrap (some T) = Except.ok T := rfl
  rw [pyRange_one l, mapM_ok_map _ _
    ((fun x : Nat => (x : Rat)) ∘ (fun j => wd + rd + j * uf + tab.getD (l - j) 0 + opt0Get t0 cm (j - 1)))]
  swap
  · intro j hj
    have hj' := List.mem_range'_1.1 hj
    have hjl : j < l := by omega
    have el : (l : Int) - (j : Int) = ((l - j : Nat) : Int) := (Nat.cast_sub hjl.le).symm
    have ej : (j : Int) - 1 = ((j - 1 : Nat) : Int) := (Nat.cast_pred hj'.1).symm
    simp only [Function.comp_apply]
    rw [el, pyIndex_rowQ tab (l - j) (hsz.symm ▸ Nat.sub_lt (Nat.lt_of_lt_of_le Nat.zero_lt_two hl1) hj'.1), hu]
    simp only []
    rw [pyIndex_of_getElem? _ _ _ hTc]
    simp only []
    rw [ej, pyIndex_of_getElem? _ _ _ (hrow (j - 1) (by omega))]
    simp only []
    push_cast
    congr 1
    ring
  simp only []
  rw [← List.map_map]
  have ec : List.map (fun j => wd + rd + j * uf + tab.getD (l - j) 0 + opt0Get t0 cm (j - 1))
      (List.range' 1 (l - 1)) = optInfCands cm uf (wd + rd) t0 tab l := rfl
  rw [ec, pyMin_cast _ hne, hu]
  simp only []
  rw [pyIndex_of_getElem? _ _ _ hTc]
  simp only []
  rw [pyIndex_of_getElem? _ _ _ (hrow l (by omega))]
  simp only []
  rw [rowQ_push, Nat.cast_min]


/-- `opt_0 = None`: the table is computed first -/
theorem get_opt_inf_table_none_eq (lmax cm : Int) (uf ub rd wd : Rat) :
    get_opt_inf_table lmax cm uf ub rd wd none
      = (get_opt_0_table lmax cm uf ub >>= fun T => get_opt_inf_table lmax cm uf ub rd wd (some T)) := by
  unfold get_opt_inf_table
  simp only [bind, Except.bind, pure, Except.pure]
  rw [if_pos trivial]
  cases get_opt_0_table lmax cm uf ub with
  | error e => rfl
  | ok T =>
    simp only []
    rw [if_neg (Option.some_ne_none T)]

/-- row `cm ≥ 1` of a (possibly larger) memory-only table is long enough for `get_opt_inf_table` -/
theorem tabQ_row_ok (lmax0 mmax uf ub cm lmax : Nat) (hcm1 : 1 ≤ cm) (hcm : cm ≤ mmax) (hl : lmax ≤ max lmax0 1) :
    ∃ rowc, (tabQ (opt0Table lmax0 mmax uf ub))[cm]? = some rowc ∧
      ∀ l, l ≤ lmax → rowc[l]? = some ((opt0Get (opt0Table lmax0 mmax uf ub) cm l : Nat) : Rat) := by
  obtain ⟨hs, _, hr⟩ := opt0Table_shape lmax0 mmax uf ub
  have hsz := hr cm hcm1 hcm
  refine ⟨rowQ ((opt0Table lmax0 mmax uf ub).getD cm #[]), ?_, ?_⟩
  · rw [tabQ_getElem?, Array.getD_eq_getD_getElem?, Array.getElem?_eq_getElem (by omega)]; rfl
  · intro l hl'
    unfold opt0Get
    generalize (opt0Table lmax0 mmax uf ub).getD cm #[] = r at hsz ⊢
    have hlt : l < r.size := by omega
    rw [rowQ_getElem?, Array.getElem?_eq_getElem hlt, Array.getD_eq_getD_getElem?,
      Array.getElem?_eq_getElem hlt]
    rfl

/-- **`get_opt_inf_table` as generated from disk_revolve.py (`one_read_disk`) computes the model `optInfTable`**,
`cm ≥ 1`: with `opt_0 = None`, and with `opt_0` = the table `get_opt_0_table(lmax, cm, uf, ub)` returns. -/
theorem get_opt_inf_table_refines (lmax cm uf ub rd wd : Nat) (hcm : 1 ≤ cm) :
    get_opt_inf_table (lmax : Int) (cm : Int) (uf : Rat) (ub : Rat) (rd : Rat) (wd : Rat) none
      = .ok (rowQ (optInfTable lmax cm uf ub (wd + rd) (opt0Table lmax cm uf ub))) ∧
    ∀ T, get_opt_0_table (lmax : Int) (cm : Int) (uf : Rat) (ub : Rat) = .ok T →
      get_opt_inf_table (lmax : Int) (cm : Int) (uf : Rat) (ub : Rat) (rd : Rat) (wd : Rat) (some T)
        = .ok (rowQ (optInfTable lmax cm uf ub (wd + rd) (opt0Table lmax cm uf ub))) := by
  have h0 := get_opt_0_table_refines lmax cm uf ub (Or.inl hcm)
  have h1 := get_opt_inf_table_some lmax cm uf ub rd wd _ (opt0Table lmax cm uf ub)
    (fun _ => tabQ_row_ok lmax cm uf ub cm lmax hcm (Nat.le_refl _) (by omega))
  refine ⟨?_, ?_⟩
  · rw [get_opt_inf_table_none_eq, h0]
    exact h1
  · intro T hT
    rw [h0] at hT
    cases hT
    exact h1

/-- the same for a memory-only table computed for more steps and more slots (`lmax ≤ lmax0`, `cm ≤ mmax`) -/
theorem get_opt_inf_table_larger (lmax lmax0 cm mmax uf ub rd wd : Nat) (hcm : 1 ≤ cm) (hcm' : cm ≤ mmax)
    (hl : lmax ≤ lmax0) :
    get_opt_inf_table (lmax : Int) (cm : Int) (uf : Rat) (ub : Rat) (rd : Rat) (wd : Rat)
        (some (tabQ (opt0Table lmax0 mmax uf ub)))
      = .ok (rowQ (optInfTable lmax cm uf ub (wd + rd) (opt0Table lmax0 mmax uf ub))) :=
  get_opt_inf_table_some lmax cm uf ub rd wd _ (opt0Table lmax0 mmax uf ub)
    (fun _ => tabQ_row_ok lmax0 mmax uf ub cm lmax hcm hcm' (by omega))

/-- `cm = 0`, `lmax ≤ 1`: the table `[ub, wd + uf + 2·ub + rd]` -/
theorem get_opt_inf_table_cm_zero (lmax uf ub rd wd : Nat) (h : lmax ≤ 1) :
    get_opt_inf_table (lmax : Int) ((0 : Nat) : Int) (uf : Rat) (ub : Rat) (rd : Rat) (wd : Rat) none
      = .ok (rowQ (optInfTable lmax 0 uf ub (wd + rd) (opt0Table lmax 0 uf ub))) ∧
    rowQ (optInfTable lmax 0 uf ub (wd + rd) (opt0Table lmax 0 uf ub))
      = [(ub : Rat), (wd : Rat) + (uf : Rat) + 2 * (ub : Rat) + (rd : Rat)] := by
  refine ⟨?_, ?_⟩
  · rw [get_opt_inf_table_none_eq, get_opt_0_table_refines lmax 0 uf ub (Or.inr h)]
    exact get_opt_inf_table_some lmax 0 uf ub rd wd (tabQ (opt0Table lmax 0 uf ub)) (opt0Table lmax 0 uf ub)
      (fun h2 => absurd h (by omega))
  · have : lmax - 1 = 0 := by omega
    rw [RC.optInfTable_eq, this]
    show [(ub : Rat), ((wd + rd + uf + 2 * ub : Nat) : Rat)] = _
    rw [show ((wd + rd + uf + 2 * ub : Nat) : Rat) = (wd : Rat) + (uf : Rat) + 2 * (ub : Rat) + (rd : Rat) by
      push_cast; ring]

/-- `cm = 0`, `lmax ≥ 2`, `opt_0 = None`: `get_opt_0_table` raises `IndexError` -/
theorem get_opt_inf_table_cm_zero_raises (lmax uf ub rd wd : Nat) (h : 2 ≤ lmax) :
    get_opt_inf_table (lmax : Int) ((0 : Nat) : Int) (uf : Rat) (ub : Rat) (rd : Rat) (wd : Rat) none
      = .error .indexError := by
  rw [get_opt_inf_table_none_eq, get_opt_0_table_raises lmax 0 uf ub (by omega)]
  rfl

example : get_opt_inf_table ((8 : Nat) : Int) ((1 : Nat) : Int) ((1 : Nat) : Rat) ((1 : Nat) : Rat) ((1 : Nat) : Rat)
    ((1 : Nat) : Rat) none = .ok (rowQ (optInfTable 8 1 1 1 (1 + 1) (opt0Table 8 1 1 1))) :=
  (get_opt_inf_table_refines 8 1 1 1 1 1 (by decide)).1
example : rowQ (optInfTable 4 1 1 1 (1 + 1) (opt0Table 4 1 1 1)) = [1, 3, 6, 10, 13] := by decide +kernel
/-- a table for more steps and slots (`lmax0 = 6`, `mmax = 3`) passed as `opt_0` -/
example : get_opt_inf_table ((4 : Nat) : Int) ((2 : Nat) : Int) ((1 : Nat) : Rat) ((1 : Nat) : Rat) ((1 : Nat) : Rat)
    ((1 : Nat) : Rat) (some (tabQ (opt0Table 6 3 1 1))) = .ok (rowQ (optInfTable 4 2 1 1 (1 + 1) (opt0Table 6 3 1 1))) :=
  get_opt_inf_table_larger 4 6 2 3 1 1 1 1 (by decide) (by decide) (by decide)
example : get_opt_inf_table ((1 : Nat) : Int) ((0 : Nat) : Int) ((1 : Nat) : Rat) ((1 : Nat) : Rat) ((3 : Nat) : Rat)
    ((2 : Nat) : Rat) none = .ok [1, 2 + 1 + 2 * 1 + 3] := by
  have h := get_opt_inf_table_cm_zero 1 1 1 3 2 (by decide)
  rw [h.1, h.2]; norm_num
example : get_opt_inf_table ((2 : Nat) : Int) ((0 : Nat) : Int) ((1 : Nat) : Rat) ((1 : Nat) : Rat) ((3 : Nat) : Rat)
    ((2 : Nat) : Rat) none = .error .indexError := get_opt_inf_table_cm_zero_raises 2 1 1 3 2 (by decide)


/-- `cm = 0`, `lmax ≥ 2`, `opt_0` = a table built with `mmax = 0` (its only row is `[ub]`): `opt_0[0][2]` raises -/
theorem get_opt_inf_table_cm_zero_some_raises (lmax lmax0 uf ub rd wd : Nat) (h : 2 ≤ lmax) :
    get_opt_inf_table (lmax : Int) ((0 : Nat) : Int) (uf : Rat) (ub : Rat) (rd : Rat) (wd : Rat)
      (some (tabQ (opt0Table lmax0 0 uf ub))) = .error .indexError := by
  unfold get_opt_inf_table
  simp only [bind, Except.bind, pure, Except.pure]
  rw [if_neg (Option.some_ne_none _), if_pos (by rfl : ((0 : Nat) : Int) = 0), opt0Table_zero]
  obtain ⟨k, rfl⟩ : ∃ k, lmax = k + 2 := ⟨lmax - 2, by omega⟩
  rw [pyRange_two]
  have e2 : k + 2 - 1 = k + 1 := by omega
  rw [e2, List.range'_succ, List.map_cons, List.forIn_cons]
  have hu : ∀ T : List (List Rat), unwrap (some T) = Except.ok T := fun _ => rfl
  have e1 : pyRange 1 ((2 : Nat) : Int) = [1] := rfl
  have i0 : pyIndex (tabQ #[#[ub]]) ((0 : Nat) : Int) = .ok [(ub : Rat)] := pyIndex_of_getElem? _ 0 _ rfl
  have i1 : ∀ x : Rat, pyIndex ([] ++ [(ub : Rat)] ++ [x]) (((2 : Nat) : Int) - 1) = .ok x :=
    fun x => pyIndex_of_getElem? _ 1 _ rfl
  have i2 : pyIndex [(ub : Rat)] ((1 : Int) - 1) = .ok (ub : Rat) := pyIndex_of_getElem? _ 0 _ rfl
  have i3 : pyIndex [(ub : Rat)] ((2 : Nat) : Int) = .error .indexError := pyIndex_oob _ 2 (by simp)
  simp only [e1, List.mapM_cons, List.mapM_nil, hu, i0, i1, i2, i3, bind, Except.bind, pure, Except.pure, pyMin,
    List.foldl_nil]

/-! ## the generated tables and the property theorems -/

/-- C05 (`C05_revolve_table`, `opt0_eq_extra`): every entry `m ≥ 1` of the table the GENERATED `get_opt_0_table`
returns is `(l+1)·ub + uf·E(l+1, min(m, l))`, `E` the Griewank–Walther recurrence (`optimal_extra_steps`). -/
theorem get_opt_0_table_extra (lmax mmax uf ub : Nat) (hmm : 1 ≤ mmax) :
    ∃ T, get_opt_0_table (lmax : Int) (mmax : Int) (uf : Rat) (ub : Rat) = .ok T ∧
      ∀ m l, 1 ≤ m → m ≤ mmax → l ≤ lmax → ∃ row, T[m]? = some row ∧
        row[l]? = some ((l + 1 : Nat) * (ub : Rat) + (uf : Rat) * (extraCell (l + 1) (clampS (l + 1) m) : Nat)) := by
  refine ⟨_, get_opt_0_table_refines lmax mmax uf ub (Or.inl hmm), ?_⟩
  intro m l hm1 hm hl
  obtain ⟨row, h1, h2⟩ := tabQ_row_ok lmax mmax uf ub m lmax hm1 hm (by omega)
  refine ⟨row, h1, ?_⟩
  rw [h2 l hl, C05_revolve_table lmax mmax uf ub l m hl hm1 hm]
  push_cast
  rfl

/-- the same through `opt0_eq_gwT`: `T[m][l] + (l+1)·uf = (l+1)·ub + uf·T_GW(l+1, m)`, `T_GW(n, s) = n + E(n, s)` the
minimal number of forward steps (`optimal_steps_binomial`) -/
theorem get_opt_0_table_gwT (lmax mmax uf ub : Nat) (hmm : 1 ≤ mmax) :
    ∃ T, get_opt_0_table (lmax : Int) (mmax : Int) (uf : Rat) (ub : Rat) = .ok T ∧
      ∀ m l, 1 ≤ m → m ≤ mmax → l ≤ lmax → ∃ row x, T[m]? = some row ∧ row[l]? = some x ∧
        x + (l + 1 : Nat) * (uf : Rat) = (l + 1 : Nat) * (ub : Rat) + (uf : Rat) * (GW.gwT (l + 1) m : Nat) := by
  refine ⟨_, get_opt_0_table_refines lmax mmax uf ub (Or.inl hmm), ?_⟩
  intro m l hm1 hm hl
  obtain ⟨row, h1, h2⟩ := tabQ_row_ok lmax mmax uf ub m lmax hm1 hm (by omega)
  refine ⟨row, _, h1, h2 l hl, ?_⟩
  have := RC.opt0_eq_gwT lmax mmax uf ub l m hl hm1 hm
  exact_mod_cast this

theorem optInfTable_size (lmax cm uf ub wr : Nat) (t0 : Array (Array Nat)) :
    (optInfTable lmax cm uf ub wr t0).size = max lmax 1 + 1 := by
  rw [RC.optInfTable_eq]
  have := (pushFold_spec (fun tab l => min (opt0Get t0 cm l)
    ((RC.optInfCands cm uf wr t0 tab l).foldl min ((RC.optInfCands cm uf wr t0 tab l).headD 0)))
    (lmax - 1) 2 #[ub, if cm = 0 then wr + uf + 2 * ub else uf + 2 * ub] rfl).1
  rw [this]; omega

/-- `optInf_rec`, `optInf_le_opt0`: the table `V` the GENERATED `get_opt_inf_table` returns (`cm ≥ 1`, `opt_0 = None`) has
`max lmax 1 + 1` entries, `V[0] = ub`, `V[1] = uf + 2·ub`, and for `2 ≤ l ≤ lmax` satisfies the Disk-Revolve recurrence
`V[l] = min(opt_0[cm][l], min_{1≤j<l} (wd + rd + j·uf + V[l-j] + opt_0[cm][j-1]))`, hence `V[l] ≤ opt_0[cm][l]`
(`v l` is the natural number whose cast is `V[l]`). -/
theorem get_opt_inf_table_rec (lmax cm uf ub rd wd : Nat) (hcm : 1 ≤ cm) :
    ∃ (V : List Rat) (v : Nat → Nat),
      get_opt_inf_table (lmax : Int) (cm : Int) (uf : Rat) (ub : Rat) (rd : Rat) (wd : Rat) none = .ok V ∧
      V.length = max lmax 1 + 1 ∧ (∀ l, l ≤ max lmax 1 → V[l]? = some ((v l : Nat) : Rat)) ∧
      v 0 = ub ∧ v 1 = uf + 2 * ub ∧
      ∀ l, 2 ≤ l → l ≤ lmax →
        (let t0 := opt0Table lmax cm uf ub
         let cands := (List.range' 1 (l - 1)).map (fun j => wd + rd + j * uf + v (l - j) + opt0Get t0 cm (j - 1))
         v l = min (opt0Get t0 cm l) (cands.foldl min (cands.headD 0))) ∧
        v l ≤ opt0Get (opt0Table lmax cm uf ub) cm l := by
  refine ⟨_, fun l => (optInfTable lmax cm uf ub (wd + rd) (opt0Table lmax cm uf ub)).getD l 0,
    (get_opt_inf_table_refines lmax cm uf ub rd wd hcm).1, ?_, ?_, ?_, ?_, ?_⟩
  · rw [rowQ_length, optInfTable_size]
  · intro l hl
    have hsz := optInfTable_size lmax cm uf ub (wd + rd) (opt0Table lmax cm uf ub)
    generalize optInfTable lmax cm uf ub (wd + rd) (opt0Table lmax cm uf ub) = tab at hsz ⊢
    have hlt : l < tab.size := by omega
    show _ = some ((tab.getD l 0 : Nat) : Rat)
    rw [rowQ_getElem?, Array.getElem?_eq_getElem hlt, Array.getD_eq_getD_getElem?, Array.getElem?_eq_getElem hlt]
    rfl
  · exact (RC.optInfTable_spec lmax cm uf ub (wd + rd) _).1
  · exact (RC.optInfTable_spec lmax cm uf ub (wd + rd) _).2.1 hcm
  · intro l hl2 hl
    exact ⟨RC.optInf_rec lmax cm uf ub (wd + rd) _ l hl2 hl,
      RC.optInf_le_opt0 lmax lmax cm cm uf ub (wd + rd) hcm (Nat.le_refl _) l hl⟩

/-- non-vacuity of the corollaries: `lmax = 4`, `mmax = cm = 2`, unit costs (`wd = rd = 1`) -/
example : ∃ T, get_opt_0_table ((4 : Nat) : Int) ((2 : Nat) : Int) ((1 : Nat) : Rat) ((1 : Nat) : Rat) = .ok T :=
  let ⟨T, h, _⟩ := get_opt_0_table_extra 4 2 1 1 (by decide); ⟨T, h⟩
example : ∃ V, get_opt_inf_table ((4 : Nat) : Int) ((2 : Nat) : Int) ((1 : Nat) : Rat) ((1 : Nat) : Rat)
    ((1 : Nat) : Rat) ((1 : Nat) : Rat) none = .ok V :=
  let ⟨V, _, h, _⟩ := get_opt_inf_table_rec 4 2 1 1 1 1 (by decide); ⟨V, h⟩

#print axioms get_opt_0_table_refines
#print axioms get_opt_0_table_raises
#print axioms get_opt_0_table_cases
#print axioms get_opt_0_table_entries
#print axioms get_opt_inf_table_some
#print axioms get_opt_inf_table_refines
#print axioms get_opt_inf_table_larger
#print axioms get_opt_inf_table_cm_zero
#print axioms get_opt_inf_table_cm_zero_raises
#print axioms get_opt_inf_table_cm_zero_some_raises
#print axioms get_opt_0_table_extra
#print axioms get_opt_0_table_gwT
#print axioms get_opt_inf_table_rec

end Ckpt.Py
