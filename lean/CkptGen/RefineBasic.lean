import CkptGen.Src
import CkptVerif.Properties.Twins
import CkptVerif.Proofs.OnlineGlue
import Mathlib.Tactic
import CkptGen.RefineCommon
/-!
# The Lean text generated from the three generators of basic_schedules.py yields the model's events

`Ckpt.Py.singleMemory_iterator`, `Ckpt.Py.singleDisk_iterator`, `Ckpt.Py.none_iterator` are produced by
`harness/py2lean.py` from the current Python source (with the canonical client built in: it finalises at
`clientN` as soon as the forward has been told to reach it and stops after `passes` adjoint calculations).
The models are the `Sched` records `singleMemorySched`, `singleDiskSched mv`, `noneSched`
(`CkptVerif/Model/Online.lean`) all property theorems are about.

Right-hand side of the three theorems: `s.fwdPhase N ++ evs` with `s.stream N k = .ok evs`, where
* `s.fwdPhase N` (defined here) are the events `s.fwdEv` produces in the `while self._max_n is None` loop under
  the canonical client, from `_n = 0` until the reported `_n` reaches `N` (`fwdObs_eq_map` ties it to `fwdObs`
  of `Proofs/OnlineGlue.lean`, the forward phase of `Sched.canon`);
* `s.stream N k` (`Model/BasicIter.lean`) is `s.first N` followed by `k - 1` times `s.again N`; by
  `twin_singleMemory`, `twin_singleDisk`, `twin_none` it equals the literal twins (corollaries at the end).
-/
namespace Ckpt.Py
open Ckpt

/-! ## The mapping of model events to `PyEv` -/

/-- a whole run: `_exhausted` is `False` at every yield except possibly the last one -/
def pyEvs (exhLast : Bool) : List Ev → List PyEv
  | [] => []
  | [e] => [evPy e exhLast]
  | e :: e' :: es => evPy e false :: pyEvs exhLast (e' :: es)

theorem pyEvs_snoc (b : Bool) (l : List Ev) (e : Ev) :
    pyEvs b (l ++ [e]) = l.map (fun x => evPy x false) ++ [evPy e b] := by
  induction l with
  | nil => rfl
  | cons a l ih =>
    cases l with
    | nil => rfl
    | cons a' l =>
      simp only [List.cons_append, pyEvs, List.map_cons] at ih ⊢
      rw [ih]

theorem pyEvs_false (l : List Ev) : pyEvs false l = l.map (fun x => evPy x false) := by
  induction l with
  | nil => rfl
  | cons a l ih =>
    cases l with
    | nil => rfl
    | cons a' l => simp only [pyEvs, List.map_cons] at ih ⊢; rw [ih]

/-! ## The forward phase of a `Sched` under the canonical client -/

/-- the events of the loop `while self._max_n is None` started at `_n = n`: `fwdEv` is applied until the
reported `_n` reaches `N` (the canonical client then calls `finalize(N)`) -/
def fwdEvs (s : Sched) (N : Nat) : (fuel : Nat) → (n : Nat) → List Ev
  | 0, _ => []
  | f+1, n =>
    if N ≤ (s.fwdEv n).n then [s.fwdEv n]
    else s.fwdEv n :: fwdEvs s N f (s.fwdEv n).n

end Ckpt.Py

/-- the forward phase from `_n = 0` (every `fwdEv` of the classes here advances `_n`, so `N` rounds suffice) -/
def Ckpt.Sched.fwdPhase (s : Ckpt.Sched) (N : Nat) : List Ckpt.Ev := Ckpt.Py.fwdEvs s N N 0

namespace Ckpt.Py
open Ckpt

/-- `fwdEvs` and the observations `fwdObs` of the forward phase of `Sched.canon` (`Proofs/OnlineGlue.lean`)
are the same events: an observation reports `n`, `max_n` after the client's `finalize` -/
theorem fwdObs_eq_map (s : Sched) (N : Nat) : ∀ (f n : Nat),
    fwdObs s N f n = (fwdEvs s N f n).map (fun e =>
      if N ≤ e.n then (⟨e.act, N, e.r, some N, false, true⟩ : Obs)
      else ⟨e.act, e.n, e.r, none, false, true⟩) := by
  intro f
  induction f with
  | zero => intro n; rfl
  | succ f ih =>
    intro n
    unfold fwdObs fwdEvs
    by_cases h : N ≤ (s.fwdEv n).n
    · simp only [h, if_true, List.map_cons, List.map_nil]
    · simp only [h, if_false, List.map_cons, ih]

/-- for a constant-step forward loop, any sufficient number of rounds gives the same events -/
theorem fwdEvs_fuel (s : Sched) (N p : Nat) (hstep : ∀ n, (s.fwdEv n).n = n + p) :
    ∀ (f f' n : Nat), n < N → N ≤ n + f * p → f ≤ f' → fwdEvs s N f' n = fwdEvs s N f n := by
  intro f
  induction f with
  | zero => intro f' n h1 h2 _; omega
  | succ f ih =>
    intro f' n h1 h2 h3
    obtain ⟨f', rfl⟩ : ∃ g, f' = g + 1 := ⟨f' - 1, by omega⟩
    unfold fwdEvs
    by_cases h : N ≤ (s.fwdEv n).n
    · simp only [h, if_true]
    · simp only [h, if_false]
      rw [hstep] at h ⊢
      have e : (f + 1) * p = f * p + p := Nat.succ_mul f p
      rw [ih f' (n + p) (by omega) (by omega) (by omega)]


/-- if `f` rounds of step `p` reach `N`, then so do `min f N`, and these are the forward phase -/
theorem fwdPhase_rounds (s : Sched) (N p f : Nat) (hstep : ∀ n, (s.fwdEv n).n = n + p) (hp : 1 ≤ p) (hN : 1 ≤ N)
    (hmax : N ≤ f * p) : N ≤ 0 + min f N * p ∧ s.fwdPhase N = fwdEvs s N (min f N) 0 := by
  have hmin : N ≤ 0 + min f N * p := by
    rcases Nat.le_total f N with h' | h'
    · rw [Nat.min_eq_left h']; omega
    · rw [Nat.min_eq_right h']
      have : N * 1 ≤ N * p := Nat.mul_le_mul_left N hp
      omega
  exact ⟨hmin, fwdEvs_fuel s N p hstep (min f N) N 0 (by omega) hmin (by omega)⟩

/-! ## small facts -/

theorem maxsize_cast : (9223372036854775807 : Int) = ((maxsize : Nat) : Int) := by decide

theorem clientHook_some (N n : Int) (m : Int) : clientHook N n (some m) = (n, some m) := by
  simp [clientHook]

theorem clientHook_none_ge (N n : Int) (h : n ≥ N) : clientHook N n none = (N, some N) := by
  simp [clientHook, h]

theorem clientHook_none_lt (N n : Int) (h : ¬ n ≥ N) : clientHook N n none = (n, none) := by
  simp [clientHook, h]

/-- A generated forward loop (`while self._max_n is None`) under the canonical client.  `run fuel n out` stands for
the loop started at `_n = n` with `_max_n = None`, `done` for its result.  If an iteration appends `s.fwdEv n` and
goes on as long as the client has not finalised (`hmore`), and the loop returns at the exit test after the
iteration at which it has (`hlast`), then the loop yields `fwdEvs`. -/
theorem fwdLoop_sim {α : Type} (s : Sched) (N p : Nat) (hstep : ∀ n, (s.fwdEv n).n = n + p)
    (run : Nat → Nat → List PyEv → M α) (done : List PyEv → α)
    (hmore : ∀ fuel n out, ¬ N ≤ n + p →
      run (fuel + 1) n out = run fuel (n + p) (out ++ [evPy (s.fwdEv n) false]))
    (hlast : ∀ fuel n out, N ≤ n + p → run (fuel + 2) n out = .ok (done (out ++ [evPy (s.fwdEv n) false]))) :
    ∀ (f fuel n : Nat) (out : List PyEv), n < N → N ≤ n + f * p → f + 1 ≤ fuel →
      run fuel n out = .ok (done (out ++ (fwdEvs s N f n).map (fun e => evPy e false))) := by
  intro f
  induction f with
  | zero => intro fuel n out h1 h2 _; omega
  | succ f ih =>
    intro fuel n out h1 h2 h3
    obtain ⟨fuel, rfl⟩ : ∃ g, fuel = g + 1 := ⟨fuel - 1, by omega⟩
    unfold fwdEvs
    rw [hstep]
    by_cases h : N ≤ n + p
    · obtain ⟨fuel, rfl⟩ : ∃ g, fuel = g + 1 := ⟨fuel - 1, by omega⟩
      rw [hlast fuel n out h, if_pos h]
      rfl
    · have e : (f + 1) * p = f * p + p := Nat.succ_mul f p
      rw [hmore fuel n out h, if_neg h, ih fuel (n + p) _ (by omega) (by omega) (by omega), List.map_cons,
        List.append_assoc]
      rfl

/-! ## SingleMemoryStorageSchedule -/

theorem sm_while1 (N : Nat) (pl : Int) (f fuel n : Nat) (out : List PyEv)
    (h1 : n < N) (h2 : N ≤ n + f * maxsize) (h3 : f + 1 ≤ fuel) :
    singleMemory_iterator.while1 0 (N : Int) fuel ((n : Int), out, pl, none) =
      .ok ((N : Int), out ++ (fwdEvs singleMemorySched N f n).map (fun e => evPy e false), pl, some (N : Int)) := by
  refine fwdLoop_sim singleMemorySched N maxsize (fun _ => rfl)
    (fun fuel n out => singleMemory_iterator.while1 0 (N : Int) fuel ((n : Int), out, pl, none))
    (fun o => ((N : Int), o, pl, some (N : Int))) ?_ ?_ f fuel n out h1 h2 h3
  · intro fuel n out h
    have h' : ¬ (n : Int) + (maxsize : Int) ≥ (N : Int) := by exact_mod_cast h
    rw [singleMemory_iterator.while1]
    simp only [↓reduceIte, pure, Except.pure, maxsize_cast, clientHook_none_lt _ _ h']
    simp only [evPy, actPy, stPy, singleMemorySched]
    push_cast
    rfl
  · intro fuel n out h
    have h' : (n : Int) + (maxsize : Int) ≥ (N : Int) := by exact_mod_cast h
    rw [singleMemory_iterator.while1]
    simp only [↓reduceIte, pure, Except.pure, maxsize_cast, clientHook_none_ge _ _ h']
    rw [singleMemory_iterator.while1]
    simp only [↓reduceIte, reduceCtorEq, pure, Except.pure]
    simp only [evPy, actPy, stPy, singleMemorySched]
    push_cast
    rfl

theorem sm_while2 (N : Nat) (hN : 1 ≤ N) : ∀ (k fuel : Nat) (out : List PyEv), 2 * k + 1 ≤ fuel →
    singleMemory_iterator.while2 (N : Int) fuel (0, out, (k : Int), (N : Int), some (N : Int)) =
      .ok (0, out ++ ((List.replicate k (singleMemorySched.again N)).flatten).map (fun e => evPy e false),
        0, (N : Int), some (N : Int)) := by
  intro k
  induction k with
  | zero =>
    intro fuel out h
    obtain ⟨fuel, rfl⟩ : ∃ g, fuel = g + 1 := ⟨fuel - 1, by omega⟩
    unfold singleMemory_iterator.while2
    simp [pure, Except.pure]
  | succ k ih =>
    intro fuel out h
    obtain ⟨fuel, rfl⟩ : ∃ g, fuel = g + 2 := ⟨fuel - 2, by omega⟩
    have hpos : ((k + 1 : Nat) : Int) > 0 := by omega
    have hN0 : ¬ (N : Int) = 0 := by omega
    unfold singleMemory_iterator.while2
    simp only [hpos, if_true, unwrap, bind, Except.bind, pure, Except.pure, clientHook_some]
    unfold singleMemory_iterator.while2
    simp only [hpos, hN0, if_true, if_false, unwrap, bind, Except.bind, pure, Except.pure, clientHook_some]
    have e : ((k + 1 : Nat) : Int) - 1 = (k : Int) := by omega
    rw [e, ih fuel _ (by omega)]
    simp [List.replicate_succ, singleMemorySched, evPy, actPy]

/-- the events of `stream`: `first N`, then `k - 1` times `again N` -/
theorem sm_stream (N k : Nat) (hk : 1 ≤ k) (evs : List Ev) (h : singleMemorySched.stream N k = .ok evs) :
    evs = ⟨.endForward, N, 0⟩ :: (List.replicate k (singleMemorySched.again N)).flatten := by
  obtain ⟨k, rfl⟩ : ∃ g, k = g + 1 := ⟨k - 1, by omega⟩
  simp only [Sched.stream, singleMemorySched, Except.ok.injEq, Nat.add_sub_cancel] at h
  subst h
  simp [List.replicate_succ, singleMemorySched]

/-- all `N ≥ 1`, also beyond `sys.maxsize`: the forward loop then takes `f` rounds, `N ≤ f * sys.maxsize` -/
theorem singleMemory_iterator_refines_anyN (N k f fuel : Nat) (hN : 1 ≤ N) (hmax : N ≤ f * maxsize) (hk : 1 ≤ k)
    (hf : 2 * k + 1 ≤ fuel) (hf' : f + 1 ≤ fuel) (evs : List Ev) (h : singleMemorySched.stream N k = .ok evs) :
    singleMemory_iterator fuel 0 0 none (k : Int) (N : Int) =
      .ok (pyEvs false (singleMemorySched.fwdPhase N ++ evs)) := by
  obtain ⟨hmin, hfw⟩ := fwdPhase_rounds singleMemorySched N maxsize f (fun _ => rfl) maxsize_pos hN hmax
  rw [sm_stream N k hk evs h, pyEvs_false, hfw]
  unfold singleMemory_iterator
  simp only [bind, Except.bind, pure, Except.pure, ne_eq, not_true_eq_false, if_false]
  have h1 := sm_while1 N (k : Int) (min f N) fuel 0 [] (by omega) hmin (by omega)
  simp only [Nat.cast_zero] at h1
  rw [h1]
  simp only [clientHook_some]
  rw [sm_while2 N hN k fuel _ hf]
  simp [evPy, actPy]

/-- **`SingleMemoryStorageSchedule._iterator` as generated from the Python source, run by the canonical client
(`finalize(N)` as soon as the forward has been told to reach `N`, `k` adjoint calculations), yields the forward
phase of `singleMemorySched` followed by `singleMemorySched.stream N k`**; `_exhausted` is never set.
Fuel: `2 * k + 1` (one round of the forward loop and its exit test; two rounds per calculation and the exit
test of `while True`). -/
theorem singleMemory_iterator_refines (N k fuel : Nat) (hN : 1 ≤ N) (hmax : N ≤ maxsize) (hk : 1 ≤ k)
    (hf : 2 * k + 1 ≤ fuel) (evs : List Ev) (h : singleMemorySched.stream N k = .ok evs) :
    singleMemory_iterator fuel 0 0 none (k : Int) (N : Int) =
      .ok (pyEvs false (singleMemorySched.fwdPhase N ++ evs)) :=
  singleMemory_iterator_refines_anyN N k 1 fuel hN (by omega) hk hf (by omega) evs h

/-- under `N ≤ sys.maxsize` the forward phase is the single `Forward(0, sys.maxsize)` -/
theorem singleMemory_fwdPhase (N : Nat) (hN : 1 ≤ N) (hmax : N ≤ maxsize) :
    singleMemorySched.fwdPhase N = [⟨.forward 0 maxsize false true .work, maxsize, 0⟩] := by
  have hfw : singleMemorySched.fwdPhase N = fwdEvs singleMemorySched N 1 0 :=
    fwdEvs_fuel singleMemorySched N maxsize (fun _ => rfl) 1 N 0 (by omega) (by omega) hN
  rw [hfw]
  simp [fwdEvs, singleMemorySched, hmax]

example : (1 : Nat) ≤ 5 ∧ 5 ≤ maxsize ∧ (1 : Nat) ≤ 3 ∧ 2 * 3 + 1 ≤ 7 ∧
    singleMemorySched.stream 5 3 = .ok ([⟨.endForward, 5, 0⟩, ⟨.reverse 5 0 false, 5, 5⟩, ⟨.endReverse, 5, 0⟩,
      ⟨.reverse 5 0 false, 5, 5⟩, ⟨.endReverse, 5, 0⟩, ⟨.reverse 5 0 false, 5, 5⟩, ⟨.endReverse, 5, 0⟩]) := by
  refine ⟨by decide, by decide, by decide, by decide, rfl⟩


/-! ## SingleDiskStorageSchedule -/

theorem sd_while1 (mv : Bool) (N : Nat) (pl : Int) (f fuel n : Nat) (out : List PyEv)
    (h1 : n < N) (h2 : N ≤ n + f * 1) (h3 : f + 1 ≤ fuel) :
    singleDisk_iterator.while1 0 false (N : Int) fuel ((n : Int), out, pl, none) =
      .ok ((N : Int), out ++ (fwdEvs (singleDiskSched mv) N f n).map (fun e => evPy e false), pl,
        some (N : Int)) := by
  refine fwdLoop_sim (singleDiskSched mv) N 1 (fun _ => rfl)
    (fun fuel n out => singleDisk_iterator.while1 0 false (N : Int) fuel ((n : Int), out, pl, none))
    (fun o => ((N : Int), o, pl, some (N : Int))) ?_ ?_ f fuel n out h1 h2 h3
  · intro fuel n out h
    have h' : ¬ (n : Int) + 1 ≥ (N : Int) := by exact_mod_cast h
    rw [singleDisk_iterator.while1]
    simp only [↓reduceIte, pure, Except.pure, clientHook_none_lt _ _ h']
    simp only [evPy, actPy, stPy, singleDiskSched]
    push_cast
    rfl
  · intro fuel n out h
    have h' : (n : Int) + 1 ≥ (N : Int) := by exact_mod_cast h
    rw [singleDisk_iterator.while1]
    simp only [↓reduceIte, pure, Except.pure, clientHook_none_ge _ _ h']
    rw [singleDisk_iterator.while1]
    simp only [↓reduceIte, reduceCtorEq, pure, Except.pure]
    simp only [evPy, actPy, stPy, singleDiskSched]
    push_cast
    rfl

/-- the reverse loop without its final `EndReverse` -/
def sdBody (move : Bool) (N : Nat) : Nat → List Ev
  | 0 => []
  | k+1 =>
    ⟨if move then .move k .disk .work else .copy k .disk .work, k, N - (k+1)⟩ ::
    ⟨.reverse (k+1) k true, k, N - k⟩ :: sdBody move N k

theorem singleDiskPass_eq (move : Bool) (N : Nat) : ∀ j, singleDiskPass move N j =
    sdBody move N j ++ [⟨.endReverse, 0, if move then N else 0⟩] := by
  intro j
  induction j with
  | zero => rfl
  | succ j ih => simp only [singleDiskPass, sdBody, ih, List.cons_append]

/-- one iteration of the generated reverse loop: the checkpoint of step `j` is loaded and the step reversed -/
theorem sd_while3_step (mv exh : Bool) (N j fuel : Nat) (n pl : Int) (out : List PyEv) (hj : j + 1 ≤ N) :
    singleDisk_iterator.while3 mv exh (N : Int) (fuel + 1)
        (n, (N : Int) - ((j + 1 : Nat) : Int), out, pl, some (N : Int)) =
      singleDisk_iterator.while3 mv exh (N : Int) fuel
        ((j : Int), (N : Int) - (j : Int),
          out ++ [evPy ⟨if mv then .move j .disk .work else .copy j .disk .work, j, N - (j + 1)⟩ exh,
            evPy ⟨.reverse (j + 1) j true, j, N - j⟩ exh], pl, some (N : Int)) := by
  rw [singleDisk_iterator.while3]
  have hlt : (N : Int) - ((j : Int) + 1) < (N : Int) := by omega
  have e1 : (N : Int) - ((N : Int) - ((j : Int) + 1)) = (j : Int) + 1 := by omega
  have e2 : ((N - (j + 1) : Nat) : Int) = (N : Int) - ((j : Int) + 1) := by omega
  have e3 : ((N - j : Nat) : Int) = (N : Int) - (j : Int) := by omega
  cases mv <;>
    simp only [↓reduceIte, Bool.false_eq_true, hlt, unwrap, bind, Except.bind, pure, Except.pure, clientHook_some,
      e1, add_sub_cancel_right, evPy, actPy, stPy, e2, e3, List.append_assoc, List.cons_append, List.nil_append,
      Nat.cast_add, Nat.cast_one]

theorem sd_while3 (mv exh : Bool) (N : Nat) (pl : Int) : ∀ (j fuel : Nat) (n : Int) (out : List PyEv),
    j ≤ N → j + 1 ≤ fuel →
    singleDisk_iterator.while3 mv exh (N : Int) fuel (n, (N : Int) - (j : Int), out, pl, some (N : Int)) =
      .ok (if j = 0 then n else 0, (N : Int), out ++ (sdBody mv N j).map (fun e => evPy e exh), pl,
        some (N : Int)) := by
  intro j
  induction j with
  | zero =>
    intro fuel n out _ h
    obtain ⟨fuel, rfl⟩ : ∃ g, fuel = g + 1 := ⟨fuel - 1, by omega⟩
    rw [singleDisk_iterator.while3]
    simp [unwrap, bind, Except.bind, pure, Except.pure, sdBody]
  | succ j ih =>
    intro fuel n out hj h
    obtain ⟨fuel, rfl⟩ : ∃ g, fuel = g + 1 := ⟨fuel - 1, by omega⟩
    rw [sd_while3_step mv exh N j fuel n pl out hj, ih fuel _ _ (by omega) (by omega), if_neg (Nat.succ_ne_zero j)]
    have hn0 : (if j = 0 then (j : Int) else 0) = 0 := by split_ifs with h0 <;> simp [h0]
    rw [hn0, sdBody, List.map_cons, List.map_cons, List.append_assoc]
    rfl

/-- `move_data = False`: `k` adjoint calculations -/
theorem sd_while2_copy (N : Nat) (hN : 1 ≤ N) : ∀ (k fuel : Nat) (n : Int) (out : List PyEv),
    N + k + 1 ≤ fuel →
    singleDisk_iterator.while2 false (N : Int) fuel (n, 0, false, out, (k : Int), some (N : Int)) =
      .ok (if k = 0 then n else 0, 0, false,
        out ++ ((List.replicate k (singleDiskPass false N N)).flatten).map (fun e => evPy e false),
        0, some (N : Int)) := by
  intro k
  induction k with
  | zero =>
    intro fuel n out h
    obtain ⟨fuel, rfl⟩ : ∃ g, fuel = g + 1 := ⟨fuel - 1, by omega⟩
    unfold singleDisk_iterator.while2
    simp [pure, Except.pure]
  | succ k ih =>
    intro fuel n out h
    obtain ⟨fuel, rfl⟩ : ∃ g, fuel = g + 1 := ⟨fuel - 1, by omega⟩
    have hpos : ((k + 1 : Nat) : Int) > 0 := by omega
    have h3 := sd_while3 false false N ((k + 1 : Nat) : Int) N fuel n out (le_refl _) (by omega)
    rw [sub_self] at h3
    have hN0 : ¬ N = 0 := by omega
    unfold singleDisk_iterator.while2
    simp only [hpos, if_true, bind, Except.bind, h3, hN0, if_false, unwrap, pure, Except.pure, gt_iff_lt,
      lt_irrefl, Bool.false_eq_true, clientHook_some]
    have e : ((k + 1 : Nat) : Int) - 1 = (k : Int) := by omega
    rw [e, ih fuel _ _ (by omega)]
    have hn0 : (if k = 0 then (0 : Int) else 0) = 0 := by split_ifs <;> rfl
    rw [hn0]
    simp [List.replicate_succ, singleDiskPass_eq, evPy, actPy]

/-- `move_data = True`: the generator returns after the first `EndReverse`, where `_exhausted` becomes true -/
theorem sd_while2_move (N : Nat) (hN : 1 ≤ N) (k fuel : Nat) (hk : 1 ≤ k) (n : Int) (out : List PyEv)
    (hf : N + 2 ≤ fuel) :
    singleDisk_iterator.while2 true (N : Int) fuel (n, 0, false, out, (k : Int), some (N : Int)) =
      .ok (0, (N : Int), true,
        out ++ (sdBody true N N).map (fun e => evPy e false) ++ [evPy ⟨.endReverse, 0, N⟩ true],
        (k : Int) - 1, some (N : Int)) := by
  obtain ⟨fuel, rfl⟩ : ∃ g, fuel = g + 1 := ⟨fuel - 1, by omega⟩
  have hpos : (k : Int) > 0 := by omega
  have h3 := sd_while3 true false N (k : Int) N fuel n out (le_refl _) (by omega)
  rw [sub_self] at h3
  have hN0 : ¬ N = 0 := by omega
  unfold singleDisk_iterator.while2
  simp only [hpos, if_true, bind, Except.bind, h3, hN0, if_false, unwrap, pure, Except.pure, gt_iff_lt,
    lt_irrefl, clientHook_some]
  simp [evPy, actPy]


theorem sd_stream (mv : Bool) (N k : Nat) (hk : 1 ≤ k) (evs : List Ev)
    (h : (singleDiskSched mv).stream N k = .ok evs) :
    evs = ⟨.endForward, N, 0⟩ :: (List.replicate k (singleDiskPass mv N N)).flatten := by
  obtain ⟨k, rfl⟩ : ∃ g, k = g + 1 := ⟨k - 1, by omega⟩
  simp only [Sched.stream, singleDiskSched, Except.ok.injEq, Nat.add_sub_cancel] at h
  subst h
  simp [List.replicate_succ]

/-- **`SingleDiskStorageSchedule._iterator` as generated from the Python source, run by the canonical client
(`finalize(N)` as soon as the forward has been told to reach `N`, `k` adjoint calculations wanted), yields the
forward phase of `singleDiskSched mv` followed by `(singleDiskSched mv).stream N k'`**, where `k' = k` for
`move_data = False` and `k' = 1` for `move_data = True` (the generator returns after its only calculation);
`_exhausted` is false at every yield, except at the final `EndReverse` when `move_data = True`.
Fuel: `N + k + 1` (forward loop: `N` rounds and the exit test; each of the `k` rounds of `while True` runs the
inner loop — `N` rounds and the exit test — with one unit less; then the exit test of `while True`). -/
theorem singleDisk_iterator_refines (mv : Bool) (N k fuel : Nat) (hN : 1 ≤ N) (hk : 1 ≤ k)
    (hf : N + k + 1 ≤ fuel) (evs : List Ev)
    (h : (singleDiskSched mv).stream N (if mv then 1 else k) = .ok evs) :
    singleDisk_iterator fuel 0 0 none mv false (k : Int) (N : Int) =
      .ok (pyEvs mv ((singleDiskSched mv).fwdPhase N ++ evs)) := by
  unfold singleDisk_iterator
  simp only [bind, Except.bind, pure, Except.pure, ne_eq, not_true_eq_false, if_false]
  have h1 := sd_while1 mv N (k : Int) N fuel 0 [] (by omega) (by omega) (by omega)
  simp only [Nat.cast_zero] at h1
  rw [h1]
  simp only [clientHook_some]
  cases mv
  · simp only [Bool.false_eq_true, if_false] at h
    rw [sd_stream false N k hk evs h, pyEvs_false, sd_while2_copy N hN k fuel _ _ hf]
    simp [evPy, actPy, Sched.fwdPhase]
  · simp only [if_true] at h
    rw [sd_stream true N 1 (le_refl _) evs h, sd_while2_move N hN k fuel hk _ _ (by omega)]
    have e : (singleDiskSched true).fwdPhase N ++
        ⟨.endForward, N, 0⟩ :: (List.replicate 1 (singleDiskPass true N N)).flatten =
        ((singleDiskSched true).fwdPhase N ++ ⟨.endForward, N, 0⟩ :: sdBody true N N) ++ [⟨.endReverse, 0, N⟩] := by
      simp [singleDiskPass_eq]
    rw [e, pyEvs_snoc]
    simp [evPy, actPy, Sched.fwdPhase]

example : (1 : Nat) ≤ 2 ∧ (1 : Nat) ≤ 2 ∧ 2 + 2 + 1 ≤ 5 ∧
    (singleDiskSched false).stream 2 (if false then 1 else 2) = .ok ([⟨.endForward, 2, 0⟩,
      ⟨.copy 1 .disk .work, 1, 0⟩, ⟨.reverse 2 1 true, 1, 1⟩, ⟨.copy 0 .disk .work, 0, 1⟩,
      ⟨.reverse 1 0 true, 0, 2⟩, ⟨.endReverse, 0, 0⟩,
      ⟨.copy 1 .disk .work, 1, 0⟩, ⟨.reverse 2 1 true, 1, 1⟩, ⟨.copy 0 .disk .work, 0, 1⟩,
      ⟨.reverse 1 0 true, 0, 2⟩, ⟨.endReverse, 0, 0⟩]) := by
  refine ⟨by decide, by decide, by decide, rfl⟩

example : (1 : Nat) ≤ 2 ∧ (1 : Nat) ≤ 3 ∧ 2 + 3 + 1 ≤ 6 ∧
    (singleDiskSched true).stream 2 (if true then 1 else 3) = .ok ([⟨.endForward, 2, 0⟩,
      ⟨.move 1 .disk .work, 1, 0⟩, ⟨.reverse 2 1 true, 1, 1⟩, ⟨.move 0 .disk .work, 0, 1⟩,
      ⟨.reverse 1 0 true, 0, 2⟩, ⟨.endReverse, 0, 2⟩]) := by
  refine ⟨by decide, by decide, by decide, rfl⟩


/-! ## NoneCheckpointSchedule -/

theorem none_while1 (N : Nat) (f fuel n : Nat) (out : List PyEv)
    (h1 : n < N) (h2 : N ≤ n + f * maxsize) (h3 : f + 1 ≤ fuel) :
    none_iterator.while1 0 false (N : Int) fuel ((n : Int), out, none) =
      .ok ((N : Int), out ++ (fwdEvs noneSched N f n).map (fun e => evPy e false), some (N : Int)) := by
  refine fwdLoop_sim noneSched N maxsize (fun _ => rfl)
    (fun fuel n out => none_iterator.while1 0 false (N : Int) fuel ((n : Int), out, none))
    (fun o => ((N : Int), o, some (N : Int))) ?_ ?_ f fuel n out h1 h2 h3
  · intro fuel n out h
    have h' : ¬ (n : Int) + (maxsize : Int) ≥ (N : Int) := by exact_mod_cast h
    rw [none_iterator.while1]
    simp only [↓reduceIte, pure, Except.pure, maxsize_cast, clientHook_none_lt _ _ h']
    simp only [evPy, actPy, stPy, noneSched]
    push_cast
    rfl
  · intro fuel n out h
    have h' : (n : Int) + (maxsize : Int) ≥ (N : Int) := by exact_mod_cast h
    rw [none_iterator.while1]
    simp only [↓reduceIte, pure, Except.pure, maxsize_cast, clientHook_none_ge _ _ h']
    rw [none_iterator.while1]
    simp only [↓reduceIte, reduceCtorEq, pure, Except.pure]
    simp only [evPy, actPy, stPy, noneSched]
    push_cast
    rfl

theorem none_stream (N k : Nat) (evs : List Ev) (h : noneSched.stream N k = .ok evs) :
    evs = [⟨.endForward, N, 0⟩] := by
  simp only [Sched.stream, noneSched, Except.ok.injEq] at h
  subst h
  simp

/-- all `N ≥ 1`, also beyond `sys.maxsize`: the forward loop then takes `f` rounds, `N ≤ f * sys.maxsize` -/
theorem none_iterator_refines_anyN (N k f fuel : Nat) (hN : 1 ≤ N) (hmax : N ≤ f * maxsize)
    (hf : f + 1 ≤ fuel) (evs : List Ev) (h : noneSched.stream N k = .ok evs) :
    none_iterator fuel 0 0 none false (N : Int) = .ok (pyEvs true (noneSched.fwdPhase N ++ evs)) := by
  obtain ⟨hmin, hfw⟩ := fwdPhase_rounds noneSched N maxsize f (fun _ => rfl) maxsize_pos hN hmax
  rw [none_stream N k evs h, pyEvs_snoc, hfw]
  unfold none_iterator
  simp only [bind, Except.bind, pure, Except.pure, ne_eq, not_true_eq_false, if_false]
  have h1 := none_while1 N (min f N) fuel 0 [] (by omega) hmin (by omega)
  simp only [Nat.cast_zero] at h1
  rw [h1]
  simp [evPy, actPy]

/-- **`NoneCheckpointSchedule._iterator` as generated from the Python source, run by the canonical client
(`finalize(N)` as soon as the forward has been told to reach `N`), yields the forward phase of `noneSched`
followed by `noneSched.stream N k`** (`= [EndForward]` whatever `k`: no adjoint calculation is permitted);
`_exhausted` is true at `EndForward`, false before.  Fuel: `2` (one round of the forward loop, its exit test). -/
theorem none_iterator_refines (N k fuel : Nat) (hN : 1 ≤ N) (hmax : N ≤ maxsize) (hf : 2 ≤ fuel)
    (evs : List Ev) (h : noneSched.stream N k = .ok evs) :
    none_iterator fuel 0 0 none false (N : Int) = .ok (pyEvs true (noneSched.fwdPhase N ++ evs)) :=
  none_iterator_refines_anyN N k 1 fuel hN (by omega) hf evs h

/-- under `N ≤ sys.maxsize` the forward phase is the single `Forward(0, sys.maxsize)` -/
theorem none_fwdPhase (N : Nat) (hN : 1 ≤ N) (hmax : N ≤ maxsize) :
    noneSched.fwdPhase N = [⟨.forward 0 maxsize false false .none, maxsize, 0⟩] := by
  have hfw : noneSched.fwdPhase N = fwdEvs noneSched N 1 0 :=
    fwdEvs_fuel noneSched N maxsize (fun _ => rfl) 1 N 0 (by omega) (by omega) hN
  rw [hfw]
  simp [fwdEvs, noneSched, hmax]

example : (1 : Nat) ≤ 5 ∧ 5 ≤ maxsize ∧ 2 ≤ 2 ∧ noneSched.stream 5 1 = .ok [⟨.endForward, 5, 0⟩] := by
  refine ⟨by decide, by decide, by decide, rfl⟩

/-! ## The same with the literal twins (`Model/BasicIter.lean`) on the right-hand side -/

/-- composed with `twin_singleMemory` -/
theorem singleMemory_iterator_refines_twin (N k fuel : Nat) (hN : 1 ≤ N) (hmax : N ≤ maxsize) (hk : 1 ≤ k)
    (hf : 2 * k + 1 ≤ fuel) (evs : List Ev) (h : singleMemoryIter N k (singleMemoryIterFuel k) = .ok evs) :
    singleMemory_iterator fuel 0 0 none (k : Int) (N : Int) =
      .ok (pyEvs false (singleMemorySched.fwdPhase N ++ evs)) :=
  singleMemory_iterator_refines N k fuel hN hmax hk hf evs (by rw [← twin_singleMemory N k hN hk]; exact h)

/-- composed with `twin_singleDisk` -/
theorem singleDisk_iterator_refines_twin (mv : Bool) (N k fuel : Nat) (hN : 1 ≤ N) (hk : 1 ≤ k)
    (hf : N + k + 1 ≤ fuel) (evs : List Ev) (h : singleDiskIter mv N k (singleDiskIterFuel N k) = .ok evs) :
    singleDisk_iterator fuel 0 0 none mv false (k : Int) (N : Int) =
      .ok (pyEvs mv ((singleDiskSched mv).fwdPhase N ++ evs)) :=
  singleDisk_iterator_refines mv N k fuel hN hk hf evs (by rw [← twin_singleDisk mv N k hN hk]; exact h)

/-- composed with `twin_none` -/
theorem none_iterator_refines_twin (N fuel : Nat) (hN : 1 ≤ N) (hmax : N ≤ maxsize) (hf : 2 ≤ fuel)
    (evs : List Ev) (h : noneIter N = .ok evs) :
    none_iterator fuel 0 0 none false (N : Int) = .ok (pyEvs true (noneSched.fwdPhase N ++ evs)) :=
  none_iterator_refines N 1 fuel hN hmax hf evs (by rw [← twin_none N]; exact h)

/-! ## The streams exist for all parameters: the theorems in equational form -/

theorem singleMemory_iterator_eq (N k fuel : Nat) (hN : 1 ≤ N) (hmax : N ≤ maxsize) (hk : 1 ≤ k)
    (hf : 2 * k + 1 ≤ fuel) :
    singleMemory_iterator fuel 0 0 none (k : Int) (N : Int) =
      .ok (pyEvs false (singleMemorySched.fwdPhase N ++
        ⟨.endForward, N, 0⟩ :: (List.replicate k (singleMemorySched.again N)).flatten)) := by
  apply singleMemory_iterator_refines N k fuel hN hmax hk hf
  obtain ⟨k, rfl⟩ : ∃ g, k = g + 1 := ⟨k - 1, by omega⟩
  simp [Sched.stream, singleMemorySched, List.replicate_succ]

theorem singleDisk_iterator_eq (mv : Bool) (N k fuel : Nat) (hN : 1 ≤ N) (hk : 1 ≤ k) (hf : N + k + 1 ≤ fuel) :
    singleDisk_iterator fuel 0 0 none mv false (k : Int) (N : Int) =
      .ok (pyEvs mv ((singleDiskSched mv).fwdPhase N ++
        ⟨.endForward, N, 0⟩ :: (List.replicate (if mv then 1 else k) (singleDiskPass mv N N)).flatten)) := by
  apply singleDisk_iterator_refines mv N k fuel hN hk hf
  have hk' : 1 ≤ (if mv then 1 else k) := by split_ifs <;> omega
  obtain ⟨k', hk''⟩ : ∃ g, (if mv then 1 else k) = g + 1 := ⟨(if mv then 1 else k) - 1, by omega⟩
  rw [hk'']
  simp [Sched.stream, singleDiskSched, List.replicate_succ]

theorem none_iterator_eq (N fuel : Nat) (hN : 1 ≤ N) (hmax : N ≤ maxsize) (hf : 2 ≤ fuel) :
    none_iterator fuel 0 0 none false (N : Int) =
      .ok (pyEvs true (noneSched.fwdPhase N ++ [⟨.endForward, N, 0⟩])) :=
  none_iterator_refines N 1 fuel hN hmax hf _ rfl

/-! ## concrete runs (the generated text, evaluated) -/

example : singleDisk_iterator 5 0 0 none true false 2 2 = .ok [
    ⟨.forward 0 1 false true .disk, 1, 0, false⟩, ⟨.forward 1 2 false true .disk, 2, 0, false⟩,
    ⟨.endForward, 2, 0, false⟩,
    ⟨.move 1 .disk .work, 1, 0, false⟩, ⟨.reverse 2 1 true, 1, 1, false⟩,
    ⟨.move 0 .disk .work, 0, 1, false⟩, ⟨.reverse 1 0 true, 0, 2, false⟩,
    ⟨.endReverse, 0, 2, true⟩] := by decide

example : singleMemory_iterator 5 0 0 none 2 7 = .ok [
    ⟨.forward 0 9223372036854775807 false true .work, 9223372036854775807, 0, false⟩,
    ⟨.endForward, 7, 0, false⟩,
    ⟨.reverse 7 0 false, 7, 7, false⟩, ⟨.endReverse, 7, 0, false⟩,
    ⟨.reverse 7 0 false, 7, 7, false⟩, ⟨.endReverse, 7, 0, false⟩] := by decide

example : none_iterator 2 0 0 none false 7 = .ok [
    ⟨.forward 0 9223372036854775807 false false .none, 9223372036854775807, 0, false⟩,
    ⟨.endForward, 7, 0, true⟩] := by decide

end Ckpt.Py

#print axioms Ckpt.Py.singleMemory_iterator_refines
#print axioms Ckpt.Py.singleDisk_iterator_refines
#print axioms Ckpt.Py.none_iterator_refines
#print axioms Ckpt.Py.singleMemory_iterator_refines_anyN
#print axioms Ckpt.Py.none_iterator_refines_anyN
#print axioms Ckpt.Py.singleMemory_iterator_refines_twin
#print axioms Ckpt.Py.singleDisk_iterator_refines_twin
#print axioms Ckpt.Py.none_iterator_refines_twin
#print axioms Ckpt.Py.singleMemory_iterator_eq
#print axioms Ckpt.Py.singleDisk_iterator_eq
#print axioms Ckpt.Py.none_iterator_eq
#print axioms Ckpt.Py.fwdObs_eq_map
