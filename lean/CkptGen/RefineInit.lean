import CkptGen.RefineCommon
import CkptGen.RefineMethods
import CkptGen.RefineMixedIter
import CkptGen.RefineTwoLevel
import CkptGen.RefineMultistage
import CkptVerif.Spec.Configs
import CkptVerif.Proofs.ActionApi
import CkptVerif.Properties.C17
import Mathlib.Tactic
/-!
# The Lean text generated from the CONSTRUCTORS and from `Forward/Reverse.__len__/__contains__`

`Ckpt.Py.mixed_init`, `twoLevel_init`, `multistage_init` (each returns the tuple of object fields that the Python
`__init__` sets, or raises) and `forward_len`, `forward_contains`, `reverse_len`, `reverse_contains` are produced by
`harness/py2lean.py` from the current Python source (`CkptGen/Src.lean`).  This file proves

* a closed form of every constructor FOR ALL INTEGER ARGUMENTS (`*_init_spec`), and from it "raises `ValueError`
  exactly when …" (`mixed_init_error_iff`, `mixed_init_negative`, `twoLevel_init_error_iff`, `twoLevel_init_negative`; for
  Multistage, whose further errors are the oracle's, only `multistage_init_rejects`: `max_n < 1`);
* the refinement to the model constructors `mixedSched`, `twoLevelSched`, `multistageSched`/`multistageStorage`
  (`Model/Mixed.lean`, `Model/Online.lean`, `Model/Multistage.lean`): the generated constructor raises exactly when
  the model rejects the tuple at construction (`Err.construct`), and otherwise returns exactly the fields with which
  the refinement theorems of the generators start the generated `_iterator`
  (`mixed_iterator_refines`, `twoLevel_iterator_refines`, `multistage_iterator_refines`);
* the compositions `*_construct_then_iterate`: for every valid parameter tuple (`validMixed`, `validTwoLevel`,
  `validMultistage` of `Spec/Configs.lean`, the domains of the C17 theorems) constructing with the generated
  constructor and then running the generated generator on the fields it returned yields the stream model;
* the four action helpers against `steps` of `Model/ActionApi.lean`.

The untranslated `allocate_snapshots` is an ORACLE parameter of `multistage_init`; the hypothesis `OracleAgrees`
says that, called with the clamped arguments with which the constructor calls it, it returns the allocation that the
model `allocate` returns (the weights, which the constructor discards, are left free).
-/
namespace Ckpt.Py
open Ckpt

theorem stPy_tl_eq : TwoLevel.stPy_tl = stPy := by
  funext st; cases st <;> rfl

theorem stPy_inj : Function.Injective stPy := by
  intro a b h; exact (stPy_injective a b).1 h

theorem stPy_ram_or_disk (st : Storage) : (stPy st = .ram ∨ stPy st = .disk) ↔ (st = .ram ∨ st = .disk) := by
  cases st <;> simp [stPy]

theorem stPy_surjective (x : StorageType) : ∃ st, stPy st = x := by
  cases x
  · exact ⟨.ram, rfl⟩
  · exact ⟨.disk, rfl⟩
  · exact ⟨.work, rfl⟩
  · exact ⟨.none, rfl⟩

/-- `clamp_cast` with `clampS` written out: the multistage model and the allocation proofs spell the clamp `min s (N - 1)`,
and `rw` needs it in that form -/
theorem clamp_cast_in (N s : Nat) (hN : 1 ≤ N) : min (s : Int) ((N : Int) - 1) = ((min s (N - 1) : Nat) : Int) :=
  clamp_cast N s hN

/-- the generated constructor in closed form, for all integers and all storage types; the checks in the order of
the source: `snapshots`, `storage`, then `max_n` (in `super().__init__`) -/
theorem mixed_init_spec (max_n snapshots : Int) (storage : StorageType) :
    mixed_init max_n snapshots storage =
      if snapshots < min 1 (max_n - 1) then .error .valueError
      else if ¬ (storage = .ram ∨ storage = .disk) then .error .valueError
      else if max_n < 1 then .error .valueError
      else .ok (0, 0, some max_n, false, min snapshots (max_n - 1), storage) := by
  unfold mixed_init
  rw [init_spec]
  by_cases h1 : snapshots < min 1 (max_n - 1)
  · simp only [h1, if_true]; rfl
  · by_cases h2 : ¬ (storage = .ram ∨ storage = .disk)
    · simp only [h1, if_false, h2]; rfl
    · by_cases h3 : max_n < 1
      · simp only [h1, if_false, h2, h3, if_true, bind, Except.bind]
      · simp only [h1, if_false, h2, h3, bind, Except.bind, pure, Except.pure]

/-- for all integers: the constructor raises (and then it is `ValueError`) exactly for `max_n < 1`,
`snapshots < min(1, max_n - 1)`, or a storage other than RAM/DISK; otherwise it returns the fields -/
theorem mixed_init_error_iff (max_n snapshots : Int) (storage : StorageType) :
    (mixed_init max_n snapshots storage = .error .valueError ↔
      (max_n < 1 ∨ snapshots < min 1 (max_n - 1) ∨ ¬ (storage = .ram ∨ storage = .disk))) ∧
    (¬ (max_n < 1 ∨ snapshots < min 1 (max_n - 1) ∨ ¬ (storage = .ram ∨ storage = .disk)) →
      mixed_init max_n snapshots storage
        = .ok (0, 0, some max_n, false, min snapshots (max_n - 1), storage)) := by
  rw [mixed_init_spec]
  by_cases h1 : snapshots < min 1 (max_n - 1)
  · simp [h1]
  · by_cases h2 : ¬ (storage = .ram ∨ storage = .disk)
    · simp only [h1, if_false, h2]; simp
    · by_cases h3 : max_n < 1
      · simp only [h1, if_false, h2, h3, if_true]; simp
      · simp only [h1, if_false, h2, h3]; simp

/-- integers that are not natural numbers are always rejected: the model's parameter space `Nat × Nat × Storage`
loses nothing -/
theorem mixed_init_negative (max_n snapshots : Int) (storage : StorageType) (h : max_n < 0 ∨ snapshots < 0) :
    mixed_init max_n snapshots storage = .error .valueError := by
  rw [(mixed_init_error_iff max_n snapshots storage).1]
  by_cases h1 : max_n < 1
  · exact Or.inl h1
  · exact Or.inr (Or.inl (by omega))

/-- the fields with which the generated generator is started, as the model outcome prescribes them -/
def mixedInitOf (N s : Nat) (st : Storage) : Except Err Sched →
    M (Int × Int × Option Int × Bool × Int × StorageType)
  | .ok _ => .ok (0, 0, some (N : Int), false, ((min s (N - 1) : Nat) : Int), stPy st)
  | .error _ => .error .valueError

/-- the model constructor rejects only at construction, and does so exactly outside `validMixed` -/
theorem mixedSched_outcome (plan : Planner) (N s : Nat) (st : Storage) :
    (validMixed N s st = true →
      mixedSched plan N s st = .ok (offlineSched N (mixedEvs plan N s st) (fun x => some (x = st)))) ∧
    (validMixed N s st = false → ∃ msg, mixedSched plan N s st = .error (.construct msg)) := by
  unfold mixedSched
  constructor
  · intro hv
    simp only [validMixed, Bool.and_eq_true, Bool.or_eq_true, decide_eq_true_eq] at hv
    obtain ⟨⟨h1, h2⟩, h3⟩ := hv
    have hst : st = .ram ∨ st = .disk := by simpa using h3
    rw [if_neg (by omega), if_neg (not_not.mpr hst), if_neg (by omega)]
  · intro hv
    by_cases h1 : s < min 1 (N - 1) ∧ 1 ≤ N
    · rw [if_pos h1]; exact ⟨_, rfl⟩
    · rw [if_neg h1]
      by_cases h2 : ¬ (st = .ram ∨ st = .disk)
      · rw [if_pos h2]; exact ⟨_, rfl⟩
      · rw [if_neg h2]
        by_cases h3 : N < 1
        · rw [if_pos h3]; exact ⟨_, rfl⟩
        · exfalso
          have : validMixed N s st = true := by
            simp only [validMixed, Bool.and_eq_true, Bool.or_eq_true, decide_eq_true_eq]
            refine ⟨⟨by omega, by omega⟩, ?_⟩
            push Not at h2
            simpa using h2
          rw [this] at hv; cases hv

/-- **`MixedCheckpointSchedule.__init__` refines `mixedSched`**: for every natural `max_n`, `snapshots` and every
storage the generated constructor raises `ValueError` exactly when the model rejects the tuple (always at
construction), and otherwise returns `_n = 0, _r = 0, _max_n = max_n, _exhausted = False,
_snapshots = min(snapshots, max_n - 1), _storage = storage` — the arguments of `mixed_iterator_refines`.
(Non-natural integers: `mixed_init_negative`.) -/
theorem mixed_init_refines (plan : Planner) (N s : Nat) (st : Storage) :
    mixed_init (N : Int) (s : Int) (stPy st) = mixedInitOf N s st (mixedSched plan N s st) := by
  rw [mixed_init_spec]
  unfold mixedSched
  have e1 : ((s : Int) < min 1 ((N : Int) - 1)) ↔ (s < min 1 (N - 1) ∧ 1 ≤ N) := by omega
  have e3 : ((N : Int) < 1) ↔ N < 1 := by omega
  simp only [e1, e3, stPy_ram_or_disk]
  by_cases h1 : s < min 1 (N - 1) ∧ 1 ≤ N
  · simp only [h1, and_self, if_true, mixedInitOf]
  · by_cases h2 : ¬ (st = .ram ∨ st = .disk)
    · simp only [h1, if_false, h2, not_false_eq_true, if_true, mixedInitOf]
    · by_cases h3 : N < 1
      · simp only [h1, if_false, h2, h3, if_true, mixedInitOf]
      · simp only [h1, if_false, h2, h3, mixedInitOf]
        rw [clamp_cast_in N s (by omega)]

/-- the same, split by the documented domain `validMixed` (the hypothesis of `C17_valid_mixed` /
`C17_invalid_mixed`): inside it the fields, outside it `ValueError` and a `construct` rejection of the model;
the fields `_n, _r, _max_n` are those of the model's initial machine state -/
theorem mixed_init_valid_iff (plan : Planner) (N s : Nat) (st : Storage) :
    (validMixed N s st = true →
      ∃ sch, mixedSched plan N s st = .ok sch ∧
        mixed_init (N : Int) (s : Int) (stPy st)
          = .ok ((sch.init.n : Int), (sch.init.r : Int), optInt sch.init.maxN, false,
                 ((clampS N s : Nat) : Int), stPy st) ∧
        mixed_init (N : Int) (s : Int) (stPy st)
          = .ok (0, 0, some (N : Int), false, ((min s (N - 1) : Nat) : Int), stPy st)) ∧
    (validMixed N s st = false →
      mixed_init (N : Int) (s : Int) (stPy st) = .error .valueError ∧
      ∃ msg, mixedSched plan N s st = .error (.construct msg)) := by
  constructor
  · intro hv
    have h := (mixedSched_outcome plan N s st).1 hv
    refine ⟨_, h, ?_, ?_⟩
    · rw [mixed_init_refines plan, h]; rfl
    · rw [mixed_init_refines plan, h]; rfl
  · intro hv
    obtain ⟨msg, h⟩ := (mixedSched_outcome plan N s st).2 hv
    exact ⟨by rw [mixed_init_refines plan, h]; rfl, msg, h⟩

/-- construct, then iterate: the generated `__init__` followed by the generated `_iterator` on the fields it set -/
def mixed_run (fuel : Nat) (max_n snapshots : Int) (storage : StorageType) : M (List PyEv) := do
  let (n, r, mx, ex, sn, sto) ← mixed_init max_n snapshots storage
  mixed_iterator fuel n r mx sn sto ex

/-- **Composition**: for every valid `(N, s, st)` constructing with the generated constructor and then iterating
the generated generator yields the stream model `mixedEvs` (the subject of the Mixed property theorems), every
event with `_exhausted = False` but the last; fuel `2 N + 3`. -/
theorem mixed_construct_then_iterate (N s : Nat) (st : Storage) (fuel : Nat)
    (hv : validMixed N s st = true) (hf : mixedIterFuelBound N ≤ fuel) :
    ∃ evs, mixedEvs memoPlan N s st = .ok evs ∧ mixedIterEvs memoPlan N s st = .ok evs ∧
      mixed_run fuel (N : Int) (s : Int) (stPy st) = .ok (markLast_mx (evs.map (fun e => evPy e false))) := by
  have hv' := hv
  simp only [validMixed, Bool.and_eq_true, Bool.or_eq_true, decide_eq_true_eq] at hv'
  obtain ⟨⟨h1, h2⟩, h3⟩ := hv'
  have hst : st = .ram ∨ st = .disk := by simpa using h3
  obtain ⟨evs, hev, htw, hrun⟩ := mixed_iterator_refines_valid N s st fuel hst h1 h2 hf
  refine ⟨evs, hev, htw, ?_⟩
  obtain ⟨_, _, _, hinit⟩ := (mixed_init_valid_iff memoPlan N s st).1 hv
  unfold mixed_run
  rw [hinit]
  exact hrun

theorem mixed_run_invalid (N s : Nat) (st : Storage) (fuel : Nat) (hv : validMixed N s st = false) :
    mixed_run fuel (N : Int) (s : Int) (stPy st) = .error .valueError := by
  unfold mixed_run
  rw [((mixed_init_valid_iff memoPlan N s st).2 hv).1]
  rfl

example : validMixed 5 2 .disk = true := by decide
example : mixedIterFuelBound 5 ≤ 13 := by decide
example : mixed_init 5 2 .disk = .ok (0, 0, some 5, false, 2, .disk) := rfl
example : mixed_init 5 9 .ram = .ok (0, 0, some 5, false, 4, .ram) := rfl
example : mixed_init 1 0 .ram = .ok (0, 0, some 1, false, 0, .ram) := rfl
example : mixed_init 5 0 .ram = .error .valueError ∧ mixed_init 5 2 .work = .error .valueError ∧
    mixed_init 0 2 .ram = .error .valueError ∧ mixed_init (-3) (-7) .ram = .error .valueError := ⟨rfl, rfl, rfl, rfl⟩
example : ∃ evs, mixedEvs memoPlan 5 2 .disk = .ok evs ∧ mixedIterEvs memoPlan 5 2 .disk = .ok evs ∧
    mixed_run 13 5 2 .disk = .ok (markLast_mx (evs.map (fun e => evPy e false))) :=
  mixed_construct_then_iterate 5 2 .disk 13 (by decide) (by decide)

theorem twoLevel_init_spec (period b : Int) (storage : StorageType) (traj : String) :
    twoLevel_init period b storage traj =
      if period < 1 then .error .valueError
      else if ¬ (storage = .ram ∨ storage = .disk) then .error .valueError
      else .ok (0, 0, none, period, b, storage, traj) := by
  unfold twoLevel_init
  rw [init_spec]
  by_cases h1 : period < 1
  · simp only [h1, if_true, bind, Except.bind]; rfl
  · by_cases h2 : ¬ (storage = .ram ∨ storage = .disk)
    · simp only [h1, if_false, h2, bind, Except.bind]; rfl
    · simp only [h1, if_false, h2, bind, Except.bind, pure, Except.pure]

theorem twoLevel_init_error_iff (period b : Int) (storage : StorageType) (traj : String) :
    (twoLevel_init period b storage traj = .error .valueError ↔
      (period < 1 ∨ ¬ (storage = .ram ∨ storage = .disk))) ∧
    (¬ (period < 1 ∨ ¬ (storage = .ram ∨ storage = .disk)) →
      twoLevel_init period b storage traj = .ok (0, 0, none, period, b, storage, traj)) := by
  rw [twoLevel_init_spec]
  by_cases h1 : period < 1
  · simp [h1]
  · by_cases h2 : ¬ (storage = .ram ∨ storage = .disk)
    · simp only [h1, if_false, h2]; simp
    · simp only [h1, if_false, h2]; simp

def twoLevelInitOf (p b : Nat) (st : Storage) (traj : Traj) : Except Err Sched →
    M (Int × Int × Option Int × Int × Int × StorageType × String)
  | .ok _ => .ok (0, 0, none, (p : Int), (b : Int), stPy st, trajStr traj)
  | .error _ => .error .valueError

/-- **`TwoLevelCheckpointSchedule.__init__` refines `twoLevelSched`**: `ValueError` exactly when the model rejects
(`period < 1`, storage not RAM/DISK), otherwise `_n = 0, _r = 0, _max_n = None` and the four arguments — the
arguments of `twoLevel_iterator_refines`. -/
theorem twoLevel_init_refines (p b : Nat) (st : Storage) (traj : Traj) :
    twoLevel_init (p : Int) (b : Int) (stPy st) (trajStr traj)
      = twoLevelInitOf p b st traj (twoLevelSched p b st traj) := by
  rw [twoLevel_init_spec]
  unfold twoLevelSched
  have e1 : ((p : Int) < 1) ↔ p < 1 := by omega
  simp only [e1, stPy_ram_or_disk]
  by_cases h1 : p < 1
  · simp only [h1, if_true, twoLevelInitOf]
  · by_cases h2 : ¬ (st = .ram ∨ st = .disk)
    · simp only [h1, if_false, h2, not_false_eq_true, if_true, twoLevelInitOf]
    · simp only [h1, if_false, h2, twoLevelInitOf]

theorem twoLevel_init_negative (period b : Int) (storage : StorageType) (traj : String) (h : period < 0) :
    twoLevel_init period b storage traj = .error .valueError := by
  rw [(twoLevel_init_error_iff period b storage traj).1]; exact Or.inl (by omega)

/-- split by the documented domain `validTwoLevel` (the hypothesis of `C17_invalid_twoLevel`) -/
theorem twoLevel_init_valid_iff (p b : Nat) (st : Storage) (traj : Traj) :
    (validTwoLevel p st = true →
      ∃ sch, twoLevelSched p b st traj = .ok sch ∧
        twoLevel_init (p : Int) (b : Int) (stPy st) (trajStr traj)
          = .ok ((sch.init.n : Int), (sch.init.r : Int), optInt sch.init.maxN, (p : Int), (b : Int), stPy st,
                 trajStr traj) ∧
        twoLevel_init (p : Int) (b : Int) (stPy st) (trajStr traj)
          = .ok (0, 0, none, (p : Int), (b : Int), stPy st, trajStr traj)) ∧
    (validTwoLevel p st = false →
      twoLevel_init (p : Int) (b : Int) (stPy st) (trajStr traj) = .error .valueError ∧
      ∃ msg, twoLevelSched p b st traj = .error (.construct msg)) := by
  constructor
  · intro hv
    simp only [validTwoLevel, Bool.and_eq_true, Bool.or_eq_true, decide_eq_true_eq] at hv
    obtain ⟨h1, h2⟩ := hv
    have hst : st = .ram ∨ st = .disk := by simpa using h2
    have h := On.twoLevelSched_ok p b st traj h1 hst
    refine ⟨_, h, ?_, ?_⟩
    · rw [twoLevel_init_refines, h]; rfl
    · rw [twoLevel_init_refines, h]; rfl
  · intro hv
    have hrej : ∃ msg, twoLevelSched p b st traj = .error (.construct msg) := by
      unfold twoLevelSched
      by_cases h1 : p < 1
      · rw [if_pos h1]; exact ⟨_, rfl⟩
      · rw [if_neg h1]
        by_cases h2 : ¬ (st = .ram ∨ st = .disk)
        · rw [if_pos h2]; exact ⟨_, rfl⟩
        · exfalso
          have : validTwoLevel p st = true := by
            simp only [validTwoLevel, Bool.and_eq_true, Bool.or_eq_true, decide_eq_true_eq]
            push Not at h2
            exact ⟨by omega, by simpa using h2⟩
          rw [this] at hv; cases hv
    obtain ⟨msg, h⟩ := hrej
    exact ⟨by rw [twoLevel_init_refines, h]; rfl, msg, h⟩

/-- construct, then iterate with the canonical client (`clientN` steps, `passes` adjoint calculations) -/
def twoLevel_run (fuel : Nat) (period b : Int) (storage : StorageType) (traj : String) (passes clientN : Int) :
    M (List PyEv) := do
  let (n, r, mx, p, bs, sto, tr) ← twoLevel_init period b storage traj
  twoLevel_iterator fuel n r mx p bs sto tr passes clientN

/-- **Composition**: for all valid parameters, `N ≥ 1` steps and `k ≥ 1` adjoint calculations: constructing and
then iterating the generated code yields the forward events `s.fwdEv`, `s.first N` and `k - 1` times `s.again N`
of the `Sched` that `twoLevelSched` returns; fuel `2 N + k + 4`. -/
theorem twoLevel_construct_then_iterate (p b N k : Nat) (st : Storage) (traj : Traj) (fuel : Nat)
    (hv : validTwoLevel p st = true) (hN : 1 ≤ N) (hk : 1 ≤ k) (hf : twoLevelFuel N k ≤ fuel) :
    ∃ s first, twoLevelSched p b st traj = .ok s ∧ s.first N = .ok first ∧
      twoLevel_run fuel (p : Int) (b : Int) (stPy st) (trajStr traj) (k : Int) (N : Int)
        = .ok (((List.range (ceilDiv N p)).map (fun j => s.fwdEv (j * p)) ++ first ++ agains s N (k - 1)).map
                (fun e => evPy e false)) := by
  have hv' := hv
  simp only [validTwoLevel, Bool.and_eq_true, Bool.or_eq_true, decide_eq_true_eq] at hv'
  obtain ⟨h1, h2⟩ := hv'
  have hst : st = .ram ∨ st = .disk := by simpa using h2
  obtain ⟨s, first, hs, hfirst, hrun⟩ := twoLevel_iterator_refines p b N k st traj h1 hst hN hk fuel hf
  refine ⟨s, first, hs, hfirst, ?_⟩
  obtain ⟨_, _, _, hinit⟩ := (twoLevel_init_valid_iff p b st traj).1 hv
  unfold twoLevel_run
  rw [hinit]
  rw [stPy_tl_eq] at hrun
  simp only [bind, Except.bind]
  rw [hrun]
  simp only [TwoLevel.evsPy, TwoLevel.evPy_tl, evPy]
  congr 1

theorem twoLevel_run_invalid (p b : Nat) (st : Storage) (traj : Traj) (fuel : Nat) (k N : Int)
    (hv : validTwoLevel p st = false) :
    twoLevel_run fuel (p : Int) (b : Int) (stPy st) (trajStr traj) k N = .error .valueError := by
  unfold twoLevel_run
  rw [((twoLevel_init_valid_iff p b st traj).2 hv).1]
  rfl

example : validTwoLevel 3 .ram = true := by decide
example : twoLevelFuel 10 2 ≤ 26 := by decide
example : twoLevel_init 3 2 .ram "maximum" = .ok (0, 0, none, 3, 2, .ram, "maximum") := rfl
example : twoLevel_init 0 2 .ram "maximum" = .error .valueError ∧
    twoLevel_init 3 2 .work "maximum" = .error .valueError ∧
    twoLevel_init (-1) 2 .none "revolve" = .error .valueError := ⟨rfl, rfl, rfl⟩
example : ∃ s first, twoLevelSched 3 2 .ram .maximum = .ok s ∧ s.first 10 = .ok first ∧
    twoLevel_run 26 3 2 .ram "maximum" 2 10
      = .ok (((List.range (ceilDiv 10 3)).map (fun j => s.fwdEv (j * 3)) ++ first ++ agains s 10 (2 - 1)).map
              (fun e => evPy e false)) :=
  twoLevel_construct_then_iterate 3 2 10 2 .ram .maximum 26 (by decide) (by decide) (by decide) (by decide)

/-- the type of the translated `allocate_snapshots(max_n, ram, disk, trajectory=…)`: `(weights, allocation)` -/
abbrev AllocOracle := Int → Int → Int → String → M (List Int × List StorageType)

/-- the fields that the constructor sets once the `storage` tuple is known -/
def msFields (max_n : Int) (traj : String) (storage : List StorageType) :
    Int × Int × Option Int × Int × Int × List StorageType × Bool × String :=
  (0, 0, some max_n, ((List.count StorageType.ram storage : Nat) : Int),
    ((List.count StorageType.disk storage : Nat) : Int), storage, false, traj)

/-- the generated constructor in closed form, for all integers and EVERY oracle: `max_n < 1` is rejected first
(in `super().__init__`); the oracle is consulted only when both clamped numbers are non-zero, with the clamped
numbers, and only the second component of its answer is used; its exception propagates -/
theorem multistage_init_spec (max_n ram disk : Int) (traj : String) (oracle : AllocOracle) :
    multistage_init max_n ram disk traj oracle =
      if max_n < 1 then .error .valueError
      else if min ram (max_n - 1) = 0 then
        .ok (msFields max_n traj (List.replicate (min disk (max_n - 1)).toNat .disk))
      else if min disk (max_n - 1) = 0 then
        .ok (msFields max_n traj (List.replicate (min ram (max_n - 1)).toNat .ram))
      else match oracle max_n (min ram (max_n - 1)) (min disk (max_n - 1)) traj with
        | .ok t => .ok (msFields max_n traj t.2)
        | .error e => .error e := by
  unfold multistage_init
  rw [init_spec]
  by_cases h0 : max_n < 1
  · simp only [h0, if_true, bind, Except.bind]
  · by_cases h1 : min ram (max_n - 1) = 0
    · simp only [h0, if_false, h1, if_true, bind, Except.bind, pure, Except.pure, msFields]
    · by_cases h2 : min disk (max_n - 1) = 0
      · simp only [h0, if_false, h1, h2, if_true, bind, Except.bind, pure, Except.pure, msFields]
      · simp only [h0, if_false, h1, h2, bind, Except.bind, pure, Except.pure, msFields]
        cases oracle max_n (min ram (max_n - 1)) (min disk (max_n - 1)) traj with
        | ok t => rfl
        | error e => rfl

theorem multistage_init_rejects (max_n ram disk : Int) (traj : String) (oracle : AllocOracle) (h : max_n < 1) :
    multistage_init max_n ram disk traj oracle = .error .valueError := by
  rw [multistage_init_spec, if_pos h]

/-- **The oracle hypothesis**: called as the constructor calls it — `max_n = N` and the CLAMPED numbers
`min(ram, N - 1)`, `min(disk, N - 1)` — whenever the model `allocate` (`Model/Multistage.lean`) answers
`(weights, allocation)`, the oracle returns that allocation (with any weights: the constructor discards them). -/
def OracleAgrees (oracle : AllocOracle) (N ram disk : Nat) (traj : Traj) : Prop :=
  ∀ wa, allocate N (min ram (N - 1)) (min disk (N - 1)) traj = some wa →
    ∃ w', oracle (N : Int) ((min ram (N - 1) : Nat) : Int) ((min disk (N - 1) : Nat) : Int) (trajStr traj)
      = .ok (w', wa.2.map stPy)

def modelOracle (N ram disk : Nat) (traj : Traj) : AllocOracle := fun _ _ _ _ =>
  match allocate N (min ram (N - 1)) (min disk (N - 1)) traj with
  | some wa => .ok (wa.1.map (fun k : Nat => (k : Int)), wa.2.map stPy)
  | none => .error .runtimeError

theorem modelOracle_agrees (N ram disk : Nat) (traj : Traj) :
    OracleAgrees (modelOracle N ram disk traj) N ram disk traj := by
  intro wa h
  exact ⟨wa.1.map (fun k : Nat => (k : Int)), by simp only [modelOracle, h]⟩

theorem count_stPy (l : List Storage) (x : Storage) : List.count (stPy x) (l.map stPy) = l.count x :=
  List.count_map_of_injective l stPy stPy_inj x

/-- the fields, for a `storage` tuple that comes from the model -/
theorem msFields_map (N : Nat) (traj : Traj) (storage : List Storage) :
    msFields (N : Int) (trajStr traj) (storage.map stPy) =
      (0, 0, some (N : Int), ((storage.count .ram : Nat) : Int), ((storage.count .disk : Nat) : Int),
        storage.map stPy, false, trajStr traj) := by
  have h1 := count_stPy storage .ram
  have h2 := count_stPy storage .disk
  simp only [stPy] at h1 h2
  simp only [msFields, h1, h2]

/-- **`MultistageCheckpointSchedule.__init__` refines `multistageStorage`/`multistageSched`**: if the oracle returns
what the model's `allocate_snapshots` returns (`OracleAgrees`), then for `N ≥ 1` the generated constructor returns
`_n = 0, _r = 0, _max_n = N, _snapshots_in_ram = storage.count(RAM), _snapshots_on_disk = storage.count(DISK),
_storage = storage, _exhausted = False, _trajectory` where `storage` is the model's `multistageStorage N ram disk
traj` (which exists) — the arguments of `multistage_iterator_refines`; and the model constructor accepts. -/
theorem multistage_init_refines (N ram disk : Nat) (traj : Traj) (oracle : AllocOracle)
    (hor : OracleAgrees oracle N ram disk traj) (hN : 1 ≤ N) :
    ∃ storage sch, multistageStorage N ram disk traj = some storage ∧
      multistageSched N ram disk traj = .ok sch ∧
      multistage_init (N : Int) (ram : Int) (disk : Int) (trajStr traj) oracle
        = .ok (0, 0, some (N : Int), ((storage.count .ram : Nat) : Int), ((storage.count .disk : Nat) : Int),
            storage.map stPy, false, trajStr traj) ∧
      ((0 : Int), (0 : Int), some (N : Int)) = ((sch.init.n : Int), (sch.init.r : Int), optInt sch.init.maxN) := by
  obtain ⟨storage, hst, _⟩ := multistageStorage_spec N ram disk traj hN
  have hsch : ∃ sch, multistageSched N ram disk traj = .ok sch ∧
      ((0 : Int), (0 : Int), some (N : Int)) = ((sch.init.n : Int), (sch.init.r : Int), optInt sch.init.maxN) := by
    unfold multistageSched
    rw [if_neg (by omega), hst]
    exact ⟨_, rfl, rfl⟩
  obtain ⟨sch, hsch, hinit⟩ := hsch
  refine ⟨storage, sch, hst, hsch, ?_, hinit⟩
  rw [multistage_init_spec, if_neg (by omega), clamp_cast_in N ram hN, clamp_cast_in N disk hN, ← msFields_map]
  have hst' := hst
  unfold multistageStorage at hst'
  simp only at hst'
  by_cases h1 : min ram (N - 1) = 0
  · rw [if_pos h1] at hst'
    cases hst'
    rw [if_pos (by exact_mod_cast h1), Int.toNat_natCast, List.map_replicate]
    rfl
  · rw [if_neg h1] at hst'
    rw [if_neg (by exact_mod_cast h1)]
    by_cases h2 : min disk (N - 1) = 0
    · rw [if_pos h2] at hst'
      cases hst'
      rw [if_pos (by exact_mod_cast h2), Int.toNat_natCast, List.map_replicate]
      rfl
    · rw [if_neg h2] at hst'
      rw [if_neg (by exact_mod_cast h2)]
      cases ha : allocate N (min ram (N - 1)) (min disk (N - 1)) traj with
      | none => rw [ha] at hst'; cases hst'
      | some wa =>
        rw [ha] at hst'
        cases hst'
        obtain ⟨w', hw⟩ := hor wa ha
        rw [hw]

theorem multistage_init_refines_invalid (N ram disk : Nat) (traj : Traj) (oracle : AllocOracle) (hN : N < 1) :
    multistage_init (N : Int) (ram : Int) (disk : Int) (trajStr traj) oracle = .error .valueError ∧
    multistageSched N ram disk traj = .error (.construct "max_n must be positive") ∧
    multistageEvs N ram disk traj = .error (.construct "max_n must be positive") :=
  ⟨multistage_init_rejects _ _ _ _ _ (by omega), by simp [multistageSched, hN], by simp [multistageEvs, hN]⟩

def multistage_run (fuel : Nat) (max_n ram disk : Int) (traj : String) (oracle : AllocOracle) : M (List PyEv) := do
  let (n, r, mx, sr, sd, sto, ex, tr) ← multistage_init max_n ram disk traj oracle
  multistage_iterator fuel n r mx sr sd sto tr ex

/-- **Composition**: for all valid parameters (`validMultistage`: `N ≥ 1`, and a unit unless `N = 1`) and every
oracle that agrees with the model's `allocate_snapshots`: constructing with the generated constructor and then
iterating the generated generator yields the stream model `multistageEvs`; fuel `N + 2`. -/
theorem multistage_construct_then_iterate (N ram disk : Nat) (traj : Traj) (oracle : AllocOracle) (fuel : Nat)
    (hor : OracleAgrees oracle N ram disk traj)
    (hv : validMultistage N ram disk = true) (hf : multistageFuel N ≤ fuel) :
    ∃ evs, multistageEvs N ram disk traj = .ok evs ∧
      multistage_run fuel (N : Int) (ram : Int) (disk : Int) (trajStr traj) oracle
        = .ok (markLast (evs.map (evPy · false))) := by
  obtain ⟨_, evs, _, hev⟩ := C17_valid_multistage N ram disk traj hv
  have hN : 1 ≤ N := by
    simp only [validMultistage, Bool.and_eq_true, decide_eq_true_eq] at hv
    exact hv.1
  obtain ⟨storage, _, hst, _, hinit, _⟩ := multistage_init_refines N ram disk traj oracle hor hN
  refine ⟨evs, hev, ?_⟩
  unfold multistage_run
  rw [hinit]
  exact multistage_iterator_refines N ram disk traj storage evs fuel hst hev hf

theorem multistage_run_invalid (N ram disk : Nat) (traj : Traj) (oracle : AllocOracle) (fuel : Nat) (hN : N < 1) :
    multistage_run fuel (N : Int) (ram : Int) (disk : Int) (trajStr traj) oracle = .error .valueError := by
  unfold multistage_run
  rw [(multistage_init_refines_invalid N ram disk traj oracle hN).1]
  rfl

/-! non-vacuity: the oracle hypothesis is satisfiable for every tuple (`modelOracle_agrees`); concrete tuples -/
example : validMultistage 6 2 1 = true := by decide
example : multistageFuel 6 ≤ 8 := by decide
example : OracleAgrees (modelOracle 6 2 1 .revolve) 6 2 1 .revolve := modelOracle_agrees 6 2 1 .revolve
example : multistageStorage 6 2 1 .revolve = some [.disk, .ram, .ram] := by decide
example : multistage_init 4 2 0 "maximum" (fun _ _ _ _ => .error .runtimeError)
    = .ok (0, 0, some 4, 2, 0, [.ram, .ram], false, "maximum") := rfl
example : multistage_init 4 0 7 "maximum" (fun _ _ _ _ => .error .runtimeError)
    = .ok (0, 0, some 4, 0, 3, [.disk, .disk, .disk], false, "maximum") := rfl
example : multistage_init 0 2 2 "maximum" (fun _ _ _ _ => .ok ([], [])) = .error .valueError := rfl
example : ∃ evs, multistageEvs 6 2 1 .revolve = .ok evs ∧
    multistage_run 8 6 2 1 "revolve" (modelOracle 6 2 1 .revolve) = .ok (markLast (evs.map (evPy · false))) :=
  multistage_construct_then_iterate 6 2 1 .revolve _ 8 (modelOracle_agrees _ _ _ _) (by decide) (by decide)

/-- the `n0`, `n1` fields of a Forward/Reverse as the generated helpers receive them -/
theorem forward_len_spec (n0 n1 : Int) : forward_len n0 n1 = .ok (n1 - n0) := rfl
theorem reverse_len_spec (n0 n1 : Int) : reverse_len n0 n1 = .ok (n1 - n0) := rfl
theorem forward_contains_spec (step n0 n1 : Int) :
    forward_contains step n0 n1 = .ok (decide (n0 ≤ step ∧ step < n1)) := rfl
theorem reverse_contains_spec (step n0 n1 : Int) :
    reverse_contains step n0 n1 = .ok (decide (n0 ≤ step ∧ step < n1)) := rfl

/-- **`Forward.__len__`** = the number of steps of the model action (`n1 - n0` of them), for `n0 ≤ n1` -/
theorem forward_len_refines (n0 n1 : Nat) (wi wa : Bool) (st : Storage) (h : n0 ≤ n1) :
    forward_len (n0 : Int) (n1 : Int) = .ok (((steps (.forward n0 n1 wi wa st)).length : Nat) : Int) := by
  rw [forward_len_spec, length_steps_forward, Nat.cast_sub h]

/-- … and for every `n0`, `n1`: the value is `n1 - n0`, whose non-negative part is the model's length (for
`n1 < n0` the value is negative, where Python's `len()` raises, and the model action has no steps) -/
theorem forward_len_toNat (n0 n1 : Nat) (wi wa : Bool) (st : Storage) :
    ∃ v, forward_len (n0 : Int) (n1 : Int) = .ok v ∧ v = (n1 : Int) - (n0 : Int) ∧
      v.toNat = (steps (.forward n0 n1 wi wa st)).length := by
  refine ⟨_, rfl, rfl, ?_⟩
  rw [length_steps_forward]; omega

/-- **`Reverse.__len__`** (`Reverse(n1, n0, …)`: the fields are passed as `self_n0 = n0`, `self_n1 = n1`) -/
theorem reverse_len_refines (n1 n0 : Nat) (c : Bool) (h : n0 ≤ n1) :
    reverse_len (n0 : Int) (n1 : Int) = .ok (((steps (.reverse n1 n0 c)).length : Nat) : Int) := by
  rw [reverse_len_spec, length_steps_reverse, Nat.cast_sub h]

theorem reverse_len_toNat (n1 n0 : Nat) (c : Bool) :
    ∃ v, reverse_len (n0 : Int) (n1 : Int) = .ok v ∧ v = (n1 : Int) - (n0 : Int) ∧
      v.toNat = (steps (.reverse n1 n0 c)).length := by
  refine ⟨_, rfl, rfl, ?_⟩
  rw [length_steps_reverse]; omega

theorem mem_map_cast (step : Int) (l : List Nat) (P : Nat → Prop) (h : ∀ k, k ∈ l ↔ P k) :
    step ∈ l.map (fun k : Nat => (k : Int)) ↔ 0 ≤ step ∧ P step.toNat := by
  rw [List.mem_map]
  constructor
  · rintro ⟨k, hk, rfl⟩
    exact ⟨by omega, by rw [Int.toNat_natCast]; exact (h k).1 hk⟩
  · rintro ⟨h0, hp⟩
    exact ⟨step.toNat, (h _).2 hp, by omega⟩

/-- **`Forward.__contains__`**, for every integer `step`: membership in the steps of the model action -/
theorem forward_contains_refines (step : Int) (n0 n1 : Nat) (wi wa : Bool) (st : Storage) :
    forward_contains step (n0 : Int) (n1 : Int)
      = .ok (decide (step ∈ (steps (.forward n0 n1 wi wa st)).map (fun k : Nat => (k : Int)))) := by
  rw [forward_contains_spec]
  congr 1
  rw [decide_eq_decide,
    mem_map_cast step _ _ (fun k => mem_steps_forward k n0 n1 wi wa st)]
  omega

/-- for a natural `step`: `step in Forward(n0, n1, …)` iff `step ∈ steps`, iff `n0 ≤ step < n1` -/
theorem forward_contains_nat (k n0 n1 : Nat) (wi wa : Bool) (st : Storage) :
    forward_contains (k : Int) (n0 : Int) (n1 : Int) = .ok (decide (k ∈ steps (.forward n0 n1 wi wa st))) ∧
    forward_contains (k : Int) (n0 : Int) (n1 : Int) = .ok (decide (n0 ≤ k ∧ k < n1)) := by
  rw [forward_contains_spec]
  constructor
  · congr 1; rw [decide_eq_decide, mem_steps_forward]; omega
  · congr 1; rw [decide_eq_decide]; omega

theorem reverse_contains_refines (step : Int) (n1 n0 : Nat) (c : Bool) :
    reverse_contains step (n0 : Int) (n1 : Int)
      = .ok (decide (step ∈ (steps (.reverse n1 n0 c)).map (fun k : Nat => (k : Int)))) := by
  rw [reverse_contains_spec]
  congr 1
  rw [decide_eq_decide,
    mem_map_cast step _ _ (fun k => mem_steps_reverse k n1 n0 c)]
  omega

theorem reverse_contains_nat (k n1 n0 : Nat) (c : Bool) :
    reverse_contains (k : Int) (n0 : Int) (n1 : Int) = .ok (decide (k ∈ steps (.reverse n1 n0 c))) ∧
    reverse_contains (k : Int) (n0 : Int) (n1 : Int) = .ok (decide (n0 ≤ k ∧ k < n1)) := by
  rw [reverse_contains_spec]
  constructor
  · congr 1; rw [decide_eq_decide, mem_steps_reverse]; omega
  · congr 1; rw [decide_eq_decide]; omega

theorem contains_negative (step : Int) (n0 n1 : Nat) (h : step < 0) :
    forward_contains step (n0 : Int) (n1 : Int) = .ok false ∧
    reverse_contains step (n0 : Int) (n1 : Int) = .ok false := by
  rw [forward_contains_spec, reverse_contains_spec]
  have : ¬ ((n0 : Int) ≤ step ∧ step < (n1 : Int)) := by omega
  simp only [this, decide_false, and_self]

example : forward_len 2 5 = .ok 3 ∧ steps (.forward 2 5 true false .ram) = [2, 3, 4] := by decide
example : reverse_len 2 5 = .ok 3 ∧ steps (.reverse 5 2 true) = [4, 3, 2] := by decide
example : forward_contains 4 2 5 = .ok true ∧ forward_contains 5 2 5 = .ok false ∧
    forward_contains (-1) 2 5 = .ok false := by decide
example : reverse_contains 2 2 5 = .ok true ∧ reverse_contains 1 2 5 = .ok false := by decide
example : (2 : Nat) ≤ 5 := by decide

end Ckpt.Py

#print axioms Ckpt.Py.mixed_init_spec
#print axioms Ckpt.Py.mixed_init_error_iff
#print axioms Ckpt.Py.mixed_init_negative
#print axioms Ckpt.Py.mixed_init_refines
#print axioms Ckpt.Py.mixed_init_valid_iff
#print axioms Ckpt.Py.mixed_construct_then_iterate
#print axioms Ckpt.Py.mixed_run_invalid
#print axioms Ckpt.Py.twoLevel_init_spec
#print axioms Ckpt.Py.twoLevel_init_error_iff
#print axioms Ckpt.Py.twoLevel_init_negative
#print axioms Ckpt.Py.twoLevel_init_refines
#print axioms Ckpt.Py.twoLevel_init_valid_iff
#print axioms Ckpt.Py.twoLevel_construct_then_iterate
#print axioms Ckpt.Py.twoLevel_run_invalid
#print axioms Ckpt.Py.multistage_init_spec
#print axioms Ckpt.Py.multistage_init_rejects
#print axioms Ckpt.Py.modelOracle_agrees
#print axioms Ckpt.Py.multistage_init_refines
#print axioms Ckpt.Py.multistage_init_refines_invalid
#print axioms Ckpt.Py.multistage_construct_then_iterate
#print axioms Ckpt.Py.multistage_run_invalid
#print axioms Ckpt.Py.forward_len_refines
#print axioms Ckpt.Py.forward_len_toNat
#print axioms Ckpt.Py.reverse_len_refines
#print axioms Ckpt.Py.reverse_len_toNat
#print axioms Ckpt.Py.forward_contains_refines
#print axioms Ckpt.Py.forward_contains_nat
#print axioms Ckpt.Py.reverse_contains_refines
#print axioms Ckpt.Py.reverse_contains_nat
#print axioms Ckpt.Py.contains_negative
