import CkptGen.RefineMixed
import CkptGen.RefineCommon
import CkptVerif.Properties.C16
import Mathlib.Tactic
/-!
# The Lean text generated from `mixed_steps_tabulation` (mixed.py, the numba path) computes the model `mixedTab`

`mixed_steps_tabulation_refines`: for all `n, s ≥ 0` the table (`Tab3`, numpy `int64` array of shape
`(n+1, s+1, 3)`) returned by the generated function is the table of the model `mixedTab n s`, cell by cell
(`tabPy`); where the model fails (`n = 0` only) the generated function raises (`IndexError`).
`mixed_steps_tabulation_negative`, `…_s_minus_one`, `…_n_minus_one`: the remaining integer arguments.
`mixed_steps_tabulation_memoSpec`, `mixed_steps_tabulation_eq_memoization`: property C16 at source level — every
entry of the table returned by the GENERATED function is the answer of the memoised planner (the model `memoSpec`,
resp. the generated `mixed_step_memoization`).

The generated text contains the `assert … > 0` statements of the Python source, which the model does not have:
the simulation therefore carries the invariant `TabInv` of `CkptVerif/Proofs/MixedTab.lean` (the cells read are
final, hence hold a planner answer, whose cost is positive: `memoCell_cost_pos`) through the three nested loops;
the same invariant keeps every `tab3Get`/`tab3Set` inside the array (no `IndexError`).  No fuel: the function has
only `for` loops.
-/

namespace Ckpt.Py
open Ckpt

/-- a cell of the model's table as the `int64` triple `(type, steps, cost)` -/
def cellPy (c : TCell) : Int × Int × Int := ((c.kind : Int), (c.len : Int), c.cost)
/-- the model's table as the numpy array -/
def tabPy (t : Array (Array TCell)) : Tab3 := t.toList.map (fun row => row.toList.map cellPy)

theorem pyIndex_of_getElem? {α : Type} (xs : List α) (i : Nat) (a : α) (h : xs[i]? = some a) :
    pyIndex xs (i : Int) = .ok a := by
  unfold pyIndex
  have h1 : ¬ ((i : Int) < 0) := not_lt.2 (Int.natCast_nonneg i)
  simp only [h1, if_false, Int.toNat_natCast, h]
  rfl

theorem tabPy_getElem? (t : Array (Array TCell)) (i : Nat) :
    (tabPy t)[i]? = t[i]?.map (fun row => row.toList.map cellPy) := by
  unfold tabPy
  rw [List.getElem?_map, Array.getElem?_toList]

theorem tabPy_length (t : Array (Array TCell)) : (tabPy t).length = t.size := by
  unfold tabPy; simp

theorem tab3Get_tabPy (t : Array (Array TCell)) (i j : Nat) (h : InB t i j) :
    tab3Get (tabPy t) (i : Int) (j : Int) = .ok (cellPy (tabGet t i j)) := by
  obtain ⟨row, hr, hj⟩ := h
  unfold tab3Get
  simp only [bind, Except.bind]
  have h1 : (tabPy t)[i]? = some (row.toList.map cellPy) := by rw [tabPy_getElem?, hr]; rfl
  rw [pyIndex_of_getElem? _ _ _ h1]
  have h2 : (row.toList.map cellPy)[j]? = some (cellPy (tabGet t i j)) := by
    rw [List.getElem?_map, Array.getElem?_toList, tabGet_eq, hr, Option.getD_some,
      Array.getElem?_eq_getElem hj]
    rfl
  exact pyIndex_of_getElem? _ _ _ h2

theorem tab3Get_tabSet_same (t : Array (Array TCell)) (a b : Nat) (c : TCell) (h : InB t a b) :
    tab3Get (tabPy (tabSet t a b c)) (a : Int) (b : Int) = .ok (cellPy c) := by
  rw [tab3Get_tabPy _ _ _ (InB_tabSet _ _ _ _ _ _ h), tabGet_tabSet_same _ _ _ _ h]

theorem tab3Get_tabSet_ne (t : Array (Array TCell)) (a b : Nat) (c : TCell) (i j : Nat) (h : InB t i j)
    (hne : ¬ (i = a ∧ j = b)) :
    tab3Get (tabPy (tabSet t a b c)) (i : Int) (j : Int) = .ok (cellPy (tabGet t i j)) := by
  rw [tab3Get_tabPy _ _ _ (InB_tabSet _ _ _ _ _ _ h), tabGet_tabSet_ne _ _ _ _ _ _ hne]

theorem tab3Set_tabPy (t : Array (Array TCell)) (i j : Nat) (c : TCell) (h : InB t i j) :
    tab3Set (tabPy t) (i : Int) (j : Int) (cellPy c) = .ok (tabPy (tabSet t i j c)) := by
  obtain ⟨row, hr, hj⟩ := h
  have hi : i < t.size := (Array.getElem?_eq_some_iff.1 hr).1
  unfold tab3Set
  dsimp only [bind, Except.bind, pure, Except.pure]
  have h1 : (tabPy t)[i]? = some (row.toList.map cellPy) := by rw [tabPy_getElem?, hr]; rfl
  have c1 : ¬ ((i : Int) < 0) := not_lt.2 (Int.natCast_nonneg i)
  have c2 : ¬ ((j : Int) < 0) := not_lt.2 (Int.natCast_nonneg j)
  rw [if_neg c1, tabPy_length, pyIndex_of_getElem? _ _ _ h1]
  have c3 : ¬ ((i : Int) < 0 ∨ (i : Int) ≥ (t.size : Int)) := not_or.2 ⟨c1, not_le.2 (Int.ofNat_lt.2 hi)⟩
  rw [if_neg c3]
  simp only [if_neg c2, List.length_map, Array.length_toList]
  have c4 : ¬ ((j : Int) < 0 ∨ (j : Int) ≥ (row.size : Int)) := not_or.2 ⟨c2, not_le.2 (Int.ofNat_lt.2 hj)⟩
  rw [if_neg c4]
  show Except.ok _ = Except.ok _
  congr 1
  apply List.ext_getElem?
  intro k
  rw [tabPy_getElem?, tabSet_row, Int.toNat_natCast, Int.toNat_natCast, List.getElem?_set]
  by_cases hik : i = k
  · subst hik
    rw [if_pos rfl, if_pos rfl, hr, tabPy_length, if_pos hi]
    simp only [Option.map_some, Array.toList_setIfInBounds, List.map_set]
  · rw [if_neg hik, if_neg hik, tabPy_getElem?]


theorem tabSet_tabSet (t : Array (Array TCell)) (a b : Nat) (c c' : TCell) :
    tabSet (tabSet t a b c) a b c' = tabSet t a b c' := by
  apply Array.ext_getElem?
  intro k
  simp only [tabSet_row]
  by_cases hak : a = k
  · simp only [if_pos hak, Option.map_map]
    congr 1
    funext row
    simp
  · simp only [if_neg hak]

theorem tabSet_self (t : Array (Array TCell)) (a b : Nat) (h : InB t a b) :
    tabSet t a b (tabGet t a b) = t := by
  obtain ⟨row, hr, hj⟩ := h
  apply Array.ext_getElem?
  intro k
  rw [tabSet_row]
  by_cases hak : a = k
  · subst hak
    rw [if_pos rfl, hr, Option.map_some, tabGet_eq, hr, Option.getD_some,
      Array.getElem?_eq_getElem hj, Option.getD_some]
    congr 1
    apply Array.ext_getElem?
    intro j
    rw [Array.getElem?_setIfInBounds]
    by_cases hbj : b = j
    · subst hbj; simp [hj]
    · simp [hbj]
  · rw [if_neg hak]

/-! ## the initial table -/

theorem cellPy_tNone : cellPy tNone = ((0 : Int), (0 : Int), (-1 : Int)) := rfl

theorem tab3_init (n s : Nat) :
    tab3Zeros ((n : Int) + 1) ((s : Int) + 1) =
      .ok (List.replicate (n + 1) (List.replicate (s + 1) ((0 : Int), (0 : Int), (0 : Int)))) := by
  unfold tab3Zeros
  have c : ¬ ((n : Int) + 1 < 0 ∨ (s : Int) + 1 < 0) := by omega
  rw [if_neg c]
  rw [Int.toNat_natCast_add_one, Int.toNat_natCast_add_one]; rfl

theorem tab3_fill (n s : Nat) :
    tab3Fill (tab3Fill (tab3Fill
      (List.replicate (n + 1) (List.replicate (s + 1) ((0 : Int), (0 : Int), (0 : Int))))
        0 StepType.none.toInt) 1 0) 2 (-1)
      = tabPy (Array.replicate (n + 1) (Array.replicate (s + 1) tNone)) := by
  unfold tab3Fill tabPy
  simp only [List.map_replicate, Array.toList_replicate, cellPy_tNone]
  rfl


/-! ## `for` loops over `range` with an invariant -/

/-- a `for` loop over (the casts of) `a, a+1, …, a+k-1` whose body, on states `R t` satisfying the
invariant `Q x t` (`x` = the loop variable), continues with `R (g t x)`, is a `foldl` -/
theorem forIn_range_sim {σ τ : Type} (R : τ → σ) (g : τ → Nat → τ) (Q : Nat → τ → Prop)
    (body : Int → σ → M (ForInStep σ)) :
    ∀ (k a : Nat) (t0 : τ), Q a t0 →
      (∀ x t, a ≤ x → x < a + k → Q x t →
        body (x : Int) (R t) = .ok (.yield (R (g t x))) ∧ Q (x + 1) (g t x)) →
      forIn ((List.range' a k).map (fun k : Nat => (k : Int))) (R t0) body
        = .ok (R ((List.range' a k).foldl g t0)) := by
  intro k
  induction k with
  | zero => intro a t0 _ _; rfl
  | succ k ih =>
    intro a t0 h0 h
    obtain ⟨e, q⟩ := h a t0 (Nat.le_refl _) (by omega) h0
    rw [List.range'_succ, List.map_cons, List.forIn_cons, e]
    show forIn (List.map (fun k : Nat => (k : Int)) (List.range' (a + 1) k)) (R (g t0 a)) body = _
    rw [List.foldl_cons]
    exact ih (a + 1) (g t0 a) q (fun x t h1 h2 hq => h x t (by omega) (by omega) hq)

theorem forIn_range_sim' {σ τ : Type} (R : τ → σ) (g : τ → Nat → τ) (Q : Nat → τ → Prop)
    (k a : Nat) (t0 : τ) (l : List Int) (init : σ) (body : Int → σ → M (ForInStep σ))
    (hl : l = (List.range' a k).map (fun k : Nat => (k : Int))) (hi : init = R t0) (h0 : Q a t0)
    (h : ∀ x t, a ≤ x → x < a + k → Q x t →
        body (x : Int) (R t) = .ok (.yield (R (g t x))) ∧ Q (x + 1) (g t x)) :
    forIn l init body = .ok (R ((List.range' a k).foldl g t0)) := by
  subst hl hi; exact forIn_range_sim R g Q body k a t0 h0 h

/-- a fold of a partial step `f` that, under the invariant `Q`, succeeds with the total step `g` -/
theorem foldl_range_some {τ : Type} (f : Option τ → Nat → Option τ) (g : τ → Nat → τ) (Q : Nat → τ → Prop) :
    ∀ (k a : Nat) (t0 : τ), Q a t0 →
      (∀ x t, a ≤ x → x < a + k → Q x t → f (some t) x = some (g t x) ∧ Q (x + 1) (g t x)) →
      (List.range' a k).foldl f (some t0) = some ((List.range' a k).foldl g t0) ∧
        Q (a + k) ((List.range' a k).foldl g t0) := by
  intro k
  induction k with
  | zero => intro a t0 h _; exact ⟨rfl, h⟩
  | succ k ih =>
    intro a t0 h0 h
    obtain ⟨e, q⟩ := h a t0 (Nat.le_refl _) (by omega) h0
    have ek : a + (k + 1) = a + 1 + k := Nat.add_right_comm a k 1
    rw [List.range'_succ, List.foldl_cons, List.foldl_cons, e, ek]
    exact ih (a + 1) (g t0 a) q (fun x t h1 h2 hq => h x t (by omega) (by omega) hq)

/-- `range(lo, hi)` between two naturals -/
theorem pyRange_eq (a k : Nat) (lo hi : Int) (h1 : lo = (a : Int)) (h2 : hi = (a : Int) + (k : Int)) :
    pyRange lo hi = (List.range' a k).map (fun k : Nat => (k : Int)) :=
  pyRange_eq2 a k lo hi h1 (by omega)

/-! ## model side -/

theorem memoCell_cost_pos (n : Nat) : ∀ s, validKey n s = true → 1 ≤ (memoCell n s).cost := by
  intro s h
  by_cases h1 : n = 1
  · subst h1; rw [memoCell_one]
  · have hn : 2 ≤ n := by rw [validKey_iff] at h; omega
    obtain ⟨_, hc | hc⟩ := memoCell_cases n s h hn
    · rw [hc.2.2]; omega
    · rw [hc.2.2.2.2]; omega

theorem expect_cost_pos (ni si : Nat) (h1 : 1 ≤ ni) (h2 : ni = 1 ∨ 1 ≤ si) : 0 < (expect ni si).cost := by
  rw [expect_valid ni si h1 h2]
  have := memoCell_cost_pos ni (clampS ni si) ((validKey_clamp_iff ni si).2 ⟨h1, h2⟩)
  show (0 : Int) < ((memoCell ni (clampS ni si)).cost : Int)
  omega

/-- while cell `(a, b)` is being computed, the cells above it in column `b` are final: their cost is positive -/
theorem TabInv_cost_pos_col {n s a b : Nat} {t : Array (Array TCell)} (inv : TabInv n s a b t)
    (han : a ≤ n) (hb : 1 ≤ b) (hbs : b ≤ s) (x : Nat) (hx1 : 1 ≤ x) (hx2 : x < a) :
    0 < (tabGet t x b).cost := by
  rw [inv.done x b (hx2.le.trans han) hbs (Or.inr (Or.inr (Or.inr ⟨rfl, hx2⟩)))]
  exact expect_cost_pos x b hx1 (Or.inr hb)

/-- … and so are the earlier columns -/
theorem TabInv_cost_pos_prev {n s a b : Nat} {t : Array (Array TCell)} (inv : TabInv n s a b t)
    (hbs : b ≤ s) (i j : Nat) (hi1 : 1 ≤ i) (hi : i ≤ n) (hj1 : 1 ≤ j) (hj : j < b) :
    0 < (tabGet t i j).cost := by
  rw [inv.done i j hi (hj.le.trans hbs) (Or.inr (Or.inr (Or.inl hj)))]
  exact expect_cost_pos i j hi1 (Or.inr hj1)

/-- one cell of the nested loops, as a total function on tables -/
def cellG (b : Nat) (t : Array (Array TCell)) (a : Nat) : Array (Array TCell) :=
  (tabStepCell b (some t) a).getD t

/-! the three branches of a cell -/

theorem cellG_adj (b : Nat) (t : Array (Array TCell)) (a : Nat) (h : a ≤ b + 1) :
    cellG b t a = tabSet t a b ⟨stWriteAdjDeps, 1, (a : Int)⟩ := by
  show (if a ≤ b + 1 then _ else _ : Option _).getD t = _
  rw [if_pos h]; rfl

theorem cellG_one (b : Nat) (t : Array (Array TCell)) (a : Nat) (h1 : ¬ a ≤ b + 1) (h2 : b = 1) :
    cellG b t a = tabSet t a b ⟨stWriteIcs, a - 1, ((a * (a + 1) / 2 - 1 : Nat) : Int)⟩ := by
  show (if a ≤ b + 1 then _ else if b = 1 then _ else _ : Option _).getD t = _
  rw [if_neg h1, if_pos h2]; rfl

theorem tabStepCell_general (b : Nat) (t : Array (Array TCell)) (a : Nat) (h1 : ¬ a ≤ b + 1) (h2 : ¬ b = 1) :
    tabStepCell b (some t) a = (tabCell t a b).map (tabSet t a b) := by
  show (if a ≤ b + 1 then _ else if b = 1 then _ else _) = _
  rw [if_neg h1, if_neg h2]
  cases tabCell t a b <;> rfl

theorem cellG_spec (n s a b : Nat) (t : Array (Array TCell))
    (inv : TabInv n s a b t) (ha : 2 ≤ a) (han : a ≤ n) (hb : 1 ≤ b) (hbs : b ≤ s) :
    tabStepCell b (some t) a = some (cellG b t a) ∧ TabInv n s (a + 1) b (cellG b t a) := by
  obtain ⟨t', h1, h2⟩ := tabStepCell_spec n s a b t inv ha han hb hbs
  unfold cellG
  rw [h1]
  exact ⟨rfl, h2⟩

def colG (n : Nat) (t : Array (Array TCell)) (b : Nat) : Array (Array TCell) :=
  (List.range' 2 (n - 1)).foldl (cellG b) t

theorem colG_spec (n s b : Nat) (hn : 1 ≤ n) (hb : 1 ≤ b) (hbs : b ≤ s) (t : Array (Array TCell))
    (inv : TabInv n s 2 b t) :
    (List.range' 2 (n - 1)).foldl (tabStepCell b) (some t) = some (colG n t b) ∧
      TabInv n s 2 (b + 1) (colG n t b) := by
  have key := foldl_range_some (tabStepCell b) (cellG b) (fun x t' => TabInv n s x b t') (n - 1) 2 t inv
    (fun x t' h1 h2 i => cellG_spec n s x b t' i h1 (by omega) hb hbs)
  have e : 2 + (n - 1) = n + 1 := by omega
  rw [e] at key
  exact ⟨key.1, TabInv_next_col n s b _ key.2⟩

def tabInit (n s : Nat) : Array (Array TCell) :=
  (List.range (s + 1)).foldl (fun t si => tabSet t 1 si tFR)
    (Array.replicate (n + 1) (Array.replicate (s + 1) tNone))

def tabG (n s : Nat) : Array (Array TCell) := (List.range' 1 s).foldl (colG n) (tabInit n s)

theorem tabG_spec (n s : Nat) (hn : 1 ≤ n) : mixedTab n s = some (tabG n s) ∧ TabInv n s 2 (s + 1) (tabG n s) := by
  rw [mixedTab_def, if_neg (by omega)]
  have key := foldl_range_some (fun ot si => (List.range' 2 (n - 1)).foldl (tabStepCell si) ot) (colG n)
    (fun x t' => TabInv n s 2 x t') s 1 (tabInit n s) (tabInit_inv n s hn)
    (fun x t' h1 h2 i => colG_spec n s x hn h1 (by omega) t' i)
  rw [Nat.add_comm 1 s] at key
  exact key


/-! ## the generated function -/

theorem tab_ok (n s : Nat) (hn : 1 ≤ n) :
    mixed_steps_tabulation (n : Int) (s : Int) = .ok (tabPy (tabG n s)) := by
  unfold mixed_steps_tabulation
  dsimp only [bind, Except.bind, pure, Except.pure]
  rw [tab3_init]
  dsimp only []
  rw [tab3_fill]
  -- first loop
  rw [forIn_range_sim' tabPy (fun t si => tabSet t 1 si tFR)
    (fun _ t => ∀ ni si, ni ≤ n → si ≤ s → InB t ni si) (s + 1) 0
    (Array.replicate (n + 1) (Array.replicate (s + 1) tNone)) _ _ _
    (pyRange_eq 0 (s + 1) _ _ (by simp) (by omega)) rfl
    (fun ni si h1 h2 => InB_replicate n s ni si h1 h2)]
  swap
  · intro x t _ hx hinb
    refine ⟨?_, fun ni si h1 h2 => InB_tabSet _ _ _ _ _ _ (hinb ni si h1 h2)⟩
    have e : (StepType.forward_reverse.toInt, (1 : Int), (1 : Int)) = cellPy tFR := rfl
    have e1 : (1 : Int) = ((1 : Nat) : Int) := rfl
    rw [e, e1, tab3Set_tabPy _ _ _ _ (hinb 1 x hn (by omega))]
  dsimp only []
  rw [← List.range_eq_range']
  have e0 : List.foldl (fun t si => tabSet t 1 si tFR)
      (Array.replicate (n + 1) (Array.replicate (s + 1) tNone)) (List.range (s + 1)) = tabInit n s := rfl
  rw [e0]
  -- outer loop (columns)
  rw [forIn_range_sim' tabPy (colG n) (fun x t => TabInv n s 2 x t) s 1 (tabInit n s) _ _ _
    (pyRange_eq 1 s _ _ (by simp) (by omega)) rfl (tabInit_inv n s hn)]
  · rfl
  intro b t hb1 hb2 inv
  have hbs : b ≤ s := by omega
  have hspec := colG_spec n s b hn hb1 hbs t inv
  refine ⟨?_, hspec.2⟩
  -- middle loop (rows)
  rw [forIn_range_sim' tabPy (cellG b) (fun x t => TabInv n s x b t) (n - 1) 2 t _ _ _
    (pyRange_eq 2 (n - 1) _ _ (by simp) (by omega)) rfl inv]
  · rfl
  clear hspec inv t
  intro a t ha1 ha2 inv
  have han : a ≤ n := by omega
  have hspec := cellG_spec n s a b t inv ha1 han hb1 hbs
  refine ⟨?_, hspec.2⟩
  have hinb := inv.inb
  by_cases h1 : a ≤ b + 1
  · have c1 : (a : Int) ≤ (b : Int) + 1 := Int.ofNat_le.2 h1
    rw [if_pos c1]
    have e : (StepType.write_adj_deps.toInt, (1 : Int), (a : Int))
        = cellPy ⟨stWriteAdjDeps, 1, (a : Int)⟩ := rfl
    rw [e, tab3Set_tabPy _ _ _ _ (hinb a b han hbs), cellG_adj b t a h1]
  have c1 : ¬ (a : Int) ≤ (b : Int) + 1 := fun h => h1 (Int.ofNat_le.1 h)
  rw [if_neg c1]
  by_cases h2 : b = 1
  · have c2 : (b : Int) = 1 := congrArg Nat.cast h2
    rw [if_pos c2]
    rw [floordiv_cast (x := (a : Int) * ((a : Int) + 1)) (y := 2) (a * (a + 1)) 2
      (Nat.cast_mul a (a + 1)).symm rfl two_ne_zero]
    dsimp only []
    have ha0 : 1 ≤ a := Nat.le_of_succ_le ha1
    have := triangle_pos a ha0
    have e1 : (a : Int) - 1 = ((a - 1 : Nat) : Int) := (Nat.cast_pred ha0).symm
    have e2 : ((a * (a + 1) / 2 : Nat) : Int) - 1 = ((a * (a + 1) / 2 - 1 : Nat) : Int) :=
      (Nat.cast_pred this).symm
    have e : (StepType.write_ics.toInt, (a : Int) - 1, ((a * (a + 1) / 2 : Nat) : Int) - 1)
        = cellPy ⟨stWriteIcs, a - 1, ((a * (a + 1) / 2 - 1 : Nat) : Int)⟩ := by
      rw [e1, e2]; rfl
    rw [e, tab3Set_tabPy _ _ _ _ (hinb a b han hbs), cellG_one b t a h1 h2]
  have c2 : ¬ (b : Int) = 1 := fun h => h2 (Int.ofNat_inj.1 h)
  rw [if_neg c2]
  have hsc := tabStepCell_general b t a h1 h2
  have hb2' : 2 ≤ b := Nat.lt_of_le_of_ne hb1 (Ne.symm h2)
  clear c1 c2 h1 h2 hb2 ha2 hn
  -- the cells read are final and have a positive cost
  have hposL := TabInv_cost_pos_col inv han hb1 hbs
  have hposR : ∀ x, x < a → 0 < (tabGet t (a - x) (b - 1)).cost := fun x hx =>
    TabInv_cost_pos_prev inv hbs _ _ (Nat.sub_pos_of_lt hx) ((Nat.sub_le a x).trans han)
      (Nat.le_sub_one_of_lt hb2') (Nat.sub_lt hb1 Nat.one_pos)
  have hinbS : ∀ cur, InB (tabSet t a b cur) a b := fun cur => InB_tabSet _ _ _ _ _ _ (hinb a b han hbs)
  have hgC := fun cur => tab3Get_tabSet_same t a b cur (hinb a b han hbs)
  have hgR : ∀ cur x, 1 ≤ x → x < a →
      tab3Get (tabPy (tabSet t a b cur)) ((a : Int) - (x : Int)) ((b : Int) - 1)
        = .ok (cellPy (tabGet t (a - x) (b - 1))) := by
    intro cur x hx1 hx2
    rw [← Nat.cast_sub hx2.le, ← Nat.cast_pred hb1]
    exact tab3Get_tabSet_ne t a b cur _ _ (hinb _ _ ((Nat.sub_le a x).trans han) ((Nat.sub_le b 1).trans hbs))
      (fun h => (Nat.sub_lt hb1 Nat.one_pos).ne h.2)
  -- the innermost loop
  rw [forIn_range_sim' (fun cur => tabPy (tabSet t a b cur))
    (tabStep (fun (i : Nat) => (i : Int) + (tabGet t i b).cost + (tabGet t (a - i) (b - 1)).cost))
    (fun _ _ => True) (a - 2) 2 (tabGet t a b) _ _ _
    (pyRange_eq 2 (a - 2) _ _ (by simp) (by omega))
    (by rw [tabSet_self _ _ _ (hinb a b han hbs)]) trivial]
  swap
  · intro x cur hx1 hx2 _
    refine ⟨?_, trivial⟩
    have hxa : x < a := by omega
    have hx0 : 1 ≤ x := Nat.le_of_succ_le hx1
    have hgL := tab3Get_tabSet_ne t a b cur x b (hinb x b (hxa.le.trans han) hbs) (fun h => hxa.ne h.1)
    rw [hgL, hgR cur x hx0 hxa, hgC cur]
    dsimp only [cellPy]
    rw [if_neg (not_not.2 (hposL x hx0 hxa)), if_neg (not_not.2 (hposR x hxa))]
    have e : (StepType.write_ics.toInt, (x : Int),
        (x : Int) + (tabGet t x b).cost + (tabGet t (a - x) (b - 1)).cost)
        = cellPy ⟨stWriteIcs, x, (x : Int) + (tabGet t x b).cost + (tabGet t (a - x) (b - 1)).cost⟩ := rfl
    rw [e, tab3Set_tabPy _ _ _ _ (hinbS cur), tabSet_tabSet]
    dsimp only []
    unfold tabStep
    by_cases hc : cur.cost < 0
    · rw [if_pos hc, if_pos (Or.inl hc)]
      rfl
    · rw [if_neg hc]
      by_cases hle : (x : Int) + (tabGet t x b).cost + (tabGet t (a - x) (b - 1)).cost ≤ cur.cost
      · rw [decide_eq_true hle, if_pos (Or.inr hle)]
        rfl
      · rw [decide_eq_false hle, if_neg (by rintro (h | h); exact hc h; exact hle h)]
        rfl
  dsimp only []
  -- what the model does with the result of the loop
  have hdef := tabCell_def t a b
  generalize List.foldl
    (tabStep fun (i : Nat) => (i : Int) + (tabGet t i b).cost + (tabGet t (a - i) (b - 1)).cost)
    (tabGet t a b) (List.range' 2 (a - 2)) = cur at hdef ⊢
  have hspec1 := hspec.1
  rw [hsc, hdef] at hspec1
  have eg : cellG b t a = ((tabCell t a b).map (tabSet t a b)).getD t := by
    unfold cellG; rw [hsc]
  rw [eg, hdef]
  unfold tabFinish at hspec1 ⊢
  have hc : ¬ cur.cost < 0 := by
    intro hc
    rw [if_pos hc] at hspec1
    cases hspec1
  have e1 : (a : Int) - 1 = (a : Int) - ((1 : Nat) : Int) := rfl
  rw [hgC cur, e1, hgR cur 1 (Nat.le_refl 1) ha1]
  dsimp only [cellPy]
  rw [if_neg hc, if_neg (not_not.2 (hposR 1 ha1)), if_neg hc]
  by_cases hlt : 1 + (tabGet t (a - 1) (b - 1)).cost < cur.cost
  · have e : (StepType.write_adj_deps.toInt, (1 : Int), 1 + (tabGet t (a - 1) (b - 1)).cost)
        = cellPy ⟨stWriteAdjDeps, 1, 1 + (tabGet t (a - 1) (b - 1)).cost⟩ := rfl
    rw [if_pos hlt, if_pos hlt, e, tab3Set_tabPy _ _ _ _ (hinbS cur), tabSet_tabSet]
    rfl
  · rw [if_neg hlt, if_neg hlt]
    rfl


/-! ## failures -/

theorem tab3Set_oob (t : Tab3) (i : Nat) (j : Int) (c : Int × Int × Int) (h : t.length ≤ i) :
    tab3Set t (i : Int) j c = .error .indexError := by
  unfold tab3Set
  simp only [bind, Except.bind]
  have c1 : ¬ ((i : Int) < 0) := not_lt.2 (Int.natCast_nonneg i)
  have c2 : ((i : Int) < 0 ∨ (i : Int) ≥ (t.length : Int)) := Or.inr (Int.ofNat_le.2 h)
  rw [if_neg c1, if_pos c2]
  rfl

theorem pyRange_zero_succ (s : Nat) :
    pyRange 0 ((s : Int) + 1) = ((0 : Nat) : Int) :: (List.range' 1 s).map (fun k : Nat => (k : Int)) := by
  rw [pyRange_eq 0 (s + 1) _ _ (by simp) (by omega), List.range'_succ, List.map_cons]

/-- `n = 0`: the first loop writes row `1` of a table with the single row `0`: `IndexError` -/
theorem tab_zero (s : Nat) : mixed_steps_tabulation ((0 : Nat) : Int) (s : Int) = .error .indexError := by
  have hr := pyRange_zero_succ s
  have hset (c : Int × Int × Int) : tab3Set (tabPy (Array.replicate (0 + 1) (Array.replicate (s + 1) tNone)))
      (1 : Int) ((0 : Nat) : Int) c = .error .indexError :=
    tab3Set_oob _ 1 _ _ (by rw [tabPy_length]; simp)
  unfold mixed_steps_tabulation
  simp only [bind, Except.bind, pure, Except.pure, tab3_init, tab3_fill, hr, List.forIn_cons, hset]

/-! ## the refinement theorems -/

/-- **`mixed_steps_tabulation` as generated from the Python source computes the model `mixedTab`**: the same
table (cell by cell: step type, length, cost) where the model succeeds, an exception where it fails -/
theorem mixed_steps_tabulation_refines (n s : Nat) :
    (∀ t, mixedTab n s = some t → mixed_steps_tabulation (n : Int) (s : Int) = .ok (tabPy t)) ∧
    (mixedTab n s = none → ∃ e, mixed_steps_tabulation (n : Int) (s : Int) = .error e) := by
  by_cases hn : 1 ≤ n
  · obtain ⟨h1, _⟩ := tabG_spec n s hn
    refine ⟨fun t ht => ?_, fun h => ?_⟩
    · rw [h1] at ht
      cases ht
      exact tab_ok n s hn
    · rw [h1] at h; cases h
  · have : n = 0 := by omega
    subst this
    refine ⟨fun t ht => ?_, fun _ => ⟨_, tab_zero s⟩⟩
    rw [mixedTab_zero] at ht; cases ht

/-- more precisely: the model fails only for `n = 0`, and the generated function then raises `IndexError` -/
theorem mixed_steps_tabulation_none (n s : Nat) (h : mixedTab n s = none) :
    n = 0 ∧ mixed_steps_tabulation (n : Int) (s : Int) = .error .indexError := by
  by_cases hn : 1 ≤ n
  · rw [(tabG_spec n s hn).1] at h; cases h
  · have : n = 0 := by omega
    subst this
    exact ⟨rfl, tab_zero s⟩

/-- non-vacuity: the model succeeds for `(4, 2)` (which reaches the general branch), fails for `(0, 2)` -/
example : (mixedTab 4 2).isSome = true := by decide
example : mixedTab 0 2 = none := by decide
/-- a concrete instance, by evaluation of both sides -/
example : mixed_steps_tabulation 4 2 =
    (match mixedTab 4 2 with | some t => .ok (tabPy t) | none => .error .indexError) := by decide

/-- numpy refuses negative dimensions -/
theorem mixed_steps_tabulation_negative (n s : Int) (h : n < -1 ∨ s < -1) :
    mixed_steps_tabulation n s = .error .valueError := by
  have c : n + 1 < 0 ∨ s + 1 < 0 := by omega
  have hz : tab3Zeros (n + 1) (s + 1) = .error .valueError := by unfold tab3Zeros; rw [if_pos c]; rfl
  unfold mixed_steps_tabulation
  simp only [bind, Except.bind, hz]

example : (-2 : Int) < -1 ∨ (3 : Int) < -1 := by decide

/-- every pair of integers is covered by `mixed_steps_tabulation_refines`, `mixed_steps_tabulation_negative`
or is one of the two border cases `n = -1`, `s = -1` (shape `(0, s+1)`, resp. `(n+1, 0)`) -/
theorem mixed_steps_tabulation_cases (n s : Int) :
    (n < -1 ∨ s < -1) ∨ (n = -1 ∨ s = -1) ∨ ∃ n' s' : Nat, n = (n' : Int) ∧ s = (s' : Int) := by
  by_cases h : n < -1 ∨ s < -1
  · exact Or.inl h
  by_cases h' : n = -1 ∨ s = -1
  · exact Or.inr (Or.inl h')
  · exact Or.inr (Or.inr ⟨n.toNat, s.toNat, by omega, by omega⟩)

/-! ## C16 at source level -/

/-- the Python tuple for a planner answer, with the step type as `int` -/
def cellInt (c : Cell) : Int × Int × Int := ((c.kind : Int), (c.len : Int), (c.cost : Int))

/-- **C16 for the generated text**: `mixed_steps_tabulation(n, s)` returns a table `T`, and every entry
`T[n_i, s_i]`, `n_i ≤ n`, `s_i ≤ s`, is the answer `(step type, length, cost)` of the memoised planner
`memoSpec n_i s_i` — or the unset cell `(NONE, 0, -1)` where that planner raises `ValueError` -/
theorem mixed_steps_tabulation_memoSpec (n s : Nat) (hn : 1 ≤ n) :
    ∃ T, mixed_steps_tabulation (n : Int) (s : Int) = .ok T ∧
      ∀ ni si : Nat, ni ≤ n → si ≤ s →
        tab3Get T (ni : Int) (si : Int) = .ok (match memoSpec ni si with
          | some c => cellInt c
          | none => (StepType.none.toInt, 0, -1)) := by
  obtain ⟨t, ht, hcell⟩ := C16_tables n s hn
  obtain ⟨h1, inv⟩ := tabG_spec n s hn
  rw [h1] at ht
  cases ht
  refine ⟨_, tab_ok n s hn, ?_⟩
  intro ni si hni hsi
  rw [tab3Get_tabPy _ _ _ (inv.inb ni si hni hsi), hcell ni si hni hsi]
  cases memoSpec ni si <;> rfl

example : (1 : Nat) ≤ 4 ∧ (3 : Nat) ≤ 4 ∧ (2 : Nat) ≤ 2 := by decide

/-- **C16 between the two generated texts**: every entry `T[n_i, s_i]` of the table returned by the generated
`mixed_steps_tabulation(n, s)` is what the generated `mixed_step_memoization(n_i, s_i)` (through `cache_step`)
returns — same step type (as `int`), same length, same cost — and is the unset cell `(NONE, 0, -1)` exactly when
that call raises -/
theorem mixed_steps_tabulation_eq_memoization (n s : Nat) (hn : 1 ≤ n) :
    ∃ T, mixed_steps_tabulation (n : Int) (s : Int) = .ok T ∧
      ∀ (ni si fuel : Nat), ni ≤ n → si ≤ s → fuelBound ni si ≤ fuel →
        tab3Get T (ni : Int) (si : Int) =
          (match mixed_step_memoization fuel (ni : Int) (si : Int) with
            | .ok (k, l, c) => .ok (k.toInt, l, c)
            | .error _ => .ok (StepType.none.toInt, 0, -1)) := by
  obtain ⟨T, hT, hcell⟩ := mixed_steps_tabulation_memoSpec n s hn
  refine ⟨T, hT, ?_⟩
  intro ni si fuel hni hsi hf
  rw [hcell ni si hni hsi, mixed_step_memoization_refines ni si fuel hf]
  by_cases hv : validKey ni (clampS ni si) = true
  · rw [memoSpec_valid ni si hv]
    show Except.ok (cellInt _) = Except.ok ((stepTypeOfNat _).toInt, _, _)
    have hk := (memoCell_kind_num ni (clampS ni si) hv).1
    rw [toInt_stepTypeOfNat _ (by omega)]
    rfl
  · rw [memoSpec_invalid ni si hv]
    rfl

example : (1 : Nat) ≤ 4 ∧ (3 : Nat) ≤ 4 ∧ (2 : Nat) ≤ 2 ∧ fuelBound 3 2 ≤ 4 := by decide

/-! ## the two border cases -/

/-- `s = -1`: an array of shape `(n+1, 0, 3)`; no loop runs -/
theorem mixed_steps_tabulation_s_minus_one (n : Int) (hn : -1 ≤ n) :
    mixed_steps_tabulation n (-1) = .ok (List.replicate (n + 1).toNat []) := by
  have hz : tab3Zeros (n + 1) ((-1 : Int) + 1) = .ok (List.replicate (n + 1).toNat []) := by
    unfold tab3Zeros; rw [if_neg (by omega)]; rfl
  have hf (k : Nat) (v : Int) (m : Nat) :
      tab3Fill (List.replicate m ([] : List (Int × Int × Int))) k v = List.replicate m [] := by
    unfold tab3Fill; rw [List.map_replicate]; rfl
  -- both ranges are empty; as rules applied before the loop bodies are looked at
  have e1 {σ : Type} (init : σ) (f : Int → σ → M (ForInStep σ)) :
      forIn (pyRange 0 ((-1 : Int) + 1)) init f = .ok init := rfl
  have e2 {σ : Type} (init : σ) (f : Int → σ → M (ForInStep σ)) :
      forIn (pyRange 1 ((-1 : Int) + 1)) init f = .ok init := rfl
  unfold mixed_steps_tabulation
  simp only [bind, Except.bind, pure, Except.pure, hz, hf, ↓e1, ↓e2]

example : (-1 : Int) ≤ 3 := by decide

/-- `n = -1`, `s ≥ 0`: an array of shape `(0, s+1, 3)`; the first loop raises `IndexError` -/
theorem mixed_steps_tabulation_n_minus_one (s : Nat) :
    mixed_steps_tabulation (-1) (s : Int) = .error .indexError := by
  have hz : tab3Zeros ((-1 : Int) + 1) ((s : Int) + 1) = .ok [] := by
    unfold tab3Zeros; rw [if_neg (by omega)]; rfl
  have hf : tab3Fill (tab3Fill (tab3Fill [] 0 StepType.none.toInt) 1 0) 2 (-1) = [] := rfl
  have hr := pyRange_zero_succ s
  have hset (c : Int × Int × Int) : tab3Set [] (1 : Int) ((0 : Nat) : Int) c = .error .indexError :=
    tab3Set_oob _ 1 _ _ (by simp)
  unfold mixed_steps_tabulation
  simp only [bind, Except.bind, pure, Except.pure, hz, hf, hr, List.forIn_cons, hset]

end Ckpt.Py

#print axioms Ckpt.Py.mixed_steps_tabulation_refines
#print axioms Ckpt.Py.mixed_steps_tabulation_none
#print axioms Ckpt.Py.mixed_steps_tabulation_negative
#print axioms Ckpt.Py.mixed_steps_tabulation_memoSpec
#print axioms Ckpt.Py.mixed_steps_tabulation_eq_memoization
#print axioms Ckpt.Py.mixed_steps_tabulation_s_minus_one
#print axioms Ckpt.Py.mixed_steps_tabulation_n_minus_one
