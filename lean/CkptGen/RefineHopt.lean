import CkptGen.RefineTab
import CkptVerif.Properties.C07
import Mathlib.Tactic
/-!
# The Lean text generated from `get_hopt_table` (hrevolve_sequences/hrevolve.py) computes the model `hoptTable`

`hopt_run`: for all natural `lmax, c0, c1`, cost vectors `wvect = (w0, w1)`, `rvect = (r0, r1)` and `ub, uf`
(costs cast to `Rat`, `float("inf")` = `ER.inf`) the generated function returns the model's four tables
(`hoptResult`: `optp = [enc optp0, enc optp1]`, `opt = [enc opt0, enc opt1]`) if `c0 ≥ 1 ∨ lmax ≤ 1`, and raises
`IndexError` otherwise (`c0 = 0`, `lmax ≥ 2`: the write `optp[0][2][1] = …` is out of range; the model skips it).
* `get_hopt_table_refines_general`, `get_hopt_table_refines` (the library's `wvect = (0, wd)`, `rvect = (0, rd)`):
  entry by entry, `T[k][l][m] = erOf (model entry)`;
* `get_hopt_table_indexError`, `get_hopt_table_ok_iff`: the domain is exact;
* `get_hopt_table_hrevolve_cost`, `get_hopt_table_lowerBound`: the entry `opt[1][N-1][c1]` of the GENERATED table
  is the cost of the HRevolve stream minus `N·uf` (`C07_hrevolve`) and a lower bound for all accepted LIFO streams
  (`C07_hrevolve_lowerBound_partial`).

Method: the statement of each innermost loop body is written once more in `do` notation (`body1a` … `body5b`, the
text of `Src.lean` with the loop variables instantiated) and proved equal to one step of the model's fold on
encoded tables (`cell_facts`: the list operations behind `T[k][l][m]`, `T[k][l][m] = v` on `enc t`, under the
invariant `InBAll` "all cells exist"); `hopt_run` unfolds the generated function, takes the loops over the level
`k` one iteration at a time (`forIn_pair`, `forIn_single`), turns every other `for` loop into the model's `foldl`
with `forIn_range_bind` (the body obligations are closed by the `body*` lemmas up to definitional unfolding), and
ends in the named stages `hBorder`, `hLevel0`, `hLevel1` of `CkptVerif/Proofs/HOpt.lean` (`hoptTable_eq`).  `pyMin` (first minimum) against `ominList`: `pyMin_erOf` (only the value matters).  No fuel: the
function has only `for` loops.
-/

namespace Ckpt.Py
open Ckpt

abbrev T3 := List (List (List ER))

/-- a model cost (`none` = `float("inf")`) as the generated code's `ER` -/
def erOf : Option Nat → ER
  | none => .inf
  | some v => .fin (v : Rat)

def encRow (r : Array (Option Nat)) : List ER := r.toList.map erOf
def enc (t : Tab2) : List (List ER) := t.toList.map encRow
/-- `T[k][l][m]` (`inf` outside the table) -/
def tab3 (T : T3) (k l m : Nat) : ER := ((T.getD k []).getD l []).getD m ER.inf

/-! ## `ER` against `Option Nat` -/

theorem fin_add (a b : Rat) : ER.fin a + ER.fin b = ER.fin (a + b) := rfl

theorem fin_cast (n : Nat) : ER.fin (n : Rat) = erOf (some n) := rfl

theorem erOf_oadd (a b : Option Nat) : erOf (oadd a b) = erOf a + erOf b := by
  cases a <;> cases b <;> try rfl
  show ER.fin _ = ER.fin _
  push_cast
  rfl

theorem erOf_lt (a b : Option Nat) : (erOf b < erOf a) ↔ olt b a = true := by
  cases a with
  | none =>
    cases b with
    | none => exact ⟨fun h => h.elim, fun h => by cases h⟩
    | some b => exact ⟨fun _ => rfl, fun _ => trivial⟩
  | some a =>
    cases b with
    | none => exact ⟨fun h => h.elim, fun h => by cases h⟩
    | some b =>
      show ((b : Rat) < (a : Rat)) ↔ decide (b < a) = true
      rw [decide_eq_true_iff, Nat.cast_lt]

theorem erOf_omin (a b : Option Nat) : erOf (omin a b) = min (erOf a) (erOf b) := by
  show erOf (if olt b a then b else a) = if erOf b < erOf a then erOf b else erOf a
  by_cases h : olt b a = true
  · rw [if_pos h, if_pos ((erOf_lt a b).2 h)]
  · rw [if_neg h, if_neg (fun h' => h ((erOf_lt a b).1 h'))]

theorem foldl_erOf (xs : List (Option Nat)) : ∀ x : Option Nat,
    (xs.map erOf).foldl (fun m y => if y < m then y else m) (erOf x) = erOf (xs.foldl omin x) := by
  induction xs with
  | nil => intro x; rfl
  | cons y ys ih =>
    intro x
    rw [List.map_cons, List.foldl_cons, List.foldl_cons, ← ih]
    congr 1
    exact (erOf_omin x y).symm

theorem pyMin_erOf (xs : List (Option Nat)) (h : xs ≠ []) :
    pyMin (xs.map erOf) = .ok (erOf (ominList xs)) := by
  cases xs with
  | nil => exact absurd rfl h
  | cons x xs =>
    show Except.ok _ = Except.ok _
    congr 1
    exact foldl_erOf xs x

/-! ## list operations on encoded tables -/

theorem pyIndex_pair0 {α : Type} (a b : α) : pyIndex [a, b] (0 : Int) = .ok a := rfl
theorem pyIndex_pair1 {α : Type} (a b : α) : pyIndex [a, b] (1 : Int) = .ok b := rfl
theorem pySetAt_pair0 {α : Type} (a b x : α) : pySetAt [a, b] (0 : Int) x = .ok [x, b] := rfl
theorem pySetAt_pair1 {α : Type} (a b x : α) : pySetAt [a, b] (1 : Int) x = .ok [a, x] := rfl

/-- row `l` of a table -/
def rw2 (t : Tab2) (l : Nat) : Array (Option Nat) := t.getD l #[]

theorem rw2_of (t : Tab2) (l : Nat) (row : Array (Option Nat)) (h : t[l]? = some row) : rw2 t l = row := by
  unfold rw2
  rw [Array.getD_eq_getD_getElem?, h]
  rfl

theorem enc_set (t : Tab2) (l m : Nat) (v : Option Nat) (row : Array (Option Nat)) (h : t[l]? = some row) :
    (enc t).set l (encRow (row.setIfInBounds m v)) = enc (s2 t l m v) := by
  apply List.ext_getElem?
  intro k
  unfold enc
  rw [List.getElem?_set, List.getElem?_map, List.getElem?_map, Array.getElem?_toList, Array.getElem?_toList,
    s2_row]
  have hl : l < t.size := by
    by_contra hc
    rw [Array.getElem?_eq_none (by omega)] at h
    cases h
  by_cases hlk : l = k
  · subst hlk
    rw [if_pos rfl, if_pos rfl, h, List.length_map, Array.length_toList, if_pos hl]
    rfl
  · rw [if_neg hlk, if_neg hlk]

/-- the four list operations of `T[k][l][m] = v` / `T[k][l][m]` below the level index -/
theorem cell_facts (t : Tab2) (l m : Nat) (li mi : Int) (hli : li = (l : Int)) (hmi : mi = (m : Int))
    (h : InB2 t l m) :
    pyIndex (enc t) li = .ok (encRow (rw2 t l)) ∧
    pyIndex (encRow (rw2 t l)) mi = .ok (erOf (g2 t l m)) ∧
    ∀ v, pySetAt (encRow (rw2 t l)) mi (erOf v) = .ok (encRow ((rw2 t l).setIfInBounds m v)) ∧
      pySetAt (enc t) li (encRow ((rw2 t l).setIfInBounds m v)) = .ok (enc (s2 t l m v)) := by
  subst hli hmi
  obtain ⟨row, hr, hs⟩ := h
  rw [rw2_of t l row hr]
  have hl : l < t.size := by
    by_contra hc
    rw [Array.getElem?_eq_none (by omega)] at hr
    cases hr
  refine ⟨?_, ?_, fun v => ⟨?_, ?_⟩⟩
  · apply pyIndex_of_getElem?
    unfold enc
    rw [List.getElem?_map, Array.getElem?_toList, hr]
    rfl
  · apply pyIndex_of_getElem?
    unfold encRow
    rw [List.getElem?_map, Array.getElem?_toList, g2_eq, hr, Option.getD_some,
      Array.getElem?_eq_getElem hs]
    rfl
  · rw [pySetAt_nat _ _ _ (by unfold encRow; simpa using hs)]
    unfold encRow
    rw [Array.toList_setIfInBounds, List.map_set]
  · rw [pySetAt_nat _ _ _ (by unfold enc; simpa using hl), enc_set t l m v row hr]

/-! ## invariants and model steps -/

/-- all cells `l ≤ lmax`, `m ≤ c` of both tables exist -/
def InBAll (lmax c : Nat) (p : Tab2 × Tab2) : Prop :=
  ∀ l m, l ≤ lmax → m ≤ c → InB2 p.1 l m ∧ InB2 p.2 l m

/-- the two-level list `[level 0, level 1]` with `X` at level `k` and `B` at the other level -/
def lvl2 (k : Nat) (X B : List (List ER)) : T3 := if k = 0 then [X, B] else [B, X]

theorem lvl2_facts (k : Nat) (ki : Int) (hki : ki = (k : Int)) (hk : k ≤ 1) (X B : List (List ER)) :
    pyIndex (lvl2 k X B) ki = .ok X ∧ ∀ Y, pySetAt (lvl2 k X B) ki Y = .ok (lvl2 k Y B) := by
  subst hki
  have : k = 0 ∨ k = 1 := by omega
  rcases this with rfl | rfl
  · exact ⟨rfl, fun _ => rfl⟩
  · exact ⟨rfl, fun _ => rfl⟩

/-- the entries of rows `0`, `1` and of column `1` as the generated text computes them -/
theorem fin_row1_cast (ufn ubn r0 : Nat) :
    ER.fin ((ufn : Rat) + (((2 : Int) : Int) : Rat) * (ubn : Rat) + (r0 : Rat)) = erOf (some (ufn + 2 * ubn + r0)) := by
  refine congrArg ER.fin ?_
  push_cast
  rfl

theorem fin_col1_cast (x ubn ufn r0 : Nat) :
    ER.fin ((((x : Int) + 1 : Int) : Rat) * (ubn : Rat) + (((x : Int) * ((x : Int) + 1) : Int) : Rat) / 2 * (ufn : Rat)
      + (((x : Int) : Int) : Rat) * (r0 : Rat)) = erOf (some ((x + 1) * ubn + x * (x + 1) / 2 * ufn + x * r0)) := by
  refine congrArg ER.fin ?_
  rw [Nat.cast_add, Nat.cast_add, Nat.cast_mul, Nat.cast_mul, Nat.cast_mul, ← tri_cast, Nat.cast_add, Nat.cast_one,
    Int.cast_add, Int.cast_mul, Int.cast_add, Int.cast_one, Int.cast_natCast]

/-- borders, row `l = 0` -/
def step1a (ub : Nat) (p : Tab2 × Tab2) (m : Nat) : Tab2 × Tab2 :=
  (s2 p.1 0 m (some ub), s2 p.2 0 m (some ub))

/-- borders, row `l = 1` -/
def step1b (lmax w0 r0 ub uf k : Nat) (p : Tab2 × Tab2) (m : Nat) : Tab2 × Tab2 :=
  if (m = 0 ∧ k = 0) ∨ lmax < 1 then p else
  let v := uf + 2 * ub + r0
  (s2 p.1 1 m (some v), s2 p.2 1 m (some (w0 + v)))

theorem body1a (lmax c ubn kn : Nat) (ub : Rat) (k : Int) (hk : k = (kn : Int)) (hk1 : kn ≤ 1) (hub : ub = ubn)
    (B1 B2 : List (List ER)) (p : Tab2 × Tab2) (x : Nat) (hx : x ≤ c) (hin : InBAll lmax c p) :
    (do
      let mut opt : T3 := lvl2 kn (enc p.2) B1
      let mut optp : T3 := lvl2 kn (enc p.1) B2
      let m : Int := (x : Int)
      let set_1 := (ER.fin ub)
      let ix_2 : Int := k
      let ix_3 : Int := (0 : Int)
      let ix_4 : Int := m
      opt := (← pySetAt opt ix_2 (← pySetAt (← pyIndex opt ix_2) ix_3 (← pySetAt (← pyIndex (← pyIndex opt ix_2) ix_3) ix_4 set_1)))
      let set_5 := (ER.fin ub)
      let ix_6 : Int := k
      let ix_7 : Int := (0 : Int)
      let ix_8 : Int := m
      optp := (← pySetAt optp ix_6 (← pySetAt (← pyIndex optp ix_6) ix_7 (← pySetAt (← pyIndex (← pyIndex optp ix_6) ix_7) ix_8 set_5)))
      pure (ForInStep.yield (opt, optp)) : M (ForInStep (T3 × T3)))
    = .ok (.yield (lvl2 kn (enc (step1a ubn p x).2) B1, lvl2 kn (enc (step1a ubn p x).1) B2)) := by
  subst hub
  have hi1 := (hin 0 x (Nat.zero_le _) hx).1
  have hi2 := (hin 0 x (Nat.zero_le _) hx).2
  obtain ⟨a1, -, a3⟩ := cell_facts p.1 0 x 0 (x : Int) rfl rfl hi1
  obtain ⟨c1, -, c3⟩ := cell_facts p.2 0 x 0 (x : Int) rfl rfl hi2
  have hv := fin_cast ubn
  have l1 := fun X B => lvl2_facts kn k hk hk1 X B
  simp only [bind, Except.bind, pure, Except.pure, (l1 _ _).1, (l1 _ _).2, a1, c1, hv,
    (a3 _).1, (a3 _).2, (c3 _).1, (c3 _).2]
  rfl

theorem body1b (lmaxn c w0 r0 ubn ufn kn : Nat) (lmax : Int) (wvect rvect : List Rat) (ub uf : Rat) (w1 r1 : Rat)
    (k : Int) (hk : k = (kn : Int)) (hk1 : kn ≤ 1) (hlm : lmax = (lmaxn : Int))
    (hw : wvect = [(w0 : Rat), w1]) (hr : rvect = [(r0 : Rat), r1]) (hub : ub = ubn) (huf : uf = ufn)
    (B1 B2 : List (List ER)) (p : Tab2 × Tab2) (x : Nat) (hx : x ≤ c) (hin : InBAll lmaxn c p) :
    (do
      let mut opt : T3 := lvl2 kn (enc p.2) B1
      let mut optp : T3 := lvl2 kn (enc p.1) B2
      let m : Int := (x : Int)
      if (((m = (0 : Int)) ∧ (k = (0 : Int))) ∨ (lmax < (1 : Int))) then
        pure (ForInStep.yield (opt, optp))
      else do
        let set_9 := (ER.fin ((uf + ((((2 : Int) : Int) : Rat) * ub)) + (← pyIndex rvect (0 : Int))))
        let ix_10 : Int := k
        let ix_11 : Int := (1 : Int)
        let ix_12 : Int := m
        optp := (← pySetAt optp ix_10 (← pySetAt (← pyIndex optp ix_10) ix_11 (← pySetAt (← pyIndex (← pyIndex optp ix_10) ix_11) ix_12 set_9)))
        let set_13 := ((ER.fin (← pyIndex wvect (0 : Int))) + (← pyIndex (← pyIndex (← pyIndex optp k) (1 : Int)) m))
        let ix_14 : Int := k
        let ix_15 : Int := (1 : Int)
        let ix_16 : Int := m
        opt := (← pySetAt opt ix_14 (← pySetAt (← pyIndex opt ix_14) ix_15 (← pySetAt (← pyIndex (← pyIndex opt ix_14) ix_15) ix_16 set_13)))
        pure (ForInStep.yield (opt, optp)) : M (ForInStep (T3 × T3)))
    = .ok (.yield (lvl2 kn (enc (step1b lmaxn w0 r0 ubn ufn kn p x).2) B1,
        lvl2 kn (enc (step1b lmaxn w0 r0 ubn ufn kn p x).1) B2)) := by
  subst hw hr hub huf hlm hk
  unfold step1b
  by_cases hc : (x = 0 ∧ kn = 0) ∨ lmaxn < 1
  · have hc' : (((x : Int) = 0) ∧ ((kn : Int) = 0)) ∨ ((lmaxn : Int) < 1) := by omega
    simp only [if_pos hc, if_pos hc']
    rfl
  have hc' : ¬ ((((x : Int) = 0) ∧ ((kn : Int) = 0)) ∨ ((lmaxn : Int) < 1)) := by omega
  simp only [if_neg hc, if_neg hc']
  have hl1 : 1 ≤ lmaxn := by omega
  have hi1 := (hin 1 x hl1 hx).1
  have hi2 := (hin 1 x hl1 hx).2
  obtain ⟨a1, -, a3⟩ := cell_facts p.1 1 x 1 (x : Int) rfl rfl hi1
  obtain ⟨b1, b2, -⟩ := cell_facts (s2 p.1 1 x (some (ufn + 2 * ubn + r0))) 1 x 1 (x : Int) rfl rfl
    (InB2_s2 _ _ _ _ _ _ hi1)
  obtain ⟨c1, -, c3⟩ := cell_facts p.2 1 x 1 (x : Int) rfl rfl hi2
  rw [g2_s2_same _ _ _ _ hi1] at b2
  have hv := fin_row1_cast ufn ubn r0
  have hw : ∀ v : Nat, ER.fin (w0 : Rat) + erOf (some v) = erOf (some (w0 + v)) := fun v =>
    (erOf_oadd (some w0) (some v)).symm
  have l1 := fun X B => lvl2_facts kn (kn : Int) rfl hk1 X B
  simp only [bind, Except.bind, pure, Except.pure, pyIndex_pair0, (l1 _ _).1, (l1 _ _).2, a1, hv,
    (a3 _).1, (a3 _).2, b1, b2, c1, hw, (c3 _).1, (c3 _).2]

/-- level 0, column `m = 1` -/
def step3 (w0 r0 ub uf : Nat) (p : Tab2 × Tab2) (l : Nat) : Tab2 × Tab2 :=
  let v := (l + 1) * ub + l * (l + 1) / 2 * uf + l * r0
  (s2 p.1 l 1 (some v), s2 p.2 l 1 (some (w0 + v)))

/-- the body of the loop `for l in range(2, lmax + 1)` that fills the column `m = 1` of level 0, at `l = x`, on the
tables `opt`, `optp` -/
def col1Body (wvect rvect : List Rat) (ub uf : Rat) (opt0 optp0 : T3) (x : Nat) : M (ForInStep (T3 × T3)) := do
  let mut opt : T3 := opt0
  let mut optp : T3 := optp0
  let l : Int := (x : Int)
  let set_17 := (ER.fin ((((((l + (1 : Int)) : Int) : Rat) * ub) + ((← ratDiv (((l * (l + (1 : Int))) : Int) : Rat) (((2 : Int) : Int) : Rat)) * uf)) + (((l : Int) : Rat) * (← pyIndex rvect (0 : Int)))))
  let ix_18 : Int := (0 : Int)
  let ix_19 : Int := l
  let ix_20 : Int := (1 : Int)
  optp := (← pySetAt optp ix_18 (← pySetAt (← pyIndex optp ix_18) ix_19 (← pySetAt (← pyIndex (← pyIndex optp ix_18) ix_19) ix_20 set_17)))
  let set_21 := ((ER.fin (← pyIndex wvect (0 : Int))) + (← pyIndex (← pyIndex (← pyIndex optp (0 : Int)) l) (1 : Int)))
  let ix_22 : Int := (0 : Int)
  let ix_23 : Int := l
  let ix_24 : Int := (1 : Int)
  opt := (← pySetAt opt ix_22 (← pySetAt (← pyIndex opt ix_22) ix_23 (← pySetAt (← pyIndex (← pyIndex opt ix_22) ix_23) ix_24 set_21)))
  pure (ForInStep.yield (opt, optp))

theorem body3 (lmax c0 w0 r0 ubn ufn : Nat) (wvect rvect : List Rat) (ub uf : Rat) (w1 r1 : Rat)
    (hw : wvect = [(w0 : Rat), w1]) (hr : rvect = [(r0 : Rat), r1]) (hub : ub = ubn) (huf : uf = ufn)
    (B1 B2 : List (List ER)) (p : Tab2 × Tab2) (x : Nat) (hx : x ≤ lmax) (hc0 : 1 ≤ c0)
    (hin : InBAll lmax c0 p) :
    col1Body wvect rvect ub uf [enc p.2, B1] [enc p.1, B2] x
    = .ok (.yield ([enc (step3 w0 r0 ubn ufn p x).2, B1], [enc (step3 w0 r0 ubn ufn p x).1, B2])) := by
  subst hw hr hub huf
  unfold col1Body
  have hi1 := (hin x 1 hx hc0).1
  have hi2 := (hin x 1 hx hc0).2
  obtain ⟨a1, -, a3⟩ := cell_facts p.1 x 1 (x : Int) 1 rfl rfl hi1
  obtain ⟨b1, b2, -⟩ := cell_facts (s2 p.1 x 1 (some ((x + 1) * ubn + x * (x + 1) / 2 * ufn + x * r0))) x 1
    (x : Int) 1 rfl rfl (InB2_s2 _ _ _ _ _ _ hi1)
  obtain ⟨c1, -, c3⟩ := cell_facts p.2 x 1 (x : Int) 1 rfl rfl hi2
  rw [g2_s2_same _ _ _ _ hi1] at b2
  have hv := fin_col1_cast x ubn ufn r0
  have hw : ∀ v : Nat, ER.fin (w0 : Rat) + erOf (some v) = erOf (some (w0 + v)) := fun v =>
    (erOf_oadd (some w0) (some v)).symm
  simp only [bind, Except.bind, pure, Except.pure, pyIndex_pair0, pySetAt_pair0, ratDiv_two, a1, hv,
    (a3 _).1, (a3 _).2, b1, b2, c1, hw, (c3 _).1, (c3 _).2]
  rfl

/-- level 0, columns `m ≥ 2` -/
def step4 (w0 r0 uf m : Nat) (p : Tab2 × Tab2) (l : Nat) : Tab2 × Tab2 :=
  let cands := (List.range' 1 (l - 1)).map (fun j =>
    oadd (oadd (oadd (some (j * uf)) (g2 p.2 (l - j) (m - 1))) (some r0)) (g2 p.1 (j - 1) m))
  let v := ominList (cands ++ [g2 p.1 l 1])
  (s2 p.1 l m v, s2 p.2 l m (oadd (some w0) v))

theorem fin_mul_cast (j uf : Nat) : ER.fin ((((j : Int) : Int) : Rat) * (uf : Rat)) = erOf (some (j * uf)) := by
  show ER.fin _ = ER.fin _
  congr 1
  push_cast
  rfl

theorem body4 (lmax c0 w0 r0 ufn : Nat) (wvect rvect : List Rat) (uf : Rat) (w1 r1 : Rat)
    (hw : wvect = [(w0 : Rat), w1]) (hr : rvect = [(r0 : Rat), r1]) (huf : uf = ufn)
    (B1 B2 : List (List ER)) (p : Tab2 × Tab2) (x y : Nat) (hx : x ≤ lmax) (hy2 : 2 ≤ y) (hy : y ≤ c0)
    (hin : InBAll lmax c0 p) :
    (do
      let mut opt : T3 := lvl2 0 (enc p.2) B1
      let mut optp : T3 := lvl2 0 (enc p.1) B2
      let l : Int := (x : Int)
      let m : Int := (y : Int)
      let set_25 := (← pyMin ((← (pyRange (1 : Int) l).mapM (fun j => do pure ((((ER.fin (((j : Int) : Rat) * uf)) + (← pyIndex (← pyIndex (← pyIndex opt (0 : Int)) (l - j)) (m - (1 : Int)))) + (ER.fin (← pyIndex rvect (0 : Int)))) + (← pyIndex (← pyIndex (← pyIndex optp (0 : Int)) (j - (1 : Int))) m)))) ++ [(← pyIndex (← pyIndex (← pyIndex optp (0 : Int)) l) (1 : Int))]))
      let ix_26 : Int := (0 : Int)
      let ix_27 : Int := l
      let ix_28 : Int := m
      optp := (← pySetAt optp ix_26 (← pySetAt (← pyIndex optp ix_26) ix_27 (← pySetAt (← pyIndex (← pyIndex optp ix_26) ix_27) ix_28 set_25)))
      let set_29 := ((ER.fin (← pyIndex wvect (0 : Int))) + (← pyIndex (← pyIndex (← pyIndex optp (0 : Int)) l) m))
      let ix_30 : Int := (0 : Int)
      let ix_31 : Int := l
      let ix_32 : Int := m
      opt := (← pySetAt opt ix_30 (← pySetAt (← pyIndex opt ix_30) ix_31 (← pySetAt (← pyIndex (← pyIndex opt ix_30) ix_31) ix_32 set_29)))
      pure (ForInStep.yield (opt, optp)) : M (ForInStep (T3 × T3)))
    = .ok (.yield (lvl2 0 (enc (step4 w0 r0 ufn y p x).2) B1, lvl2 0 (enc (step4 w0 r0 ufn y p x).1) B2)) := by
  subst hw hr huf
  have e0 : ∀ X B, lvl2 0 X B = [X, B] := fun _ _ => rfl
  simp only [e0, bind, Except.bind, pure, Except.pure, pyIndex_pair0, pySetAt_pair0]
  rw [pyRange_one x,
    mapM_range_ok _ (fun j => erOf (oadd (oadd (oadd (some (j * ufn)) (g2 p.2 (x - j) (y - 1))) (some r0))
      (g2 p.1 (j - 1) y))) 1 (x - 1)]
  swap
  · intro j hj1 hj2
    have hjx : j < x := by omega
    obtain ⟨a1, a2, -⟩ := cell_facts p.2 (x - j) (y - 1) ((x : Int) - (j : Int)) ((y : Int) - 1)
      (Nat.cast_sub hjx.le).symm (Nat.cast_pred (Nat.lt_of_lt_of_le Nat.zero_lt_two hy2)).symm
      (hin (x - j) (y - 1) ((Nat.sub_le x j).trans hx) ((Nat.sub_le y 1).trans hy)).2
    obtain ⟨b1, b2, -⟩ := cell_facts p.1 (j - 1) y ((j : Int) - 1) (y : Int) (Nat.cast_pred hj1).symm rfl
      (hin (j - 1) y ((Nat.sub_le j 1).trans (hjx.le.trans hx)) hy).1
    simp only [a1, a2, b1, b2, erOf_oadd, fin_mul_cast, fin_cast]
  have hi1 := (hin x 1 hx (by omega)).1
  have hiy1 := (hin x y hx hy).1
  have hiy2 := (hin x y hx hy).2
  obtain ⟨a1, a2, -⟩ := cell_facts p.1 x 1 (x : Int) 1 rfl rfl hi1
  obtain ⟨-, -, a3⟩ := cell_facts p.1 x y (x : Int) (y : Int) rfl rfl hiy1
  obtain ⟨c1, -, c3⟩ := cell_facts p.2 x y (x : Int) (y : Int) rfl rfl hiy2
  have hl : ∀ (cand : Nat → Option Nat) (v : Option Nat),
      List.map (fun j => erOf (cand j)) (List.range' 1 (x - 1)) ++ [erOf v] =
        ((List.range' 1 (x - 1)).map cand ++ [v]).map erOf := by
    intro cand v
    rw [List.map_append, List.map_map]
    rfl
  have hw : ∀ v : Option Nat, ER.fin (w0 : Rat) + erOf v = erOf (oadd (some w0) v) := fun v =>
    (erOf_oadd (some w0) v).symm
  simp only [a1, a2, hl, pyMin_erOf _ (List.append_ne_nil_of_right_ne_nil _ (List.cons_ne_nil _ _)), (a3 _).1, (a3 _).2]
  obtain ⟨b1, b2, -⟩ := cell_facts (step4 w0 r0 ufn y p x).1 x y (x : Int) (y : Int) rfl rfl (InB2_s2 _ _ _ _ _ _ hiy1)
  have hg : g2 (step4 w0 r0 ufn y p x).1 x y = _ := g2_s2_same _ _ _ _ hiy1
  rw [hg] at b2
  simp only [step4] at b1 b2
  simp only [b1, b2, c1, hw, (c3 _).1, (c3 _).2]
  rfl

/-- `T[k-1]`, `T[k]`, `T[k] = X` for `k = 1` -/
theorem one_facts (k : Int) (hk : k = ((1 : Nat) : Int)) :
    (∀ {α : Type} (a b : α), pyIndex [a, b] (k - 1) = .ok a) ∧ (∀ {α : Type} (a b : α), pyIndex [a, b] k = .ok b) ∧
      (∀ {α : Type} (a b x : α), pySetAt [a, b] k x = .ok [a, x]) := by
  subst hk
  exact ⟨fun _ _ => rfl, fun _ _ => rfl, fun _ _ _ => rfl⟩

theorem body5a (c0 c1 : Nat) (cvect : List Int) (k : Int) (hk : k = ((1 : Nat) : Int))
    (hcv : cvect = [(c0 : Int), (c1 : Int)]) (o0 t : Tab2) (x : Nat)
    (hin0 : InB2 o0 x c0) (hin : InB2 t x 0) :
    (do
      let mut opt : T3 := [enc o0, enc t]
      let l : Int := (x : Int)
      let set_33 := (← pyIndex (← pyIndex (← pyIndex opt (k - (1 : Int))) l) (← pyIndex cvect (k - (1 : Int))))
      let ix_34 : Int := k
      let ix_35 : Int := l
      let ix_36 : Int := (0 : Int)
      opt := (← pySetAt opt ix_34 (← pySetAt (← pyIndex opt ix_34) ix_35 (← pySetAt (← pyIndex (← pyIndex opt ix_34) ix_35) ix_36 set_33)))
      pure (ForInStep.yield opt) : M (ForInStep T3))
    = .ok (.yield [enc o0, enc (s2 t x 0 (g2 o0 x c0))]) := by
  subst hcv
  obtain ⟨k1, k2, k3⟩ := one_facts k hk
  obtain ⟨a1, a2, -⟩ := cell_facts o0 x c0 (x : Int) (c0 : Int) rfl rfl hin0
  obtain ⟨c1, -, c3⟩ := cell_facts t x 0 (x : Int) 0 rfl rfl hin
  simp only [bind, Except.bind, pure, Except.pure, k1, k2, k3, a1, a2, c1, (c3 _).1, (c3 _).2]

theorem body5b (lmax c0 c1 w0 w1 r0 r1 ufn : Nat) (cvect : List Int) (wvect rvect : List Rat) (uf : Rat) (k : Int)
    (hk : k = ((1 : Nat) : Int)) (hcv : cvect = [(c0 : Int), (c1 : Int)])
    (hw : wvect = [(w0 : Rat), (w1 : Rat)]) (hr : rvect = [(r0 : Rat), (r1 : Rat)]) (huf : uf = ufn)
    (o0 : Tab2) (B2 : List (List ER)) (p : Tab2 × Tab2) (x y : Nat) (hx : x ≤ lmax) (hy1 : 1 ≤ y) (hy : y ≤ c1)
    (hin0 : InB2 o0 x c0) (hin : InBAll lmax c1 p) :
    (do
      let mut opt : T3 := lvl2 1 (enc p.2) (enc o0)
      let mut optp : T3 := lvl2 1 (enc p.1) B2
      let l : Int := (x : Int)
      let m : Int := (y : Int)
      let set_37 := (← pyMin ([(← pyIndex (← pyIndex (← pyIndex opt (k - (1 : Int))) l) (← pyIndex cvect (k - (1 : Int))))] ++ (← (pyRange (1 : Int) l).mapM (fun j => do pure ((((ER.fin (((j : Int) : Rat) * uf)) + (← pyIndex (← pyIndex (← pyIndex opt k) (l - j)) (m - (1 : Int)))) + (ER.fin (← pyIndex rvect k))) + (← pyIndex (← pyIndex (← pyIndex optp k) (j - (1 : Int))) m))))))
      let ix_38 : Int := k
      let ix_39 : Int := l
      let ix_40 : Int := m
      optp := (← pySetAt optp ix_38 (← pySetAt (← pyIndex optp ix_38) ix_39 (← pySetAt (← pyIndex (← pyIndex optp ix_38) ix_39) ix_40 set_37)))
      let set_41 := (min (← pyIndex (← pyIndex (← pyIndex opt (k - (1 : Int))) l) (← pyIndex cvect (k - (1 : Int)))) ((ER.fin (← pyIndex wvect k)) + (← pyIndex (← pyIndex (← pyIndex optp k) l) m)))
      let ix_42 : Int := k
      let ix_43 : Int := l
      let ix_44 : Int := m
      opt := (← pySetAt opt ix_42 (← pySetAt (← pyIndex opt ix_42) ix_43 (← pySetAt (← pyIndex (← pyIndex opt ix_42) ix_43) ix_44 set_41)))
      pure (ForInStep.yield (opt, optp)) : M (ForInStep (T3 × T3)))
    = .ok (.yield (lvl2 1 (enc (h1Step c0 w1 r1 ufn o0 p y x).2) (enc o0),
        lvl2 1 (enc (h1Step c0 w1 r1 ufn o0 p y x).1) B2)) := by
  subst hcv hw hr huf
  obtain ⟨k1, k2, k3⟩ := one_facts k hk
  have e1 : ∀ X B, lvl2 1 X B = [B, X] := fun _ _ => rfl
  obtain ⟨z1, z2, -⟩ := cell_facts o0 x c0 (x : Int) (c0 : Int) rfl rfl hin0
  simp only [e1, bind, Except.bind, pure, Except.pure, k1, k2, k3, z1, z2]
  rw [pyRange_one x,
    mapM_range_ok _ (fun j => erOf (oadd (oadd (oadd (some (j * ufn)) (g2 p.2 (x - j) (y - 1))) (some r1))
      (g2 p.1 (j - 1) y))) 1 (x - 1)]
  swap
  · intro j hj1 hj2
    have hjx : j < x := by omega
    obtain ⟨a1, a2, -⟩ := cell_facts p.2 (x - j) (y - 1) ((x : Int) - (j : Int)) ((y : Int) - 1)
      (Nat.cast_sub hjx.le).symm (Nat.cast_pred hy1).symm
      (hin (x - j) (y - 1) ((Nat.sub_le x j).trans hx) ((Nat.sub_le y 1).trans hy)).2
    obtain ⟨b1, b2, -⟩ := cell_facts p.1 (j - 1) y ((j : Int) - 1) (y : Int) (Nat.cast_pred hj1).symm rfl
      (hin (j - 1) y ((Nat.sub_le j 1).trans (hjx.le.trans hx)) hy).1
    simp only [a1, a2, b1, b2, erOf_oadd, fin_mul_cast, fin_cast]
  have hiy1 := (hin x y hx hy).1
  have hiy2 := (hin x y hx hy).2
  obtain ⟨a1, -, a3⟩ := cell_facts p.1 x y (x : Int) (y : Int) rfl rfl hiy1
  obtain ⟨c1, -, c3⟩ := cell_facts p.2 x y (x : Int) (y : Int) rfl rfl hiy2
  have hl : ∀ (cand : Nat → Option Nat) (v : Option Nat),
      [erOf v] ++ List.map (fun j => erOf (cand j)) (List.range' 1 (x - 1)) =
        ([v] ++ (List.range' 1 (x - 1)).map cand).map erOf := by
    intro cand v
    rw [List.map_append, List.map_map]
    rfl
  have hw : ∀ v : Option Nat, ER.fin (w1 : Rat) + erOf v = erOf (oadd (some w1) v) := fun v =>
    (erOf_oadd (some w1) v).symm
  simp only [hl, pyMin_erOf _ (List.append_ne_nil_of_left_ne_nil (List.cons_ne_nil _ _) _), a1, (a3 _).1, (a3 _).2]
  obtain ⟨b1, b2, -⟩ := cell_facts (h1Step c0 w1 r1 ufn o0 p y x).1 x y (x : Int) (y : Int) rfl rfl
    (InB2_s2 _ _ _ _ _ _ hiy1)
  have hg : g2 (h1Step c0 w1 r1 ufn o0 p y x).1 x y = _ := g2_s2_same _ _ _ _ hiy1
  rw [hg] at b2
  simp only [h1Step, h1Val, h1Cands] at b1 b2
  simp only [b1, b2, c1, hw, ← erOf_omin, (c3 _).1, (c3 _).2]
  rfl

/-! ## the main simulation -/

theorem enc_hBlank (lmax c : Nat) :
    enc (hBlank lmax c) = List.replicate (lmax + 1) (List.replicate (c + 1) ER.inf) := by
  simp [enc, encRow, hBlank, erOf]

theorem init_ok (lmax c0 c1 : Nat) :
    List.mapM (fun i => List.mapM (fun _ => do
        pure (List.replicate (((← pyIndex [(c0 : Int), (c1 : Int)] i) + (1 : Int))).toNat ER.inf))
        (pyRange (0 : Int) ((lmax : Int) + 1))) (pyRange 0 (([(c0 : Int), (c1 : Int)].length : Nat) : Int))
      = .ok [enc (hBlank lmax c0), enc (hBlank lmax c1)] := by
  have e : pyRange 0 (([(c0 : Int), (c1 : Int)].length : Nat) : Int) = [0, 1] := rfl
  rw [e, List.mapM_cons, List.mapM_cons, List.mapM_nil]
  have hrow : ∀ c : Nat, List.mapM (fun _ => (Except.ok (List.replicate ((c : Int) + 1).toNat ER.inf) : M (List ER)))
      (pyRange (0 : Int) ((lmax : Int) + 1)) = .ok (enc (hBlank lmax c)) := by
    intro c
    rw [mapM_ok _ (fun _ => List.replicate ((c : Int) + 1).toNat ER.inf) _ (fun _ _ => rfl), enc_hBlank]
    have e1 : ((c : Int) + 1).toNat = c + 1 := by omega
    have e2 : (pyRange (0 : Int) ((lmax : Int) + 1)).length = lmax + 1 := by
      unfold pyRange; simp
    rw [e1, List.map_const', e2]
  simp only [bind, Except.bind, pure, Except.pure, pyIndex_pair0, pyIndex_pair1, hrow]

theorem ok_bind {α β : Type} (a : α) (f : α → M β) : ((Except.ok a : M α) >>= f) = f a := rfl

/-- the state of the generated loops: `(opt, optp)` with the model's pair `(optp_k, opt_k)` at level `k` -/
def R2 (k : Nat) (B1 B2 : List (List ER)) (p : Tab2 × Tab2) : T3 × T3 :=
  (lvl2 k (enc p.2) B1, lvl2 k (enc p.1) B2)

theorem InBAll_s2 (lmax c : Nat) (p : Tab2 × Tab2) (hin : InBAll lmax c p) (a b a' b' : Nat) (v v' : Option Nat) :
    InBAll lmax c (s2 p.1 a b v, s2 p.2 a' b' v') :=
  fun l m h1 h2 => ⟨InB2_s2 _ _ _ _ _ _ (hin l m h1 h2).1, InB2_s2 _ _ _ _ _ _ (hin l m h1 h2).2⟩

theorem InBAll_hBlank (lmax c : Nat) : InBAll lmax c (hBlank lmax c, hBlank lmax c) :=
  fun l m h1 h2 => ⟨InB2_hBlank lmax c l m h1 h2, InB2_hBlank lmax c l m h1 h2⟩

theorem InBAll_step1b (lmax c w0 r0 ub uf k : Nat) (p : Tab2 × Tab2) (hin : InBAll lmax c p) (m : Nat) :
    InBAll lmax c (step1b lmax w0 r0 ub uf k p m) := by
  unfold step1b
  split
  · exact hin
  · exact InBAll_s2 lmax c p hin _ _ _ _ _ _

/-- what `get_hopt_table` returns on the domain on which it does not raise: the model's four tables -/
def hoptResult (lmax c0 c1 w0 w1 r0 r1 ub uf : Nat) : T3 × T3 :=
  ([enc (hLevel0 lmax c0 w0 r0 ub uf).1,
    enc (hLevel1 lmax c0 c1 w1 r1 uf (hLevel0 lmax c0 w0 r0 ub uf).2
      (hBorder lmax w0 r0 ub uf 1 c1 (hBlank lmax c1) (hBlank lmax c1))).1],
   [enc (hLevel0 lmax c0 w0 r0 ub uf).2,
    enc (hLevel1 lmax c0 c1 w1 r1 uf (hLevel0 lmax c0 w0 r0 ub uf).2
      (hBorder lmax w0 r0 ub uf 1 c1 (hBlank lmax c1) (hBlank lmax c1))).2])

theorem hBorder_shape (lmax w0 r0 ub uf k c : Nat) :
    RC.Shape lmax c (hBorder lmax w0 r0 ub uf k c (hBlank lmax c) (hBlank lmax c)).1 := by
  unfold hBorder
  apply foldl_inv (fun p : Tab2 × Tab2 => RC.Shape lmax c p.1)
  · intro s m _ hs
    show RC.Shape lmax c (if (m = 0 ∧ k = 0) ∨ lmax < 1 then s else _).1
    split
    · exact hs
    · exact RC.Shape.s2 hs _ _ _
  · apply foldl_inv (fun p : Tab2 × Tab2 => RC.Shape lmax c p.1)
    · intro s m _ hs
      exact RC.Shape.s2 hs _ _ _
    · exact RC.hBlank_shape lmax c

theorem forIn_cons_bind_error {σ β : Type} (x : Int) (xs : List Int) (s : σ) (body : Int → σ → M (ForInStep σ))
    (f : σ → M β) (e : PyErr) (h : body x s = .error e) : (forIn (x :: xs) s body >>= f) = .error e := by
  rw [List.forIn_cons, h]; rfl

/-- `c0 = 0`: `optp[0][l][1] = …` is out of range -/
theorem body3_fail (lmax w0 r0 ubn ufn : Nat) (wvect rvect : List Rat) (ub uf : Rat) (w1 r1 : Rat)
    (hw : wvect = [(w0 : Rat), w1]) (hr : rvect = [(r0 : Rat), r1]) (hub : ub = ubn) (huf : uf = ufn)
    (B1 B2 : List (List ER)) (p : Tab2 × Tab2) (x : Nat) (hx : x ≤ lmax)
    (hin : InBAll lmax 0 p) (hs : RC.Shape lmax 0 p.1) :
    col1Body wvect rvect ub uf [enc p.2, B1] [enc p.1, B2] x
    = .error .indexError := by
  subst hw hr hub huf
  unfold col1Body
  have hi1 := (hin x 0 hx (le_refl _)).1
  obtain ⟨a1, -, -⟩ := cell_facts p.1 x 0 (x : Int) 0 rfl rfl hi1
  obtain ⟨row, hr, -⟩ := hi1
  have hsz : (rw2 p.1 x).size = 1 := by rw [rw2_of _ _ _ hr]; exact hs.2 x row hr
  have a2 : ∀ v, pySetAt (encRow (rw2 p.1 x)) (1 : Int) v = .error .indexError := fun v =>
    pySetAt_oob _ 1 v (by unfold encRow; simp [hsz])
  simp only [bind, Except.bind, pyIndex_pair0, ratDiv_two, a1, a2]

theorem le_of_lt_two_add {x n : Nat} (h : x < 2 + (n - 1)) (h2 : 2 ≤ x) : x ≤ n := by omega

theorem le_of_lt_one_add {x n : Nat} (h : x < 1 + n) : x ≤ n := by omega

theorem bind_eq_of_ok {α β : Type} {x : M α} {f : α → M β} {r : M β} (a : α) (hx : x = .ok a) (hf : f a = r) :
    (x >>= f) = r := by
  subst hx; exact hf

theorem forIn_single {σ : Type} (x : Int) (s0 s1 : σ) (body : Int → σ → M (ForInStep σ))
    (h : body x s0 = .ok (.yield s1)) : forIn [x] s0 body = .ok s1 := by
  rw [List.forIn_cons, h, ok_bind]
  rfl

theorem forIn_pair {σ : Type} (x y : Int) (s0 s1 s2 : σ) (body : Int → σ → M (ForInStep σ))
    (h1 : body x s0 = .ok (.yield s1)) (h2 : body y s1 = .ok (.yield s2)) : forIn [x, y] s0 body = .ok s2 := by
  rw [List.forIn_cons, h1, ok_bind]
  exact forIn_single y s1 s2 body h2

theorem InBAll_row0 (lmax c ub : Nat) :
    InBAll lmax c (List.foldl (step1a ub) (hBlank lmax c, hBlank lmax c) (List.range' 0 (c + 1))) :=
  foldl_inv (InBAll lmax c) _ _ (fun s _ _ hs => InBAll_s2 lmax c s hs _ _ _ _ _ _) _ (InBAll_hBlank lmax c)

theorem hBorder_foldl (lmax w0 r0 ub uf k c : Nat) :
    List.foldl (step1b lmax w0 r0 ub uf k)
        (List.foldl (step1a ub) (hBlank lmax c, hBlank lmax c) (List.range' 0 (c + 1))) (List.range' 0 (c + 1))
      = hBorder lmax w0 r0 ub uf k c (hBlank lmax c) (hBlank lmax c) := by
  unfold hBorder; rw [List.range_eq_range']; rfl

theorem InBAll_hBorder (lmax w0 r0 ub uf k c : Nat) :
    InBAll lmax c (hBorder lmax w0 r0 ub uf k c (hBlank lmax c) (hBlank lmax c)) := by
  rw [← hBorder_foldl]
  exact foldl_inv (InBAll lmax c) _ _ (fun s m _ hs => InBAll_step1b lmax c w0 r0 ub uf k s hs m) _
    (InBAll_row0 lmax c ub)

theorem hLevel0_foldl (lmax c0 w0 r0 ub uf : Nat) :
    List.foldl (fun p m => (List.range' 2 (lmax - 1)).foldl (step4 w0 r0 uf m) p)
        (List.foldl (step3 w0 r0 ub uf) (hBorder lmax w0 r0 ub uf 0 c0 (hBlank lmax c0) (hBlank lmax c0))
          (List.range' 2 (lmax - 1))) (List.range' 2 (c0 - 1))
      = hLevel0 lmax c0 w0 r0 ub uf := rfl

theorem InBAll_hLevel0 (lmax c0 w0 r0 ub uf : Nat) : InBAll lmax c0 (hLevel0 lmax c0 w0 r0 ub uf) := by
  rw [← hLevel0_foldl]
  have hs : ∀ (g : Tab2 × Tab2 → Nat → Tab2 × Tab2) (_ : ∀ s l, InBAll lmax c0 s → InBAll lmax c0 (g s l))
      (p : Tab2 × Tab2), InBAll lmax c0 p → InBAll lmax c0 (List.foldl g p (List.range' 2 (lmax - 1))) :=
    fun g hg p hp => foldl_inv (InBAll lmax c0) _ _ (fun s l _ hs => hg s l hs) _ hp
  exact foldl_inv (InBAll lmax c0) _ _
    (fun s m _ h => hs (step4 w0 r0 uf m) (fun s l h => InBAll_s2 lmax c0 s h _ _ _ _ _ _) s h) _
    (hs (step3 w0 r0 ub uf) (fun s l h => InBAll_s2 lmax c0 s h _ _ _ _ _ _) _ (InBAll_hBorder lmax w0 r0 ub uf 0 c0))

/-- a `for` loop followed by the rest of the program: the loop is replaced by the model's fold in one step -/
theorem forIn_range_bind {σ τ β : Type} (R : τ → σ) (g : τ → Nat → τ) (Q : Nat → τ → Prop)
    (k a : Nat) (t0 : τ) (l : List Int) (init : σ) (body : Int → σ → M (ForInStep σ)) (f : σ → M β)
    (hl : l = (List.range' a k).map (fun k : Nat => (k : Int))) (hi : init = R t0) (h0 : Q a t0)
    (h : ∀ x t, a ≤ x → x < a + k → Q x t →
        body (x : Int) (R t) = .ok (.yield (R (g t x))) ∧ Q (x + 1) (g t x)) :
    (forIn l init body >>= f) = f (R ((List.range' a k).foldl g t0)) := by
  rw [forIn_range_sim' R g Q k a t0 l init body hl hi h0 h, ok_bind]

theorem hopt_run (lmax c0 c1 w0 w1 r0 r1 ub uf : Nat) :
    get_hopt_table lmax [c0, c1] [(w0 : Rat), (w1 : Rat)] [(r0 : Rat), (r1 : Rat)] ub uf =
      if 1 ≤ c0 ∨ lmax ≤ 1 then .ok (hoptResult lmax c0 c1 w0 w1 r0 r1 ub uf) else .error .indexError := by
  have hK : ¬ ¬ ((([(w0 : Rat), (w1 : Rat)].length : Nat) : Int) = (([(r0 : Rat), (r1 : Rat)].length : Nat) : Int) ∧
      (([(r0 : Rat), (r1 : Rat)].length : Nat) : Int) = (([(c0 : Int), (c1 : Int)].length : Nat) : Int)) :=
    fun h => h ⟨rfl, rfl⟩
  obtain ⟨z, hz⟩ : ∃ z : Int, z = ((0 : Nat) : Int) := ⟨_, rfl⟩
  obtain ⟨o, ho⟩ : ∃ o : Int, o = ((1 : Nat) : Int) := ⟨_, rfl⟩
  have eK : pyRange 0 (([(c0 : Int), (c1 : Int)].length : Nat) : Int) = [z, o] := by rw [hz, ho]; rfl
  have e5 : pyRange 1 (([(c0 : Int), (c1 : Int)].length : Nat) : Int) = [o] := by rw [ho]; rfl
  have hcz : pyIndex [(c0 : Int), (c1 : Int)] z = .ok (c0 : Int) := by rw [hz]; rfl
  have hco : pyIndex [(c0 : Int), (c1 : Int)] o = .ok (c1 : Int) := by rw [ho]; rfl
  obtain ⟨b0, hb0⟩ : ∃ b, b = hBorder lmax w0 r0 ub uf 0 c0 (hBlank lmax c0) (hBlank lmax c0) := ⟨_, rfl⟩
  obtain ⟨b1, hb1⟩ : ∃ b, b = hBorder lmax w0 r0 ub uf 1 c1 (hBlank lmax c1) (hBlank lmax c1) := ⟨_, rfl⟩
  have hq2 : InBAll lmax c0 b0 := hb0 ▸ InBAll_hBorder lmax w0 r0 ub uf 0 c0
  have hs0 : RC.Shape lmax c0 b0.1 := hb0 ▸ hBorder_shape lmax w0 r0 ub uf 0 c0
  have hq3 : InBAll lmax c1 b1 := hb1 ▸ InBAll_hBorder lmax w0 r0 ub uf 1 c1
  obtain ⟨L0, hL0⟩ : ∃ L, L = hLevel0 lmax c0 w0 r0 ub uf := ⟨_, rfl⟩
  have hq5 : InBAll lmax c0 L0 := hL0 ▸ InBAll_hLevel0 lmax c0 w0 r0 ub uf
  unfold hoptResult
  rw [← hb1, ← hL0]
  unfold get_hopt_table
  rw [if_neg hK]
  clear hK
  dsimp only
  rw [init_ok, ok_bind, ok_bind, eK]
  -- the loop over `k` fills the rows `l = 0, 1` of both levels; what follows it is set aside meanwhile
  apply bind_eq_of_ok (a := R2 0 (enc b1.2) (enc b1.1) b0)
  · refine forIn_pair z o _ (R2 1 (enc b0.2) (enc b0.1) (hBlank lmax c1, hBlank lmax c1)) _ _ ?_ ?_
    · -- k = 0: row 0, then row 1
      rw [hcz, ok_bind, forIn_range_bind (R2 0 (enc (hBlank lmax c1)) (enc (hBlank lmax c1))) (step1a ub)
        (fun _ t => InBAll lmax c0 t) (c0 + 1) 0 (hBlank lmax c0, hBlank lmax c0) _ _ _ _
        (pyRange_eq 0 (c0 + 1) _ _ (by simp) (by push_cast; ring)) (by rfl) (InBAll_hBlank lmax c0)]
      swap
      · intro x t _ hx hq
        exact ⟨body1a lmax c0 ub 0 ub z hz (by omega) rfl _ _ t x (by omega) hq, InBAll_s2 lmax c0 t hq _ _ _ _ _ _⟩
      rw [forIn_range_bind (R2 0 (enc (hBlank lmax c1)) (enc (hBlank lmax c1))) (step1b lmax w0 r0 ub uf 0)
        (fun _ t => InBAll lmax c0 t) (c0 + 1) 0 _ _ _ _ _
        (pyRange_eq 0 (c0 + 1) _ _ (by simp) (by push_cast; ring)) rfl (InBAll_row0 lmax c0 ub)]
      swap
      · intro x t _ hx hq
        exact ⟨body1b lmax c0 w0 r0 ub uf 0 lmax _ _ ub uf w1 r1 z hz (by omega) rfl rfl rfl rfl rfl _ _ t x (by omega) hq,
          InBAll_step1b lmax c0 w0 r0 ub uf 0 t hq x⟩
      rw [hBorder_foldl, ← hb0]
      rfl
    · -- k = 1
      rw [hco, ok_bind, forIn_range_bind (R2 1 (enc b0.2) (enc b0.1)) (step1a ub)
        (fun _ t => InBAll lmax c1 t) (c1 + 1) 0 (hBlank lmax c1, hBlank lmax c1) _ _ _ _
        (pyRange_eq 0 (c1 + 1) _ _ (by simp) (by push_cast; ring)) (by rfl) (InBAll_hBlank lmax c1)]
      swap
      · intro x t _ hx hq
        exact ⟨body1a lmax c1 ub 1 ub o ho (by omega) rfl _ _ t x (by omega) hq, InBAll_s2 lmax c1 t hq _ _ _ _ _ _⟩
      rw [forIn_range_bind (R2 1 (enc b0.2) (enc b0.1)) (step1b lmax w0 r0 ub uf 1)
        (fun _ t => InBAll lmax c1 t) (c1 + 1) 0 _ _ _ _ _
        (pyRange_eq 0 (c1 + 1) _ _ (by simp) (by push_cast; ring)) rfl (InBAll_row0 lmax c1 ub)]
      swap
      · intro x t _ hx hq
        exact ⟨body1b lmax c1 w0 r0 ub uf 1 lmax _ _ ub uf w1 r1 o ho (by omega) rfl rfl rfl rfl rfl _ _ t x (by omega) hq,
          InBAll_step1b lmax c1 w0 r0 ub uf 1 t hq x⟩
      rw [hBorder_foldl, ← hb1]
      rfl
  rw [pyIndex_pair0 (c0 : Int) (c1 : Int), ok_bind]
  by_cases h : 1 ≤ c0 ∨ lmax ≤ 1
  swap
  · -- `c0 = 0`, `lmax ≥ 2`: the first write of the `m = 1` column fails
    have hc0 : c0 = 0 := by omega
    subst hc0
    refine Eq.trans ?_ (if_neg h).symm
    rw [pyRange_cons 2 ((lmax : Int) + 1) (by omega)]
    exact forIn_cons_bind_error _ _ _ _ _ _
      (body3_fail lmax w0 r0 ub uf _ _ ub uf w1 r1 rfl rfl rfl rfl (enc b1.2) (enc b1.1) b0 2 (by omega) hq2 hs0)
  refine Eq.trans ?_ (if_pos h).symm
  -- level 0, m = 1
  rw [forIn_range_bind (R2 0 (enc b1.2) (enc b1.1)) (step3 w0 r0 ub uf)
    (fun _ t => InBAll lmax c0 t) (lmax - 1) 2 b0 _ _ _ _
    (pyRange_two lmax) rfl hq2]
  swap
  · intro x t hx1 hx2 hq
    exact ⟨body3 lmax c0 w0 r0 ub uf _ _ ub uf w1 r1 rfl rfl rfl rfl _ _ t x (le_of_lt_two_add hx2 hx1) (by omega) hq,
      InBAll_s2 lmax c0 t hq _ _ _ _ _ _⟩
  have hq4 : InBAll lmax c0 (List.foldl (step3 w0 r0 ub uf) b0 (List.range' 2 (lmax - 1))) :=
    foldl_inv (InBAll lmax c0) _ _ (fun s m _ hs => InBAll_s2 lmax c0 s hs _ _ _ _ _ _) _ hq2
  -- level 0, m ≥ 2
  rw [forIn_range_bind (R2 0 (enc b1.2) (enc b1.1))
    (fun p m => (List.range' 2 (lmax - 1)).foldl (step4 w0 r0 uf m) p)
    (fun _ t => InBAll lmax c0 t) (c0 - 1) 2 _ _ _ _ _
    (pyRange_two c0) rfl hq4]
  swap
  · intro y t hy1 hy2 hq
    refine ⟨?_, foldl_inv (InBAll lmax c0) _ _ (fun s m _ hs => InBAll_s2 lmax c0 s hs _ _ _ _ _ _) _ hq⟩
    rw [forIn_range_bind (R2 0 (enc b1.2) (enc b1.1)) (step4 w0 r0 uf y)
      (fun _ t => InBAll lmax c0 t) (lmax - 1) 2 t _ _ _ _
      (pyRange_two lmax) rfl hq]
    swap
    · intro x t' hx1 hx2 hq'
      exact ⟨body4 lmax c0 w0 r0 uf _ _ uf w1 r1 rfl rfl rfl _ _ t' x y (le_of_lt_two_add hx2 hx1) hy1 (le_of_lt_two_add hy2 hy1) hq',
        InBAll_s2 lmax c0 t' hq' _ _ _ _ _ _⟩
    rfl
  rw [hb0, hLevel0_foldl, ← hL0]
  -- level 1
  rw [e5]
  refine bind_eq_of_ok ([enc L0.2, enc (hLevel1 lmax c0 c1 w1 r1 uf L0.2 b1).2],
    [enc L0.1, enc (hLevel1 lmax c0 c1 w1 r1 uf L0.2 b1).1], (c1 : Int)) (forIn_single o _ _ _ ?_) rfl
  rw [hco, ok_bind,
    forIn_range_bind (fun t : Tab2 => ([enc L0.2, enc t] : T3)) (fun t l => s2 t l 0 (g2 L0.2 l c0))
    (fun _ t => ∀ l m, l ≤ lmax → m ≤ c1 → InB2 t l m) (lmax - 1) 2 b1.2 _ _ _ _
    (pyRange_two lmax) (by rfl) (fun l m h1 h2 => (hq3 l m h1 h2).2)]
  swap
  · intro x t hx1 hx2 hq
    exact ⟨body5a c0 c1 _ o ho rfl L0.2 t x (hq5 x c0 (le_of_lt_two_add hx2 hx1) (le_refl _)).2
      (hq x 0 (le_of_lt_two_add hx2 hx1) (Nat.zero_le _)), fun l m h1 h2 => InB2_s2 _ _ _ _ _ _ (hq l m h1 h2)⟩
  have hq6 : InBAll lmax c1
      (b1.1, List.foldl (fun t l => s2 t l 0 (g2 L0.2 l c0)) b1.2 (List.range' 2 (lmax - 1))) := by
    intro l m h1 h2
    refine ⟨(hq3 l m h1 h2).1, ?_⟩
    exact foldl_inv (fun t => InB2 t l m) _ _ (fun s x _ hs => InB2_s2 _ _ _ _ _ _ hs) _ (hq3 l m h1 h2).2
  rw [forIn_range_bind (R2 1 (enc L0.2) (enc L0.1))
    (fun p m => (List.range' 1 lmax).foldl (fun p l => h1Step c0 w1 r1 uf L0.2 p m l) p)
    (fun _ t => InBAll lmax c1 t) c1 1 _ _ _ _ _
    (pyRange_eq2 1 c1 1 ((c1 : Int) + 1) rfl (by omega)) (by rfl) hq6]
  swap
  · intro y t hy1 hy2 hq
    refine ⟨?_, foldl_inv (InBAll lmax c1) _ _ (fun s m _ hs => InBAll_s2 lmax c1 s hs _ _ _ _ _ _) _ hq⟩
    rw [forIn_range_bind (R2 1 (enc L0.2) (enc L0.1)) (fun p l => h1Step c0 w1 r1 uf L0.2 p y l)
      (fun _ t => InBAll lmax c1 t) lmax 1 t _ _ _ _
      (pyRange_eq2 1 lmax 1 ((lmax : Int) + 1) rfl (by omega)) rfl hq]
    swap
    · intro x t' hx1 hx2 hq'
      exact ⟨body5b lmax c0 c1 w0 w1 r0 r1 uf _ _ _ uf o ho rfl rfl rfl rfl L0.2 _ t' x y (le_of_lt_one_add hx2) hy1 (le_of_lt_one_add hy2)
          (hq5 x c0 (le_of_lt_one_add hx2) (le_refl _)).2 hq',
        InBAll_s2 lmax c1 t' hq' _ _ _ _ _ _⟩
    rfl
  rfl

/-! ## reading the returned tables -/

theorem getD_encRow (r : Array (Option Nat)) (m : Nat) : (encRow r).getD m ER.inf = erOf (r.getD m none) := by
  unfold encRow
  rw [List.getD_eq_getElem?_getD, List.getElem?_map, Array.getElem?_toList, Array.getD_eq_getD_getElem?]
  cases r[m]? <;> rfl

theorem getD_enc (t : Tab2) (l m : Nat) : ((enc t).getD l []).getD m ER.inf = erOf (g2 t l m) := by
  have e : (enc t).getD l [] = encRow (t.getD l #[]) := by
    unfold enc
    rw [List.getD_eq_getElem?_getD, List.getElem?_map, Array.getElem?_toList, Array.getD_eq_getD_getElem?]
    cases t[l]? <;> rfl
  rw [e, getD_encRow]
  rfl

theorem tab3_zero (a : Tab2) (B : List (List ER)) (l m : Nat) : tab3 [enc a, B] 0 l m = erOf (g2 a l m) :=
  getD_enc a l m

theorem tab3_one (A : List (List ER)) (b : Tab2) (l m : Nat) : tab3 [A, enc b] 1 l m = erOf (g2 b l m) :=
  getD_enc b l m

/-! ## the refinement theorems -/

theorem hoptResult_spec (lmax c0 c1 w0 w1 r0 r1 ub uf : Nat) (k l m : Nat) (hk : k ≤ 1) :
    tab3 (hoptResult lmax c0 c1 w0 w1 r0 r1 ub uf).2 k l m
        = erOf ((hoptTable lmax c0 c1 w0 w1 r0 r1 ub uf).opt k l m) ∧
      tab3 (hoptResult lmax c0 c1 w0 w1 r0 r1 ub uf).1 k l m
        = erOf ((hoptTable lmax c0 c1 w0 w1 r0 r1 ub uf).optp k l m) := by
  rw [hoptTable_eq]
  have : k = 0 ∨ k = 1 := by omega
  rcases this with rfl | rfl
  · exact ⟨tab3_zero _ _ l m, tab3_zero _ _ l m⟩
  · exact ⟨tab3_one _ _ l m, tab3_one _ _ l m⟩

/-- **`get_hopt_table` as generated from the Python source computes the model `hoptTable`** (two levels, any
natural cost vectors `wvect = (w0, w1)`, `rvect = (r0, r1)`), on the exact domain on which it does not raise:
`c0 ≥ 1` or `lmax ≤ 1`.  Every entry `T[k][l][m]` of the two returned tables (and `inf` outside them) is the
model's entry. -/
theorem get_hopt_table_refines_general (lmax c0 c1 w0 w1 r0 r1 ub uf : Nat) (h : 1 ≤ c0 ∨ lmax ≤ 1) :
    ∃ optp opt, get_hopt_table lmax [c0, c1] [(w0 : Rat), (w1 : Rat)] [(r0 : Rat), (r1 : Rat)] ub uf
        = .ok (optp, opt) ∧
      ∀ k l m, k ≤ 1 →
        tab3 opt k l m = erOf ((hoptTable lmax c0 c1 w0 w1 r0 r1 ub uf).opt k l m) ∧
        tab3 optp k l m = erOf ((hoptTable lmax c0 c1 w0 w1 r0 r1 ub uf).optp k l m) := by
  refine ⟨_, _, by rw [hopt_run, if_pos h], ?_⟩
  intro k l m hk
  exact hoptResult_spec lmax c0 c1 w0 w1 r0 r1 ub uf k l m hk

example : (1 : Nat) ≤ 2 ∨ (5 : Nat) ≤ 1 := by decide
example : (1 : Nat) ≤ 0 ∨ (1 : Nat) ≤ 1 := by decide

/-- the same, with the shape of the returned lists: two levels, `lmax + 1` rows, `c_k + 1` entries per row -/
theorem get_hopt_table_shape (lmax c0 c1 w0 w1 r0 r1 ub uf : Nat) (h : 1 ≤ c0 ∨ lmax ≤ 1) :
    ∃ optp opt, get_hopt_table lmax [c0, c1] [(w0 : Rat), (w1 : Rat)] [(r0 : Rat), (r1 : Rat)] ub uf
        = .ok (optp, opt) ∧ optp.length = 2 ∧ opt.length = 2 := by
  exact ⟨_, _, by rw [hopt_run, if_pos h], rfl, rfl⟩

/-- **the library's call** (`wvect = (0, wd)`, `rvect = (0, rd)`) -/
theorem get_hopt_table_refines (lmax c0 c1 w1 r1 ub uf : Nat) (h : 1 ≤ c0 ∨ lmax ≤ 1) :
    ∃ optp opt, get_hopt_table lmax [c0, c1] [0, (w1 : Rat)] [0, (r1 : Rat)] ub uf = .ok (optp, opt) ∧
      ∀ k l m, k ≤ 1 → l ≤ lmax → m ≤ (if k = 0 then c0 else c1) →
        tab3 opt k l m = erOf ((hoptTable lmax c0 c1 0 w1 0 r1 ub uf).opt k l m) ∧
        tab3 optp k l m = erOf ((hoptTable lmax c0 c1 0 w1 0 r1 ub uf).optp k l m) := by
  obtain ⟨optp, opt, h1, h2⟩ := get_hopt_table_refines_general lmax c0 c1 0 w1 0 r1 ub uf h
  rw [Nat.cast_zero] at h1
  exact ⟨optp, opt, h1, fun k l m hk _ _ => h2 k l m hk⟩

example : (1 : Nat) ≤ 3 ∨ (7 : Nat) ≤ 1 := by decide

/-- outside that domain (`c0 = 0`, `lmax ≥ 2`) the function raises `IndexError`, at `optp[0][2][1] = …`
(the model silently skips the write: `Array.setIfInBounds`) -/
theorem get_hopt_table_indexError (lmax c1 w0 w1 r0 r1 ub uf : Nat) (h : 2 ≤ lmax) :
    get_hopt_table lmax [((0 : Nat) : Int), c1] [(w0 : Rat), (w1 : Rat)] [(r0 : Rat), (r1 : Rat)] ub uf
      = .error .indexError := by
  rw [hopt_run, if_neg (by omega)]

example : (2 : Nat) ≤ 2 := by decide

/-- the domain is exact -/
theorem get_hopt_table_ok_iff (lmax c0 c1 w0 w1 r0 r1 ub uf : Nat) :
    (∃ r, get_hopt_table lmax [c0, c1] [(w0 : Rat), (w1 : Rat)] [(r0 : Rat), (r1 : Rat)] ub uf = .ok r) ↔
      (1 ≤ c0 ∨ lmax ≤ 1) := by
  rw [hopt_run]
  by_cases h : 1 ≤ c0 ∨ lmax ≤ 1
  · rw [if_pos h]; exact ⟨fun _ => h, fun _ => ⟨_, rfl⟩⟩
  · rw [if_neg h]
    constructor
    · rintro ⟨r, hr⟩
      cases hr
    · intro h'
      exact absurd h' h

/-! ## the value the library reads: `opt[1][N-1][c1]` -/

theorem erOf_eq_fin (a : Option Nat) (v : Nat) : erOf a = ER.fin (v : Rat) ↔ a = some v := by
  cases a with
  | none => exact ⟨fun h => (by cases h), fun h => (by cases h)⟩
  | some w =>
    constructor
    · intro h
      have : (w : Rat) = (v : Rat) := by injection h
      rw [Nat.cast_injective this]
    · intro h; cases h; rfl

/-- **C07 for HRevolve on the GENERATED table**: whatever tables the generated `get_hopt_table` returns for the
library's call (`lmax = N - 1`), the entry `opt[1][N-1][c1]` is a finite natural number `v`, and the cost of the
HRevolve stream is `v + N·uf` (`C07_hrevolve`) -/
theorem get_hopt_table_hrevolve_cost (N c0 c1 : Nat) (c : Costs) (hN : 1 ≤ N) (hc0 : 1 ≤ c0) (evs : List Ev)
    (h : hrevolveEvs N c0 c1 c = .ok evs) (optp opt : T3)
    (hg : get_hopt_table ((N - 1 : Nat) : Int) [c0, c1] [0, (c.wd : Rat)] [0, (c.rd : Rat)] c.ub c.uf
      = .ok (optp, opt)) :
    ∃ v : Nat, tab3 opt 1 (N - 1) c1 = ER.fin (v : Rat) ∧ RC.cost c evs = v + N * c.uf := by
  obtain ⟨v, hv, hc⟩ := C07_hrevolve N c0 c1 c hN hc0 evs h
  obtain ⟨optp', opt', h1, h2⟩ := get_hopt_table_refines (N - 1) c0 c1 c.wd c.rd c.ub c.uf (Or.inl hc0)
  rw [h1] at hg
  injection hg with hg
  injection hg with _ hg2
  subst hg2
  refine ⟨v, ?_, hc⟩
  rw [(h2 1 (N - 1) c1 (le_refl _) (le_refl _) (le_refl _)).1, hv]
  rfl

/-- and it is returned: the generated function does not raise on the library's call (`c0 ≥ 1`) -/
theorem get_hopt_table_hrevolve_ok (N c0 c1 : Nat) (c : Costs) (hc0 : 1 ≤ c0) :
    ∃ optp opt, get_hopt_table ((N - 1 : Nat) : Int) [c0, c1] [0, (c.wd : Rat)] [0, (c.rd : Rat)] c.ub c.uf
      = .ok (optp, opt) := by
  obtain ⟨optp, opt, h1, _⟩ := get_hopt_table_refines (N - 1) c0 c1 c.wd c.rd c.ub c.uf (Or.inl hc0)
  exact ⟨optp, opt, h1⟩

open Ckpt.LB7 in
/-- **the entry of the GENERATED table is a lower bound** (`C07_hrevolve_lowerBound_partial`): if
`opt[1][N-1][c1]` of the returned table is `v`, every accepted LIFO stream costs at least `v + N·uf` in the
transfer-aware cost — and the HRevolve stream (accepted, LIFO) costs exactly that -/
theorem get_hopt_table_lowerBound (N c0 c1 v : Nat) (c : Costs) (hN : 1 ≤ N) (hc0 : 1 ≤ c0) (huf : 0 < c.uf)
    (optp opt : T3)
    (hg : get_hopt_table ((N - 1 : Nat) : Int) [c0, c1] [0, (c.wd : Rat)] [0, (c.rd : Rat)] c.ub c.uf
      = .ok (optp, opt))
    (hv : tab3 opt 1 (N - 1) c1 = ER.fin (v : Rat)) :
    (∀ os, Accepted (cfgHRevolve c0 c1 N) os → Lifo (cfgHRevolve c0 c1 N) os → v + N * c.uf ≤ obsCostT c os) ∧
    ∃ evs os0, hrevolveEvs N c0 c1 c = .ok evs ∧ os0.map (·.act) = evs.map (·.act) ∧
      Accepted (cfgHRevolve c0 c1 N) os0 ∧ Lifo (cfgHRevolve c0 c1 N) os0 ∧ obsCostT c os0 = v + N * c.uf := by
  obtain ⟨optp', opt', h1, h2⟩ := get_hopt_table_refines (N - 1) c0 c1 c.wd c.rd c.ub c.uf (Or.inl hc0)
  rw [h1] at hg
  injection hg with hg
  injection hg with _ hg2
  subst hg2
  rw [(h2 1 (N - 1) c1 (le_refl _) (le_refl _) (le_refl _)).1, erOf_eq_fin] at hv
  refine ⟨fun os ha hl => C07_hrevolve_lowerBound_partial N c0 c1 v c os hN hc0 huf hv ha hl, ?_⟩
  obtain ⟨evs, os0, v', hevs, hacts, hacc, hlifo, hv', hcost⟩ := C07_hrevolve_lifo_attains N c0 c1 c hN hc0
  rw [hv] at hv'
  injection hv' with hv'
  subst hv'
  exact ⟨evs, os0, hevs, hacts, hacc, hlifo, hcost⟩

example : (1 : Nat) ≤ 5 ∧ (1 : Nat) ≤ 2 ∧ 0 < (Costs.mk 1 1 2 2).uf := by decide

/-- non-vacuity of the hypotheses of the two corollaries: for `N ≥ 1`, `c0 ≥ 1` the stream exists, the generated
function returns, and the entry read is finite -/
example (N c0 c1 : Nat) (c : Costs) (hN : 1 ≤ N) (hc0 : 1 ≤ c0) :
    ∃ evs optp opt, ∃ v : Nat, hrevolveEvs N c0 c1 c = .ok evs ∧
      get_hopt_table ((N - 1 : Nat) : Int) [c0, c1] [0, (c.wd : Rat)] [0, (c.rd : Rat)] c.ub c.uf = .ok (optp, opt) ∧
      tab3 opt 1 (N - 1) c1 = ER.fin (v : Rat) := by
  obtain ⟨evs, _, _, hevs, _⟩ := C07_hrevolve_lifo_attains N c0 c1 c hN hc0
  obtain ⟨optp, opt, hg⟩ := get_hopt_table_hrevolve_ok N c0 c1 c hc0
  obtain ⟨v, hv, _⟩ := get_hopt_table_hrevolve_cost N c0 c1 c hN hc0 evs hevs optp opt hg
  exact ⟨evs, optp, opt, v, hevs, hg, hv⟩

/-- a concrete instance (`N = 4` steps, one RAM and one disk unit): the generated table holds `opt[1][3][1] = 10` -/
example : ∃ optp opt, get_hopt_table 3 [1, 1] [0, 2] [0, 2] 1 1 = .ok (optp, opt) ∧
    tab3 opt 1 3 1 = ER.fin 10 := by
  obtain ⟨optp, opt, h1, h2⟩ := get_hopt_table_refines 3 1 1 2 2 1 1 (by decide)
  refine ⟨optp, opt, by simpa using h1, ?_⟩
  rw [(h2 1 3 1 (by decide) (by decide) (by decide)).1]
  have : (hoptTable 3 1 1 0 2 0 2 1 1).opt 1 3 1 = some 10 := by decide
  rw [this]
  show ER.fin _ = ER.fin _
  norm_num

end Ckpt.Py

#print axioms Ckpt.Py.hopt_run
#print axioms Ckpt.Py.get_hopt_table_refines_general
#print axioms Ckpt.Py.get_hopt_table_refines
#print axioms Ckpt.Py.get_hopt_table_indexError
#print axioms Ckpt.Py.get_hopt_table_ok_iff
#print axioms Ckpt.Py.get_hopt_table_hrevolve_cost
#print axioms Ckpt.Py.get_hopt_table_hrevolve_ok
#print axioms Ckpt.Py.get_hopt_table_lowerBound
