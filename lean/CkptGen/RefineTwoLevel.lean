import CkptGen.Src
import CkptGen.RefineNAdv
import CkptVerif.Properties.Twins
import CkptVerif.Proofs.CanonObs
import Mathlib.Tactic
/-!
# The Lean text generated from `TwoLevelCheckpointSchedule._iterator` (twolevel_binomial.py) computes the model

`Ckpt.Py.twoLevel_iterator` (with its five loops `while1 … while5`) is produced by `harness/py2lean.py` from the
current Python source, with the canonical client built in (`clientN`, `passes`).  This file proves that, started as
Python starts it and for all valid parameters, it returns exactly the events of the hand-written model:

* one simulation lemma per generated loop, by induction on the fuel, against the literal twin
  `Model/TwoLevelIter.lean`: `while5_sim` (↔ `tlWriteLoop`), `body_sim`/`while4_sim` (↔ `tlBody`/`tlInnerLoop`),
  `while3_sim` (↔ `tlOuterLoop`), `pass_sim`/`passes_sim` (↔ `twoLevelIterFrom`, `k` times), `fwd_sim` (the online
  forward phase ↔ `Sched.fwdEv` of `twoLevelSched`);
* `twoLevel_iterator_refines_twin` (right-hand side: the twin `twoLevelIterPass`),
  `twoLevel_iterator_refines` (right-hand side: `fwdEv`/`first`/`again` of the `Sched` returned by `twoLevelSched`),
  `twoLevel_iterator_obs` (bridge to `On.twoLevelObs`, the object of `On.twoLevel_clean`/`On.twoLevel_canon`).

Fuel: `twoLevelFuel N k = 2N + k + 4` suffices (loops and all `n_advance` calls).
-/
namespace Ckpt.Py.TwoLevel
open Ckpt Ckpt.Py

/-! (helpers live in `Ckpt.Py.TwoLevel`, which the theorems at the end of the file open; the embeddings `stPy_tl`, `actPy_tl`, …
carry a suffix besides, which tells them from `stPy`, `actPy`, … of `RefineCommon.lean` wherever both are in scope) -/

def stPy_tl : Storage → StorageType
  | .ram => .ram | .disk => .disk | .work => .work | .none => .none

def actPy_tl : Action → PyAction
  | .forward n0 n1 wi wa st => .forward (n0 : Int) (n1 : Int) wi wa (stPy_tl st)
  | .reverse n1 n0 c => .reverse (n1 : Int) (n0 : Int) c
  | .copy n s d => .copy (n : Int) (stPy_tl s) (stPy_tl d)
  | .move n s d => .move (n : Int) (stPy_tl s) (stPy_tl d)
  | .endForward => .endForward
  | .endReverse => .endReverse

def evPy_tl (e : Ev) (exh : Bool) : PyEv := ⟨actPy_tl e.act, (e.n : Int), (e.r : Int), exh⟩

theorem stPy_tl_work : stPy_tl .work = .work := rfl
theorem stPy_tl_disk : stPy_tl .disk = .disk := rfl

theorem clientHook_some_tl (N n m : Int) : clientHook N n (some m) = (n, some m) := by
  simp [clientHook]

/-- `Nat` lists as Python `int` lists -/
def zl (l : List Nat) : List Int := l.map (fun x : Nat => (x : Int))
/-- event lists (never exhausted: TwoLevel permits any number of adjoint calculations) -/
def evsPy (l : List Ev) : List PyEv := l.map (fun e => evPy_tl e false)

theorem zl_length (l : List Nat) : (zl l).length = l.length := by simp [zl]
theorem zl_append (l : List Nat) (x : Nat) : zl (l ++ [x]) = zl l ++ [(x : Int)] := by simp [zl]
theorem evsPy_append (l l' : List Ev) : evsPy (l ++ l') = evsPy l ++ evsPy l' := List.map_append

/-- the generated `n_advance` on the arguments the generator passes, when the model call succeeds -/
theorem nadv_ok (fuel m : Nat) (s : Int) (traj : Traj) (a : Nat) (h : nAdvance m s.toNat traj = some a)
    (hf : m + 1 ≤ fuel) : n_advance fuel (m : Int) s (trajStr traj) = .ok (a : Int) := by
  by_cases hs : s ≤ 0
  · rw [nAdvance_eq_none _ _ _ (Or.inr (by omega))] at h; cases h
  · exact n_advance_ok h rfl (by omega) hf

/-- one adjoint calculation of the generated `while True` loop (lines 79-153) -/
theorem while2_step (p : Int) (sto : StorageType) (bs : Int) (tr : String) (cN : Int) (fuel : Nat)
    (n : Int) (out : List PyEv) (pl N n' : Int) (out' : List PyEv) (hpl : pl > 0)
    (hw : twoLevel_iterator.while3 p sto bs tr cN fuel (n, 0, out, pl, some N) = .ok (n', N, out', pl, some N)) :
    twoLevel_iterator.while2 p sto bs tr cN (fuel + 1) (n, 0, out, pl, some N)
      = twoLevel_iterator.while2 p sto bs tr cN fuel
          (n', 0, out' ++ [⟨.endReverse, n', 0, false⟩], pl - 1, some N) := by
  conv => lhs; unfold twoLevel_iterator.while2
  simp only [bind, Except.bind, pure, Except.pure, unwrap, hpl, if_true, hw, ne_eq, not_true_eq_false, if_false,
    clientHook_some_tl]

theorem while2_exit_tl (p : Int) (sto : StorageType) (bs : Int) (tr : String) (cN : Int) (fuel : Nat)
    (n r : Int) (out : List PyEv) (pl : Int) (mx : Option Int) (hpl : ¬ pl > 0) :
    twoLevel_iterator.while2 p sto bs tr cN (fuel + 1) (n, r, out, pl, mx) = .ok (n, r, out, pl, mx) := by
  conv => lhs; unfold twoLevel_iterator.while2
  simp only [bind, Except.bind, pure, Except.pure, hpl, if_false]

/-- an iteration of the generated forward loop (lines 68-77) that does not reach the client's `N` -/
theorem while1_more (p r cN : Int) (fuel : Nat) (n : Int) (out : List PyEv) (pl : Int) (h : ¬ n + p ≥ cN) :
    twoLevel_iterator.while1 p r cN (fuel + 1) (n, out, pl, none)
      = twoLevel_iterator.while1 p r cN fuel
          (n + p, out ++ [⟨.forward n (n + p) true false .disk, n + p, r, false⟩], pl, none) := by
  conv => lhs; unfold twoLevel_iterator.while1
  simp [clientHook, h]

/-- the iteration of the generated forward loop after which the client finalises -/
theorem while1_last (p r cN : Int) (fuel : Nat) (n : Int) (out : List PyEv) (pl : Int) (h : n + p ≥ cN) :
    twoLevel_iterator.while1 p r cN (fuel + 2) (n, out, pl, none)
      = .ok (cN, out ++ [⟨.forward n (n + p) true false .disk, n + p, r, false⟩], pl, some cN) := by
  conv => lhs; unfold twoLevel_iterator.while1
  simp only [clientHook, h, and_self, if_true, ne_eq, not_true_eq_false, if_false]
  conv => lhs; unfold twoLevel_iterator.while1
  simp
  rfl

/-! ## one iteration of each generated loop

The loop state is given by the model's values (`Nat`s, cast where the generated text has `int`), the events appended
are the model's events (`evsPy`), so that the simulations below only have to chain these equations. -/

section
variable (N b : Nat) (st : Storage) (traj : Traj) (cN : Int)

theorem while5_step (fuel n r adv : Nat) (sn : List Nat) (ns n0 n1 pl : Int) (O : List PyEv)
    (hn : n < N - r - 1)
    (hadv : nAdvance (N - r - n) ((b : Int) + 1 - (sn.length : Int)).toNat traj = some adv) (ha : 0 < adv)
    (hlen : sn.length < b + 1) (hf : N - r - n + 1 ≤ fuel) :
    twoLevel_iterator.while5 (r : Int) (b : Int) (trajStr traj) (stPy_tl st) cN (fuel + 1)
        (ns, n0, n1, (n : Int), O, pl, some (N : Int), zl sn)
      = twoLevel_iterator.while5 (r : Int) (b : Int) (trajStr traj) (stPy_tl st) cN fuel
          ((b : Int) + 1 - (sn.length : Int), (n : Int), ((n + adv : Nat) : Int), ((n + adv : Nat) : Int),
            O ++ evsPy [⟨.forward n (n + adv) true false st, n + adv, r⟩], pl, some (N : Int), zl (sn ++ [n])) := by
  rw [twoLevel_iterator.while5]
  have hn' : (n : Int) < (N : Int) - (r : Int) - 1 := cast_lt_sub_sub (d := 1) hn
  have e : (N : Int) - (r : Int) - (n : Int) = ((N - r - n : Nat) : Int) :=
    cast_sub_sub (Nat.sub_ne_zero_of_lt (Nat.lt_of_lt_of_le hn (Nat.sub_le _ _)))
  have h1 : (n : Int) + (adv : Int) > (n : Int) := lt_add_of_pos_right _ (by exact_mod_cast ha)
  have hl : ¬ ((sn.length : Int) ≥ (b : Int) + 1) := not_le.2 (by exact_mod_cast hlen)
  simp only [↓reduceIte, bind, Except.bind, pure, Except.pure, unwrap, hn', e, zl_length,
    nadv_ok fuel _ _ traj adv hadv hf, h1, hl, not_true_eq_false, clientHook_some_tl, zl_append]
  simp only [evsPy, evPy_tl, actPy_tl, List.map_cons, List.map_nil]
  push_cast
  rfl

theorem while5_exit (fuel n r : Nat) (sn : List Int) (ns n0 n1 pl : Int) (O : List PyEv) (hn : ¬ n < N - r - 1) :
    twoLevel_iterator.while5 (r : Int) (b : Int) (trajStr traj) (stPy_tl st) cN (fuel + 1)
        (ns, n0, n1, (n : Int), O, pl, some (N : Int), sn)
      = .ok (ns, n0, n1, (n : Int), O, pl, some (N : Int), sn) := by
  rw [twoLevel_iterator.while5]
  have hn' : ¬ (n : Int) < (N : Int) - (r : Int) - 1 := cast_not_lt_sub_sub (d := 1) hn
  simp only [↓reduceIte, bind, Except.bind, pure, Except.pure, unwrap, hn']

/-- an iteration of the generated inner loop that takes the `if` branch (lines 94-100) -/
theorem while4_pop (fuel n0s cp r : Nat) (bot : List Nat) (n pl : Int) (O : List PyEv)
    (hr : r < N - n0s) (hcp : cp = N - r - 1) :
    twoLevel_iterator.while4 (n0s : Int) (stPy_tl st) (b : Int) (trajStr traj) cN (fuel + 1)
        (n, (r : Int), O, pl, some (N : Int), zl (bot ++ [cp]))
      = twoLevel_iterator.while4 (n0s : Int) (stPy_tl st) (b : Int) (trajStr traj) cN fuel
          (((cp + 1 : Nat) : Int), ((r + 1 : Nat) : Int),
            O ++ evsPy [⟨if cp = n0s then .copy cp .disk .work else .move cp st .work, cp, r⟩,
              ⟨.forward cp (cp + 1) false true .work, cp + 1, r⟩, ⟨.reverse (cp + 1) cp true, cp + 1, r + 1⟩],
            pl, some (N : Int), zl bot) := by
  rw [twoLevel_iterator.while4, zl_append]
  have hr' : (r : Int) < (N : Int) - (n0s : Int) := cast_lt_sub hr
  have hl : ¬ (((zl bot ++ [(cp : Int)]).length : Int) = 0) := by
    rw [List.length_append, List.length_singleton]; exact_mod_cast Nat.succ_ne_zero (zl bot).length
  have hcp' : (N : Int) - (r : Int) - 1 = (cp : Int) :=
    (cast_eq_sub_sub (d := 1) hcp (Nat.lt_of_lt_of_le hr (Nat.sub_le _ _))).symm
  have h' : (cp : Int) = (n0s : Int) ↔ cp = n0s := Nat.cast_inj
  simp only [↓reduceIte, bind, Except.bind, pure, Except.pure, unwrap, hr', hl, pyIndex_last, hcp', pyPop_snoc,
    clientHook_some_tl, h']
  split_ifs <;>
    simp only [evsPy, evPy_tl, actPy_tl, stPy_tl_work, stPy_tl_disk, List.map_cons, List.map_nil, Nat.cast_add,
      Nat.cast_one, add_sub_cancel_right, List.append_assoc, List.cons_append, List.nil_append]

/-- an iteration of the generated inner loop that takes the `else` branch (lines 101-135): a copy, an advance, the
write loop (whose run `hw` is given), then the step that is reversed -/
theorem while4_copy (fuel n0s cp r adv : Nat) (bot : List Nat) (n pl : Int) (O : List PyEv)
    (ns' n0' n1' : Int) (n' : Nat) (out' : List PyEv) (sn' : List Int)
    (hr : r < N - n0s) (hcp : ¬ cp = N - r - 1)
    (hadv : nAdvance (N - r - cp) ((b : Int) + 1 - ((bot ++ [cp]).length : Int) + 1).toNat traj = some adv)
    (ha : 0 < adv) (hf : N - r - cp + 1 ≤ fuel)
    (hw : twoLevel_iterator.while5 (r : Int) (b : Int) (trajStr traj) (stPy_tl st) cN fuel
        ((b : Int) + 1 - ((zl (bot ++ [cp])).length : Int) + 1, (cp : Int), ((cp + adv : Nat) : Int),
          ((cp + adv : Nat) : Int),
          O ++ evsPy [⟨if cp = n0s then .copy cp .disk .work else .copy cp st .work, cp, r⟩,
            ⟨.forward cp (cp + adv) false false .work, cp + adv, r⟩], pl, some (N : Int), zl (bot ++ [cp]))
        = .ok (ns', n0', n1', (n' : Int), out', pl, some (N : Int), sn'))
    (hn' : n' = N - r - 1) :
    twoLevel_iterator.while4 (n0s : Int) (stPy_tl st) (b : Int) (trajStr traj) cN (fuel + 1)
        (n, (r : Int), O, pl, some (N : Int), zl (bot ++ [cp]))
      = twoLevel_iterator.while4 (n0s : Int) (stPy_tl st) (b : Int) (trajStr traj) cN fuel
          (((n' + 1 : Nat) : Int), ((r + 1 : Nat) : Int),
            out' ++ evsPy [⟨.forward n' (n' + 1) false true .work, n' + 1, r⟩,
              ⟨.reverse (n' + 1) n' true, n' + 1, r + 1⟩], pl, some (N : Int), sn') := by
  rw [twoLevel_iterator.while4]
  have hrN : r + 1 ≤ N := Nat.lt_of_lt_of_le hr (Nat.sub_le _ _)
  have hr' : (r : Int) < (N : Int) - (n0s : Int) := cast_lt_sub hr
  have hl : ¬ (((zl (bot ++ [cp])).length : Int) = 0) := by
    rw [zl_length, List.length_append, List.length_singleton]; exact_mod_cast Nat.succ_ne_zero bot.length
  have hidx : pyIndex (zl (bot ++ [cp])) (-1) = .ok (cp : Int) := by rw [zl_append]; exact pyIndex_last _ _
  have hcp' : ¬ (cp : Int) = (N : Int) - (r : Int) - 1 := cast_ne_sub_sub (d := 1) hcp
  have hpos : N - r - cp ≠ 0 := fun h0 => by rw [nAdvance_eq_none _ _ _ (Or.inl h0)] at hadv; cases hadv
  have e : (N : Int) - (r : Int) - (cp : Int) = ((N - r - cp : Nat) : Int) := cast_sub_sub hpos
  have h1 : (cp : Int) + (adv : Int) > (cp : Int) := lt_add_of_pos_right _ (by exact_mod_cast ha)
  have hn2 : ¬ ((n' : Int) ≠ (N : Int) - (r : Int) - 1) := not_not.2 (cast_eq_sub_sub (d := 1) hn' (by omega))
  rw [← zl_length] at hadv
  by_cases h : cp = n0s
  on_goal 1 =>
    have h' := eq_true (show (cp : Int) = (n0s : Int) by omega)
    rw [if_pos h] at hw
  on_goal 2 =>
    have h' : ¬ (cp : Int) = (n0s : Int) := by omega
    rw [if_neg h] at hw
  all_goals
    simp only [evsPy, evPy_tl, actPy_tl, stPy_tl_work, stPy_tl_disk, List.map_cons, List.map_nil, Nat.cast_add] at hw
    simp only [↓reduceIte, bind, Except.bind, pure, Except.pure, unwrap, hr', hl, hidx, hcp', e, h',
      nadv_ok fuel _ _ traj adv hadv hf, h1, not_true_eq_false, clientHook_some_tl, List.append_assoc,
      List.cons_append, List.nil_append, hw, hn2]
    simp only [evsPy, evPy_tl, actPy_tl, stPy_tl_work, List.map_cons, List.map_nil]
    push_cast
    simp only [add_sub_cancel_right, List.append_assoc, List.cons_append, List.nil_append]

theorem while4_exit (fuel n0s r : Nat) (n pl : Int) (O : List PyEv) (sn : List Int) (hr : ¬ r < N - n0s) :
    twoLevel_iterator.while4 (n0s : Int) (stPy_tl st) (b : Int) (trajStr traj) cN (fuel + 1)
        (n, (r : Int), O, pl, some (N : Int), sn)
      = .ok (n, (r : Int), O, pl, some (N : Int), sn) := by
  rw [twoLevel_iterator.while4]
  have hr' : ¬ (r : Int) < (N : Int) - (n0s : Int) := cast_not_lt_sub hr
  simp only [↓reduceIte, bind, Except.bind, pure, Except.pure, unwrap, hr']

/-- the test `self._r != self._max_n - n1s` of line 85 on the casts -/
theorem sub_min_cast (N a b r : Nat) (h : r = N - min (a + b) N) :
    ¬ ((r : Int) ≠ (N : Int) - min ((a : Int) + (b : Int)) (N : Int)) := by
  omega

/-- one iteration of the generated outer loop (lines 81-146): the period starting at `n0s` is reversed by the inner
loop (whose run `hw` is given) -/
theorem while3_step (fuel p r n0s n' : Nat) (n pl : Int) (O out' : List PyEv) (hp : p ≠ 0) (hr : r < N)
    (hn0s : n0s = (N - r - 1) / p * p) (hr2 : r = N - min (n0s + p) N)
    (hw : twoLevel_iterator.while4 (n0s : Int) (stPy_tl st) (b : Int) (trajStr traj) cN fuel
        (n, (r : Int), O, pl, some (N : Int), [(n0s : Int)])
      = .ok ((n' : Int), ((N - n0s : Nat) : Int), out', pl, some (N : Int), [])) :
    twoLevel_iterator.while3 (p : Int) (stPy_tl st) (b : Int) (trajStr traj) cN (fuel + 1)
        (n, (r : Int), O, pl, some (N : Int))
      = twoLevel_iterator.while3 (p : Int) (stPy_tl st) (b : Int) (trajStr traj) cN fuel
          ((n' : Int), ((N - n0s : Nat) : Int), out', pl, some (N : Int)) := by
  rw [twoLevel_iterator.while3]
  have hle : n0s ≤ N - r - 1 := hn0s ▸ Nat.div_mul_le_self _ _
  have hr' : (r : Int) < (N : Int) := by exact_mod_cast hr
  have hdiv : floordiv ((N : Int) - (r : Int) - 1) (p : Int) = .ok (((N - r - 1) / p : Nat) : Int) :=
    floordiv_cast (N - r - 1) p (by omega) rfl hp
  have e : (((N - r - 1) / p : Nat) : Int) * (p : Int) = (n0s : Int) := by rw [hn0s]; push_cast; rfl
  have h2 := sub_min_cast N n0s p r hr2
  have h3 : ¬ (((N - n0s : Nat) : Int) ≠ (N : Int) - (n0s : Int)) :=
    not_not.2 (Nat.cast_sub ((hle.trans (Nat.sub_le _ _)).trans (Nat.sub_le _ _)))
  simp only [↓reduceIte, bind, Except.bind, pure, Except.pure, unwrap, hr', hdiv, e, h2, hw, h3, List.length_nil,
    Nat.cast_zero, ne_eq, not_true_eq_false]

theorem while3_exit (fuel p r : Nat) (n pl : Int) (O : List PyEv) (hr : ¬ r < N) :
    twoLevel_iterator.while3 (p : Int) (stPy_tl st) (b : Int) (trajStr traj) cN (fuel + 1)
        (n, (r : Int), O, pl, some (N : Int))
      = .ok (n, (r : Int), O, pl, some (N : Int)) := by
  rw [twoLevel_iterator.while3]
  have hr' : ¬ (r : Int) < (N : Int) := by exact_mod_cast hr
  simp only [↓reduceIte, bind, Except.bind, pure, Except.pure, unwrap, hr']

theorem while5_sim : ∀ (fuel : Nat) (s s' : TLIter),
    tlWriteLoop N b st traj fuel s = .ok s' → N + 2 ≤ fuel + s.n →
    ∀ (ns n0 n1 : Int) (O : List PyEv) (pl : Int), ∃ ns' n0' n1',
      twoLevel_iterator.while5 (s.r : Int) (b : Int) (trajStr traj) (stPy_tl st) cN fuel
        (ns, n0, n1, (s.n : Int), O ++ evsPy s.out, pl, some (N : Int), zl s.snapshots)
        = .ok (ns', n0', n1', (s'.n : Int), O ++ evsPy s'.out, pl, some (N : Int), zl s'.snapshots)
      ∧ s'.r = s.r := by
  intro fuel
  induction fuel with
  | zero => intro s s' h; simp [tlWriteLoop] at h
  | succ fuel ih =>
    rintro ⟨n, r, sn, out⟩ s' h hf ns n0 n1 O pl
    rw [tlWriteLoop] at h
    simp only at h hf ⊢
    by_cases hc : n < N - r - 1
    · rw [if_pos hc] at h
      cases hadv : nAdvance (N - r - n) ((b : Int) + 1 - (sn.length : Int)).toNat traj with
      | none => rw [hadv] at h; cases h
      | some adv =>
        rw [hadv] at h
        simp only [TLIter.yield] at h
        by_cases ha : n + adv > n
        · rw [if_neg (not_not.mpr ha)] at h
          by_cases hl : sn.length ≥ b + 1
          · simp only [hl, if_true] at h; cases h
          · simp only [hl, if_false] at h
            obtain ⟨ns', n0', n1', hrun, hr⟩ := ih _ s' h (by simp only; omega)
              ((b : Int) + 1 - (sn.length : Int)) n ((n + adv : Nat) : Int) O pl
            refine ⟨ns', n0', n1', ?_, hr⟩
            rw [evsPy_append, ← List.append_assoc] at hrun
            rw [while5_step N b st traj cN fuel n r adv sn ns n0 n1 pl _ hc hadv (by omega) (by omega) (by omega)]
            exact hrun
        · rw [if_pos ha] at h; cases h
    · rw [if_neg hc] at h
      cases h
      exact ⟨ns, n0, n1, while5_exit N b st traj cN fuel n r _ ns n0 n1 pl _ hc, rfl⟩

theorem tlBody_pop (n0s fuel n r cp : Nat) (bot : List Nat) (out : List Ev) (hcp : cp = N - r - 1) :
    tlBody N b st traj n0s fuel ⟨n, r, bot ++ [cp], out⟩
      = .ok ⟨cp, r, bot, out ++ [⟨if cp = n0s then .copy cp .disk .work else .move cp st .work, cp, r⟩]⟩ := by
  by_cases h : cp = n0s <;>
    simp [tlBody, ← hcp, h, TLIter.yield]

theorem tlBody_copy (n0s fuel n r cp : Nat) (bot : List Nat) (out : List Ev) (hcp : ¬ cp = N - r - 1) :
    tlBody N b st traj n0s fuel ⟨n, r, bot ++ [cp], out⟩
      = match nAdvance (N - r - cp) ((b : Int) + 1 - ((bot ++ [cp]).length : Int) + 1).toNat traj with
        | none => .error tlValueError
        | some adv =>
          if ¬ (cp + adv > cp) then .error tlAssert else
          match tlWriteLoop N b st traj fuel ⟨cp + adv, r, bot ++ [cp],
              out ++ [⟨if cp = n0s then .copy cp .disk .work else .copy cp st .work, cp, r⟩,
                ⟨.forward cp (cp + adv) false false .work, cp + adv, r⟩]⟩ with
          | .error e => .error e
          | .ok s => if s.n ≠ N - s.r - 1 then .error tlInvalid else .ok s := by
  by_cases h : cp = n0s
  · subst h
    simp only [tlBody, List.getLastD_concat, hcp, if_false, if_true, TLIter.yield, List.append_assoc,
      List.cons_append, List.nil_append]
    rfl
  · simp only [tlBody, List.getLastD_concat, hcp, if_false, h, TLIter.yield, List.append_assoc,
      List.cons_append, List.nil_append]
    rfl

/-- one iteration of the inner loop: `tlBody` followed by `tlTail` -/
theorem body_sim (n0s fuel n r cp : Nat) (bot : List Nat) (out : List Ev) (s1 : TLIter)
    (hb : tlBody N b st traj n0s fuel ⟨n, r, bot ++ [cp], out⟩ = .ok s1)
    (hr : r < N - n0s) (hf : N + 2 ≤ fuel) (O : List PyEv) (pl : Int) :
    twoLevel_iterator.while4 (n0s : Int) (stPy_tl st) (b : Int) (trajStr traj) cN (fuel + 1)
        ((n : Int), (r : Int), O ++ evsPy out, pl, some (N : Int), zl (bot ++ [cp]))
      = twoLevel_iterator.while4 (n0s : Int) (stPy_tl st) (b : Int) (trajStr traj) cN fuel
        (((tlTail s1).n : Int), ((tlTail s1).r : Int), O ++ evsPy (tlTail s1).out, pl, some (N : Int),
          zl (tlTail s1).snapshots) ∧ s1.r = r := by
  by_cases hcp : cp = N - r - 1
  · rw [tlBody_pop N b st traj n0s fuel n r cp bot out hcp] at hb
    cases hb
    refine ⟨?_, rfl⟩
    rw [On.tlTail_eq, while4_pop N b st traj cN fuel n0s cp r bot n pl _ hr hcp]
    simp only [evsPy_append, List.append_assoc]
    rfl
  · rw [tlBody_copy N b st traj n0s fuel n r cp bot out hcp] at hb
    cases hadv : nAdvance (N - r - cp) ((b : Int) + 1 - ((bot ++ [cp]).length : Int) + 1).toNat traj with
    | none => rw [hadv] at hb; cases hb
    | some adv =>
      rw [hadv] at hb
      simp only at hb
      by_cases ha : cp + adv > cp
      · rw [if_neg (not_not.mpr ha)] at hb
        cases hw : tlWriteLoop N b st traj fuel ⟨cp + adv, r, bot ++ [cp],
              out ++ [⟨if cp = n0s then .copy cp .disk .work else .copy cp st .work, cp, r⟩,
                ⟨.forward cp (cp + adv) false false .work, cp + adv, r⟩]⟩ with
        | error e => rw [hw] at hb; cases hb
        | ok s5 =>
          rw [hw] at hb
          simp only at hb
          by_cases hn5 : s5.n = N - s5.r - 1
          · rw [if_neg (not_not.mpr hn5)] at hb
            cases hb
            obtain ⟨ns', n0', n1', hrun, hr5⟩ := while5_sim N b st traj cN fuel _ s1 hw (by simp only; omega)
              ((b : Int) + 1 - ((zl (bot ++ [cp])).length : Int) + 1) cp ((cp + adv : Nat) : Int) O pl
            obtain ⟨n1, r1, sn1, out1⟩ := s1
            simp only at hr5 hrun hn5
            subst hr5
            refine ⟨?_, rfl⟩
            rw [evsPy_append, ← List.append_assoc] at hrun
            rw [On.tlTail_eq, while4_copy N b st traj cN fuel n0s cp r1 adv bot n pl _ ns' n0' n1' n1 _ _ hr hcp hadv
              (by omega) (by omega) hrun hn5]
            simp only [evsPy_append, List.append_assoc]
          · rw [if_pos hn5] at hb; cases hb
      · rw [if_pos ha] at hb; cases hb

/-- the generated inner loop (`while4`) simulates `tlInnerLoop` -/
theorem while4_sim (n0s : Nat) : ∀ (fuel : Nat) (s s' : TLIter),
    tlInnerLoop N b st traj n0s fuel s = .ok s' → 2 * N + 3 ≤ fuel + s.r →
    ∀ (O : List PyEv) (pl : Int),
      twoLevel_iterator.while4 (n0s : Int) (stPy_tl st) (b : Int) (trajStr traj) cN fuel
        ((s.n : Int), (s.r : Int), O ++ evsPy s.out, pl, some (N : Int), zl s.snapshots)
        = .ok ((s'.n : Int), (s'.r : Int), O ++ evsPy s'.out, pl, some (N : Int), zl s'.snapshots) := by
  intro fuel
  induction fuel with
  | zero => intro s s' h; simp [tlInnerLoop] at h
  | succ fuel ih =>
    rintro ⟨n, r, sn, out⟩ s' h hf O pl
    rw [tlInnerLoop] at h
    simp only at h hf ⊢
    by_cases hr : r < N - n0s
    · rw [if_pos hr] at h
      rcases List.eq_nil_or_concat sn with rfl | ⟨bot, cp, rfl⟩
      · simp at h
      · simp only [List.concat_eq_append] at h ⊢
        have hl : ¬ (bot ++ [cp]).length = 0 := by simp
        rw [if_neg hl] at h
        cases hb : tlBody N b st traj n0s fuel ⟨n, r, bot ++ [cp], out⟩ with
        | error e => rw [hb] at h; cases h
        | ok s1 =>
          rw [hb] at h
          simp only at h
          obtain ⟨hstep, hr1⟩ := body_sim N b st traj cN n0s fuel n r cp bot out s1 hb hr (by omega) O pl
          rw [hstep]
          apply ih _ _ h
          obtain ⟨n1, r1, sn1, out1⟩ := s1
          simp only at hr1
          subst hr1
          rw [On.tlTail_eq]
          simp only
          omega
    · rw [if_neg hr] at h
      cases h
      exact while4_exit N b st traj cN fuel n0s r _ pl _ _ hr

/-- the generated outer loop (`while3`) simulates `tlOuterLoop` -/
theorem while3_sim (p : Nat) (hp : 1 ≤ p) : ∀ (fuel : Nat) (s s' : TLIter),
    tlOuterLoop N p b st traj fuel s = .ok s' → 2 * N + 4 ≤ fuel + s.r →
    ∀ (O : List PyEv) (pl : Int),
      twoLevel_iterator.while3 (p : Int) (stPy_tl st) (b : Int) (trajStr traj) cN fuel
        ((s.n : Int), (s.r : Int), O ++ evsPy s.out, pl, some (N : Int))
        = .ok ((s'.n : Int), (s'.r : Int), O ++ evsPy s'.out, pl, some (N : Int)) := by
  intro fuel
  induction fuel with
  | zero => intro s s' h; simp [tlOuterLoop] at h
  | succ fuel ih =>
    rintro ⟨n, r, sn, out⟩ s' h hf O pl
    rw [tlOuterLoop] at h
    simp only at h hf ⊢
    by_cases hr : r < N
    · rw [if_pos hr] at h
      generalize hn0s : (N - r - 1) / p * p = n0s at h
      have hle : n0s ≤ N - r - 1 := hn0s ▸ Nat.div_mul_le_self _ _
      by_cases h2 : r = N - min (n0s + p) N
      · rw [if_neg (not_not.mpr h2)] at h
        cases hi : tlInnerLoop N b st traj n0s fuel ⟨n, r, [n0s], out⟩ with
        | error e => rw [hi] at h; cases h
        | ok s2 =>
          rw [hi] at h
          simp only at h
          by_cases h3 : s2.r = N - n0s
          · rw [if_neg (not_not.mpr h3)] at h
            by_cases h4 : s2.snapshots.length = 0
            · rw [if_neg (not_not.mpr h4)] at h
              have hw := while4_sim N b st traj cN n0s fuel _ s2 hi (by simp only; omega) O pl
              rw [List.eq_nil_of_length_eq_zero h4, h3] at hw
              rw [while3_step N b st traj cN fuel p r n0s s2.n n pl _ _ (by omega) hr hn0s.symm h2 hw, ← h3]
              exact ih s2 s' h (by omega) O pl
            · rw [if_pos h4] at h; cases h
          · rw [if_pos h3] at h; cases h
      · rw [if_pos h2] at h; cases h
    · rw [if_neg hr] at h
      cases h
      exact while3_exit N b st traj cN fuel p r _ pl _ hr

/-- one adjoint calculation: the generated `while True` body simulates `twoLevelIterFrom` -/
theorem pass_sim (p : Nat) (hp : 1 ≤ p) (n fuel : Nat) (sF : TLIter)
    (h : twoLevelIterFrom N p b st traj n fuel = .ok sF) (hf : 2 * N + 4 ≤ fuel)
    (O : List PyEv) (pl : Int) (hpl : pl > 0) :
    twoLevel_iterator.while2 (p : Int) (stPy_tl st) (b : Int) (trajStr traj) cN (fuel + 1)
        ((n : Int), 0, O, pl, some (N : Int))
      = twoLevel_iterator.while2 (p : Int) (stPy_tl st) (b : Int) (trajStr traj) cN fuel
        ((sF.n : Int), 0, O ++ evsPy sF.out, pl - 1, some (N : Int)) := by
  unfold twoLevelIterFrom at h
  cases ho : tlOuterLoop N p b st traj fuel ⟨n, 0, [], []⟩ with
  | error e => rw [ho] at h; cases h
  | ok s =>
    rw [ho] at h
    simp only at h
    by_cases hr : s.r = N
    · rw [if_neg (not_not.mpr hr)] at h
      cases h
      have hw := while3_sim N b st traj cN p hp fuel _ s ho (by simp only; omega) O pl
      simp only [evsPy, List.map_nil, List.append_nil, Nat.cast_zero, hr] at hw
      rw [while2_step (p : Int) (stPy_tl st) (b : Int) (trajStr traj) cN fuel n O pl N s.n _ hpl hw]
      simp only [evPy_tl, actPy_tl, List.append_assoc, TLIter.yield, evsPy, List.map_append, List.map_cons,
        Nat.cast_zero, List.map_nil]
    · rw [if_pos hr] at h; cases h

theorem ceilDiv_le_self (p : Nat) (hp : 1 ≤ p) (hN : 1 ≤ N) : ceilDiv N p ≤ N := by
  by_contra hc
  have := On.ceilDiv_lt N p N hN (by omega)
  have : N * 1 ≤ N * p := Nat.mul_le_mul_left N hp
  omega

/-- all `k` adjoint calculations of the canonical client: the generated `while True` loop (`while2`) yields `k`
copies of the stream `twoLevelPass` -/
theorem passes_sim (p : Nat) (hp : 1 ≤ p) (hN : 1 ≤ N) : ∀ (k fuel n : Nat) (O : List PyEv),
    2 * N + 4 + k ≤ fuel →
    ∃ n' : Int, twoLevel_iterator.while2 (p : Int) (stPy_tl st) (b : Int) (trajStr traj) cN fuel
        ((n : Int), 0, O, (k : Int), some (N : Int))
      = .ok (n', 0, O ++ evsPy (List.replicate k (twoLevelPass N p b st traj)).flatten, 0, some (N : Int)) := by
  intro k
  induction k with
  | zero =>
    intro fuel n O hf
    obtain ⟨f, rfl⟩ : ∃ f, fuel = f + 1 := ⟨fuel - 1, by omega⟩
    refine ⟨n, ?_⟩
    rw [while2_exit_tl _ _ _ _ _ _ _ _ _ _ _ (by simp)]
    simp only [Nat.cast_zero, evsPy, List.replicate_zero, List.flatten_nil, List.map_nil, List.append_nil]
  | succ k ih =>
    intro fuel n O hf
    obtain ⟨f, rfl⟩ : ∃ f, fuel = f + 1 := ⟨fuel - 1, by omega⟩
    have hc := ceilDiv_le_self N p hp hN
    obtain ⟨sF, hsF, hout, hn, _, _⟩ := On.twoLevelIterFrom_eq N p b st traj n f hp hN (by omega)
    obtain ⟨n', hrun⟩ := ih f 1 (O ++ evsPy (twoLevelPass N p b st traj)) (by omega)
    refine ⟨n', ?_⟩
    rw [pass_sim N b st traj cN p hp n f sF hsF (by omega) O _ (by push_cast; omega), hout, hn]
    have e : ((k + 1 : Nat) : Int) - 1 = (k : Int) := by push_cast; ring
    rw [e, hrun, List.replicate_succ, List.flatten_cons]
    simp only [evsPy, List.map_flatten, List.map_replicate, List.append_assoc, List.map_append]

/-- the forward phase: the generated loop `while1`, started at `_n = j·p`, yields the Forwards of the periods
`j, j+1, …` until the client's `N` is reached, and the client finalises -/
theorem fwd_sim (p : Nat) (hp : 1 ≤ p) (hN : 1 ≤ N) : ∀ (m j fuel : Nat) (O : List PyEv) (pl : Int),
    j + m + 1 = ceilDiv N p → m + 2 ≤ fuel →
    twoLevel_iterator.while1 (p : Int) 0 (N : Int) fuel (((j * p : Nat) : Int), O, pl, none)
      = .ok ((N : Int),
          O ++ evsPy ((List.range' j (m + 1)).map
            (fun i => (⟨.forward (i * p) (i * p + p) true false .disk, i * p + p, 0⟩ : Ev))),
          pl, some (N : Int)) := by
  intro m
  induction m with
  | zero =>
    intro j fuel O pl hj hf
    obtain ⟨f, rfl⟩ : ∃ f, fuel = f + 2 := ⟨fuel - 2, by omega⟩
    have hge := On.ceilDiv_ge N p hp
    rw [← hj, Nat.add_zero, Nat.succ_mul] at hge
    rw [while1_last _ _ _ _ _ _ _ (by push_cast at hge ⊢; omega)]
    simp only [Nat.cast_mul, evsPy, evPy_tl, actPy_tl, stPy_tl, zero_add, List.range'_one, List.map_cons,
      List.map_nil, Nat.cast_add, Nat.cast_zero]
  | succ m ih =>
    intro j fuel O pl hj hf
    obtain ⟨f, rfl⟩ : ∃ f, fuel = f + 1 := ⟨fuel - 1, by omega⟩
    have hlt := On.ceilDiv_lt N p (j + 1) hN (by omega)
    rw [Nat.succ_mul] at hlt
    rw [while1_more _ _ _ _ _ _ _ (by push_cast at hlt ⊢; omega)]
    have e : ((j * p : Nat) : Int) + (p : Int) = (((j + 1) * p : Nat) : Int) := by push_cast; ring
    have hx : (⟨.forward ((j * p : Nat) : Int) (((j * p : Nat) : Int) + (p : Int)) true false .disk,
          ((j * p : Nat) : Int) + (p : Int), 0, false⟩ : PyEv)
        = evPy_tl ⟨.forward (j * p) (j * p + p) true false .disk, j * p + p, 0⟩ false := by
      simp only [Nat.cast_mul, evPy_tl, actPy_tl, Nat.cast_add, stPy_tl, Nat.cast_zero]
    rw [hx, e, ih (j + 1) f _ pl (by omega) (by omega)]
    rw [List.range'_succ, List.map_cons, List.append_assoc]
    rfl

end

end Ckpt.Py.TwoLevel

namespace Ckpt.Py
open Ckpt Ckpt.Py.TwoLevel

/-! ## the theorems -/

/-- The model's event list for the canonical client (finalise at `N`, `k` adjoint calculations): the Forwards of
the online phase (`fwdEv (j·p)`, `j < ⌈N/p⌉` — `Sched.fwdEv` of `twoLevelSched`), `EndForward`, and `k` copies
of one adjoint pass. -/
def twoLevelClientEvs (fwdEv : Nat → Ev) (p N k : Nat) (pass : List Ev) : List Ev :=
  (List.range (ceilDiv N p)).map (fun j => fwdEv (j * p)) ++ [⟨.endForward, N, 0⟩]
    ++ (List.replicate k pass).flatten

/-- fuel that suffices for `twoLevel_iterator` (every loop and every `n_advance` call) -/
def twoLevelFuel (N k : Nat) : Nat := 2 * N + k + 4

/-- core statement: right-hand side built from the recursive stream `twoLevelPass` -/
theorem twoLevel_iterator_refines_stream (p b N k : Nat) (st : Storage) (traj : Traj) (hp : 1 ≤ p) (hN : 1 ≤ N)
    (fuel : Nat) (hf : twoLevelFuel N k ≤ fuel) :
    twoLevel_iterator fuel 0 0 none (p : Int) (b : Int) (stPy_tl st) (trajStr traj) (k : Int) (N : Int)
      = .ok (evsPy (twoLevelClientEvs (fun n => ⟨.forward n (n + p) true false .disk, n + p, 0⟩) p N k
          (twoLevelPass N p b st traj))) := by
  unfold twoLevelFuel at hf
  have hc := ceilDiv_le_self N p hp hN
  have hpos := On.ceilDiv_pos N p hp hN
  have hfw := fwd_sim N p hp hN (ceilDiv N p - 1) 0 fuel [] (k : Int) (by omega) (by omega)
  simp only [Nat.zero_mul, Nat.cast_zero, List.nil_append, show ceilDiv N p - 1 + 1 = ceilDiv N p by omega,
    ← List.range_eq_range'] at hfw
  obtain ⟨n', hrun⟩ := passes_sim N b st traj (N : Int) p hp hN k fuel N
    (evsPy ((List.range (ceilDiv N p)).map
      (fun i => (⟨.forward (i * p) (i * p + p) true false .disk, i * p + p, 0⟩ : Ev)))
      ++ [⟨.endForward, (N : Int), 0, false⟩]) (by omega)
  unfold twoLevel_iterator
  simp only [bind, Except.bind, pure, Except.pure, hfw, clientHook_some_tl, hrun]
  simp only [evsPy, evPy_tl, actPy_tl, List.map_map, List.map_flatten, List.map_replicate, List.append_assoc,
    List.cons_append, List.nil_append, twoLevelClientEvs, List.map_append, List.map_cons, Nat.cast_zero]

example : twoLevel_iterator 25 0 0 none 4 0 .disk "revolve" 3 9
    = .ok (evsPy (twoLevelClientEvs (fun n => ⟨.forward n (n + 4) true false .disk, n + 4, 0⟩) 4 9 3
        (twoLevelPass 9 4 0 .disk .revolve))) :=
  twoLevel_iterator_refines_stream 4 0 9 3 .disk .revolve (by decide) (by decide) 25 (by decide)

/-- **Refinement to the literal twin.**  For every period `p ≥ 1`, every number `b` of binomial snapshots, every
storage, both trajectories, every `N ≥ 1` and every `k`: `TwoLevelCheckpointSchedule._iterator` as generated from
the Python source, started as Python starts it (`_n = 0`, `_r = 0`, `_max_n = None`) and driven by the canonical
client (`finalize(N)` as soon as the forward reaches `N`, `k` adjoint calculations), yields the online Forwards,
`EndForward`, and `k` copies of the event list `pass` of one adjoint pass of the literal twin
`twoLevelIterPass` (`Model/TwoLevelIter.lean`). -/
theorem twoLevel_iterator_refines_twin (p b N k : Nat) (st : Storage) (traj : Traj) (hp : 1 ≤ p) (hN : 1 ≤ N)
    (fuel : Nat) (hf : twoLevelFuel N k ≤ fuel) :
    ∃ pass, twoLevelIterPass N p b st traj (twoLevelIterFuel N) = .ok pass ∧
      twoLevel_iterator fuel 0 0 none (p : Int) (b : Int) (stPy_tl st) (trajStr traj) (k : Int) (N : Int)
        = .ok (evsPy (twoLevelClientEvs (fun n => ⟨.forward n (n + p) true false .disk, n + p, 0⟩) p N k pass)) :=
  ⟨twoLevelPass N p b st traj, twin_twoLevel N p b st traj hp hN,
    twoLevel_iterator_refines_stream p b N k st traj hp hN fuel hf⟩

example : ∃ pass, twoLevelIterPass 10 3 2 .ram .maximum (twoLevelIterFuel 10) = .ok pass ∧
    twoLevel_iterator 26 0 0 none 3 2 .ram "maximum" 2 10
      = .ok (evsPy (twoLevelClientEvs (fun n => ⟨.forward n (n + 3) true false .disk, n + 3, 0⟩) 3 10 2 pass)) :=
  twoLevel_iterator_refines_twin 3 2 10 2 .ram .maximum (by decide) (by decide) 26 (by decide)

/-- **`TwoLevelCheckpointSchedule._iterator` as generated from the Python source computes the stream model.**
For all valid parameters (`p ≥ 1`, storage RAM or DISK, any `b`, both trajectories), every `N ≥ 1` and `k ≥ 1`,
with `s` the `Sched` that the model constructor `twoLevelSched p b st traj` returns (`Model/Online.lean`) and
`first` its `s.first N`: the generated generator, started as Python starts it (`_n = 0`, `_r = 0`,
`_max_n = None`) and driven by the canonical client (`clientN = N`, `passes = k`), returns exactly
`s.fwdEv (j·p)` for `j < ⌈N/p⌉` (the forward phase of the machine of `Model/Machine.lean`), then `first`
(`EndForward` and the first adjoint pass), then `k - 1` times `s.again N` — each event with its `_n`, `_r`, and
`_exhausted = False` — i.e. the event list underlying `onlineObs s N k first` / `On.twoLevelObs p b st traj N k`,
the objects of `streams_twoLevel`, `On.twoLevel_clean`, `On.twoLevel_canon`.  Fuel `2N + k + 4` suffices. -/
theorem twoLevel_iterator_refines (p b N k : Nat) (st : Storage) (traj : Traj) (hp : 1 ≤ p)
    (hst : st = .ram ∨ st = .disk) (hN : 1 ≤ N) (hk : 1 ≤ k) (fuel : Nat) (hf : twoLevelFuel N k ≤ fuel) :
    ∃ s first, twoLevelSched p b st traj = .ok s ∧ s.first N = .ok first ∧
      twoLevel_iterator fuel 0 0 none (p : Int) (b : Int) (stPy_tl st) (trajStr traj) (k : Int) (N : Int)
        = .ok (evsPy ((List.range (ceilDiv N p)).map (fun j => s.fwdEv (j * p)) ++ first ++ agains s N (k - 1))) := by
  obtain ⟨⟨blocks, hblocks⟩, _⟩ := On.twoLevel_pass p b N st traj hp hst hN 0 none
  have hfirst : (On.twoLevelS p b st traj).first N = .ok (⟨.endForward, N, 0⟩ :: twoLevelPass N p b st traj) := by
    simp only [On.twoLevelS, hblocks]
  refine ⟨On.twoLevelS p b st traj, _, On.twoLevelSched_ok p b st traj hp hst, hfirst, ?_⟩
  rw [twoLevel_iterator_refines_stream p b N k st traj hp hN fuel hf]
  obtain ⟨k', rfl⟩ : ∃ k', k = k' + 1 := ⟨k - 1, by omega⟩
  simp only [twoLevelClientEvs, agains, Nat.add_sub_cancel, List.replicate_succ, List.flatten_cons]
  simp [On.twoLevelS]

example : ∃ s first, twoLevelSched 3 2 .ram .maximum = .ok s ∧ s.first 10 = .ok first ∧
    twoLevel_iterator 26 0 0 none 3 2 .ram "maximum" 2 10
      = .ok (evsPy ((List.range (ceilDiv 10 3)).map (fun j => s.fwdEv (j * 3)) ++ first ++ agains s 10 (2 - 1))) :=
  twoLevel_iterator_refines 3 2 10 2 .ram .maximum (by decide) (Or.inl rfl) (by decide) (by decide) 26 (by decide)

example : ∃ s first, twoLevelSched 4 0 .disk .revolve = .ok s ∧ s.first 9 = .ok first ∧
    twoLevel_iterator 25 0 0 none 4 0 .disk "revolve" 3 9
      = .ok (evsPy ((List.range (ceilDiv 9 4)).map (fun j => s.fwdEv (j * 4)) ++ first ++ agains s 9 (3 - 1))) :=
  twoLevel_iterator_refines 4 0 9 3 .disk .revolve (by decide) (Or.inr rfl) (by decide) (by decide) 25 (by decide)

/-- **Bridge to the observation list of the property theorems.**  The events the generated generator yields,
split into the forward phase `evsF` and the rest `evsR`, are the events whose observations (`On.fwdObs N`: `_n`
clipped to `N` and `max_n` set by the client's `finalize`; `Ev.obs · N` once `max_n = N`) form
`On.twoLevelObs p b st traj N k` — the list `On.twoLevel_clean` proves accepted by the executor and
`On.twoLevel_canon` proves to be the `act` lines of the canonical trace. -/
theorem twoLevel_iterator_obs (p b N k : Nat) (st : Storage) (traj : Traj) (hp : 1 ≤ p)
    (hst : st = .ram ∨ st = .disk) (hN : 1 ≤ N) (hk : 1 ≤ k) (fuel : Nat) (hf : twoLevelFuel N k ≤ fuel) :
    ∃ evsF evsR : List Ev,
      twoLevel_iterator fuel 0 0 none (p : Int) (b : Int) (stPy_tl st) (trajStr traj) (k : Int) (N : Int)
        = .ok (evsPy (evsF ++ evsR)) ∧
      On.twoLevelObs p b st traj N k = some (evsF.map (On.fwdObs N) ++ evsR.map (Ev.obs · N)) := by
  obtain ⟨s, first, hs, hfirst, hrun⟩ := twoLevel_iterator_refines p b N k st traj hp hst hN hk fuel hf
  refine ⟨(List.range (ceilDiv N p)).map (fun j => s.fwdEv (j * p)), first ++ agains s N (k - 1), ?_, ?_⟩
  · rw [hrun, List.append_assoc]
  · simp only [On.twoLevelObs, hs, hfirst, On.twoLevelFwdObs, agains, List.map_append, List.map_map,
      List.map_flatten, List.map_replicate, List.append_assoc]
    rfl

example : ∃ evsF evsR : List Ev,
    twoLevel_iterator 26 0 0 none 3 2 .ram "maximum" 2 10 = .ok (evsPy (evsF ++ evsR)) ∧
    On.twoLevelObs 3 2 .ram .maximum 10 2 = some (evsF.map (On.fwdObs 10) ++ evsR.map (Ev.obs · 10)) :=
  twoLevel_iterator_obs 3 2 10 2 .ram .maximum (by decide) (Or.inl rfl) (by decide) (by decide) 26 (by decide)

end Ckpt.Py

#print axioms Ckpt.Py.twoLevel_iterator_refines_twin
#print axioms Ckpt.Py.twoLevel_iterator_refines
#print axioms Ckpt.Py.twoLevel_iterator_obs
