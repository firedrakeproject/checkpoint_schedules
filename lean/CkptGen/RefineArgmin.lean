import CkptGen.RefineNAdv
import CkptVerif.Proofs.Argmin
/-!
# The Lean text generated from `argmin` (hrevolve_sequences/basic_functions.py) computes the model `argminO`
-/
namespace Ckpt.Py
open Ckpt

/-! ## the loop, at any element type

`argmin` is translated three times (elements `int`, `float`, and costs that may be infinite); the loop and its invariant
are the same. -/

/-- the body of the loop -/
def argStepPy {α : Type} [LE α] [Inhabited α] [∀ a b : α, Decidable (a ≤ b)] (l : List α) (s : Int × α) (k : Nat) :
    Int × α :=
  if l[k]! ≤ s.2 then ((k : Int), l[k]!) else s

/-- after `n` rounds the state is the index of the LAST minimum among the first `n` elements, with its value -/
theorem argLoop_inv {α : Type} [LinearOrder α] [Inhabited α] [∀ a b : α, Decidable (a ≤ b)] (l : List α) (n : Nat) :
    ∃ i : Nat, (List.range n).foldl (argStepPy l) ((0 : Int), l[0]!) = ((i : Int), l[i]!) ∧ (i < n ∨ i = 0) ∧
    (∀ j, j < n → l[i]! ≤ l[j]!) ∧ (∀ j, i < j → j < n → l[i]! < l[j]!) := by
  induction n with
  | zero => exact ⟨0, rfl, Or.inr rfl, by intro j hj; omega, by intro j _ hj; omega⟩
  | succ n ih =>
    obtain ⟨i, e, hi, hle, hlt⟩ := ih
    rw [List.range_succ, List.foldl_append, e]
    simp only [List.foldl_cons, List.foldl_nil, argStepPy]
    by_cases hc : l[n]! ≤ l[i]!
    · rw [if_pos hc]
      refine ⟨n, rfl, Or.inl (by omega), ?_, ?_⟩
      · intro j hj
        rcases Nat.lt_succ_iff_lt_or_eq.1 hj with h | h
        · exact le_trans hc (hle j h)
        · rw [h]
      · intro j h1 h2; omega
    · rw [if_neg hc]
      refine ⟨i, rfl, ?_, ?_, ?_⟩
      · rcases hi with h | h
        · left; omega
        · right; exact h
      · intro j hj
        rcases Nat.lt_succ_iff_lt_or_eq.1 hj with h | h
        · exact hle j h
        · rw [h]; exact le_of_lt (lt_of_not_ge hc)
      · intro j h1 h2
        rcases Nat.lt_succ_iff_lt_or_eq.1 h2 with h | h
        · exact hlt j h1 h
        · rw [h]; exact lt_of_not_ge hc

/-- on (order-preserving) casts of naturals the last minimum is where the model's `argminO` points -/
theorem argminO_eq_of_last_min {α : Type} [LinearOrder α] [Inhabited α] (c : Nat → α) (hc : StrictMono c) (l : List Nat)
    (h : l ≠ []) (k : Nat) (hk : k < l.length) (hle : ∀ j, j < l.length → (l.map c)[k]! ≤ (l.map c)[j]!)
    (hlt : ∀ j, k < j → j < l.length → (l.map c)[k]! < (l.map c)[j]!) : argminO (l.map some) = k + 1 := by
  obtain ⟨⟨p1, p2⟩, pget, pmin, plast⟩ := argminO_map_some_spec l h
  have cast : ∀ j (hj : j < l.length), (l.map c)[j]! = c l[j] := by
    intro j hj
    rw [getElem!_pos _ j (by simpa using hj), List.getElem_map]
  have hp : argminO (l.map some) - 1 < l.length := by omega
  have pget' : l[argminO (l.map some) - 1] = l.foldl min (l.headD 0) := by
    have := List.getElem?_eq_getElem hp
    rw [this] at pget
    exact Option.some.inj pget
  rcases Nat.lt_trichotomy (argminO (l.map some) - 1) k with c' | c' | c'
  · have a1 := plast k hk c'
    have a2 := hle _ hp
    rw [cast _ hk, cast _ hp, pget'] at a2
    have a2' := hc.le_iff_le.1 a2
    omega
  · omega
  · have a1 := hlt _ c' hp
    rw [cast _ hk, cast _ hp, pget'] at a1
    have a1' := hc.lt_iff_lt.1 a1
    have a2 := pmin l[k] (List.getElem_mem hk)
    omega

theorem argmin_eq_fold (l : List Int) (h : l ≠ []) :
    argmin l = .ok ((1 : Int) + ((List.range l.length).foldl (argStepPy l) ((0 : Int), l[0]!)).1) := by
  have hpos : 0 < l.length := List.length_pos_iff.2 h
  unfold argmin
  simp only [bind, Except.bind, pure, Except.pure]
  have h0 := pyIndex_getElem! l 0 hpos
  simp only [Nat.cast_zero] at h0
  rw [h0]
  simp only []
  rw [pyRange_zero, forIn_yield (g := fun s (i : Int) => argStepPy l s i.toNat), List.foldl_map]
  · simp only [Int.toNat_natCast]
  · intro x hx s
    obtain ⟨k, hk, rfl⟩ := List.mem_map.1 hx
    have hk' : k < l.length := List.mem_range.1 hk
    simp only [pyIndex_getElem! l k hk', Int.toNat_natCast, argStepPy]
    split_ifs <;> rfl

/-- `list[0]` on an empty list -/
theorem argmin_empty : argmin [] = .error .indexError := by
  unfold argmin
  simp only [bind, Except.bind, pyIndex_nil]

/-- characterisation independent of the model: the result is the 1-based index of the LAST minimum -/
theorem argmin_spec (l : List Int) (h : l ≠ []) :
    ∃ k : Nat, argmin l = .ok ((k : Int) + 1) ∧ k < l.length ∧
      (∀ j, j < l.length → l[k]! ≤ l[j]!) ∧ (∀ j, k < j → j < l.length → l[k]! < l[j]!) := by
  have hpos : 0 < l.length := List.length_pos_iff.2 h
  obtain ⟨i, e, hi, hle, hlt⟩ := argLoop_inv l l.length
  refine ⟨i, ?_, by omega, hle, hlt⟩
  rw [argmin_eq_fold l h, e, Int.add_comm]

theorem argmin_refines (l : List Nat) (h : l ≠ []) :
    argmin (l.map (fun a : Nat => (a : Int))) = .ok ((argminO (l.map some) : Nat) : Int) := by
  obtain ⟨k, e, hk, hle, hlt⟩ := argmin_spec (l.map (fun a : Nat => (a : Int))) (by simpa using h)
  simp only [List.length_map] at hk hle hlt
  rw [e, argminO_eq_of_last_min (fun a : Nat => (a : Int)) Nat.strictMono_cast l h k hk hle hlt]
  push_cast
  rfl

end Ckpt.Py

#print axioms Ckpt.Py.argmin_refines
#print axioms Ckpt.Py.argmin_empty
#print axioms Ckpt.Py.argmin_spec
