import CkptGen.Src
import CkptVerif.Model.Online
import CkptVerif.Model.Mixed
import CkptVerif.Model.Revolve
import CkptGen.RefineCommon
/-!
# The Lean text generated from the METHODS of the schedule classes computes what the models say

`CheckpointSchedule.finalize`, `CheckpointSchedule.__init__`, the `uses_storage_type` methods of all classes, and
the canonical client `clientHook` of the generated online generators, against `Ckpt.finalize`, `Sched.init`,
`Sched.uses` (`CkptVerif/Model/Machine.lean`) and the client of `Sched.canonLoop`.

Conventions of the mapping model ↦ generated text
* `Nat ↦ Int` by the cast, `Option Nat ↦ Option Int` by `optInt`, `Storage ↦ StorageType` by `stPy`;
* the outcome `MSt × FinOut` of the model's `finalize` ↦ `finPy` (`.ok` ↦ the new `(_n, _max_n)`, the two errors ↦ the
  corresponding `throw`);
* `Sched.uses : Storage → Option Bool` records what the drivers of the harness observe
  (`harness/rtrace.py: int(bool(o.uses_storage_type(t)))`, `"x"` when the call raised): `none` = the call raised,
  `some b` = the truth value of the returned object.  The observation of a generated `uses` function is `obsUses`
  (`M Bool`) / `obsUsesO` (`M (Option Bool)`, Python `None` is falsy).  For `MultistageCheckpointSchedule`, whose
  method returns `None` for WORK and NONE, the exact value is stated as well (`multistage_uses_exact`).
-/
namespace Ckpt.Py
open Ckpt

theorem stPy_injective : ∀ a b : Storage, stPy a = stPy b ↔ a = b := by
  intro a b; cases a <;> cases b <;> simp [stPy]

def optInt (o : Option Nat) : Option Int := o.map (fun n : Nat => (n : Int))

@[simp] theorem optInt_none : optInt none = none := rfl
@[simp] theorem optInt_some (n : Nat) : optInt (some n) = some (n : Int) := rfl

/-- the outcome of the model's `finalize`, as the generated function reports it -/
def finPy (r : MSt × FinOut) : M (Int × Option Int) :=
  match r.2 with
  | .ok => .ok ((r.1.n : Int), optInt r.1.maxN)
  | .valueError => .error .valueError
  | .runtimeError => .error .runtimeError

/-- `bool(x)` of what a `uses_storage_type` returning `bool | None` returned -/
def truthy : Option Bool → Bool
  | some b => b
  | none => false

/-- what the harness observes of a `uses_storage_type` call (`none` = it raised) -/
def obsUses : M Bool → Option Bool
  | .ok b => some b
  | .error _ => none

def obsUsesO : M (Option Bool) → Option Bool
  | .ok r => some (truthy r)
  | .error _ => none

theorem finalize_spec (k n : Int) (mx : Option Int) :
    Py.finalize k n mx =
      if k < 1 then .error .valueError else
      match mx with
      | none => if n ≥ k then .ok (k, some k) else .error .runtimeError
      | some N => if n ≠ k ∨ N ≠ k then .error .runtimeError else .ok (n, some N) := by
  unfold Py.finalize
  by_cases hk : k < 1
  · simp [hk]; rfl
  · cases mx with
    | none =>
      by_cases hn : n ≥ k
      · simp [hk, hn]; rfl
      · simp [hk, hn]; rfl
    | some N =>
      by_cases h1 : n = k
      · by_cases h2 : N = k
        · simp [hk, h1, h2, unwrap, bind, Except.bind, pure, Except.pure]
        · simp [hk, h1, h2, unwrap, bind, Except.bind, pure, Except.pure]; rfl
      · simp [hk, h1, bind, Except.bind, pure, Except.pure]; rfl

/-- **`finalize` refines**: on the fields `_n`, `_max_n` of any machine state and for every integer argument the
generated `finalize` returns / raises exactly what the model's `finalize` does. -/
theorem finalize_refines (m : MSt) (k : Int) :
    Py.finalize k (m.n : Int) (optInt m.maxN) = finPy (Ckpt.finalize m k) := by
  rw [finalize_spec]
  unfold Ckpt.finalize finPy
  by_cases hk : k < 1
  · simp [hk]
  · have hk' : k.toNat = k := Int.toNat_of_nonneg (by omega)
    cases hm : m.maxN with
    | none =>
      by_cases hn : (m.n : Int) ≥ k
      · simp [hk, hn, hk']
      · simp [hk, hn]
    | some N =>
      by_cases h : (m.n : Int) ≠ k ∨ (N : Int) ≠ k
      · simp only [hk, if_false, optInt_some, h, if_true]
      · simp only [hk, if_false, optInt_some, h, hm]

theorem finalize_frame (m : MSt) (k : Int) :
    (Ckpt.finalize m k).1.r = m.r ∧ (Ckpt.finalize m k).1.started = m.started ∧
    (Ckpt.finalize m k).1.exhausted = m.exhausted ∧ (Ckpt.finalize m k).1.phase = m.phase ∧
    ((Ckpt.finalize m k).2 ≠ .ok → (Ckpt.finalize m k).1 = m) := by
  unfold Ckpt.finalize
  by_cases hk : k < 1
  · simp [hk]
  · cases hm : m.maxN with
    | none =>
      by_cases hn : (m.n : Int) ≥ k
      · simp [hk, hn]
      · simp [hk, hn]
    | some N =>
      by_cases h : (m.n : Int) ≠ k ∨ (N : Int) ≠ k
      · simp only [hk, if_false, h, if_true]; simp
      · simp only [hk, if_false, h]; simp

/-- non-vacuity: the three outcomes occur -/
example : Py.finalize 5 (7 : Nat) (optInt none) = .ok (5, some 5) ∧
    Py.finalize 0 (7 : Nat) (optInt none) = .error .valueError ∧
    Py.finalize 5 (3 : Nat) (optInt (some 5)) = .error .runtimeError ∧
    Py.finalize 5 (5 : Nat) (optInt (some 5)) = .ok (5, some 5) := ⟨rfl, rfl, rfl, rfl⟩

/-- **`clientHook` is the canonical client**: when the forward has been told to reach `N` (and `max_n` is still
unknown) it is the generated `finalize(N)`, which succeeds; otherwise nothing changes. -/
theorem clientHook_eq_finalize (N n : Int) (mx : Option Int) (hN : 1 ≤ N) :
    (mx = none ∧ n ≥ N → Py.finalize N n mx = .ok (clientHook N n mx)) ∧
    (¬ (mx = none ∧ n ≥ N) → clientHook N n mx = (n, mx)) := by
  constructor
  · rintro ⟨rfl, hn⟩
    rw [finalize_spec]
    have : ¬ N < 1 := by omega
    simp [clientHook, this, hn]
  · intro h
    simp only [clientHook, h, if_false]

/-- the same against the model: `clientHook` computes the `_n`, `_max_n` of the state `m2` that the driver
`Sched.canonLoop` continues with after an action left the machine in state `m1` (`Machine.lean`, line
`let m2 := if m1.maxN.isNone ∧ Nfin ≤ m1.n then (finalize m1 Nfin).1 else m1`). -/
theorem clientHook_canon (m1 : MSt) (Nfin : Nat) (hN : 1 ≤ Nfin) :
    clientHook (Nfin : Int) (m1.n : Int) (optInt m1.maxN) =
      (((if m1.maxN.isNone ∧ Nfin ≤ m1.n then (Ckpt.finalize m1 (Nfin : Int)).1 else m1).n : Int),
       optInt (if m1.maxN.isNone ∧ Nfin ≤ m1.n then (Ckpt.finalize m1 (Nfin : Int)).1 else m1).maxN) := by
  have hk : ¬ ((Nfin : Int) < 1) := by omega
  unfold clientHook Ckpt.finalize
  cases hm : m1.maxN with
  | some M => simp [hm]
  | none =>
    by_cases hn : Nfin ≤ m1.n
    · have hn' : (m1.n : Int) ≥ (Nfin : Int) := by omega
      simp [hk, hn, hn']
    · have hn' : ¬ (m1.n : Int) ≥ (Nfin : Int) := by omega
      simp [hn, hn', hm]

example : clientHook 5 7 none = (5, some 5) ∧ clientHook 5 3 none = (3, none) ∧
    clientHook 5 7 (some 7) = (7, some 7) := ⟨rfl, rfl, rfl⟩

theorem init_spec (mx : Option Int) :
    checkpointSchedule_init mx =
      match mx with
      | none => .ok (0, 0, none)
      | some k => if k < 1 then .error .valueError else .ok (0, 0, some k) := by
  unfold checkpointSchedule_init
  cases mx with
  | none => simp [bind, Except.bind, pure, Except.pure]
  | some k =>
    by_cases hk : k < 1
    · simp [hk, unwrap, bind, Except.bind, pure, Except.pure]; rfl
    · simp [hk, unwrap, bind, Except.bind, pure, Except.pure]

/-- **`__init__` refines**: for a schedule whose `max_n` argument is absent or positive the generated `__init__`
sets `_n, _r, _max_n` to the fields of the model's initial state `Sched.init` (whose other fields say: not started,
not exhausted, generator not begun). -/
theorem init_refines (s : Sched) (h : ∀ N, s.maxN0 = some N → 1 ≤ N) :
    checkpointSchedule_init (optInt s.maxN0) = .ok ((s.init.n : Int), (s.init.r : Int), optInt s.init.maxN) ∧
    s.init.started = false ∧ s.init.exhausted = false ∧ s.init.phase = .fwd := by
  refine ⟨?_, rfl, rfl, rfl⟩
  rw [init_spec]
  cases hm : s.maxN0 with
  | none => simp [Sched.init, hm]
  | some N =>
    have : ¬ ((N : Int) < 1) := by have := h N hm; omega
    simp [Sched.init, hm, this]

theorem init_rejects (k : Int) (hk : k < 1) : checkpointSchedule_init (some k) = .error .valueError := by
  rw [init_spec]; simp [hk]

/-- a model constructor that has not rejected has passed its guard -/
theorem ctor_ok {c : Prop} [Decidable c] {e : Err} {k : Except Err Sched} {s : Sched}
    (h : (if c then .error e else k) = .ok s) : ¬ c ∧ k = .ok s := by
  by_cases hc : c
  · rw [if_pos hc] at h; cases h
  · rw [if_neg hc] at h; exact ⟨hc, h⟩

/-- the online classes call `__init__()` without `max_n` -/
theorem init_online :
    checkpointSchedule_init (optInt singleMemorySched.maxN0) = .ok (0, 0, none) ∧
    (∀ mv, checkpointSchedule_init (optInt (singleDiskSched mv).maxN0) = .ok (0, 0, none)) ∧
    checkpointSchedule_init (optInt noneSched.maxN0) = .ok (0, 0, none) ∧
    (∀ p b st traj s, twoLevelSched p b st traj = .ok s →
      checkpointSchedule_init (optInt s.maxN0) = .ok (0, 0, none)) := by
  refine ⟨by rw [init_spec]; rfl, fun _ => by rw [init_spec]; rfl, by rw [init_spec]; rfl, ?_⟩
  intro p b st traj s h
  obtain ⟨-, h⟩ := ctor_ok h
  obtain ⟨-, h⟩ := ctor_ok h
  cases h; rw [init_spec]; rfl

/-- what the model's constructors of the offline classes do with `max_n = N`: they build `offlineSched N …` only
for `N ≥ 1`, and reject `N < 1` with `Err.construct` — exactly when the generated `__init__` raises `ValueError`. -/
theorem offlineSched_init (N : Nat) (evs : Except Err (List Ev)) (u : Storage → Option Bool) (hN : 1 ≤ N) :
    checkpointSchedule_init (some (N : Int)) =
      .ok (((offlineSched N evs u).init.n : Int), ((offlineSched N evs u).init.r : Int),
           optInt (offlineSched N evs u).init.maxN) :=
  (init_refines (offlineSched N evs u) (by intro M h; cases h; exact hN)).1

/-- the constructors of the Revolve family: `max_n < 1` (or another defect `P` of the arguments) is rejected at
construction, everything else is an `offlineSched` -/
theorem init_guarded (N : Nat) (P : Prop) [Decidable P] (msg : String) (evs : Except Err (List Ev))
    (u : Storage → Option Bool) :
    (∀ s, (if N < 1 ∨ P then .error (.construct msg) else .ok (offlineSched N evs u) : Except Err Sched) = .ok s →
      checkpointSchedule_init (some (N : Int)) = .ok ((s.init.n : Int), (s.init.r : Int), optInt s.init.maxN)) ∧
    (N < 1 → checkpointSchedule_init (some (N : Int)) = .error .valueError ∧
      (if N < 1 ∨ P then .error (.construct msg) else .ok (offlineSched N evs u) : Except Err Sched)
        = .error (.construct msg)) := by
  refine ⟨fun s h => ?_, fun hN => ⟨init_rejects _ (by omega), if_pos (Or.inl hN)⟩⟩
  obtain ⟨hc, h⟩ := ctor_ok h
  cases h
  exact offlineSched_init _ _ _ (by omega)

theorem init_multistage (N ram disk : Nat) (traj : Traj) :
    (∀ s, multistageSched N ram disk traj = .ok s →
      checkpointSchedule_init (some (N : Int)) = .ok ((s.init.n : Int), (s.init.r : Int), optInt s.init.maxN)) ∧
    (N < 1 → checkpointSchedule_init (some (N : Int)) = .error .valueError ∧
      multistageSched N ram disk traj = .error (.construct "max_n must be positive") ∧
      multistageEvs N ram disk traj = .error (.construct "max_n must be positive")) := by
  constructor
  · intro s h
    obtain ⟨hN, h⟩ := ctor_ok h
    split at h
    · cases h
    · cases h; exact offlineSched_init _ _ _ (by omega)
  · intro hN
    exact ⟨init_rejects _ (by omega), by simp [multistageSched, hN], by simp [multistageEvs, hN]⟩

theorem init_mixed (plan : Planner) (N sn : Nat) (st : Storage) :
    (∀ s, mixedSched plan N sn st = .ok s →
      checkpointSchedule_init (some (N : Int)) = .ok ((s.init.n : Int), (s.init.r : Int), optInt s.init.maxN)) ∧
    (N < 1 → checkpointSchedule_init (some (N : Int)) = .error .valueError ∧
      ∃ msg, mixedSched plan N sn st = .error (.construct msg)) := by
  constructor
  · intro s h
    obtain ⟨-, h⟩ := ctor_ok h
    obtain ⟨-, h⟩ := ctor_ok h
    obtain ⟨hN, h⟩ := ctor_ok h
    cases h; exact offlineSched_init _ _ _ (by omega)
  · intro hN
    refine ⟨init_rejects _ (by omega), ?_⟩
    unfold mixedSched
    have h1 : ¬ (sn < min 1 (N - 1) ∧ 1 ≤ N) := by omega
    by_cases h2 : st = .ram ∨ st = .disk
    · exact ⟨"max_n must be positive", by simp only [h1, if_false, h2, not_true_eq_false, hN, if_true]⟩
    · exact ⟨"Invalid storage", by simp only [h1, if_false, h2, not_false_eq_true, if_true]⟩

theorem init_revolve (N cm : Nat) (c : Costs) :
    (∀ s, revolveSched N cm c = .ok s →
      checkpointSchedule_init (some (N : Int)) = .ok ((s.init.n : Int), (s.init.r : Int), optInt s.init.maxN)) ∧
    (N < 1 → checkpointSchedule_init (some (N : Int)) = .error .valueError ∧
      revolveSched N cm c = .error (.construct "Revolve")) :=
  init_guarded N (cm < 1) "Revolve" _ _

theorem init_diskRevolve (N cm : Nat) (c : Costs) :
    (∀ s, diskRevolveSched N cm c = .ok s →
      checkpointSchedule_init (some (N : Int)) = .ok ((s.init.n : Int), (s.init.r : Int), optInt s.init.maxN)) ∧
    (N < 1 → checkpointSchedule_init (some (N : Int)) = .error .valueError ∧
      diskRevolveSched N cm c = .error (.construct "DiskRevolve")) :=
  init_guarded N (cm < 1) "DiskRevolve" _ _

theorem init_periodic (N cm : Nat) (c : Costs) :
    (∀ s, periodicSched N cm c = .ok s →
      checkpointSchedule_init (some (N : Int)) = .ok ((s.init.n : Int), (s.init.r : Int), optInt s.init.maxN)) ∧
    (N < 1 → checkpointSchedule_init (some (N : Int)) = .error .valueError ∧
      periodicSched N cm c = .error (.construct "PeriodicDiskRevolve")) :=
  init_guarded N (cm < 1 ∨ c.uf = 0) "PeriodicDiskRevolve" _ _

theorem init_hrevolve (N c0 c1 : Nat) (c : Costs) :
    (∀ s, hrevolveSched N c0 c1 c = .ok s →
      checkpointSchedule_init (some (N : Int)) = .ok ((s.init.n : Int), (s.init.r : Int), optInt s.init.maxN)) ∧
    (N < 1 → checkpointSchedule_init (some (N : Int)) = .error .valueError ∧
      hrevolveSched N c0 c1 c = .error (.construct "HRevolve")) :=
  init_guarded N (c0 < 1) "HRevolve" _ _

example : (∀ N, (offlineSched 3 (.ok []) (fun _ => none)).maxN0 = some N → 1 ≤ N) := by
  intro N h; cases h; decide
example : checkpointSchedule_init (some 3) = .ok (0, 0, some 3) ∧
    checkpointSchedule_init (some 0) = .error .valueError ∧ checkpointSchedule_init none = .ok (0, 0, none) :=
  ⟨rfl, rfl, rfl⟩

/-- SingleMemoryStorageSchedule: the constructor sets `_storage = StorageType.WORK` (basic_schedules.py:36) -/
theorem singleMemory_uses_refines (st : Storage) :
    obsUses (singleMemory_uses (stPy st) StorageType.work) = singleMemorySched.uses st := by
  cases st <;> rfl

/-- SingleDiskStorageSchedule: the constructor sets `_storage = StorageType.DISK` (basic_schedules.py:114) -/
theorem singleDisk_uses_refines (mv : Bool) (st : Storage) :
    obsUses (singleDisk_uses (stPy st) StorageType.disk) = (singleDiskSched mv).uses st := by
  cases st <;> rfl

theorem none_uses_refines (st : Storage) : obsUses (none_uses (stPy st)) = noneSched.uses st := by
  cases st <;> rfl

/-- TwoLevelCheckpointSchedule: `_binomial_storage` is the constructor's argument -/
theorem twoLevel_uses_refines (p b : Nat) (bst : Storage) (traj : Traj) (s : Sched)
    (h : twoLevelSched p b bst traj = .ok s) (st : Storage) :
    obsUses (twoLevel_uses (stPy st) (stPy bst)) = s.uses st := by
  obtain ⟨-, h⟩ := ctor_ok h
  obtain ⟨-, h⟩ := ctor_ok h
  cases h
  cases st <;> cases bst <;> rfl

/-- MixedCheckpointSchedule: `_storage` is the constructor's argument -/
theorem mixed_uses_refines (plan : Planner) (N sn : Nat) (bst : Storage) (s : Sched)
    (h : mixedSched plan N sn bst = .ok s) (st : Storage) :
    obsUses (mixed_uses (stPy st) (stPy bst)) = s.uses st := by
  obtain ⟨-, h⟩ := ctor_ok h
  obtain ⟨-, h⟩ := ctor_ok h
  obtain ⟨-, h⟩ := ctor_ok h
  cases h
  cases st <;> cases bst <;> rfl

/-- the `uses` of the Revolve family in the model is `revUses` of the fields the constructors set -/
theorem revolve_uses_revUses (ram : Nat) (disk : Option Nat) (st : Storage) :
    obsUses (revolve_uses (stPy st) (ram : Int) (optInt disk)) = revUses ram disk st := by
  cases st with
  | ram => simp [revolve_uses, stPy, revUses, obsUses, pure, Except.pure]
  | disk =>
    cases disk with
    | none => simp [revolve_uses, stPy, revUses, obsUses, pure, Except.pure]
    | some d => simp [revolve_uses, stPy, revUses, obsUses, pure, Except.pure, bind, Except.bind, unwrap]
  | work => simp [revolve_uses, stPy, revUses, obsUses, pure, Except.pure]
  | none => simp [revolve_uses, stPy, revUses, obsUses, pure, Except.pure]

/-- Revolve: `super().__init__(max_n, snapshots_in_ram, 0, schedule)` (hrevolve.py:338) -/
theorem revolve_uses_refines (N cm : Nat) (c : Costs) (s : Sched) (h : revolveSched N cm c = .ok s)
    (st : Storage) : obsUses (revolve_uses (stPy st) (cm : Int) (some 0)) = s.uses st := by
  obtain ⟨-, h⟩ := ctor_ok h
  cases h; exact revolve_uses_revUses cm (some 0) st

/-- DiskRevolve: `super().__init__(max_n, snapshots_in_ram, None, schedule)` (hrevolve.py:270) -/
theorem diskRevolve_uses_refines (N cm : Nat) (c : Costs) (s : Sched) (h : diskRevolveSched N cm c = .ok s)
    (st : Storage) : obsUses (revolve_uses (stPy st) (cm : Int) none) = s.uses st := by
  obtain ⟨-, h⟩ := ctor_ok h
  cases h; exact revolve_uses_revUses cm none st

/-- PeriodicDiskRevolve: `super().__init__(max_n, snapshots_in_ram, None, schedule)` (hrevolve.py:305) -/
theorem periodic_uses_refines (N cm : Nat) (c : Costs) (s : Sched) (h : periodicSched N cm c = .ok s)
    (st : Storage) : obsUses (revolve_uses (stPy st) (cm : Int) none) = s.uses st := by
  obtain ⟨-, h⟩ := ctor_ok h
  cases h; exact revolve_uses_revUses cm none st

/-- HRevolve: `super().__init__(max_n, snapshots_in_ram, snapshots_on_disk, schedule)` (hrevolve.py:236) -/
theorem hrevolve_uses_refines (N c0 c1 : Nat) (c : Costs) (s : Sched) (h : hrevolveSched N c0 c1 c = .ok s)
    (st : Storage) : obsUses (revolve_uses (stPy st) (c0 : Int) (some (c1 : Int))) = s.uses st := by
  obtain ⟨-, h⟩ := ctor_ok h
  cases h; exact revolve_uses_revUses c0 (some c1) st

theorem count_pos_contains (l : List Storage) (x : Storage) :
    decide (((l.count x : Nat) : Int) > 0) = l.contains x := by
  have h1 : (((l.count x : Nat) : Int) > 0) ↔ x ∈ l := by
    rw [← List.count_pos_iff]; omega
  by_cases h : x ∈ l
  · simp [h]
  · simp [h]

/-- the exact value of the generated Multistage `uses_storage_type`: `None` for WORK and NONE -/
theorem multistage_uses_exact (ram disk : Int) :
    multistage_uses .ram ram disk = .ok (some (decide (ram > 0))) ∧
    multistage_uses .disk ram disk = .ok (some (decide (disk > 0))) ∧
    multistage_uses .work ram disk = .ok none ∧ multistage_uses .none ram disk = .ok none := by
  refine ⟨?_, ?_, ?_, ?_⟩ <;> simp [multistage_uses, pure, Except.pure]

/-- MultistageCheckpointSchedule: the constructor sets `_snapshots_in_ram = storage.count(StorageType.RAM)`,
`_snapshots_on_disk = storage.count(StorageType.DISK)` for the `storage` tuple it computes
(multistage.py:195-198; `multistageStorage` in the model) -/
theorem multistage_uses_refines (N ram disk : Nat) (traj : Traj) (s : Sched) (storage : List Storage)
    (hs : multistageStorage N ram disk traj = some storage)
    (h : multistageSched N ram disk traj = .ok s) (st : Storage) :
    obsUsesO (multistage_uses (stPy st) (storage.count .ram : Nat) (storage.count .disk : Nat)) = s.uses st := by
  obtain ⟨-, h⟩ := ctor_ok h
  rw [hs] at h
  cases h
  have e := multistage_uses_exact (storage.count .ram : Nat) (storage.count .disk : Nat)
  cases st with
  | ram => simp only [stPy, e.1, obsUsesO, truthy, offlineSched, count_pos_contains]
  | disk => simp only [stPy, e.2.1, obsUsesO, truthy, offlineSched, count_pos_contains]
  | work => simp only [stPy, e.2.2.1, obsUsesO, truthy, offlineSched]
  | none => simp only [stPy, e.2.2.2, obsUsesO, truthy, offlineSched]

theorem multistageSched_storage (N ram disk : Nat) (traj : Traj) (s : Sched)
    (h : multistageSched N ram disk traj = .ok s) : ∃ storage, multistageStorage N ram disk traj = some storage := by
  obtain ⟨-, h⟩ := ctor_ok h
  cases hs : multistageStorage N ram disk traj with
  | none => rw [hs] at h; cases h
  | some storage => exact ⟨storage, rfl⟩

/-- when only one kind of storage is requested the counts are the clamped constructor arguments -/
theorem multistageStorage_counts_ram0 (N disk : Nat) (traj : Traj) :
    ∃ storage, multistageStorage N 0 disk traj = some storage ∧
      storage.count .ram = 0 ∧ storage.count .disk = min disk (N - 1) := by
  refine ⟨List.replicate (min disk (N - 1)) .disk, by simp [multistageStorage], ?_, ?_⟩
  · simp [List.count_replicate]
  · simp

theorem multistageStorage_counts_disk0 (N ram : Nat) (traj : Traj) :
    ∃ storage, multistageStorage N ram 0 traj = some storage ∧
      storage.count .ram = min ram (N - 1) ∧ storage.count .disk = 0 := by
  by_cases h : min ram (N - 1) = 0
  · refine ⟨[], ?_, by simp [h], by simp⟩
    simp [multistageStorage, h]
  · refine ⟨List.replicate (min ram (N - 1)) .ram, ?_, ?_, ?_⟩
    · simp only [multistageStorage, h, if_false]; simp
    · simp
    · simp [List.count_replicate]

example : ∃ s, twoLevelSched 2 1 .ram .maximum = .ok s := ⟨_, rfl⟩
example : ∃ s, mixedSched (fun _ _ => none) 4 2 .disk = .ok s := ⟨_, rfl⟩
example : ∃ s, revolveSched 5 2 ⟨1, 1, 2, 2⟩ = .ok s := ⟨_, rfl⟩
example : ∃ s, diskRevolveSched 5 2 ⟨1, 1, 2, 2⟩ = .ok s := ⟨_, rfl⟩
example : ∃ s, periodicSched 5 2 ⟨1, 1, 2, 2⟩ = .ok s := ⟨_, rfl⟩
example : ∃ s, hrevolveSched 5 1 2 ⟨1, 1, 2, 2⟩ = .ok s := ⟨_, rfl⟩
example : multistageStorage 5 2 0 .maximum = some [.ram, .ram] ∧
    ∃ s, multistageSched 5 2 0 .maximum = .ok s := ⟨by decide, _, rfl⟩

end Ckpt.Py

#print axioms Ckpt.Py.finalize_spec
#print axioms Ckpt.Py.finalize_refines
#print axioms Ckpt.Py.finalize_frame
#print axioms Ckpt.Py.clientHook_eq_finalize
#print axioms Ckpt.Py.clientHook_canon
#print axioms Ckpt.Py.init_spec
#print axioms Ckpt.Py.init_refines
#print axioms Ckpt.Py.init_rejects
#print axioms Ckpt.Py.init_online
#print axioms Ckpt.Py.init_multistage
#print axioms Ckpt.Py.init_mixed
#print axioms Ckpt.Py.init_revolve
#print axioms Ckpt.Py.init_diskRevolve
#print axioms Ckpt.Py.init_periodic
#print axioms Ckpt.Py.init_hrevolve
#print axioms Ckpt.Py.singleMemory_uses_refines
#print axioms Ckpt.Py.singleDisk_uses_refines
#print axioms Ckpt.Py.none_uses_refines
#print axioms Ckpt.Py.twoLevel_uses_refines
#print axioms Ckpt.Py.mixed_uses_refines
#print axioms Ckpt.Py.revolve_uses_refines
#print axioms Ckpt.Py.diskRevolve_uses_refines
#print axioms Ckpt.Py.periodic_uses_refines
#print axioms Ckpt.Py.hrevolve_uses_refines
#print axioms Ckpt.Py.multistage_uses_exact
#print axioms Ckpt.Py.multistage_uses_refines
#print axioms Ckpt.Py.multistageSched_storage
#print axioms Ckpt.Py.multistageStorage_counts_ram0
#print axioms Ckpt.Py.multistageStorage_counts_disk0
