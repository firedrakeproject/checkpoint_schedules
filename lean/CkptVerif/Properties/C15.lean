import CkptVerif.Proofs.Cache
import CkptVerif.Proofs.Process
import CkptVerif.Proofs.ProcessRefine
/-!
# C15 — a schedule's stream depends only on its own parameters (mechanism: `cache_step`)

In the model a stream is a function of the parameters; the content is that the process-global
memoisation the Python kernels go through is observationally pure: after ANY history of earlier
calls (valid keys), starting from the empty cache, every answer is the value of the recursive
specification at the clamped key.  Proved for all three decorated functions (`C15_memo_*`,
`C15_history`).

The second half exports the process model (`Proofs/Process.lean`, `Proofs/ProcessRefine.lean`): objects of
all classes built and driven in any interleaving, with the three memo tables as process-global state.
`C15_process`: the answers of an object are those it gives alone in a fresh process; `C15_equal_params`,
`C15_observers`, `C15_helpers_pure`; `C15_mixed_process`, `C15_plain_process` identify them with the pure
machines of the stream theorems.  The strongest statement of this kind, `Proc.C15_spec_process` (any class,
any history: the answers are those of the pure machine `Sched` of the object's parameters), is not
exported under a `C15_` name.
-/
namespace Ckpt

theorem C15_memo_mixed_step (calls : List (Nat × Nat))
    (hv : ∀ k, k ∈ calls → validKey k.1 (clampS k.1 k.2) = true) :
    (runCalls memoFM calls []).2 = calls.map (fun k => memoCell k.1 (clampS k.1 k.2)) :=
  memoCalls_pure calls hv

theorem C15_memo_extra_steps (calls : List (Nat × Nat))
    (hv : ∀ k, k ∈ calls → validKey k.1 (clampS k.1 k.2) = true) :
    (runCalls extraFM calls []).2 = calls.map (fun k => extraCell k.1 (clampS k.1 k.2)) :=
  extraCalls_pure calls hv

theorem C15_memo_steps_mixed (calls : List (Nat × Nat))
    (hv : ∀ k, k ∈ calls → validKey k.1 (clampS k.1 k.2) = true) :
    (runCalls optMixedFM calls []).2 = calls.map (fun k => optMixedCell k.1 (clampS k.1 k.2)) :=
  optMixedCalls_pure calls hv

/-- history independence of a single call -/
theorem C15_history (history : List (Nat × Nat))
    (hh : ∀ k, k ∈ history → validKey k.1 (clampS k.1 k.2) = true)
    (fuel n s : Nat) (hfuel : n < fuel) (hv : validKey n (clampS n s) = true) :
    (cachedCall memoFM fuel n s (runCalls memoFM history []).1).2 = memoCell n (clampS n s) :=
  cachedCall_history_independent memoFM memoF memoFM_sim memoF_local history hh fuel n s hfuel hv

example : (runCalls memoFM [(10, 3), (7, 9), (10, 3), (5, 2)] []).2.length = 4 := by decide

/-! ## the process level: any interleaving of constructions, `next`/`finalize` calls on any objects,
observer reads and helper calls (`Model/Process.lean`: the three memo tables are process-global state;
a Mixed object on the memoisation path queries the planner lazily, through the shared table, at each
`next()`) -/

/-- the answers object `i` gives (constructor outcome excluded, see `C15_process_constructor`) in ANY
history equal those it gives in a fresh process that runs only its own operations -/
alias C15_process := Proc.C15_process
alias C15_process_constructor := Proc.C15_process_constructor
/-- two objects built with equal parameters at any two points of any two histories and driven by the same
own sequence of `next`/`finalize`/observer calls answer identically -/
alias C15_equal_params := Proc.C15_equal_params
/-- observer reads (`n`, `r`, `max_n`, `is_exhausted`, `is_running`, `uses_storage_type`) leave the whole
process state unchanged, so they can be inserted or removed anywhere -/
alias C15_observers := Proc.C15_observers
alias C15_observer_erase := Proc.C15_observer_erase
/-- the public helpers answer with the value of the recursive specification after any history -/
alias C15_helpers_pure := Proc.C15_helpers_pure
/-- correctness of every memo table entry is preserved by any history, from any process state in which
it holds (it holds initially: `Proc.CachesOK_init`) -/
alias C15_caches_ok := Proc.CachesOK_run
/-- the lazily planning Mixed object in any history = the pure `Sched` machine of the stream theorems -/
alias C15_mixed_process := Proc.C15_mixed_process
alias C15_plain_process := Proc.C15_plain_process

end Ckpt
