import CkptVerif.Proofs.DiskCost
import CkptVerif.Proofs.HOptTables
import CkptVerif.Proofs.PeriodicCost
import CkptVerif.Proofs.HRevolveCost
import CkptVerif.Proofs.RevolveOptimal
import CkptVerif.Proofs.DiskCounterexamples
import CkptVerif.Proofs.HRevolveNoDisk
import CkptVerif.Proofs.DiskOneReadLB
import CkptVerif.Proofs.HRevolveLB
import CkptVerif.Proofs.HRevolveLBFull
import CkptVerif.Proofs.HRevolveLBFullLifo
import CkptVerif.Proofs.HRevolveLBFullGame
/-!
# C07 — the H-Revolve family achieves its cost optimum for any (integer) cost vector

`cost c evs` = `uf`·forward steps + `ub`·reversed steps + `wd`·DISK writes + `rd`·DISK loads.
* `C07_revolve`      cost(Revolve stream) = `opt0[cm][N-1] + N·uf` — the value of the memory-only DP;
* `C07_diskRevolve`  cost(DiskRevolve stream) = `optInf[N-1] + N·uf` — the value of the Disk-Revolve DP;
* `C07_disk_le_revolve`  cost(DiskRevolve) ≤ cost(Revolve);
* `C07_hopt_antitone`    the hierarchical table is non-increasing in the number of disk units, and never above level 0;
* `C07_hrevolve`, `C07_periodic_cost`: the costs of the HRevolve and PeriodicDiskRevolve streams;
  `C07_hrevolve_more_disk`, `C07_disk_le_periodic`: how they compare;
* `C07_revolve_optimal`, `C07_hrevolve_nodisk_optimal`: Revolve (and HRevolve without disk units) is
  cost-optimal among ALL streams the executor accepts (restart data only);
* `C07_diskRevolve_oneRead`: the DiskRevolve stream is an accepted member of the class `OneRead` (every disk
  checkpoint written by a Forward and read once, by the Move that removes it) and costs the table value;
* `C07_diskRevolve_not_optimal_unrestricted`, `C07_optInf_not_lowerBound`, `C07_hopt_not_lowerBound_plain`:
  kernel-checked counterexamples — OUTSIDE `OneRead` (reading a disk checkpoint twice; copying a RAM
  checkpoint to disk) the executor accepts cheaper streams, so "optimum" for the two-level classes can only
  mean the optimum of the restricted problem the tables solve, as the property text says for DiskRevolve.
* `C07_diskRevolve_optimal` (`LB7.diskOneReadOptimal`): **in the class `OneRead` the Disk-Revolve table IS a lower
  bound** for every accepted complete stream (any `N`, `cm ≥ 1`, any cost vector) — with
  `C07_diskRevolve_oneRead`: DiskRevolve attains the optimum of the problem "each disk checkpoint read once";
* `C07_hrevolve_lowerBound_partial` (`LB7.hrevolveOptimalT_partial`): the H-Revolve table is a lower bound for the
  transfer-aware cost of every accepted stream that loads checkpoints in LIFO order (`Lifo`: every `Copy`/`Move`
  into WORK takes the most recently stored checkpoint still present; RAM and DISK checkpoints may interleave, be
  read any number of times, be dropped early); `C07_hrevolve_optimal_lifo`: the HRevolve stream is accepted, LIFO,
  costs exactly the table value, and no accepted LIFO stream is cheaper; `C07_hrevolve_of_lifo` states what is
  missing for the full `LB7.HRevolveOptimalT` (kept visible, NOT proved: streams that restart from an older
  checkpoint while a newer one is stored; an exact search over a superset of the executor's moves finds the table
  value as the minimum for all (c0, c1) with c0 + c1 ≤ 5 and N ≤ 11-13, 12 cost vectors).
-/
namespace Ckpt

alias C07_revolve := RC.revolve_cost
alias C07_diskRevolve := RC.diskRevolve_cost
alias C07_disk_le_revolve := RC.diskRevolve_le_revolve
alias C07_optInf_le_opt0 := RC.optInf_le_opt0
alias C07_hopt_antitone := RC.hopt1_antitone
alias C07_hopt_le_level0 := RC.hopt1_le_level0

end Ckpt

namespace Ckpt
/-- HRevolve: stream cost = hierarchical DP table value `opt[1][N-1][c1] + N·uf` -/
alias C07_hrevolve := RC.hrevolve_cost
/-- more disk units never cost more (on the streams) -/
alias C07_hrevolve_more_disk := RC.hrevolve_more_disk
/-- cost(PeriodicDiskRevolve) ≥ cost(DiskRevolve) -/
alias C07_disk_le_periodic := RC.diskRevolve_le_periodic
alias C07_periodic_cost := RC.periodic_cost
end Ckpt

namespace Ckpt
-- `Ckpt.C07_revolve_optimal`, `Ckpt.C07_opt0_lowerBound` (Proofs/RevolveOptimal.lean): Revolve is cost-optimal
-- among ALL streams the executor accepts for `cm` RAM units (restart data only)
/-- HRevolve with no disk units likewise -/
alias C07_hrevolve_nodisk_optimal := RC.C07_hrevolve_nodisk_optimal
/-- the DiskRevolve stream: accepted, complete, in `OneRead`, cost = `optInf[N-1] + N·uf` -/
alias C07_diskRevolve_oneRead := LB7.diskRevolve_attains
/-- outside `OneRead` DiskRevolve is NOT optimal (kernel-checked accepted streams that are cheaper) -/
alias C07_diskRevolve_not_optimal_unrestricted := LB7.diskRevolve_not_optimal
alias C07_optInf_not_lowerBound := LB7.optInf_not_lowerBound
alias C07_hopt_not_lowerBound_plain := LB7.hopt_not_lowerBound_obsCost
/-- a (not tight) lower bound for every accepted two-level stream -/
alias C07_hrevolve_cost_ge := LB7.hrevolve_cost_ge
end Ckpt

namespace Ckpt
/-- **DiskRevolve is optimal in its class**: `optInf[N-1] + N·uf` is a lower bound for every accepted complete
stream in which each disk checkpoint is written by a `Forward` and read once, by the `Move` that removes it -/
alias C07_diskRevolve_optimal := LB7.diskOneReadOptimal
/-- the H-Revolve table is a lower bound over all accepted LIFO streams (the full statement is `LB7.HRevolveOptimalT`) -/
alias C07_hrevolve_lowerBound_partial := LB7.hrevolveOptimalT_partial
/-- HRevolve: accepted, LIFO, cost = table value, and optimal among accepted LIFO streams -/
alias C07_hrevolve_optimal_lifo := LB7.C07_hrevolve_optimal_in_lifo
alias C07_hrevolve_lifo_attains := LB7.hrevolve_lifo_attains
/-- what is missing: if every accepted stream were LIFO the full statement follows -/
alias C07_hrevolve_of_lifo := LB7.hrevolveOptimalT_of_lifo
end Ckpt

namespace Ckpt
/-- the H-Revolve lower bound under the weaker hypothesis `Lifo'` (loads take the most recently stored checkpoint that is
still alive; any stored checkpoint may be deleted at any time; no transfers into RAM/DISK) -/
alias C07_hrevolve_lowerBound_partial2 := LB7.hrevolveOptimalT_partial2
alias C07_lifo'_of_lifo := LB7.lifo'_of_lifo
/-- every accepted stream is a play of a six-move pebble game of the same forward cost -/
alias C07_game_of_accepted := LB7.game_of_accepted
/-- the full statement follows from the pebble-game lower bound `GameLB` (not proved) -/
alias C07_hrevolve_of_gameLB := LB7.hrevolveOptimalT_of_gameLB
end Ckpt
