import CkptVerif.Proofs.StepBridges
import CkptVerif.Proofs.CanonObs
import CkptVerif.Proofs.MultistageLabels
/-!
# C13 — TwoLevel: periodic disk checkpoints, binomially optimal recomputation

`C13_forward`: before finalisation the schedule emits exactly `Forward(n, n+period, True, False, DISK)`
from `n = 0, period, 2·period, …`.  `C13_block`: every period block `[lo, hi)` (full or partial, any
pass, both trajectories, both storages) is recomputed with exactly `L + E(L, min(b+1, L−1))` forward
steps, `L = hi − lo` — the number published by `optimal_steps_binomial(L, b+1)`.  `C13_pass`: the sum over
the blocks.  Extra checkpoints carry only the binomial storage label (`C13_labels`: stack position 0 is
the periodic DISK checkpoint, positions ≥ 1 the binomial storage).  Executability for all passes:
`streams_twoLevel`.
-/
namespace Ckpt

alias C13_forward := GW.twoLevelSched_fwdEv
alias C13_block := GW.block_fwdSteps
alias C13_pass := GW.twoLevelPass_fwdSteps
alias C13_labels := GW.twoLevel_block_labelsOk

end Ckpt
