import CkptVerif.Proofs.MultistageE2E
import CkptVerif.Proofs.MixedOk
import CkptVerif.Proofs.RevolveOk
/-!
# C17 — valid parameters always yield a schedule; invalid ones fail before any action

`C17_invalid_*`: parameter tuples outside the documented domain are rejected by the model at
`construct` or at `first-next` (`Err.early`), never after an action.  The domain is a predicate for
Multistage, Mixed and TwoLevel (`validMultistage` etc. `= false`: `max_n < 1`, `period < 1`, no unit
for `max_n > 1`, a storage other than RAM/DISK); for the Revolve family the hypothesis is
`N < 1 ∨ cm < 1` itself.
`C17_valid_*`: every tuple in the domain yields a complete event stream (the generator never raises,
fuel suffices), including `max_n = 1` and more units than steps.  For Multistage this is stated of
the schedule object and its stream, for Mixed of the stream `mixedEvs memoPlan` only (the
constructor `mixedSched` is not mentioned), and for the Revolve family of the streams under the
hypotheses `1 ≤ N`, `1 ≤ cm` (and `0 < c.uf` for the periodic one) written out, not a `valid`
predicate; HRevolve and TwoLevel have no `C17_valid` theorem here.
-/
namespace Ckpt

/-- the stage at which an outcome is rejected -/
def Err.early : Err → Bool
  | .construct _ => true
  | .firstNext _ => true
  | _ => false

theorem C17_invalid_multistage (N ram disk : Nat) (traj : Traj)
    (h : validMultistage N ram disk = false) :
    (∃ e, multistageSched N ram disk traj = .error e ∧ e.early = true) ∨
    (∃ e, multistageEvs N ram disk traj = .error e ∧ e.early = true) := by
  simp only [validMultistage, Bool.and_eq_false_iff, Bool.or_eq_false_iff, decide_eq_false_iff_not] at h
  rcases h with h | ⟨h1, h2⟩
  · left
    refine ⟨.construct "max_n must be positive", ?_, rfl⟩
    unfold multistageSched
    rw [if_pos (by omega)]
  · by_cases hN : N < 1
    · left
      refine ⟨.construct "max_n must be positive", ?_, rfl⟩
      unfold multistageSched
      rw [if_pos hN]
    · right
      have hr : ram = 0 := by omega
      have hd : disk = 0 := by omega
      subst hr; subst hd
      refine ⟨.firstNext "Require at least one snapshot", ?_, rfl⟩
      unfold multistageEvs multistageStorage
      simp only [Nat.zero_min, if_true, hN, if_false, List.replicate_zero, List.length_nil]
      rw [if_pos (by constructor <;> first | omega | trivial)]

theorem C17_invalid_mixed (plan : Planner) (N s : Nat) (st : Storage)
    (h : validMixed N s st = false) :
    ∃ e, mixedSched plan N s st = .error e ∧ e.early = true := by
  simp only [validMixed, Bool.and_eq_false_iff, Bool.or_eq_false_iff, decide_eq_false_iff_not,
    decide_eq_false_iff_not] at h
  unfold mixedSched
  by_cases h1 : s < min 1 (N - 1) ∧ 1 ≤ N
  · rw [if_pos h1]; exact ⟨_, rfl, rfl⟩
  · rw [if_neg h1]
    by_cases h2 : ¬ (st = .ram ∨ st = .disk)
    · rw [if_pos h2]; exact ⟨_, rfl, rfl⟩
    · rw [if_neg h2]
      by_cases h3 : N < 1
      · rw [if_pos h3]; exact ⟨_, rfl, rfl⟩
      · exfalso
        push Not at h2
        rcases h with (h | h) | h
        · omega
        · apply h1; constructor <;> omega
        · rcases h2 with rfl | rfl <;> simp at h

theorem C17_invalid_twoLevel (p b : Nat) (st : Storage) (traj : Traj)
    (h : validTwoLevel p st = false) :
    ∃ e, twoLevelSched p b st traj = .error e ∧ e.early = true := by
  simp only [validTwoLevel, Bool.and_eq_false_iff, Bool.or_eq_false_iff, decide_eq_false_iff_not] at h
  unfold twoLevelSched
  by_cases h1 : p < 1
  · rw [if_pos h1]; exact ⟨_, rfl, rfl⟩
  · rw [if_neg h1]
    by_cases h2 : ¬ (st = .ram ∨ st = .disk)
    · rw [if_pos h2]; exact ⟨_, rfl, rfl⟩
    · exfalso
      push Not at h2
      rcases h with h | h
      · omega
      · rcases h2 with rfl | rfl <;> simp at h

/-- the Revolve family rejects `max_n < 1` and `snapshots_in_ram < 1` at construction -/
theorem C17_invalid_revolve (N cm : Nat) (c : Costs) (h : N < 1 ∨ cm < 1) :
    (∃ e, revolveSched N cm c = .error e ∧ e.early = true) ∧
    (∃ e, diskRevolveSched N cm c = .error e ∧ e.early = true) ∧
    (∃ e, periodicSched N cm c = .error e ∧ e.early = true) ∧
    (∀ c1, ∃ e, hrevolveSched N cm c1 c = .error e ∧ e.early = true) := by
  refine ⟨?_, ?_, ?_, ?_⟩
  · unfold revolveSched; rw [if_pos h]; exact ⟨_, rfl, rfl⟩
  · unfold diskRevolveSched; rw [if_pos h]; exact ⟨_, rfl, rfl⟩
  · unfold periodicSched
    rw [if_pos (by rcases h with h | h; exact Or.inl h; exact Or.inr (Or.inl h))]
    exact ⟨_, rfl, rfl⟩
  · intro c1; unfold hrevolveSched; rw [if_pos h]; exact ⟨_, rfl, rfl⟩

/-- valid Multistage parameters yield a complete stream -/
theorem C17_valid_multistage (N ram disk : Nat) (traj : Traj)
    (hv : validMultistage N ram disk = true) :
    ∃ s evs, multistageSched N ram disk traj = .ok s ∧ multistageEvs N ram disk traj = .ok evs := by
  obtain ⟨s, evs, h1, h2, _⟩ := multistage_monitor_clean N ram disk traj hv
  exact ⟨s, evs, h1, h2⟩

theorem C17_valid_mixed (N s : Nat) (st : Storage) (hv : validMixed N s st = true) :
    ∃ evs, mixedEvs memoPlan N s st = .ok evs := by
  simp only [validMixed, Bool.and_eq_true, Bool.or_eq_true, decide_eq_true_eq] at hv
  obtain ⟨⟨h1, h2⟩, h3⟩ := hv
  have hst : st = .ram ∨ st = .disk := by
    rcases h3 with h | h
    · exact Or.inl h
    · exact Or.inr h
  obtain ⟨evs, _, _, h, _⟩ := mixed_clean N s st hst h1 h2
  exact ⟨_, h⟩

theorem C17_valid_revolve (N cm : Nat) (c : Costs) (hN : 1 ≤ N) (hcm : 1 ≤ cm) :
    (∃ evs, revolveEvs N cm c = .ok evs) ∧ (∃ evs, diskRevolveEvs N cm c = .ok evs) := by
  obtain ⟨e1, _, h1, _⟩ := revolve_clean N cm c hN hcm
  obtain ⟨e2, _, h2, _⟩ := diskRevolve_clean N cm c hN hcm
  exact ⟨⟨_, h1⟩, ⟨_, h2⟩⟩

theorem C17_valid_periodic (N cm : Nat) (c : Costs) (hN : 1 ≤ N) (hcm : 1 ≤ cm) (huf : 0 < c.uf) :
    ∃ evs, periodicEvs N cm c = .ok evs := by
  obtain ⟨e1, _, h1, _⟩ := periodic_clean N cm c hN hcm huf
  exact ⟨_, h1⟩

example : validMultistage 1 0 0 = true ∧ validMultistage 5 9 9 = true ∧ validMultistage 2 0 0 = false := by decide

end Ckpt
