import CkptVerif.Proofs.Machine
/-!
# C10 — `finalize()` accepts exactly the true end of the forward and nothing else

All statements are about the step machine `Sched.next` / `finalize` (Model/Machine.lean) and hold
for every state reachable by ANY history of `next()` and `finalize(k)` calls (no bound on length).
-/
namespace Ckpt

/-- (a) not yet finalised: accepted iff `1 ≤ k ≤ n`; then `max_n = n = k`, nothing else changes. -/
theorem C10_online (m : MSt) (k : Int) (h : m.maxN = none) :
    ((finalize m k).2 = .ok ↔ (1 ≤ k ∧ k ≤ m.n)) ∧
    ((finalize m k).2 = .ok → (finalize m k).1 = { m with n := k.toNat, maxN := some k.toNat }) := by
  by_cases h1 : k < 1
  · rw [finalize_lt m k h1]
    exact ⟨⟨fun h => (by cases h), fun h => (by omega)⟩, fun h => (by cases h)⟩
  · by_cases h2 : k ≤ m.n
    · rw [finalize_none_ge m k (by omega) h h2]
      exact ⟨⟨fun _ => ⟨by omega, h2⟩, fun _ => rfl⟩, fun _ => rfl⟩
    · rw [finalize_none_lt m k h (by omega)]
      exact ⟨⟨fun h => (by cases h), fun h => (by omega)⟩, fun h => (by cases h)⟩

/-- (b) `max_n` known: a no-op exactly when `k = max_n` and the forward stands at `max_n`;
the state never changes. -/
theorem C10_known (m : MSt) (k : Int) (M : Nat) (h : m.maxN = some M) :
    ((finalize m k).2 = .ok ↔ (1 ≤ k ∧ (M : Int) = k ∧ (m.n : Int) = k)) ∧ (finalize m k).1 = m := by
  by_cases h1 : k < 1
  · rw [finalize_lt m k h1]
    exact ⟨⟨fun h => (by cases h), fun h => (by omega)⟩, rfl⟩
  · by_cases h2 : (m.n : Int) ≠ k ∨ (M : Int) ≠ k
    · rw [finalize_some_ne m k M (by omega) h h2]
      exact ⟨⟨fun h => (by cases h), fun h => (by omega)⟩, rfl⟩
    · rw [finalize_some_eq m k M (by omega) h (by omega) (by omega)]
      exact ⟨⟨fun _ => by omega, fun _ => rfl⟩, rfl⟩

/-- (c) every other call is rejected, with ValueError iff `k < 1`, RuntimeError otherwise, and
leaves the state — hence the subsequent action stream — unchanged. -/
theorem C10_rejected (m : MSt) (k : Int) (h : (finalize m k).2 ≠ .ok) :
    ((finalize m k).2 = .valueError ↔ k < 1) ∧
    ((finalize m k).2 ≠ .valueError → (finalize m k).2 = .runtimeError) ∧
    (finalize m k).1 = m := by
  by_cases h1 : k < 1
  · rw [finalize_lt m k h1]
    exact ⟨⟨fun _ => h1, fun _ => rfl⟩, fun h => absurd rfl h, rfl⟩
  · cases hm : m.maxN with
    | none =>
      by_cases h2 : k ≤ m.n
      · rw [finalize_none_ge m k (by omega) hm h2] at h; exact absurd rfl h
      · rw [finalize_none_lt m k hm (by omega)]
        exact ⟨⟨fun h => (by cases h), fun h => absurd h h1⟩, fun _ => rfl, rfl⟩
    | some M =>
      by_cases h2 : (m.n : Int) ≠ k ∨ (M : Int) ≠ k
      · rw [finalize_some_ne m k M (by omega) hm h2]
        exact ⟨⟨fun h => (by cases h), fun h => absurd h h1⟩, fun _ => rfl, rfl⟩
      · rw [finalize_some_eq m k M (by omega) hm (by omega) (by omega)] at h; exact absurd rfl h

/-- after an accepted `finalize(k)` of an online schedule the next action is `EndForward`
(instances for `SingleMemoryStorageSchedule`, `SingleDiskStorageSchedule` and
`TwoLevelCheckpointSchedule`; the last under the extra hypothesis `hl : s.first k.toNat = .ok l`
that the reverse phase of the finalised schedule can be generated) -/
theorem C10_next_singleMemory (m : MSt) (k : Int) (hr : Reach singleMemorySched m)
    (hN : m.maxN = none) (hok : (finalize m k).2 = .ok) :
    ∃ m' o, singleMemorySched.next (finalize m k).1 = (m', .act o) ∧ o.act = .endForward ∧
      o.n = k.toNat ∧ o.r = 0 ∧ o.maxN = some k.toNat :=
  finalize_then_next_reach singleMemorySched m k _ _ hr hN hok rfl

theorem C10_next_singleDisk (mv : Bool) (m : MSt) (k : Int) (hr : Reach (singleDiskSched mv) m)
    (hN : m.maxN = none) (hok : (finalize m k).2 = .ok) :
    ∃ m' o, (singleDiskSched mv).next (finalize m k).1 = (m', .act o) ∧ o.act = .endForward ∧
      o.n = k.toNat ∧ o.r = 0 ∧ o.maxN = some k.toNat :=
  finalize_then_next_reach (singleDiskSched mv) m k _ _ hr hN hok rfl

theorem C10_next_twoLevel (p b : Nat) (st : Storage) (traj : Traj) (s : Sched)
    (h : twoLevelSched p b st traj = .ok s) (m : MSt) (k : Int) (l : List Ev)
    (hl : s.first k.toNat = .ok l) (hr : Reach s m) (hN : m.maxN = none)
    (hok : (finalize m k).2 = .ok) :
    ∃ m' o, s.next (finalize m k).1 = (m', .act o) ∧ o.act = .endForward ∧
      o.n = k.toNat ∧ o.r = 0 ∧ o.maxN = some k.toNat := by
  obtain ⟨rest, rfl⟩ := twoLevel_first_head p b st traj s h _ _ hl
  exact finalize_then_next_reach s m k _ rest hr hN hok hl

/-- offline schedules start with `max_n` known, so (b) applies to every reachable state -/
theorem C10_offline (N : Nat) (evs : Except Err (List Ev)) (uses : Storage → Option Bool)
    {m : MSt} (hr : Reach (offlineSched N evs uses) m) (k : Int) :
    (finalize m k).1 = m ∧ ((finalize m k).2 = .ok ↔ (1 ≤ k ∧ k = (N : Int) ∧ (m.n : Int) = N)) := by
  have h := C10_known m k N (offline_reach_maxN N evs uses hr)
  exact ⟨h.2, h.1.trans ⟨fun ⟨a, b, c⟩ => ⟨a, b.symm, by omega⟩, fun ⟨a, b, c⟩ => ⟨a, b.symm, by omega⟩⟩⟩

end Ckpt

section AxiomCheck
open Ckpt
#print axioms C10_online
#print axioms C10_known
#print axioms C10_rejected
#print axioms C10_next_twoLevel
#print axioms C10_offline
end AxiomCheck
