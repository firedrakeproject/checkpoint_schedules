import CkptVerif.Proofs.MultistageSteps
import CkptVerif.Proofs.GW
import CkptVerif.Proofs.StepBridges
import CkptVerif.Proofs.RevolveSteps
import CkptVerif.Proofs.LowerBound
/-!
# C05 — binomial schedules perform the minimal possible number of forward steps

`E := extraCell` is the model of `optimal_extra_steps` — literally the Griewank–Walther recurrence
(`E(1,·)=0`, `E(n,1)=n(n-1)/2`, `E(n,s) = min_i i + E(i,s) + E(n-i,s-1)`); `optimal_steps_binomial(n,s)
= n + E(n, min(s, n-1))` (`C05_helper`, by definition of the model).
* `C05_split`  — `n_advance` (BOTH trajectories) attains the minimum of the recurrence for every `m ≥ 2`, `k ≥ 1`;
* `C05_steps`  — hence the Multistage stream advances the forward over exactly `N + E(N, min(S, N-1))` steps;
* `C05_closed` — the closed form `m + E(m,k) = (t+1)·m − C(k+t, t−1)` for `C(k+t−1,t−1) < m ≤ C(k+t,t)`.
* `C05_full`, `C05_full_split`, `C05_multistage_optimal`, `C05_revolve_optimal` (end of file) — the lower bound:
  ANY stream the checking executor accepts for `N` steps and `s` units (restart data only in the units, one
  step of adjoint data in working storage) performs at least `N + E(N, min(s, N-1))` forward steps.
-/
namespace Ckpt

theorem C05_helper (n s : Nat) : optimalStepsBinomial n s = (extraSpec n s).map (n + ·) := rfl

theorem C05_split (m k : Nat) (traj : Traj) (hm : 2 ≤ m) (hk : 1 ≤ k) :
    ∃ a, nAdvance m k traj = some a ∧ 1 ≤ a ∧ a ≤ m - 1 ∧
      a + extraCell a (clampS a k) + extraCell (m - a) (clampS (m - a) (k - 1)) =
        extraCell m (clampS m k) := GW.nAdvance_attains m k traj hm hk

theorem C05_steps (N S : Nat) (alloc : Nat → Storage) (traj : Traj) (evs : List Ev)
    (h : multistageSeg N S alloc traj = some evs) (hN : 1 ≤ N) (hS : 2 ≤ N → 1 ≤ S) :
    GW.fwdSteps evs = N + extraCell N (clampS N S) :=
  GW.multistageSeg_fwdSteps N S alloc traj evs h hN hS

theorem C05_closed (m k t : Nat) (hk : 1 ≤ k) (hkm : k ≤ m - 1) (hm : 2 ≤ m)
    (hlo : Nat.choose (k + t - 1) (t - 1) < m) (hhi : m ≤ Nat.choose (k + t) t) (ht : 1 ≤ t) :
    m + extraCell m k + Nat.choose (k + t) (t - 1) = (t + 1) * m :=
  GW.extraCell_closed m k t hk hkm hlo hhi ht

/-- any split function attaining the minimum yields the optimum step count on every segment
(used for TwoLevel blocks and Revolve as well) -/
alias C05_segment := GW.segWith_fwdSteps

example : nAdvance 25 3 .maximum = some 15 ∧ nAdvance 25 3 .revolve = some 11 := by decide

end Ckpt

namespace Ckpt
/-- class level: the Multistage stream of any valid `(N, ram, disk)`, either trajectory, performs
the number of forward steps published by `optimal_steps_binomial(N, ram + disk)` -/
alias C05_multistage := GW.multistage_fwdSteps_optimal
alias C05_multistage_steps := GW.multistage_fwdSteps
end Ckpt

namespace Ckpt
/-- Revolve: for every cost vector with `uf > 0` the stream advances the forward over exactly
`N + E(N, min(cm, N-1))` steps (the cost table is `(l+1)·ub + uf·E`, so the argmin does not depend
on the costs and attains the minimum of the recurrence) -/
alias C05_revolve := RC.revolve_fwdSteps
alias C05_revolve_table := RC.opt0_eq_extra
end Ckpt

namespace Ckpt
/-! ## the lower bound over ALL executable schedules (Griewank 1992), and optimality of the classes -/

/-- ANY stream the checking executor accepts (no violation, adjoint completed) for `N` steps with at most
`s` stored checkpoints, none of which holds adjoint dependency data, performs at least
`N + optimal_extra_steps(N, min(s, N-1))` forward steps. -/
alias C05_full := GW.C05_full
/-- the same with the units split between RAM and DISK in any way -/
alias C05_full_split := GW.C05_full_split
alias C05_full_closed := GW.C05_full_closed
/-- Multistage (both trajectories, every split): no accepted complete stream (restart data only) performs
fewer forward steps than the Multistage stream -/
alias C05_multistage_optimal := GW.C05_multistage_optimal
/-- the observations of the Multistage stream are accepted, complete, hold restart data only, and perform
`N + optimal_extra_steps(N, min(ram + disk, N - 1))` forward steps -/
alias C05_multistage_attains := GW.multistage_obs

/-- Revolve, every cost vector with `uf > 0`: no stream the executor accepts for `N` steps and `cm`
RAM units (restart data only) performs fewer forward steps than Revolve's stream. -/
theorem C05_revolve_optimal (N cm : Nat) (c : Costs) (hN : 1 ≤ N) (hcm : 1 ≤ cm) (huf : 0 < c.uf)
    (evs : List Ev) (h : revolveEvs N cm c = .ok evs) (os : List Obs)
    (hclean : (run (cfgRevolve cm N) os).2 = [])
    (hdone : finished (cfgRevolve cm N) (run (cfgRevolve cm N) os).1 = true)
    (hnd : ∀ o ∈ os, GW.storesDeps o.act = false) :
    GW.fwdSteps evs ≤ GW.obsFwdSteps os := by
  rw [RC.revolve_fwdSteps N cm c hN hcm huf evs h]
  exact GW.C05_full N cm hN (Or.inl hcm) os (cfgRevolve cm N) rfl hclean hdone hnd
end Ckpt
