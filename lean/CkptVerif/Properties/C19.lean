import CkptVerif.Proofs.Period
import CkptVerif.Proofs.PeriodicOps
import CkptVerif.Proofs.RevolveSteps
/-!
# C19 — PeriodicDiskRevolve really is periodic, with a period independent of `n`

* `C19_period`: the period is `beta cm t*` for the least `t*` with `beta(cm+1, t*)·uf > wd + rd`
  (the closed form of Aupy & Herrmann 2017 as the code states it); it does not take `n`.
  `C19_beta`: `beta x y` is the binomial coefficient `C(x+y, y)`.
* `C19_ops`: for every `n` the model stream writes DISK exactly at `0, m, 2m, …` while more than `m`
  steps remain, as its first events; never writes DISK afterwards; loads each DISK checkpoint
  exactly once (a `Move`), last written first, and never copies out of DISK.
* `C19_structure`: the stream is `sweep ++ revSeg[tail] ++ (Move :: revSeg[block])* ++ [EndReverse]`.
* `C19_segments`: the tail and every block are reversed with the memory-only Revolve optimum number of
  forward steps.
-/
namespace Ckpt

theorem C19_period (cm uf wr : Nat) (huf : 0 < uf) :
    ∃ h : ∃ t, wr < beta (cm + 1) t * uf, mxrr cm uf wr = some (beta cm (Nat.find h)) :=
  mxrr_spec cm uf wr huf

theorem C19_beta (x y : Nat) : beta x y = (x + y).choose y := beta_eq x y

alias C19_structure := periodic_structure
alias C19_ops := periodic_disk_ops

example : mxrr 2 1 7 = some 6 := by decide

end Ckpt

namespace Ckpt
/-- each segment (the tail and every period block) is reversed with the memory-only Revolve
optimum number of forward steps -/
alias C19_segments := RC.periodic_segments_fwdSteps
end Ckpt
