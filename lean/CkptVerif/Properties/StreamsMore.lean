import CkptVerif.Properties.Streams
import CkptVerif.Proofs.CanonObs
import CkptVerif.Proofs.HRevolveOk
/-!
# Stream properties, remaining classes: HRevolve and the online schedules

With `Properties/Streams.lean` this gives, for EVERY schedule class, a theorem that the canonical
trace of the model object passes the whole monitor (tags C01 C02 C03 C04 C08 C09 C11 C12 C18), for all
valid parameters, every finalisation point `N` of the online classes and every number `k` of requested
adjoint calculations.  (`N ≤ sys.maxsize` for SingleMemory/None: one Forward.)
-/
namespace Ckpt

theorem streams_hrevolve (N c0 c1 : Nat) (c : Costs) (hv : validRevolve N c0 c.uf c.ub = true) :
    ∃ sch evs, hrevolveSched N c0 c1 c = .ok sch ∧ hrevolveEvs N c0 c1 c = .ok evs ∧
      ∀ k fuel, evs.length + 4 ≤ fuel →
        monitor (cfgHRevolve c0 c1 N) k (sch.canon N k fuel) = [] := by
  simp only [validRevolve, Bool.and_eq_true, decide_eq_true_eq] at hv
  obtain ⟨⟨⟨hN, hc0⟩, _⟩, _⟩ := hv
  obtain ⟨evs, sn, hevs, hclean⟩ := hrevolve_clean N c0 c1 c hN hc0
  have hsch : hrevolveSched N c0 c1 c =
      .ok (offlineSched N (hrevolveEvs N c0 c1 c) (revUses c0 (some c1))) := by
    unfold hrevolveSched; rw [if_neg (by omega)]
  refine offline_class_clean rfl rfl rfl hsch hevs hclean (revUses_isSome _ _)
    (fun _ => revUses_ram c0 _ hc0) (fun hx => ?_)
  by_cases h1 : c1 = 0
  · exact absurd hx (hclean.untouched rfl (zeroBudget_disk _ (by rw [h1]; rfl)))
  · simp only [revUses, decide_eq_true (show c1 > 0 by omega)]

theorem streams_singleMemory (N k fuel : Nat) (hN : 1 ≤ N) (hmax : N ≤ maxsize)
    (hk : 1 ≤ k) (hfuel : 2 * k + 2 ≤ fuel) :
    monitor (cfgSingleMemory N) k (singleMemorySched.canon N k fuel) = [] := by
  have hobs := On.singleMemory_onlineObs N k hN hmax hk
  have hlen : (On.singleMemoryObs N k).length = 2 * k + 2 := by
    simp [On.singleMemoryObs, On.singleMemoryPass]; omega
  exact monitor_online_unbounded (cfgSingleMemory N) singleMemorySched fwdHyp_singleMemory rfl N k
    hN hk (pass := singleMemorySched.again N) ⟨rfl, rfl, On.isPass_singleMemory N⟩
    (On.isPass_singleMemory N) fuel
    (by rw [hobs, hlen]; exact hfuel) rfl rfl _ (hobs ▸ On.singleMemory_clean N k hN hmax)
    rfl rfl rfl (fun _ => rfl) (.inr (zeroBudget_ram _ rfl)) (.inr (zeroBudget_disk _ rfl))

/-- **SingleDiskStorageSchedule, `move_data = False`, end to end.** -/
theorem singleDiskCopy_monitor_clean (N k fuel : Nat) (hN : 1 ≤ N) (hk : 1 ≤ k)
    (hfuel : N + 1 + k * (2 * N + 1) ≤ fuel) :
    monitor (cfgSingleDisk false N) k ((singleDiskSched false).canon N k fuel) = [] := by
  have hobs := On.singleDisk_copy_onlineObs N k hN hk
  have hlen : (onlineObs (singleDiskSched false) N k
      (⟨.endForward, N, 0⟩ :: singleDiskPass false N N)).length = N + 1 + k * (2 * N + 1) := by
    obtain ⟨k, rfl⟩ : ∃ k', k = k' + 1 := ⟨k - 1, by omega⟩
    have hag : (singleDiskPass false N N).length = 2 * N + 1 := by
      rw [singleDiskPass_eq, List.length_append, length_singleDiskBody]; rfl
    have hag' : ((singleDiskSched false).again N).length = 2 * N + 1 := hag
    simp only [onlineObs, List.length_append, List.length_map, length_agains, Nat.add_sub_cancel,
      On.fwdObs_singleDisk false N hN, On.length_singleDiskFwdObs, hag, hag', List.length_cons,
      Nat.succ_mul]
    omega
  exact monitor_online_unbounded (cfgSingleDisk false N) (singleDiskSched false)
    (fwdHyp_singleDisk false) rfl N k hN hk (pass := singleDiskPass false N N) ⟨rfl, rfl, isPass_singleDiskPass false N⟩
    (isPass_singleDiskPass false N) fuel (hlen ▸ hfuel) rfl rfl _
    (hobs ▸ On.singleDisk_copy_clean N k hN hk) rfl rfl rfl (fun _ => rfl)
    (.inr (zeroBudget_ram _ rfl)) (.inl rfl)

/-- **SingleDiskStorageSchedule, `move_data = True`, end to end.**  (One unit of fuel more than
the act lines need: the driver also records the StopIterations after the end.) -/
theorem singleDiskMove_monitor_clean (N k fuel : Nat) (hN : 1 ≤ N) (hfuel : 3 * N + 3 ≤ fuel) :
    monitor (cfgSingleDisk true N) k ((singleDiskSched true).canon N k fuel) = [] := by
  have hlen : (fwdObs (singleDiskSched true) N N 0).length + (singleDiskPass true N N).length + 2
      ≤ fuel := by
    rw [On.fwdObs_singleDisk true N hN, On.length_singleDiskFwdObs, singleDiskPass_eq,
      List.length_append, length_singleDiskBody, List.length_singleton]
    omega
  exact monitor_online_single (cfgSingleDisk true N) (singleDiskSched true) (fwdHyp_singleDisk true)
    rfl N k hN (pass := singleDiskPass true N N) ⟨rfl, rfl, isPass_singleDiskPass true N⟩ fuel hlen rfl rfl _
    (On.singleDisk_move_onlineObs N k hN ▸ On.singleDisk_move_clean N k hN) (Nat.le_refl 1)
    (fun _ => rfl) (.inr (zeroBudget_ram _ rfl)) (.inl rfl)

theorem streams_singleDisk (mv : Bool) (N k fuel : Nat) (hN : 1 ≤ N) (hk : 1 ≤ k)
    (hfuel : N + 2 + k * (2 * N + 1) ≤ fuel) :
    monitor (cfgSingleDisk mv N) k ((singleDiskSched mv).canon N k fuel) = [] := by
  obtain ⟨k', rfl⟩ : ∃ k', k = k' + 1 := ⟨k - 1, by omega⟩
  rw [Nat.succ_mul] at hfuel
  cases mv
  · exact singleDiskCopy_monitor_clean N (k' + 1) fuel hN hk (by rw [Nat.succ_mul]; omega)
  · exact singleDiskMove_monitor_clean N (k' + 1) fuel hN (by omega)

theorem streams_none (N k fuel : Nat) (hN : 1 ≤ N) (hmax : N ≤ maxsize) (hfuel : 3 ≤ fuel) :
    monitor (cfgNone N) k (noneSched.canon N k fuel) = [] := by
  have hlen : (fwdObs noneSched N N 0).length + 2 ≤ fuel := by
    rw [On.fwdObs_maxsize noneSched (fun _ => rfl) N hN hmax]; exact hfuel
  exact monitor_online_zero (cfgNone N) noneSched fwdHyp_none rfl N k hN ⟨.endForward, N, 0⟩ []
    rfl rfl fuel hlen rfl rfl _ (On.none_onlineObs N hN hmax ▸ On.none_clean N hmax) rfl
    (fun _ => rfl) (.inr (zeroBudget_ram _ rfl)) (.inr (zeroBudget_disk _ rfl))

theorem streams_twoLevel (p b N k fuel : Nat) (st : Storage) (traj : Traj)
    (hv : validTwoLevel p st = true) (hN : 1 ≤ N) (hk : 1 ≤ k)
    (hfuel : ceilDiv N p + 1 + k * (twoLevelPass N p b st traj).length ≤ fuel) :
    ∃ s, twoLevelSched p b st traj = .ok s ∧
      monitor (cfgTwoLevel p b st N) k (s.canon N k fuel) = [] := by
  simp only [validTwoLevel, Bool.and_eq_true, Bool.or_eq_true, decide_eq_true_eq] at hv
  obtain ⟨hp, hst⟩ := hv
  have hsch := On.twoLevelSched_ok p b st traj hp hst
  refine ⟨On.twoLevelS p b st traj, hsch, ?_⟩
  have P := On.twoLevel_first p b N st traj hp hst hN
  obtain ⟨obs, hobs, hclean⟩ := On.twoLevel_clean p b N k st traj hp hst hN hk
  rw [On.twoLevel_onlineObs p b N k st traj hp hst hN _ P.first] at hobs
  cases hobs
  refine monitor_online_unbounded (cfgTwoLevel p b st N) _ (fwdHyp_twoLevel p b st traj _ hsch) rfl
    N k hN hk P P.pass fuel
    (by rw [On.twoLevel_length_onlineObs p b N k st traj hp hN hk]; exact hfuel) rfl rfl _ hclean
    rfl rfl rfl (fun _ => rfl) ?_ (.inl (by simp [On.twoLevelS]))
  rcases hst with rfl | rfl
  · exact .inl rfl
  · exact .inr (zeroBudget_ram _ rfl)

/-- the structural characterisation of "last read" behind the HRevolve stream: the model of the
repaired code's `_last_reads` rule equals a stream that decides Copy/Move structurally -/
alias hrevolve_lastReads_structural := resolveLoads_hR

/-! ### non-vacuity -/

example : monitor (cfgSingleMemory 5) 3 (singleMemorySched.canon 5 3 8) = [] :=
  streams_singleMemory 5 3 8 (by decide) (by decide) (by decide) (by decide)
example : monitor (cfgSingleDisk true 4) 1 ((singleDiskSched true).canon 4 1 15) = [] :=
  streams_singleDisk true 4 1 15 (by decide) (by decide) (by decide)
example : validTwoLevel 3 .ram = true := by decide
example : validRevolve 9 2 1 1 = true := by decide

/-- SingleMemory, `N = 3`, two adjoint calculations -/
example : monitor (cfgSingleMemory 3) 2 (singleMemorySched.canon 3 2 10) = [] :=
  streams_singleMemory 3 2 10 (by decide) (by decide) (by decide) (by decide)

/-- SingleDisk with moves, `N = 2` -/
example : monitor (cfgSingleDisk true 2) 1 ((singleDiskSched true).canon 2 1 12) = [] :=
  streams_singleDisk true 2 1 12 (by decide) (by decide) (by decide)

/-- None, `N = 4` -/
example : monitor (cfgNone 4) 1 (noneSched.canon 4 1 5) = [] :=
  streams_none 4 1 5 (by decide) (by decide) (by decide)

example : validRevolve 9 2 1 1 = true ∧ validTwoLevel 3 .ram = true := by decide

end Ckpt

section AxiomCheck
open Ckpt
#print axioms streams_hrevolve
#print axioms streams_singleMemory
#print axioms singleDiskCopy_monitor_clean
#print axioms singleDiskMove_monitor_clean
#print axioms streams_singleDisk
#print axioms streams_none
#print axioms streams_twoLevel
end AxiomCheck
