import CkptVerif.Proofs.ActionApi
/-!
# C18 — actions are well-formed value objects (value semantics)

Equality of model actions is structural (`DecidableEq`): equal iff same kind and equal parameters.
`C18_repr`: the printer `pyRepr` (= `CheckpointAction.__repr__`, incl. the `sys.maxsize` spelling)
has a left inverse, so `repr` determines the action.  `C18_steps_forward`, `C18_steps_reverse`,
`C18_mem_forward`, `C18_mem_reverse`: iteration/len/membership of Forward and Reverse enumerate exactly
the covered steps (Reverse descending).
Well-formedness of EMITTED actions is the C18-tagged check of the executor (stream theorems).
-/
namespace Ckpt

theorem C18_repr (a : Action) : parseRepr (pyRepr a) = some a := parseRepr_pyRepr a

theorem C18_repr_injective : Function.Injective pyRepr := pyRepr_injective

theorem C18_steps_forward (n0 n1 : Nat) (wi wa : Bool) (st : Storage) :
    steps (.forward n0 n1 wi wa st) = List.range' n0 (n1 - n0) := steps_forward n0 n1 wi wa st

theorem C18_steps_reverse (n1 n0 : Nat) (c : Bool) :
    steps (.reverse n1 n0 c) = (List.range' n0 (n1 - n0)).reverse := steps_reverse n1 n0 c

theorem C18_mem_forward (k n0 n1 : Nat) (wi wa : Bool) (st : Storage) :
    k ∈ steps (.forward n0 n1 wi wa st) ↔ n0 ≤ k ∧ k < n1 := mem_steps_forward k n0 n1 wi wa st

theorem C18_mem_reverse (k n1 n0 : Nat) (c : Bool) :
    k ∈ steps (.reverse n1 n0 c) ↔ n0 ≤ k ∧ k < n1 := mem_steps_reverse k n1 n0 c

example : pyRepr (.forward 0 maxsize false true .work)
    = "Forward(0, sys.maxsize, False, True, StorageType.WORK)" := by decide

end Ckpt
