import CkptVerif.Proofs.MultistageE2E
import CkptVerif.Proofs.MixedOk
import CkptVerif.Proofs.RevolveOk
import CkptVerif.Proofs.OfflineGlue
import CkptVerif.Proofs.Meaning
/-!
# Stream properties C01, C02, C03, C04, C08, C09, C11, C12, C18 per schedule class

`monitor cfg k trace = []` says the canonical trace of the model object passes EVERY check of the
specification executor and monitor (all tags), so each tagged property holds for that class, for
ALL valid parameters (no bound on n, unit counts, cost vectors).  What "no violation tagged P"
means declaratively is proved class-independently in `Proofs/Meaning.lean` (`meaning_*` below).

| class | theorem |
|---|---|
| Multistage (every RAM/DISK split, both trajectories) | `streams_multistage` |
| Mixed (both storages)                                 | `streams_mixed` |
| Revolve                                               | `streams_revolve` |
| DiskRevolve                                           | `streams_diskRevolve` |
| PeriodicDiskRevolve                                   | `streams_periodic` |
| HRevolve, SingleMemory, SingleDisk, None, TwoLevel    | see `StreamsMore.lean` |
-/
namespace Ckpt

theorem streams_multistage (N ram disk : Nat) (traj : Traj)
    (hv : validMultistage N ram disk = true) :
    ∃ s evs, multistageSched N ram disk traj = .ok s ∧
      multistageEvs N ram disk traj = .ok evs ∧
      ∀ k fuel, evs.length + 4 ≤ fuel →
        monitor (cfgMultistage ram disk N) k (s.canon N k fuel) = [] :=
  multistage_monitor_clean N ram disk traj hv

theorem streams_mixed (N s : Nat) (st : Storage) (hv : validMixed N s st = true) :
    ∃ sch evs, mixedSched memoPlan N s st = .ok sch ∧ mixedEvs memoPlan N s st = .ok evs ∧
      ∀ k fuel, evs.length + 4 ≤ fuel →
        monitor (cfgMixed s st N) k (sch.canon N k fuel) = [] := by
  simp only [validMixed, Bool.and_eq_true, Bool.or_eq_true, decide_eq_true_eq] at hv
  obtain ⟨⟨hN, hs⟩, hst⟩ := hv
  obtain ⟨evs, sn, f, hevs, _, hclean⟩ := mixed_clean N s st hst hN hs
  have hsch : mixedSched memoPlan N s st =
      .ok (offlineSched N (mixedEvs memoPlan N s st) (fun x => some (x = st))) := by
    unfold mixedSched
    rw [if_neg (by omega), if_neg (not_not.mpr hst), if_neg (by omega)]
  refine offline_class_clean rfl rfl rfl hsch hevs hclean (fun _ => rfl) (fun hx => ?_) (fun hx => ?_)
  · by_cases h : st = .ram
    · simp [h]
    · exact absurd hx (hclean.untouched rfl (zeroBudget_ram _ (by simp [cfgMixed, h])))
  · by_cases h : st = .disk
    · simp [h]
    · exact absurd hx (hclean.untouched rfl (zeroBudget_disk _ (by simp [cfgMixed, h])))

theorem revUses_isSome (ram : Nat) (disk : Option Nat) (st : Storage) :
    (revUses ram disk st).isSome = true := by
  cases st <;> rfl

theorem revUses_ram (ram : Nat) (disk : Option Nat) (h : 1 ≤ ram) :
    revUses ram disk .ram = some true := by
  simp only [revUses, decide_eq_true (show ram > 0 from h)]

theorem streams_revolve (N cm : Nat) (c : Costs) (hv : validRevolve N cm c.uf c.ub = true) :
    ∃ sch evs, revolveSched N cm c = .ok sch ∧ revolveEvs N cm c = .ok evs ∧
      ∀ k fuel, evs.length + 4 ≤ fuel →
        monitor (cfgRevolve cm N) k (sch.canon N k fuel) = [] := by
  simp only [validRevolve, Bool.and_eq_true, decide_eq_true_eq] at hv
  obtain ⟨⟨⟨hN, hcm⟩, _⟩, _⟩ := hv
  obtain ⟨evs, sn, hevs, hclean⟩ := revolve_clean N cm c hN hcm
  have hsch : revolveSched N cm c =
      .ok (offlineSched N (revolveEvs N cm c) (revUses cm (some 0))) := by
    unfold revolveSched; rw [if_neg (by omega)]
  exact offline_class_clean rfl rfl rfl hsch hevs hclean (revUses_isSome _ _)
    (fun _ => revUses_ram cm _ hcm)
    (fun hx => absurd hx (hclean.untouched rfl (zeroBudget_disk _ rfl)))

theorem streams_diskRevolve (N cm : Nat) (c : Costs) (hv : validRevolve N cm c.uf c.ub = true) :
    ∃ sch evs, diskRevolveSched N cm c = .ok sch ∧ diskRevolveEvs N cm c = .ok evs ∧
      ∀ k fuel, evs.length + 4 ≤ fuel →
        monitor (cfgDiskRevolve cm N) k (sch.canon N k fuel) = [] := by
  simp only [validRevolve, Bool.and_eq_true, decide_eq_true_eq] at hv
  obtain ⟨⟨⟨hN, hcm⟩, _⟩, _⟩ := hv
  obtain ⟨evs, sn, hevs, hclean⟩ := diskRevolve_clean N cm c hN hcm
  have hsch : diskRevolveSched N cm c =
      .ok (offlineSched N (diskRevolveEvs N cm c) (revUses cm none)) := by
    unfold diskRevolveSched; rw [if_neg (by omega)]
  exact offline_class_clean rfl rfl rfl hsch hevs hclean (revUses_isSome _ _)
    (fun _ => revUses_ram cm _ hcm) (fun _ => rfl)

theorem streams_periodic (N cm : Nat) (c : Costs) (hv : validRevolve N cm c.uf c.ub = true) :
    ∃ sch evs, periodicSched N cm c = .ok sch ∧ periodicEvs N cm c = .ok evs ∧
      ∀ k fuel, evs.length + 4 ≤ fuel →
        monitor (cfgDiskRevolve cm N) k (sch.canon N k fuel) = [] := by
  simp only [validRevolve, Bool.and_eq_true, decide_eq_true_eq] at hv
  obtain ⟨⟨⟨hN, hcm⟩, huf⟩, _⟩ := hv
  obtain ⟨evs, sn, hevs, hclean⟩ := periodic_clean N cm c hN hcm huf
  have hsch : periodicSched N cm c =
      .ok (offlineSched N (periodicEvs N cm c) (revUses cm none)) := by
    unfold periodicSched; rw [if_neg (by omega)]
  exact offline_class_clean rfl rfl rfl hsch hevs hclean (revUses_isSome _ _)
    (fun _ => revUses_ram cm _ hcm) (fun _ => rfl)

/-! ## what the tags mean (class-independent, for arbitrary streams) -/

alias meaning_C03_budgets := Mean.M1_C03
alias meaning_C04_clean_storage := Mean.M2_C04
alias meaning_C02_reverse_tiles := Mean.M3c_tiles
alias meaning_C02_all_reversed := Mean.M3d_tiles
alias meaning_C01_load := Mean.M4_C01_load
alias meaning_C01_reverse := Mean.M4_C01_reverse
alias meaning_C12_one_step := Mean.M5_C12

example : validMixed 9 2 .disk = true := by decide
example : validRevolve 7 2 1 1 = true := by decide
example : validMultistage 17 2 1 = true ∧ validMixed 9 2 .disk = true ∧ validRevolve 7 2 3 1 = true := by decide

end Ckpt

section AxiomCheck
open Ckpt
#print axioms streams_multistage
#print axioms streams_mixed
#print axioms streams_revolve
#print axioms streams_diskRevolve
#print axioms streams_periodic
end AxiomCheck
