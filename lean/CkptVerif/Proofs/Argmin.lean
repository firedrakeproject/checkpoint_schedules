import CkptVerif.Model.Revolve
import Mathlib.Tactic
/-! `argminO`: 1 + the index of the LAST minimal element of a list of extended naturals. -/
namespace Ckpt
set_option linter.unnecessarySeqFocus false

theorem ole_refl (a : Option Nat) : ole a a = true := by
  cases a <;> simp [ole, olt]

theorem olt_irrefl (a : Option Nat) : olt a a = false := by
  cases a <;> simp [olt]

theorem ole_trans {a b c : Option Nat} (h1 : ole a b = true) (h2 : ole b c = true) :
    ole a c = true := by
  cases a <;> cases b <;> cases c <;> simp [ole, olt] at * <;> omega

theorem ole_antisymm {a b : Option Nat} (h1 : ole a b = true) (h2 : ole b a = true) : a = b := by
  cases a <;> cases b <;> simp [ole, olt] at * <;> omega

theorem ole_total (a b : Option Nat) : ole a b = true ∨ ole b a = true := by
  cases a <;> cases b <;> simp [ole, olt] <;> omega

theorem olt_of_not_ole {a b : Option Nat} (h : ole a b = false) : olt b a = true := by
  simpa [ole] using h

theorem ole_of_olt {a b : Option Nat} (h : olt a b = true) : ole a b = true := by
  cases a <;> cases b <;> simp [ole, olt] at * <;> omega

theorem olt_of_ole_of_olt {a b c : Option Nat} (h1 : ole a b = true) (h2 : olt b c = true) :
    olt a c = true := by
  cases a <;> cases b <;> cases c <;> simp [ole, olt] at * <;> omega

theorem olt_iff_not_ole (a b : Option Nat) : olt a b = true ↔ ole b a = false := by
  simp [ole]

theorem olt_some_some (a b : Nat) : olt (some a) (some b) = true ↔ a < b := by simp [olt]
theorem ole_some_some (a b : Nat) : ole (some a) (some b) = true ↔ a ≤ b := by simp [ole, olt]

theorem omin_some_some (a b : Nat) : omin (some a) (some b) = some (min a b) := by
  simp only [omin, olt]
  by_cases h : b < a
  · simp [h, Nat.min_eq_right (Nat.le_of_lt h)]
  · simp [h, Nat.min_eq_left (Nat.le_of_not_lt h)]

/-- the comparison step of the Python loop computes `omin` on the value component -/
theorem step_val (v y : Option Nat) : (if ole y v = true then y else v) = omin v y := by
  unfold omin
  by_cases h : ole y v = true
  · rw [if_pos h]
    by_cases h2 : olt y v = true
    · rw [if_pos h2]
    · rw [if_neg h2]
      have : ole v y = true := by simpa [ole] using h2
      exact ole_antisymm h this
  · rw [if_neg h]
    have h' : ole y v = false := by simpa using h
    have h3 := olt_of_not_ole h'
    have : olt y v = false := by
      cases y <;> cases v <;> simp [olt] at * <;> omega
    simp [this]

/-- the loop body of `argmin` (basic_functions.py) -/
def argStep (acc : Nat × Option Nat) (p : Option Nat × Nat) : Nat × Option Nat :=
  if ole p.1 acc.2 then (p.2, p.1) else acc

theorem argminO_cons (x : Option Nat) (xs : List (Option Nat)) :
    argminO (x :: xs) = 1 + ((xs.zipIdx 1).foldl argStep (0, x)).1 := by
  simp only [argminO, List.zipIdx_cons, List.foldl_cons, ole_refl, if_true, Nat.zero_add]
  rfl

theorem foldl_omin_le_init (xs : List (Option Nat)) (v : Option Nat) :
    ole (xs.foldl omin v) v = true := by
  induction xs generalizing v with
  | nil => exact ole_refl v
  | cons y ys ih =>
    simp only [List.foldl_cons]
    refine ole_trans (ih _) ?_
    rw [← step_val]
    by_cases h : ole y v = true
    · rw [if_pos h]; exact h
    · rw [if_neg h]; exact ole_refl v

/-- Loop invariant, stated for the loop started in state `(i, v)` on the suffix `xs` whose first
element has index `k`. -/
theorem argLoop_spec (xs : List (Option Nat)) (k i : Nat) (v : Option Nat) :
    let r := (xs.zipIdx k).foldl argStep (i, v)
    let m := xs.foldl omin v
    r.2 = m ∧ (∀ x ∈ xs, ole m x = true) ∧
    ((r.1 = i ∧ m = v ∧ ∀ x ∈ xs, olt v x = true) ∨
     (k ≤ r.1 ∧ r.1 < k + xs.length ∧ xs[r.1 - k]? = some m ∧
        ∀ j y, r.1 - k < j → xs[j]? = some y → olt m y = true)) := by
  induction xs generalizing k i v with
  | nil => simp
  | cons y ys ih =>
    simp only [List.zipIdx_cons, List.foldl_cons, List.length_cons]
    -- one step: the value becomes `omin v y`, the index moves to `k` iff `y ≤ v`
    have hs : argStep (i, v) (y, k) = (if ole y v = true then k else i, omin v y) := by
      rw [← step_val, argStep]
      split <;> rfl
    rw [hs]
    obtain ⟨h1, h2, h3⟩ := ih (k + 1) (if ole y v = true then k else i) (omin v y)
    have hy : ole (omin v y) y = true := by
      rw [← step_val]
      split
      · exact ole_refl y
      · exact ole_of_olt (olt_of_not_ole (by simpa using ‹¬ ole y v = true›))
    refine ⟨h1, List.forall_mem_cons.2 ⟨ole_trans (foldl_omin_le_init ys _) hy, h2⟩, ?_⟩
    rcases h3 with ⟨e1, e2, e3⟩ | ⟨e1, e2, e3, e4⟩
    · -- nothing in `ys` is as small as `omin v y`
      rw [e1, e2]
      by_cases h : ole y v = true
      · have hm : omin v y = y := by rw [← step_val, if_pos h]
        rw [if_pos h, hm]
        rw [hm] at e3
        refine Or.inr ⟨le_refl _, by omega, by simp, ?_⟩
        intro j z hj hz
        obtain ⟨j', rfl⟩ : ∃ j', j = j' + 1 := ⟨j - 1, by omega⟩
        rw [List.getElem?_cons_succ] at hz
        exact e3 z (List.mem_of_getElem? hz)
      · have hm : omin v y = v := by rw [← step_val, if_neg h]
        rw [if_neg h, hm]
        rw [hm] at e3
        exact Or.inl ⟨rfl, rfl, List.forall_mem_cons.2 ⟨olt_of_not_ole (by simpa using h), e3⟩⟩
    · -- the position found in `ys`, shifted by one
      refine Or.inr ⟨by omega, by omega, ?_, ?_⟩
      · rw [show ((ys.zipIdx (k + 1)).foldl argStep (if ole y v = true then k else i, omin v y)).1 - k =
          ((ys.zipIdx (k + 1)).foldl argStep (if ole y v = true then k else i, omin v y)).1 -
            (k + 1) + 1 by omega, List.getElem?_cons_succ]
        exact e3
      · intro j z hj hz
        obtain ⟨j', rfl⟩ : ∃ j', j = j' + 1 := ⟨j - 1, by omega⟩
        rw [List.getElem?_cons_succ] at hz
        exact e4 j' z (by omega) hz

theorem argminO_spec (l : List (Option Nat)) (hl : l ≠ []) :
    (1 ≤ argminO l ∧ argminO l ≤ l.length) ∧
    l[argminO l - 1]? = some (ominList l) ∧
    (∀ x ∈ l, ole (ominList l) x = true) ∧
    (∀ i y, argminO l - 1 < i → l[i]? = some y → olt (ominList l) y = true) := by
  obtain ⟨x, xs, rfl⟩ := List.exists_cons_of_ne_nil hl
  rw [argminO_cons]
  simp only [ominList, List.length_cons]
  obtain ⟨_, h2, h3⟩ := argLoop_spec xs 1 0 x
  have hall : ∀ z ∈ x :: xs, ole (xs.foldl omin x) z = true := by
    intro z hz
    rcases List.mem_cons.1 hz with rfl | hz
    · exact foldl_omin_le_init xs z
    · exact h2 z hz
  rcases h3 with ⟨e1, e2, e3⟩ | ⟨e1, e2, e3, e4⟩
  · rw [e1]
    refine ⟨by omega, by simp [e2], hall, ?_⟩
    intro i y hi hy
    obtain ⟨i', rfl⟩ : ∃ i', i = i' + 1 := ⟨i - 1, by omega⟩
    rw [List.getElem?_cons_succ] at hy
    rw [e2]
    exact e3 y (List.mem_of_getElem? hy)
  · refine ⟨by omega, ?_, hall, ?_⟩
    · have : 1 + ((xs.zipIdx 1).foldl argStep (0, x)).1 - 1
          = (((xs.zipIdx 1).foldl argStep (0, x)).1 - 1) + 1 := by omega
      rw [this, List.getElem?_cons_succ]; exact e3
    · intro i y hi hy
      obtain ⟨i', rfl⟩ : ∃ i', i = i' + 1 := ⟨i - 1, by omega⟩
      rw [List.getElem?_cons_succ] at hy
      exact e4 i' y (by omega) hy

theorem argminO_range (l : List (Option Nat)) (hl : l ≠ []) :
    1 ≤ argminO l ∧ argminO l ≤ l.length := (argminO_spec l hl).1

theorem argminO_get (l : List (Option Nat)) (hl : l ≠ []) :
    l[argminO l - 1]? = some (ominList l) := (argminO_spec l hl).2.1

theorem map_range'_ne_nil {α : Type} (f : Nat → α) {n : Nat} (hn : 1 ≤ n) :
    (List.range' 1 n).map f ≠ [] := by
  intro h
  have := congrArg List.length h
  simp at this
  omega

/-- candidates indexed `1 … n`: the returned position is the index of a least one -/
theorem argminO_range'_map (f : Nat → Option Nat) (n : Nat) (hn : 1 ≤ n) :
    1 ≤ argminO ((List.range' 1 n).map f) ∧ argminO ((List.range' 1 n).map f) ≤ n ∧
    f (argminO ((List.range' 1 n).map f)) = ominList ((List.range' 1 n).map f) := by
  have hne := map_range'_ne_nil f hn
  obtain ⟨h1, h2⟩ := argminO_range _ hne
  have hg := argminO_get _ hne
  rw [List.length_map, List.length_range'] at h2
  rw [List.getElem?_map, List.getElem?_range' (by omega)] at hg
  have e : 1 + 1 * (argminO ((List.range' 1 n).map f) - 1) = argminO ((List.range' 1 n).map f) := by
    omega
  rw [e] at hg
  exact ⟨h1, h2, Option.some.inj hg⟩

theorem ominList_le (l : List (Option Nat)) : ∀ x ∈ l, ole (ominList l) x = true := by
  intro x hx
  have hl : l ≠ [] := List.ne_nil_of_mem hx
  exact (argminO_spec l hl).2.2.1 x hx

theorem ominList_mem (l : List (Option Nat)) (hl : l ≠ []) : ominList l ∈ l :=
  List.mem_of_getElem? (argminO_get l hl)

/-- the returned position is the LAST minimal one: everything after it is strictly larger -/
theorem argminO_last (l : List (Option Nat)) (hl : l ≠ []) (i : Nat) (h1 : argminO l - 1 < i)
    (h2 : i < l.length) : olt (ominList l) l[i] = true :=
  (argminO_spec l hl).2.2.2 i l[i] h1 (List.getElem?_eq_getElem h2)

theorem argminO_last_getD (l : List (Option Nat)) (hl : l ≠ []) (i : Nat) (h1 : argminO l - 1 < i)
    (h2 : i < l.length) : olt (ominList l) (l.getD i none) = true := by
  have := argminO_last l hl i h1 h2
  simpa [List.getD_eq_getElem?_getD, List.getElem?_eq_getElem h2] using this

/-- uniqueness: a position that holds the minimum and has only strictly larger elements after it is
the returned one -/
theorem argminO_unique (l : List (Option Nat)) (hl : l ≠ []) (p : Nat)
    (hp : l[p]? = some (ominList l))
    (hlast : ∀ i y, p < i → l[i]? = some y → olt (ominList l) y = true) :
    argminO l = p + 1 := by
  obtain ⟨⟨a1, _⟩, a3, _, a5⟩ := argminO_spec l hl
  rcases Nat.lt_trichotomy (argminO l - 1) p with h | h | h
  · have := a5 p _ h hp
    rw [olt_irrefl] at this; cases this
  · omega
  · have := hlast _ _ h a3
    rw [olt_irrefl] at this; cases this

theorem foldl_omin_map_some (l : List Nat) (v : Nat) :
    (l.map some).foldl omin (some v) = some (l.foldl min v) := by
  induction l generalizing v with
  | nil => rfl
  | cons y ys ih => simp only [List.map_cons, List.foldl_cons, omin_some_some, ih]

/-- Python `min(l)` as the model writes it -/
def minNat (l : List Nat) : Nat := l.foldl min (l.headD 0)

theorem ominList_map_some (l : List Nat) (hl : l ≠ []) :
    ominList (l.map some) = some (l.foldl min (l.headD 0)) := by
  obtain ⟨x, xs, rfl⟩ := List.exists_cons_of_ne_nil hl
  simp only [List.map_cons, ominList, foldl_omin_map_some, List.headD_cons, List.foldl_cons,
    Nat.min_self]

theorem argminO_map_some_range (l : List Nat) (hl : l ≠ []) :
    1 ≤ argminO (l.map some) ∧ argminO (l.map some) ≤ l.length := by
  have := argminO_range (l.map some) (by simpa using hl)
  simpa using this

theorem argminO_map_some_get (l : List Nat) (hl : l ≠ []) :
    l[argminO (l.map some) - 1]? = some (l.foldl min (l.headD 0)) := by
  have h := argminO_get (l.map some) (by simpa using hl)
  rw [ominList_map_some l hl, List.getElem?_map] at h
  cases h' : l[argminO (l.map some) - 1]? with
  | none => rw [h'] at h; cases h
  | some z => rw [h'] at h; simpa using h

/-- the same for finite candidates: the value at the returned index is the minimum -/
theorem argminO_range'_map_some (g : Nat → Nat) (n : Nat) (hn : 1 ≤ n) :
    1 ≤ argminO (((List.range' 1 n).map g).map some) ∧
    argminO (((List.range' 1 n).map g).map some) ≤ n ∧
    g (argminO (((List.range' 1 n).map g).map some)) =
      ((List.range' 1 n).map g).foldl min (((List.range' 1 n).map g).headD 0) := by
  have hne := map_range'_ne_nil g hn
  have h := argminO_range'_map (fun j => some (g j)) n hn
  have e : (List.range' 1 n).map (fun j => some (g j)) = ((List.range' 1 n).map g).map some :=
    (List.map_map ..).symm
  rw [e, ominList_map_some _ hne] at h
  exact ⟨h.1, h.2.1, Option.some.inj h.2.2⟩

theorem foldl_min_le (l : List Nat) : ∀ x ∈ l, l.foldl min (l.headD 0) ≤ x := by
  intro x hx
  have hl : l ≠ [] := List.ne_nil_of_mem hx
  have h := ominList_le (l.map some) (some x) (List.mem_map_of_mem hx)
  rwa [ominList_map_some l hl, ole_some_some] at h

theorem argminO_map_some_last (l : List Nat) (hl : l ≠ []) (i : Nat)
    (h1 : argminO (l.map some) - 1 < i) (h2 : i < l.length) :
    l.foldl min (l.headD 0) < l[i] := by
  have h := argminO_last (l.map some) (by simpa using hl) i h1 (by simpa using h2)
  rwa [ominList_map_some l hl, List.getElem_map, olt_some_some] at h

/-- all facts for `l.map some`, in terms of `Nat` only -/
theorem argminO_map_some_spec (l : List Nat) (hl : l ≠ []) :
    let p := argminO (l.map some)
    let m := l.foldl min (l.headD 0)
    (1 ≤ p ∧ p ≤ l.length) ∧ l[p - 1]? = some m ∧ (∀ x ∈ l, m ≤ x) ∧
    (∀ i (h : i < l.length), p - 1 < i → m < l[i]) :=
  ⟨argminO_map_some_range l hl, argminO_map_some_get l hl, foldl_min_le l,
    fun i h h1 => argminO_map_some_last l hl i h1 h⟩

-- satisfiable, non-trivial: two minimal elements (value 2 at indices 1 and 3), last one wins
example : argminO [some 5, some 2, none, some 2, some 7] = 4 := by decide
example : ominList [some 5, some 2, none, some 2, some 7] = some 2 := by decide
example : ([some 5, some 2, none, some 2, some 7] : List (Option Nat)) ≠ [] := by simp
example : argminO ([5, 2, 9, 2, 7].map some) = 4 ∧ [5, 2, 9, 2, 7].foldl min 5 = 2 := by decide

end Ckpt
