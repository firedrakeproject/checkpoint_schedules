import CkptVerif.Model.Planners
import CkptVerif.Proofs.MixedStream
/-!
The planners the driver executes coincide with the specification planner `memoPlan` on every key
a stream for `N ≤ T.size` can query; hence the driver's Mixed streams (both code paths) are the
stream `mixedEvs memoPlan` the theorems are about.
-/
namespace Ckpt

theorem memoPlanner_eq (n : Nat) (m k : Nat) (hm : m ≤ n) :
    memoPlanner (Tabs.mk' n) m k = memoPlan m k := by
  unfold memoPlanner memoPlan Tabs.mk'
  dsimp only
  have hc : clampS m k < n + 1 := by unfold clampS; omega
  rw [dpGet_memoTable n (n + 1) m (clampS m k) hm hc]

theorem mixedEvs_memoPlanner (n N s : Nat) (st : Storage) (hN : N ≤ n) :
    mixedEvs (memoPlanner (Tabs.mk' n)) N s st = mixedEvs memoPlan N s st :=
  mixedEvs_congr _ _ N s st (fun m k hm _ => memoPlanner_eq n m k (by omega))

theorem mixedEvs_tabPlanner (n N s : Nat) (st : Storage) (hn : 1 ≤ n) (hN : N ≤ n) :
    mixedEvs (tabPlanner (Tabs.mk' n)) N s st = mixedEvs memoPlan N s st := by
  obtain ⟨t, ht, _⟩ := mixedTab_expect n n hn
  have e : tabPlanner (Tabs.mk' n) = tabPlan t := by
    unfold tabPlanner Tabs.mk'
    simp only [ht]
    rfl
  rw [e]
  exact mixedEvs_tab_eq_memo n n t ht N s st hN (by omega)

end Ckpt
