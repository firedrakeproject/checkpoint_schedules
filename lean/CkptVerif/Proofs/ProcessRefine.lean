import CkptVerif.Proofs.Process
import CkptVerif.Proofs.MixedIterRefine
/-!
# The lazy Mixed object of the process model is the pure `Sched` machine

In `Model/Process.lean` a `MixedCheckpointSchedule` on the memoisation path is a *resumable*
generator (`MixPC`, `mixResume`) whose planner queries go through the process-global memo table.
Everywhere else in the development the same class is the pure machine `Sched.next` over
`mixedSched memoPlan N s st`, whose stream `mixedEvs memoPlan N s st` is computed by the recursive
model.  This file proves that they answer every sequence of operations identically.

* `twin_emits`: if the loop twin `mixInner / mixTurn / mixReload` of `Model/MixedIter.lean` returns
  the list `l` from some point, then resuming the generator repeatedly from that point yields
  exactly the events of `l`, one per `next()`, and then returns (`Emits`).
* `Bis`, `bis_step`: the bisimulation between the lazy object and the pure machine.
* `lazyMixed_refines`: alone in a fresh process, the lazy object answers any sequence of
  `next / finalize / observe / usesStorage` like the pure machine.
* `solo_refines`, `C15_spec_process`: hence in ANY history, with anything interleaved, an object of
  any class answers like the pure machine of its class; `C15_mixed_process` (a Mixed object against
  the pure machine over the recursive specification) and `C15_plain_process` are its two readings.
-/
namespace Ckpt.Proc
open Ckpt

/-! ## answers of one object -/

/-- the answers of an object to a sequence of operations, the memo table being threaded -/
def objOuts (planM : PlanM) : ObjSt → Cache Cell → List OOp → List POut
  | _, _, [] => []
  | o, c, op :: rest =>
    (o.step planM op c).2.2 :: objOuts planM (o.step planM op c).2.1 (o.step planM op c).1 rest

/-- the answers of a pure machine -/
def plainOuts (s : Sched) : MSt → List OOp → List POut
  | _, [] => []
  | m, .next :: rest => .next (s.next m).2 :: plainOuts s (s.next m).1 rest
  | m, .finalize k :: rest => .fin (finalize m k).2 :: plainOuts s (finalize m k).1 rest
  | m, .observe :: rest => obsOf m :: plainOuts s m rest
  | m, .usesStorage x :: rest => .uses (s.uses x) :: plainOuts s m rest

theorem objOuts_plain (planM : PlanM) (s : Sched) (m : MSt) (c : Cache Cell) (ops : List OOp) :
    objOuts planM (.plain s m) c ops = plainOuts s m ops := by
  induction ops generalizing m c with
  | nil => rfl
  | cons op rest ih =>
    cases op with
    | next => exact congrArg _ (ih _ _)
    | finalize k => exact congrArg _ (ih _ _)
    | observe => exact congrArg _ (ih _ _)
    | usesStorage x => exact congrArg _ (ih _ _)

theorem objOuts_spec {planM : PlanM} {plan : Planner} {OK : Cache Cell → Prop}
    (h : PlanMSpec planM plan OK) (o : ObjSt) (c c' : Cache Cell) (hc : OK c) (ops : List OOp) :
    objOuts planM o c ops = objOuts (purePlanM plan) o c' ops := by
  induction ops generalizing o c c' with
  | nil => rfl
  | cons op rest ih =>
    obtain ⟨h1, h2⟩ := objStep_spec h o op c c' hc
    show (o.step planM op c).2.2 :: objOuts planM (o.step planM op c).2.1 (o.step planM op c).1 rest
      = (o.step (purePlanM plan) op c').2.2 ::
        objOuts (purePlanM plan) (o.step (purePlanM plan) op c').2.1
          (o.step (purePlanM plan) op c').1 rest
    rw [ih _ _ (o.step (purePlanM plan) op c').1 h2, h1]

/-- a process holding exactly one object answers like that object -/
theorem run_single (p : Proc) (o : Obj) (ho : p.objs = [o]) (ops : List OOp) :
    (p.run (ops.map (POp.obj 0))).2 = objOuts memoQuery o.st p.memo ops := by
  induction ops generalizing p o with
  | nil => rfl
  | cons op rest ih =>
    have h0 : p.objs[0]? = some o := by rw [ho]; rfl
    rw [List.map_cons, run_cons, step_obj_some p 0 op o h0]
    show _ :: _ = _ :: _
    congr 1
    refine ih _ { o with st := (o.st.step memoQuery op p.memo).2.1 } ?_
    show p.objs.set 0 _ = _
    rw [ho]; rfl

theorem run_solo (spec : Spec) (ops : List OOp) :
    (Proc.init.run (soloHistory spec ops)).2 =
      .constructed (mkObj spec).st.error? :: objOuts memoQuery (mkObj spec).st [] ops := by
  unfold soloHistory
  rw [run_cons]
  show _ :: _ = _ :: _
  congr 1
  exact run_single _ (mkObj spec) rfl ops

/-! ## the loop twin, seen from a suspension point -/

section twin
variable (plan : Planner) (N S : Nat) (st : Storage)

/-- what the loop twin computes from a suspension point -/
def den (fuel : Nat) : MixPC → Except Err (List Ev)
  | .inner σ t => mixInner plan N S st fuel σ t
  | .fr2 σ n1 t =>
    yieldEv ⟨.forward (n1 - 1) n1 false true .work, n1, σ.r⟩
      (mixInner plan N S st fuel { σ with n := n1 } t)
  | .rev σ =>
    yieldEv ⟨.reverse (N - (σ.r + 1) + 1) (N - (σ.r + 1)) true, σ.n, σ.r + 1⟩
      (mixReload plan N S st fuel { σ with r := σ.r + 1 })
  | .icsPost σ n0 t =>
    if σ.snapshots.length > S - 1 then mixErr
    else mixInner plan N S st fuel
      { σ with snapshotN := n0 :: σ.snapshotN, snapshots := (stWriteIcs, n0, σ.n) :: σ.snapshots }
      t
  | .reload σ => mixReload plan N S st fuel σ
  | .final => .ok []
  | .dead => .error .fuel

/-- the twin's continuation after one resumption -/
def contOf (fuel : Nat) : MixPC × GenOut → Except Err (List Ev)
  | (pc, .yield e) => yieldEv e (den plan N S st fuel pc)
  | (_, .raise err) => .error err
  | (_, .ret) => .ok []

/-! ### one unrolling of each loop is one resumption -/

theorem inner_unroll (fuel : Nat) (σ : MixSt) (t : Nat) :
    mixInner plan N S st (fuel + 1) σ t =
      if σ.n < N - σ.r then
        contOf plan N S st fuel (innerAfter S st σ
          (plan (N - σ.r - σ.n)
            (S - σ.snapshots.length + (if σ.snapshotN.contains σ.n then 1 else 0))))
      else mixTurn plan N S st fuel σ t := by
  rw [mixInner]
  by_cases hlt : σ.n < N - σ.r
  · rw [if_pos hlt, if_pos hlt]
    unfold innerAfter
    dsimp only
    generalize plan (N - σ.r - σ.n)
        (S - σ.snapshots.length + (if σ.snapshotN.contains σ.n = true then 1 else 0)) = ans
    cases ans with
    | none => rfl
    | some cell =>
      dsimp only
      simp only [apply_ite (contOf plan N S st fuel)]
      rfl
  · rw [if_neg hlt, if_neg hlt]

theorem turn_unroll (fuel : Nat) (σ : MixSt) (t : Nat) :
    mixTurn plan N S st (fuel + 1) σ t = contOf plan N S st fuel (turnStep N σ t) := by
  rw [mixTurn]
  unfold turnStep
  split
  · rfl
  · split
    · rfl
    · dsimp only
      split
      · rfl
      · rfl

theorem reload_unroll (fuel : Nat) (σ : MixSt) :
    mixReload plan N S st (fuel + 1) σ =
      contOf plan N S st fuel (reloadStep (purePlanM plan) N S st σ []).2 := by
  rw [mixReload]
  unfold reloadStep
  obtain ⟨n, r, keys, stack⟩ := σ
  cases stack with
  | nil =>
    dsimp only
    simp only [apply_ite (contOf plan N S st fuel), apply_ite Prod.snd]
    rfl
  | cons cp rest =>
    obtain ⟨cpStepType, cpN, x⟩ := cp
    dsimp only [purePlanM]
    unfold reloadAfter
    generalize plan (N - r - cpN) (S - (rest.length + 1) + 1) = ans
    cases ans with
    | none =>
      dsimp only
      simp only [apply_ite (contOf plan N S st fuel), apply_ite Prod.snd]
      rfl
    | some cell =>
      dsimp only
      simp only [apply_ite (contOf plan N S st fuel), apply_ite Prod.snd]
      rfl

/-! ### no resumption returns, and `EndReverse` is yielded at the last `yield` only -/

/-- what a resumption from a suspension point inside the loops produces: never a `return`, and
`EndReverse` only when the generator is then suspended at its last `yield` -/
def Live : MixPC × GenOut → Prop
  | (pc, .yield e) => e.act = .endReverse → pc = .final
  | (_, .raise _) => True
  | (_, .ret) => False

theorem Live.ite {c : Prop} [Decidable c] {a b : MixPC × GenOut} (ha : Live a) (hb : Live b) :
    Live (if c then a else b) := by
  split
  · exact ha
  · exact hb

/- The next three proofs follow the decision trees of the definitions, one `Live.ite` per `if`:
`trivial` where a branch raises, `nofun` where it yields an action that is not `EndReverse`.
(Splitting the nested conditionals by tactic is two orders of magnitude slower to check.) -/

theorem innerAfter_live (σ : MixSt) (ans : Option Cell) : Live (innerAfter S st σ ans) :=
  match ans with
  | none => trivial
  | some _ =>
    .ite trivial <|
    .ite (.ite nofun (.ite trivial nofun)) <|
    .ite (.ite trivial nofun) <|
    .ite (.ite trivial (.ite trivial (.ite trivial nofun))) <|
    .ite (.ite trivial (.ite nofun nofun)) trivial

theorem turnStep_live (σ : MixSt) (t : Nat) : Live (turnStep N σ t) :=
  .ite trivial (.ite trivial (.ite nofun nofun))

theorem moveOrCopy_noER {c : Prop} [Decidable c] {a b : Ev} (ha : a.act ≠ .endReverse)
    (hb : b.act ≠ .endReverse) : (if c then a else b).act ≠ .endReverse := by
  split
  · exact ha
  · exact hb

theorem reloadAfter_live (σ : MixSt) (a b : Nat) (rest : List (Nat × Nat × Nat))
    (ans : Option Cell) : Live (reloadAfter N st σ a b rest ans) :=
  match ans with
  | none => trivial
  | some _ =>
    .ite trivial <|
    .ite (.ite trivial fun h => absurd h (moveOrCopy_noER nofun nofun))
      (.ite trivial fun h => absurd h (moveOrCopy_noER nofun nofun))

theorem reloadStep_live (planM : PlanM) (σ : MixSt) (c : Cache Cell) :
    Live (reloadStep planM N S st σ c).2 := by
  unfold reloadStep
  split
  · split
    · trivial
    · exact fun _ => rfl
  · split
    · trivial
    · split
      · trivial
      · exact reloadAfter_live N st σ _ _ _ _

/-! ### the generator yields the twin's list -/

/-- resuming repeatedly from `pc` yields exactly the events of the list, then the generator is
suspended at `yield EndReverse()`; `EndReverse` is only ever the last event -/
def Emits : MixPC → List Ev → Prop
  | pc, [] => pc = .final
  | pc, e :: es =>
    ∃ pc', (mixResume (purePlanM plan) N S st pc []).2 = (pc', .yield e) ∧
      (e.act = .endReverse → es = []) ∧ Emits pc' es

/-- the statement for the two loop heads at a given fuel -/
def TwinEmits (fuel : Nat) : Prop :=
  (∀ σ t l, mixInner plan N S st fuel σ t = .ok l → Emits plan N S st (.inner σ t) l) ∧
  (∀ σ l, mixReload plan N S st fuel σ = .ok l → Emits plan N S st (.reload σ) l)

theorem den_of_twin (fuel : Nat) (h : TwinEmits plan N S st fuel) (pc : MixPC) (l : List Ev)
    (hd : den plan N S st fuel pc = .ok l) : Emits plan N S st pc l := by
  cases pc with
  | inner σ t => exact h.1 σ t l hd
  | reload σ => exact h.2 σ l hd
  | final =>
    have : l = [] := by injection hd with hd; exact hd.symm
    subst this; rfl
  | dead => cases hd
  | fr2 σ n1 t =>
    obtain ⟨l', hk, rfl⟩ := yieldEv_ok hd
    exact ⟨_, rfl, (fun hh => by cases hh), h.1 _ _ _ hk⟩
  | rev σ =>
    obtain ⟨l', hk, rfl⟩ := yieldEv_ok hd
    exact ⟨_, rfl, (fun hh => by cases hh), h.2 _ _ hk⟩
  | icsPost σ n0 t =>
    replace hd : (if σ.snapshots.length > S - 1 then mixErr
      else mixInner plan N S st fuel
        { σ with snapshotN := n0 :: σ.snapshotN, snapshots := (stWriteIcs, n0, σ.n) :: σ.snapshots }
        t) = .ok l := hd
    by_cases hgt : σ.snapshots.length > S - 1
    · rw [if_pos hgt] at hd; cases hd
    · rw [if_neg hgt] at hd
      have hi := h.1 _ _ _ hd
      cases l with
      | nil => cases hi
      | cons e es =>
        obtain ⟨pc', h1, h2, h3⟩ := hi
        refine ⟨pc', ?_, h2, h3⟩
        rw [mixResume_icsPost, if_neg hgt]
        exact h1

/-- from "the twin's continuation after this resumption is `l`" to `Emits` -/
theorem emits_of_cont (fuel : Nat) (h : TwinEmits plan N S st fuel) (pc : MixPC) (X : MixPC × GenOut)
    (hX : (mixResume (purePlanM plan) N S st pc []).2 = X) (l : List Ev)
    (hl : contOf plan N S st fuel X = .ok l) (hlive : Live X) : Emits plan N S st pc l := by
  obtain ⟨pc', out⟩ := X
  cases out with
  | raise err => cases hl
  | ret => exact hlive.elim
  | yield e =>
    obtain ⟨l', hk, rfl⟩ := yieldEv_ok hl
    refine ⟨pc', hX, ?_, den_of_twin plan N S st fuel h pc' l' hk⟩
    intro he
    have hfinal : pc' = .final := hlive he
    subst hfinal
    injection hk with hk
    exact hk.symm

theorem twin_emits : ∀ fuel, TwinEmits plan N S st fuel := by
  intro fuel
  -- strong induction: the turn-around continues with two units of fuel less
  induction fuel using Nat.strong_induction_on with
  | _ fuel ih =>
    cases fuel with
    | zero =>
      refine ⟨fun σ t l h => ?_, fun σ l h => ?_⟩
      · rw [mixInner] at h; cases h
      · rw [mixReload] at h; cases h
    | succ f =>
      refine ⟨fun σ t l h => ?_, fun σ l h => ?_⟩
      · rw [inner_unroll] at h
        by_cases hlt : σ.n < N - σ.r
        · rw [if_pos hlt] at h
          refine emits_of_cont plan N S st f (ih f (Nat.lt_succ_self f)) _ _ ?_ l h
            (innerAfter_live S st σ _)
          show (innerStep (purePlanM plan) N S st σ t []).2 = _
          rw [innerStep_pos _ _ _ _ _ _ _ hlt]; rfl
        · rw [if_neg hlt] at h
          cases f with
          | zero => rw [mixTurn] at h; cases h
          | succ g =>
            rw [turn_unroll] at h
            refine emits_of_cont plan N S st g (ih g (by omega)) _ _ ?_ l h (turnStep_live N σ t)
            show (innerStep (purePlanM plan) N S st σ t []).2 = _
            rw [innerStep_neg _ _ _ _ _ _ _ hlt]
      · rw [reload_unroll] at h
        exact emits_of_cont plan N S st f (ih f (Nat.lt_succ_self f)) _ _ rfl l h
          (reloadStep_live N S st _ σ [])

/-- the whole stream: from the initial state of the generator -/
theorem mixedIter_emits (fuel : Nat) (l : List Ev) (h : mixedIter plan N S st fuel = .ok l) :
    Emits plan N S st (.inner MixSt.init stNone) l :=
  (twin_emits plan N S st fuel).1 _ _ _ h

end twin

/-! ## the bisimulation with the pure machine -/

section bis
variable (plan : Planner) (N S : Nat) (st : Storage) (evs : List Ev)

/-- the pure machine of a Mixed schedule whose stream is `evs` -/
def refSched : Sched := offlineSched N (.ok evs) (fun x => some (x = st))

/-- lazy object `(m, pc)` and pure machine state `m'` agree on the flags, and the generator will
yield what the machine still has to emit -/
inductive Bis : MSt → MixPC → MSt → Prop
  | fresh (m : MSt) (pc : MixPC) (hN : m.maxN = some N) (hx : m.exhausted = false)
      (h : Emits plan N S st pc evs) : Bis m pc { m with phase := .fwd }
  | running (m : MSt) (pc : MixPC) (todo : List Ev) (hN : m.maxN = some N)
      (hx : m.exhausted = false) (h : Emits plan N S st pc todo) :
      Bis m pc { m with phase := .run todo 0 }
  | ended (m : MSt) (pc : MixPC) (hN : m.maxN = some N) (h : pc = .final ∨ pc = .dead) :
      Bis m pc { m with phase := .stopped }

theorem finalize_offline (m : MSt) (k : Int) (hN : m.maxN = some N) : (finalize m k).1 = m := by
  unfold finalize
  split
  · rfl
  · rw [hN]; dsimp only
    split <;> rfl

theorem finalize_phase (m : MSt) (ph : Phase) (k : Int) (hN : m.maxN = some N) :
    (finalize { m with phase := ph } k).2 = (finalize m k).2 := by
  unfold finalize
  split
  · rfl
  · rw [hN]; dsimp only
    split <;> rfl

/-- the first `next()` of the pure machine loads the stream -/
theorem refSched_next_fwd (m : MSt) (hN : m.maxN = some N) :
    (refSched N st evs).next { m with phase := .fwd } =
      (refSched N st evs).next { m with phase := .run evs 0 } := by
  unfold Sched.next refSched offlineSched
  cases evs <;> simp [hN]

/-- one `next()` from a state in which `todo` is still to come -/
theorem next_todo (m : MSt) (pc : MixPC) (todo : List Ev) (hN : m.maxN = some N)
    (hx : m.exhausted = false) (h : Emits plan N S st pc todo) :
    (mixNext (purePlanM plan) N S st m pc []).2.2.2 =
        ((refSched N st evs).next { m with phase := .run todo 0 }).2 ∧
      Bis plan N S st evs (mixNext (purePlanM plan) N S st m pc []).2.1
        (mixNext (purePlanM plan) N S st m pc []).2.2.1
        ((refSched N st evs).next { m with phase := .run todo 0 }).1 := by
  cases todo with
  | nil =>
    have hpc : pc = .final := h
    subst hpc
    exact ⟨rfl, Bis.ended { m with started := true } .dead hN (Or.inr rfl)⟩
  | cons e rest =>
    obtain ⟨pc', h1, h2, h3⟩ := h
    have hmix : (mixNext (purePlanM plan) N S st m pc []).2 =
        mixNextOf m (pc', .yield e) := by
      show mixNextOf m (mixResume (purePlanM plan) N S st pc []).2 = _
      rw [h1]
    rw [hmix]
    have hpure : (refSched N st evs).next { m with phase := .run (e :: rest) 0 } =
        (if e.act = .endReverse then
          { ({ m with started := true, n := e.n, r := e.r, exhausted := true } : MSt) with
              phase := .stopped }
         else
          { ({ m with started := true, n := e.n, r := e.r, exhausted := false } : MSt) with
              phase := .run rest 0 },
         .act ⟨e.act, e.n, e.r, some N, decide (e.act = .endReverse), true⟩) := by
      unfold Sched.next Sched.after refSched offlineSched
      by_cases hER : e.act = .endReverse
      · simp [hN, hER]
      · cases rest <;> simp [hN, hER]
    rw [hpure]
    by_cases hER : e.act = .endReverse
    · have hrest := h2 hER
      subst hrest
      have hpc' : pc' = .final := h3
      subst hpc'
      refine ⟨?_, ?_⟩
      · simp [mixNextOf, hx, hER, hN]
      · simp only [hER, if_true]
        have : (mixNextOf m (.final, .yield e)).1 =
            { m with started := true, n := e.n, r := e.r, exhausted := true } := by
          simp [mixNextOf, hx, hER]
        rw [this]
        exact Bis.ended _ .final hN (Or.inl rfl)
    · refine ⟨?_, ?_⟩
      · simp [mixNextOf, hx, hER, hN]
      · simp only [hER, if_false]
        have : (mixNextOf m (pc', .yield e)).1 =
            { m with started := true, n := e.n, r := e.r, exhausted := false } := by
          simp [mixNextOf, hx, hER]
        rw [this]
        exact Bis.running _ pc' rest hN rfl h3

/-- **The bisimulation step**: related states answer every operation equally and stay related. -/
theorem bis_step (m : MSt) (pc : MixPC) (m' : MSt) (h : Bis plan N S st evs m pc m') (op : OOp) :
    ((ObjSt.mixed N S st m pc).step (purePlanM plan) op []).2.2 =
      ((ObjSt.plain (refSched N st evs) m').step (purePlanM plan) op []).2.2 ∧
    ∃ m₁ pc₁ m₁', ((ObjSt.mixed N S st m pc).step (purePlanM plan) op []).2.1 = .mixed N S st m₁ pc₁ ∧
      ((ObjSt.plain (refSched N st evs) m').step (purePlanM plan) op []).2.1 =
        .plain (refSched N st evs) m₁' ∧ Bis plan N S st evs m₁ pc₁ m₁' := by
  cases op with
  | observe =>
    refine ⟨?_, m, pc, m', rfl, rfl, h⟩
    cases h <;> rfl
  | usesStorage x => exact ⟨rfl, m, pc, m', rfl, rfl, h⟩
  | finalize k =>
    have hN : m.maxN = some N := by cases h <;> assumption
    have e1 : (finalize m k).1 = m := finalize_offline N m k hN
    refine ⟨?_, m, pc, m', ?_, ?_, h⟩
    · show POut.fin (finalize m k).2 = POut.fin (finalize m' k).2
      cases h <;> exact congrArg POut.fin (finalize_phase N m _ k hN).symm
    · show ObjSt.mixed N S st (finalize m k).1 pc = _
      rw [e1]
    · show ObjSt.plain _ (finalize m' k).1 = _
      have : m'.maxN = some N := by cases h <;> exact hN
      rw [finalize_offline N m' k this]
  | next =>
    cases h with
    | fresh hN hx hE =>
      obtain ⟨a, b⟩ := next_todo plan N S st evs m pc evs hN hx hE
      rw [← refSched_next_fwd N st evs m hN] at a b
      exact ⟨congrArg POut.next a, _, _, _, rfl, rfl, b⟩
    | running todo hN hx hE =>
      obtain ⟨a, b⟩ := next_todo plan N S st evs m pc todo hN hx hE
      exact ⟨congrArg POut.next a, _, _, _, rfl, rfl, b⟩
    | ended hN hpc =>
      have hres : (mixResume (purePlanM plan) N S st pc []).2 = (.dead, .ret) := by
        rcases hpc with rfl | rfl <;> rfl
      have hmix : (mixNext (purePlanM plan) N S st m pc []).2 = mixNextOf m (.dead, .ret) := by
        show mixNextOf m (mixResume (purePlanM plan) N S st pc []).2 = _
        rw [hres]
      refine ⟨?_, { m with started := true }, .dead, _, ?_, rfl, ?_⟩
      · show POut.next (mixNext (purePlanM plan) N S st m pc []).2.2.2 = _
        rw [hmix]; rfl
      · show ObjSt.mixed N S st (mixNext (purePlanM plan) N S st m pc []).2.1
          (mixNext (purePlanM plan) N S st m pc []).2.2.1 = _
        rw [hmix]; rfl
      · exact Bis.ended { m with started := true } .dead hN (Or.inr rfl)

theorem purePlanM_cache (o : ObjSt) (op : OOp) (c : Cache Cell) :
    (o.step (purePlanM plan) op c).1 = c := by
  cases o with
  | failed e => rfl
  | plain s m => cases op <;> rfl
  | mixed N' S' st' m pc =>
    cases op with
    | next => exact (mixResume_oneCall N' S' st' pc).pure_cache plan c
    | finalize k => rfl
    | observe => rfl
    | usesStorage x => rfl

theorem bis_outs (ops : List OOp) (m : MSt) (pc : MixPC) (m' : MSt)
    (h : Bis plan N S st evs m pc m') :
    objOuts (purePlanM plan) (.mixed N S st m pc) [] ops =
      objOuts (purePlanM plan) (.plain (refSched N st evs) m') [] ops := by
  induction ops generalizing m pc m' with
  | nil => rfl
  | cons op rest ih =>
    obtain ⟨e, m₁, pc₁, m₁', h1, h2, hb⟩ := bis_step plan N S st evs m pc m' h op
    show _ :: _ = _ :: _
    rw [purePlanM_cache, purePlanM_cache, e, h1, h2, ih _ _ _ hb]

end bis

/-! ## the theorems -/

theorem specPlanner_eq_memoPlan : specPlanner = memoPlan := rfl

/-- **Refinement.**  For valid parameters, a `MixedCheckpointSchedule(N, s, storage=st)` on the
memoisation path, alone in a fresh process (lazy generator, planner queries through the memo
table), answers any sequence of `next()`, `finalize`, flag reads and `uses_storage_type` exactly
like the pure machine `Sched.next` over `mixedSched memoPlan N s st` (stream computed by the
recursive model from the recursive specification of the planner). -/
theorem lazyMixed_refines (N s : Nat) (st : Storage) (hst : st = .ram ∨ st = .disk) (hN : 1 ≤ N)
    (hs : min 1 (N - 1) ≤ s) (ops : List OOp) :
    ∃ sch, mixedSched memoPlan N s st = .ok sch ∧
      (Proc.init.run (soloHistory (.MX N s st false) ops)).2 =
        .constructed none :: plainOuts sch sch.init ops := by
  obtain ⟨evs0, _, _, hev, _⟩ := mixed_clean_plan memoPlan memoPlan_hyp N s st hst hN hs
  have hiter : mixedIter memoPlan N (min s (N - 1)) st (mixedIterFuel N) =
      .ok (evs0 ++ [⟨.endReverse, 1, N⟩]) := by
    rw [RC.mixedIter_eq_mixedEvs memoPlan memoPlan_hyp N s st hst hN hs _
      (by unfold mixedIterFuel; omega), hev]
  have hE := mixedIter_emits memoPlan N (min s (N - 1)) st _ _ hiter
  have hc1 : ¬ (s < min 1 (N - 1) ∧ 1 ≤ N) := by omega
  have hc2 : ¬ ¬ (st = .ram ∨ st = .disk) := fun h => h hst
  have hc3 : ¬ N < 1 := by omega
  have hsched : mixedSched memoPlan N s st =
      .ok (refSched N st (evs0 ++ [⟨.endReverse, 1, N⟩])) := by
    unfold mixedSched
    rw [if_neg hc1, if_neg hc2, if_neg hc3, hev]
    rfl
  refine ⟨_, hsched, ?_⟩
  rw [run_solo]
  have hobj : (mkObj (.MX N s st false)).st =
      .mixed N (min s (N - 1)) st
        { n := 0, r := 0, maxN := some N, started := false, exhausted := false, phase := .fwd }
        (.inner MixSt.init stNone) := by
    show mkMixed N s st = _
    unfold mkMixed
    rw [if_neg hc1, if_neg hc2, if_neg hc3]
  rw [hobj]
  congr 1
  rw [objOuts_spec memoQuery_spec _ [] [] (CacheOK_nil _), specPlanner_eq_memoPlan,
    bis_outs memoPlan N (min s (N - 1)) st (evs0 ++ [⟨.endReverse, 1, N⟩]) ops _ _ _
      (Bis.fresh _ _ rfl rfl hE), objOuts_plain]
  rfl

theorem mixedSched_ok_valid {plan : Planner} {N s : Nat} {st : Storage} {sch : Sched}
    (h : mixedSched plan N s st = .ok sch) :
    (st = .ram ∨ st = .disk) ∧ 1 ≤ N ∧ min 1 (N - 1) ≤ s := by
  unfold mixedSched at h
  split at h
  · cases h
  split at h
  · cases h
  split at h
  · cases h
  rename_i h1 h2 h3
  exact ⟨Decidable.not_not.1 h2, by omega, by omega⟩

/-- alone in a fresh process, an object of any class whose constructor succeeds answers like the
pure machine of its class -/
theorem solo_refines (spec : Spec) (sch : Sched) (hs : spec.sched = .ok sch) (ops : List OOp) :
    (Proc.init.run (soloHistory spec ops)).2 = .constructed none :: plainOuts sch sch.init ops := by
  by_cases hmx : ∃ N s st, spec = .MX N s st false
  · obtain ⟨N, s, st, rfl⟩ := hmx
    have hs' : mixedSched memoPlan N s st = .ok sch := hs
    obtain ⟨hst, hN, hsv⟩ := mixedSched_ok_valid hs'
    obtain ⟨sch', h1, h2⟩ := lazyMixed_refines N s st hst hN hsv ops
    rw [hs'] at h1
    cases h1
    exact h2
  · have hobj : (mkObj spec).st = .plain sch sch.init := by
      have : (mkObj spec).st = mkPlain spec := by
        cases spec with
        | MX N s st numba =>
          cases numba with
          | false => exact absurd ⟨N, s, st, rfl⟩ hmx
          | true => rfl
        | _ => rfl
      rw [this]; unfold mkPlain; rw [hs]
    rw [run_solo, hobj]
    exact congrArg _ (objOuts_plain _ _ _ _ _)

/-- **C15 against the pure model, every class.**  In ANY history — other schedules of any class
built and iterated before, in between and concurrently, Mixed objects filling the shared memo
table, helper calls, observer reads — the answers of an object whose constructor succeeds are those
of the pure machine of its class (for Mixed on the memoisation path: over the recursive
specification of the planner). -/
theorem C15_spec_process (pre post : List POp) (spec : Spec) (sch : Sched)
    (hs : spec.sched = .ok sch) :
    ownOuts (Proc.init.run pre).1.objs.length (.construct spec :: post)
        ((Proc.init.run (pre ++ .construct spec :: post)).2.drop pre.length)
      = plainOuts sch sch.init (ownOps (Proc.init.run pre).1.objs.length post) := by
  have h := C15_process pre post spec
  simp only at h
  rw [h, solo_refines spec sch hs]
  rfl

/-- **C15 for Mixed objects, against the pure model.**  In ANY history — other schedules of any
class built and iterated before, in between and concurrently, other Mixed objects filling the
shared memo table, helper calls, observer reads — the answers of a Mixed object with valid
parameters are those of the pure machine over the recursive specification. -/
theorem C15_mixed_process (pre post : List POp) (N s : Nat) (st : Storage)
    (hst : st = .ram ∨ st = .disk) (hN : 1 ≤ N) (hs : min 1 (N - 1) ≤ s) :
    ∃ sch, mixedSched memoPlan N s st = .ok sch ∧
      ownOuts (Proc.init.run pre).1.objs.length (.construct (.MX N s st false) :: post)
          ((Proc.init.run (pre ++ .construct (.MX N s st false) :: post)).2.drop pre.length)
        = plainOuts sch sch.init (ownOps (Proc.init.run pre).1.objs.length post) := by
  obtain ⟨sch, h1, _⟩ := lazyMixed_refines N s st hst hN hs []
  exact ⟨sch, h1, C15_spec_process pre post (.MX N s st false) sch h1⟩

/-- every other class: the object of the process model *is* the pure machine -/
theorem C15_plain_process (pre post : List POp) (spec : Spec) (sch : Sched)
    (hspec : ∀ N s st, spec ≠ .MX N s st false) (hs : spec.sched = .ok sch) :
    ownOuts (Proc.init.run pre).1.objs.length (.construct spec :: post)
        ((Proc.init.run (pre ++ .construct spec :: post)).2.drop pre.length)
      = plainOuts sch sch.init (ownOps (Proc.init.run pre).1.objs.length post) :=
  C15_spec_process pre post spec sch hs

-- the hypotheses are satisfiable: the two Mixed objects of `exHistory`
example (ops : List OOp) := lazyMixed_refines 5 2 .disk (Or.inr rfl) (by decide) (by decide) ops
example := C15_mixed_process (exHistory.take 4) (exHistory.drop 5) 5 2 .disk (Or.inr rfl)
  (by decide) (by decide)

#print axioms lazyMixed_refines
#print axioms C15_spec_process
#print axioms C15_mixed_process
#print axioms C15_plain_process

end Ckpt.Proc
