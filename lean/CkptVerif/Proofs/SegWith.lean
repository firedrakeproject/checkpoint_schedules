import CkptVerif.Model.Segment
import CkptVerif.Proofs.NAdv
/-!
# How the binomial segment unfolds

The equations of `segWith (fuel + 1)`: a single step (`segWith_unit`), a split at `lo + a` of a segment
whose parts exist (`segWith_split`) or may fail (`segWith_step`); their converse for a segment known
to exist (`segWith_succ_some`, `segWith_cases`) and the induction principle it gives
(`segWith_induction`); existence of the segment (`segWith_some`, for `n_advance`:
`segWith_nAdvance_some`); independence of the values of the split function that are not queried
(`segWith_congr`).
-/
namespace Ckpt

/-- `n_advance` raises `ValueError` when no unit is left -/
theorem nAdvance_units_zero (m : Nat) (traj : Traj) : nAdvance m 0 traj = none :=
  nAdvance_eq_none m 0 traj (Or.inr rfl)

theorem RC.nAdvance_units (m k a : Nat) (traj : Traj) (h : nAdvance m k traj = some a) : 1 ≤ k := by
  rcases Nat.eq_zero_or_pos k with rfl | hk
  · rw [nAdvance_units_zero] at h; cases h
  · exact hk

/-- what a successful call `n_advance(hi - lo, k)` on a segment of two or more steps says about its
arguments and its result: there was a unit, and the split point lies strictly inside the segment -/
theorem nAdvance_some_bounds {lo hi k a : Nat} {traj : Traj} (h : nAdvance (hi - lo) k traj = some a)
    (hlt : lo + 2 ≤ hi) : 1 ≤ k ∧ 1 ≤ a ∧ lo + a < hi := by
  have hk := RC.nAdvance_units _ k a traj h
  obtain ⟨a', ha', h1, h2⟩ := nAdvance_range (hi - lo) k traj (by omega) hk
  rw [h] at ha'
  cases ha'
  exact ⟨hk, h1, by omega⟩

section
variable (N : Nat) (σ : Nat → Nat → Option Nat) (S : Nat) (alloc : Nat → Storage) (persist : Bool)

theorem segWith_unit (fuel : Nat) (stored spine : Bool) (lo d : Nat) :
    segWith N σ S alloc persist (fuel + 1) stored spine lo (lo + 1) d =
      some ((if stored then
            [⟨if persist ∧ d = 0 then .copy lo (alloc d) .work else .move lo (alloc d) .work, lo,
              N - (lo + 1)⟩]
          else [])
        ++ [⟨.forward lo (lo + 1) false true .work, lo + 1, N - (lo + 1)⟩]
        ++ (if spine then [⟨.endForward, lo + 1, N - (lo + 1)⟩] else [])
        ++ [⟨.reverse (lo + 1) lo true, lo + 1, N - (lo + 1) + 1⟩]) := by
  rw [segWith, if_pos rfl]

theorem segWith_split (fuel : Nat) (stored spine : Bool) (lo hi d a : Nat) (right left : List Ev)
    (hne : hi ≠ lo + 1) (hσ : σ (hi - lo) (S - d) = some a)
    (hr : segWith N σ S alloc persist fuel false spine (lo + a) hi (d + 1) = some right)
    (hl : segWith N σ S alloc persist fuel true false lo (lo + a) d = some left) :
    segWith N σ S alloc persist (fuel + 1) stored spine lo hi d =
      some ((if stored then
          [⟨.copy lo (alloc d) .work, lo, N - hi⟩,
           ⟨.forward lo (lo + a) false false .work, lo + a, N - hi⟩]
        else [⟨.forward lo (lo + a) true false (alloc d), lo + a, N - hi⟩]) ++ right ++ left) := by
  rw [segWith, if_neg hne, hσ]
  dsimp only
  rw [hr, hl]

/-- the equation of a segment of more than one step, also when it does not exist: the split point,
the right part, the left part, each of which may fail -/
theorem segWith_step (fuel : Nat) (stored spine : Bool) (lo hi d : Nat) (hne : hi ≠ lo + 1) :
    segWith N σ S alloc persist (fuel + 1) stored spine lo hi d =
      (σ (hi - lo) (S - d)).bind fun a =>
        (segWith N σ S alloc persist fuel false spine (lo + a) hi (d + 1)).bind fun right =>
          (segWith N σ S alloc persist fuel true false lo (lo + a) d).map fun left =>
            (if stored then
              [⟨.copy lo (alloc d) .work, lo, N - hi⟩,
               ⟨.forward lo (lo + a) false false .work, lo + a, N - hi⟩]
            else [⟨.forward lo (lo + a) true false (alloc d), lo + a, N - hi⟩]) ++ right ++ left := by
  rw [segWith, if_neg hne]
  cases σ (hi - lo) (S - d) with
  | none => rfl
  | some a =>
    dsimp only [Option.bind_some]
    cases segWith N σ S alloc persist fuel false spine (lo + a) hi (d + 1) with
    | none => rfl
    | some right =>
      dsimp only [Option.bind_some]
      cases segWith N σ S alloc persist fuel true false lo (lo + a) d <;> rfl

/-- a segment of more than one step that exists was split somewhere, and both parts exist -/
theorem segWith_succ_some {fuel : Nat} {stored spine : Bool} {lo hi d : Nat} {evs : List Ev}
    (h : segWith N σ S alloc persist (fuel + 1) stored spine lo hi d = some evs) (hne : hi ≠ lo + 1) :
    ∃ a right left, σ (hi - lo) (S - d) = some a ∧
      segWith N σ S alloc persist fuel false spine (lo + a) hi (d + 1) = some right ∧
      segWith N σ S alloc persist fuel true false lo (lo + a) d = some left ∧
      evs = (if stored then
          [⟨.copy lo (alloc d) .work, lo, N - hi⟩,
           ⟨.forward lo (lo + a) false false .work, lo + a, N - hi⟩]
        else [⟨.forward lo (lo + a) true false (alloc d), lo + a, N - hi⟩]) ++ right ++ left := by
  rw [segWith_step N σ S alloc persist fuel stored spine lo hi d hne] at h
  obtain ⟨a, hσ, h⟩ := Option.bind_eq_some_iff.1 h
  obtain ⟨right, hr, h⟩ := Option.bind_eq_some_iff.1 h
  obtain ⟨left, hl, h⟩ := Option.map_eq_some_iff.1 h
  exact ⟨a, right, left, hσ, hr, hl, h.symm⟩

/-- One unfolding of `segWith`, read off a result: the unit segment, or a split `a` with the
streams of the two parts. -/
theorem segWith_cases {fuel : Nat} {stored spine : Bool} {lo hi d : Nat} {evs : List Ev}
    (h : segWith N σ S alloc persist (fuel + 1) stored spine lo hi d = some evs) :
    (hi = lo + 1 ∧ evs =
      (if stored then
          [(⟨if persist ∧ d = 0 then .copy lo (alloc d) .work else .move lo (alloc d) .work, lo,
            N - hi⟩ : Ev)]
        else [])
        ++ [⟨.forward lo hi false true .work, hi, N - hi⟩]
        ++ (if spine then [⟨.endForward, hi, N - hi⟩] else [])
        ++ [⟨.reverse hi lo true, hi, N - hi + 1⟩]) ∨
    (hi ≠ lo + 1 ∧ ∃ a right left, σ (hi - lo) (S - d) = some a ∧
      segWith N σ S alloc persist fuel false spine (lo + a) hi (d + 1) = some right ∧
      segWith N σ S alloc persist fuel true false lo (lo + a) d = some left ∧
      evs = (if stored
          then [(⟨.copy lo (alloc d) .work, lo, N - hi⟩ : Ev),
            ⟨.forward lo (lo + a) false false .work, lo + a, N - hi⟩]
          else [⟨.forward lo (lo + a) true false (alloc d), lo + a, N - hi⟩]) ++ right ++ left) := by
  by_cases hu : hi = lo + 1
  · subst hu
    rw [segWith_unit] at h
    exact Or.inl ⟨rfl, (Option.some.inj h).symm⟩
  · exact Or.inr ⟨hu, segWith_succ_some N σ S alloc persist h hu⟩

/-- **Induction over a segment that exists**: what holds of the unit segment, and of a split
segment whenever it holds of its two parts, holds of every stream `segWith` returns. -/
theorem segWith_induction {motive : (stored spine : Bool) → (lo hi d : Nat) → List Ev → Prop}
    (unit : ∀ (stored spine : Bool) (lo d : Nat), motive stored spine lo (lo + 1) d
      ((if stored then
          [(⟨if persist ∧ d = 0 then .copy lo (alloc d) .work else .move lo (alloc d) .work, lo,
            N - (lo + 1)⟩ : Ev)]
        else [])
        ++ [⟨.forward lo (lo + 1) false true .work, lo + 1, N - (lo + 1)⟩]
        ++ (if spine then [⟨.endForward, lo + 1, N - (lo + 1)⟩] else [])
        ++ [⟨.reverse (lo + 1) lo true, lo + 1, N - (lo + 1) + 1⟩]))
    (split : ∀ (stored spine : Bool) (lo hi d a : Nat) (right left : List Ev), hi ≠ lo + 1 →
      σ (hi - lo) (S - d) = some a →
      motive false spine (lo + a) hi (d + 1) right → motive true false lo (lo + a) d left →
      motive stored spine lo hi d
        ((if stored then
            [(⟨.copy lo (alloc d) .work, lo, N - hi⟩ : Ev),
             ⟨.forward lo (lo + a) false false .work, lo + a, N - hi⟩]
          else [⟨.forward lo (lo + a) true false (alloc d), lo + a, N - hi⟩]) ++ right ++ left)) :
    ∀ (fuel : Nat) (stored spine : Bool) (lo hi d : Nat) (evs : List Ev),
      segWith N σ S alloc persist fuel stored spine lo hi d = some evs →
      motive stored spine lo hi d evs := by
  intro fuel
  induction fuel with
  | zero => intro _ _ _ _ _ _ h; cases h
  | succ fuel ih =>
    intro stored spine lo hi d evs h
    by_cases hu : hi = lo + 1
    · subst hu
      rw [segWith_unit] at h
      cases h
      exact unit stored spine lo d
    · obtain ⟨a, right, left, hσ, hr, hl, rfl⟩ := segWith_succ_some N σ S alloc persist h hu
      exact split stored spine lo hi d a right left hu hσ (ih _ _ _ _ _ _ hr) (ih _ _ _ _ _ _ hl)

end

/-- a split function that leaves a single step to the right part when it has only one unit
(`hone`): a right part of two or more steps means there is a second unit -/
theorem seg_units_right {σ : Nat → Nat → Option Nat} (hone : ∀ m, 2 ≤ m → σ m 1 = some (m - 1))
    {m k a : Nat} (hm : 2 ≤ m) (hk : 1 ≤ k) (ha : σ m k = some a) (h : a + 2 ≤ m) : 2 ≤ k := by
  by_contra hc
  obtain rfl : k = 1 := by omega
  rw [hone m hm] at ha
  injection ha with ha; omega

/-- The segment `[lo, hi)` exists as soon as a unit is free for every checkpoint it writes, for a
split function that splits strictly inside whenever it has a unit (`hrange`) and leaves a single step
to the right part when it has only one (`hone`): a segment of two or more steps writes at least one
checkpoint, and after the last unit is used the right part is a single step. -/
theorem segWith_some (N : Nat) (σ : Nat → Nat → Option Nat) (S : Nat) (alloc : Nat → Storage)
    (persist : Bool)
    (hrange : ∀ m k, 2 ≤ m → 1 ≤ k → ∃ a, σ m k = some a ∧ 1 ≤ a ∧ a ≤ m - 1)
    (hone : ∀ m, 2 ≤ m → σ m 1 = some (m - 1)) :
    ∀ (fuel : Nat) (stored spine : Bool) (lo hi d : Nat), hi - lo ≤ fuel → lo < hi →
      (lo + 2 ≤ hi → d + 1 ≤ S) →
      ∃ evs, segWith N σ S alloc persist fuel stored spine lo hi d = some evs := by
  intro fuel
  induction fuel with
  | zero => intro _ _ lo hi _ h1 h2; omega
  | succ f ih =>
    intro stored spine lo hi d hf hlt hd
    by_cases hu : hi = lo + 1
    · subst hu; exact ⟨_, segWith_unit N _ S alloc persist f stored spine lo d⟩
    · have hd' := hd (by omega)
      obtain ⟨a, ha, ha1, ha2⟩ := hrange (hi - lo) (S - d) (by omega) (by omega)
      have hright : lo + a + 2 ≤ hi → d + 1 + 1 ≤ S := fun h => by
        have := seg_units_right hone (by omega) (by omega) ha (by omega); omega
      obtain ⟨right, hr⟩ := ih false spine (lo + a) hi (d + 1) (by omega) (by omega) hright
      obtain ⟨left, hl⟩ := ih true false lo (lo + a) d (by omega) (by omega) (fun _ => hd')
      exact ⟨_, segWith_split N _ S alloc persist f stored spine lo hi d a right left hu ha hr hl⟩

/-- … in particular with `n_advance` as split function (`nAdvance_range`, `nAdvance_one`) -/
theorem segWith_nAdvance_some (N S : Nat) (alloc : Nat → Storage) (persist : Bool) (traj : Traj) :
    ∀ (fuel : Nat) (stored spine : Bool) (lo hi d : Nat), hi - lo ≤ fuel → lo < hi →
      (lo + 2 ≤ hi → d + 1 ≤ S) →
      ∃ evs, segWith N (fun m k => nAdvance m k traj) S alloc persist fuel stored spine lo hi d
        = some evs :=
  segWith_some N _ S alloc persist (fun m k => nAdvance_range m k traj)
    (fun m hm => nAdvance_one m traj (by omega))

/-- `segWith` only queries its split function at sizes `≤ hi - lo` and unit counts `≤ S` -/
theorem segWith_congr (N : Nat) (σ σ' : Nat → Nat → Option Nat) (S : Nat) (alloc : Nat → Storage)
    (persist : Bool) (M : Nat) (h : ∀ m k, m ≤ M → k ≤ S → σ m k = σ' m k)
    (hr : ∀ m k a, 2 ≤ m → σ' m k = some a → 1 ≤ a ∧ a ≤ m - 1) :
    ∀ (fuel : Nat) (stored spine : Bool) (lo hi d : Nat), lo < hi → hi - lo ≤ M →
      segWith N σ S alloc persist fuel stored spine lo hi d =
        segWith N σ' S alloc persist fuel stored spine lo hi d := by
  intro fuel
  induction fuel with
  | zero => intro _ _ _ _ _ _ _; rfl
  | succ fuel ih =>
    intro stored spine lo hi d hlt hM
    by_cases hu : hi = lo + 1
    · subst hu; rw [segWith_unit, segWith_unit]
    · rw [segWith_step _ _ _ _ _ _ _ _ _ _ _ hu, segWith_step _ _ _ _ _ _ _ _ _ _ _ hu,
        h (hi - lo) (S - d) hM (Nat.sub_le _ _)]
      cases hs : σ' (hi - lo) (S - d) with
      | none => rfl
      | some a =>
        have ha := hr _ _ _ (by omega) hs
        rw [Option.bind_some, Option.bind_some, ih false spine (lo + a) hi (d + 1) (by omega) (by omega),
          ih true false lo (lo + a) d (by omega) (by omega)]

end Ckpt
