import CkptVerif.Proofs.MultistageOk
import CkptVerif.Proofs.TopK
import CkptVerif.Proofs.OfflineGlue
import CkptVerif.Proofs.SegLabels
import CkptVerif.Proofs.SegWith
import CkptVerif.Spec.Configs
/-!
# MultistageCheckpointSchedule end to end, for all valid parameters

(a) the dry run of `allocate_snapshots` never fails (the depth discipline of binomial segments);
(b) the `storage` tuple computed by `__init__` is a RAM/DISK labelling within the budgets;
(c) the canonical trace of the model object passes the whole monitor.
-/
namespace Ckpt

theorem dryRun_append (S : Nat) : ∀ (a b : List Ev) (top : Nat) (w : List Nat),
    dryRun S (a ++ b) top w = (dryRun S a top w).bind (fun p => dryRun S b p.1 p.2) := by
  intro a
  induction a with
  | nil => intro b top w; rfl
  | cons e es ih =>
    intro b top w
    simp only [List.cons_append, dryRun]
    split <;> (try split) <;> first | rfl | exact ih _ _ _

/-- a stream on which the dry run started at depth `t` succeeds and ends at depth `t'` -/
def DryOk (S : Nat) (evs : List Ev) (t t' : Nat) : Prop :=
  ∀ w, ∃ w', dryRun S evs t w = some (t', w')

theorem DryOk.append {S : Nat} {a b : List Ev} {t t' t'' : Nat} (h1 : DryOk S a t t')
    (h2 : DryOk S b t' t'') : DryOk S (a ++ b) t t'' := by
  intro w
  obtain ⟨w1, e1⟩ := h1 w
  obtain ⟨w2, e2⟩ := h2 w1
  exact ⟨w2, by rw [dryRun_append, e1]; exact e2⟩

theorem DryOk.nil (S t : Nat) : DryOk S [] t t := fun w => ⟨w, rfl⟩

theorem dryOk_plain (S t : Nat) (n0 n1 : Nat) (wa : Bool) (st : Storage) (n r : Nat) :
    DryOk S [⟨.forward n0 n1 false wa st, n, r⟩] t t := fun w => ⟨w, rfl⟩

theorem dryOk_write (S t : Nat) (n0 n1 : Nat) (wa : Bool) (st : Storage) (n r : Nat) (h : t + 1 ≤ S) :
    DryOk S [⟨.forward n0 n1 true wa st, n, r⟩] t (t + 1) := by
  intro w
  refine ⟨w.modify t (· + 1), ?_⟩
  simp only [dryRun]
  rw [if_neg (by omega)]

theorem dryOk_copy (S t : Nat) (n0 : Nat) (src dst : Storage) (n r : Nat) :
    DryOk S [⟨.copy n0 src dst, n, r⟩] (t + 1) (t + 1) := by
  intro w
  refine ⟨w.modify t (· + 1), ?_⟩
  simp only [dryRun]
  rw [if_neg (by omega)]
  rfl

theorem dryOk_move_work (S t : Nat) (n0 : Nat) (src : Storage) (n r : Nat) :
    DryOk S [⟨.move n0 src .work, n, r⟩] (t + 1) t := by
  intro w
  refine ⟨w.modify t (· + 1), ?_⟩
  simp only [dryRun]
  rw [if_neg (by omega)]
  rfl

theorem dryOk_reverse (S t : Nat) (n1 n0 : Nat) (c : Bool) (n r : Nat) :
    DryOk S [⟨.reverse n1 n0 c, n, r⟩] t t := fun w => ⟨w, rfl⟩

theorem dryOk_endForward (S t : Nat) (n r : Nat) :
    DryOk S [⟨.endForward, n, r⟩] t t := fun w => ⟨w, rfl⟩

/-- **Depth discipline of a binomial segment** (`persist = false`): the dry run of
`allocate_snapshots` enters with `d` (+1 if the checkpoint for `lo` is stored) units in use, never
needs more than `S`, never pops an empty stack, and leaves with `d` units in use. -/
theorem segWith_dryOk (N : Nat) (σ : Nat → Nat → Option Nat) (S : Nat) (alloc : Nat → Storage)
    (hrange : ∀ m k, 2 ≤ m → 1 ≤ k → ∃ a, σ m k = some a ∧ 1 ≤ a ∧ a ≤ m - 1)
    (hone : ∀ m, 2 ≤ m → σ m 1 = some (m - 1)) :
    ∀ (fuel : Nat) (stored spine : Bool) (lo hi d : Nat) (evs : List Ev),
      segWith N σ S alloc false fuel stored spine lo hi d = some evs →
      lo < hi → (lo + 2 ≤ hi → d + 1 ≤ S) → DryOk S evs (d + if stored then 1 else 0) d := by
  intro fuel
  induction fuel with
  | zero => intro _ _ _ _ _ evs h; rw [segWith] at h; cases h
  | succ fuel ih =>
    intro stored spine lo hi d evs h hlt hd
    rcases segWith_cases N σ S alloc false h with ⟨rfl, rfl⟩ | ⟨hne, a, right, left, ha, hright, hleft, rfl⟩
    · -- (re-load,) advance, (end of the forward sweep,) reverse
      have htail : DryOk S ([(⟨.forward lo (lo + 1) false true .work, lo + 1, N - (lo + 1)⟩ : Ev)] ++
          (if spine = true then [(⟨.endForward, lo + 1, N - (lo + 1)⟩ : Ev)] else []) ++
          [⟨.reverse (lo + 1) lo true, lo + 1, N - (lo + 1) + 1⟩]) d d := by
        refine ((dryOk_plain S d _ _ _ _ _ _).append ?_).append (dryOk_reverse S d _ _ _ _ _)
        cases spine
        · exact DryOk.nil S d
        · exact dryOk_endForward S d _ _
      cases stored
      · simpa using htail
      · simp only [Bool.false_eq_true, false_and, if_false, if_true, List.append_assoc] at htail ⊢
        exact (dryOk_move_work S d _ _ _ _).append htail
    · have hdS := hd (by omega)
      obtain ⟨a', ha', ha1, ha2⟩ := hrange (hi - lo) (S - d) (by omega) (by omega)
      obtain rfl : a' = a := Option.some.inj (ha'.symm.trans ha)
      -- with a single unit left the split leaves one step to the right
      have hright_units : lo + a' + 2 ≤ hi → (d + 1) + 1 ≤ S := fun h => by
        have := seg_units_right hone (by omega) (by omega) ha (by omega); omega
      have dright := ih false spine (lo + a') hi (d + 1) right hright (by omega) hright_units
      have dleft := ih true false lo (lo + a') d left hleft (by omega) (fun _ => hdS)
      simp only [Bool.false_eq_true, if_false, Nat.add_zero, if_true] at dright dleft
      refine (DryOk.append ?_ dright).append dleft
      cases stored
      · simp only [Bool.false_eq_true, if_false, Nat.add_zero]
        exact dryOk_write S d _ _ _ _ _ _ hdS
      · simp only [if_true]
        exact (dryOk_copy S d _ _ _ _ _).append (dryOk_plain S (d + 1) _ _ _ _ _ _)

/-- the stream `allocate_snapshots` walks exists and its dry run succeeds with an empty stack -/
theorem multistageSeg_dryOk (N S : Nat) (alloc : Nat → Storage) (traj : Traj) (h1 : 1 ≤ N)
    (hS : 2 ≤ N → 1 ≤ S) :
    ∃ evs, multistageSeg N S alloc traj = some evs ∧ DryOk S evs 0 0 := by
  have hunits : 0 + 2 ≤ N → 0 + 1 ≤ S := by intro h; have := hS (by omega); omega
  obtain ⟨evs, hseg⟩ := segWith_nAdvance_some N S alloc false traj N false true 0 N 0 (by omega) (by omega)
    hunits
  have hdry := segWith_dryOk N (fun m k => nAdvance m k traj) S alloc
    (fun m k hm hk => nAdvance_range m k traj hm hk) (fun m hm => nAdvance_one m traj (by omega))
    N false true 0 N 0 evs hseg (by omega) hunits
  refine ⟨evs ++ [⟨.endReverse, 1, N⟩], by unfold multistageSeg; rw [hseg]; rfl, ?_⟩
  simp only [Bool.false_eq_true, if_false, Nat.add_zero] at hdry
  exact hdry.append (fun w => ⟨w, rfl⟩)

/-- **(a)** `allocate_snapshots` never raises: whenever there is at least one unit for `N ≥ 2`. -/
theorem allocate_isSome (N ram disk : Nat) (traj : Traj) (h1 : 1 ≤ N)
    (hS : 2 ≤ N → 1 ≤ ram + disk) : ∃ w alloc, allocate N ram disk traj = some (w, alloc) := by
  obtain ⟨evs, hseg, hdry⟩ := multistageSeg_dryOk N
    (min (min ram (N - 1) + min disk (N - 1)) (N - 1)) (fun _ => .ram) traj h1
    (by intro h; have := hS h; omega)
  obtain ⟨w', hw'⟩ := hdry (List.replicate (min (min ram (N - 1) + min disk (N - 1)) (N - 1)) 0)
  unfold allocate
  simp only [hseg, hw']
  simp

theorem count_ram_add_count_disk (l : List Storage) (h : ∀ x ∈ l, x = .ram ∨ x = .disk) :
    l.count .ram + l.count .disk = l.length := by
  induction l with
  | nil => rfl
  | cons a l ih =>
    have ih' := ih (fun x hx => h x (List.mem_cons_of_mem _ hx))
    rw [List.length_cons]
    rcases h a List.mem_cons_self with rfl | rfl
    · rw [List.count_cons_self, List.count_cons_of_ne (by decide)]; omega
    · rw [List.count_cons_self, List.count_cons_of_ne (by decide)]; omega

/-- **(b)** the storage tuple is a RAM/DISK labelling of `min (ram + disk) (N - 1)` stack
positions with at most `ram` RAM and at most `disk` DISK labels. -/
theorem multistageStorage_spec (N ram disk : Nat) (traj : Traj) (hN : 1 ≤ N) :
    ∃ storage, multistageStorage N ram disk traj = some storage ∧
      (∀ x ∈ storage, x.isStore = true) ∧ storage.count .ram ≤ ram ∧
      storage.count .disk ≤ disk ∧ storage.length = min (ram + disk) (N - 1) := by
  -- `__init__` clips both unit counts to `N - 1`; only the clipped counts `r`, `d` matter
  have key : ∀ r d, r ≤ N - 1 → d ≤ N - 1 →
      ∃ storage,
        (if r = 0 then some (List.replicate d Storage.disk)
         else if d = 0 then some (List.replicate r Storage.ram)
         else (allocate N r d traj).map (·.2)) = some storage ∧
        (∀ x ∈ storage, x.isStore = true) ∧ storage.count .ram ≤ r ∧
        storage.count .disk ≤ d ∧ storage.length = min (r + d) (N - 1) := by
    intro r d hr hd
    by_cases hr0 : r = 0
    · refine ⟨_, if_pos hr0, fun x hx => by rw [List.eq_of_mem_replicate hx]; rfl, ?_, ?_, ?_⟩
      · rw [List.count_replicate, if_neg (by decide)]; exact Nat.zero_le _
      · rw [List.count_replicate_self]
      · rw [List.length_replicate, hr0, Nat.zero_add, Nat.min_eq_left hd]
    · rw [if_neg hr0]
      by_cases hd0 : d = 0
      · refine ⟨_, if_pos hd0, fun x hx => by rw [List.eq_of_mem_replicate hx]; rfl, ?_, ?_, ?_⟩
        · rw [List.count_replicate_self]
        · rw [List.count_replicate, if_neg (by decide)]; exact Nat.zero_le _
        · rw [List.length_replicate, hd0, Nat.add_zero, Nat.min_eq_left hr]
      · rw [if_neg hd0]
        obtain ⟨w, alloc, hall⟩ := allocate_isSome N r d traj hN (by omega)
        obtain ⟨hwlen, hshape⟩ := allocate_shape _ _ _ _ _ _ hall
        obtain ⟨hlen, hcr, _, _⟩ := allocate_spec _ _ _ _ _ _ hall
        rw [Nat.min_eq_left hr] at hwlen hcr
        rw [Nat.min_eq_left hd] at hwlen
        have hmem : ∀ x ∈ alloc, x = .ram ∨ x = .disk := by
          intro x hx
          rw [hshape, List.mem_map] at hx
          obtain ⟨i, _, rfl⟩ := hx
          split
          · exact .inl rfl
          · exact .inr rfl
        have hsum := count_ram_add_count_disk alloc hmem
        rw [hall]
        refine ⟨alloc, rfl, fun x hx => by rcases hmem x hx with rfl | rfl <;> rfl, ?_, ?_, ?_⟩
        · omega
        · omega
        · omega
  obtain ⟨storage, h1, h2, h3, h4, h5⟩ :=
    key (min ram (N - 1)) (min disk (N - 1)) (Nat.min_le_right _ _) (Nat.min_le_right _ _)
  exact ⟨storage, h1, h2, le_trans h3 (Nat.min_le_left _ _), le_trans h4 (Nat.min_le_left _ _),
    by omega⟩

theorem mem_of_getD_eq {storage : List Storage} {d : Nat} {st : Storage}
    (h : storage.getD d .none = st) (hst : st ≠ .none) : st ∈ storage := by
  by_cases hd : d < storage.length
  · have : storage.getD d .none = storage[d] := by simp [List.getD, hd]
    rw [this] at h; rw [← h]; exact List.getElem_mem hd
  · have : storage.getD d .none = .none := by simp [List.getD, Nat.le_of_not_lt hd]
    rw [this] at h; exact absurd h.symm hst

/-- **(c) Multistage end to end.**  For every valid parameter tuple the model object exists, its
generator produces a stream `evs` (ending in `EndReverse`), and the canonical trace recorded by the
canonical client — for any requested number `k` of adjoint calculations and any fuel at least
`evs.length + 4` — passes the whole monitor: no violation of C01, C02, C03, C04, C08, C09, C11,
C12, C18. -/
theorem multistage_monitor_clean (N ram disk : Nat) (traj : Traj)
    (hv : validMultistage N ram disk = true) :
    ∃ s evs, multistageSched N ram disk traj = .ok s ∧
      multistageEvs N ram disk traj = .ok evs ∧
      ∀ k fuel, evs.length + 4 ≤ fuel →
        monitor (cfgMultistage ram disk N) k (s.canon N k fuel) = [] := by
  simp only [validMultistage, Bool.and_eq_true, Bool.or_eq_true, decide_eq_true_eq] at hv
  obtain ⟨h1, hunit⟩ := hv
  obtain ⟨storage, hsto, hstore, hcr, hcd, hlen⟩ := multistageStorage_spec N ram disk traj h1
  have hunits : 2 ≤ N → 1 ≤ storage.length := by
    intro h; rw [hlen]; rcases hunit with h' | h' <;> omega
  obtain ⟨evs, sn, hseg, hclean⟩ := multistage_clean (cfgMultistage ram disk N) N storage traj
    rfl rfl rfl h1 hunits hstore (by simpa [withinOpt, cfgMultistage] using hcr)
    (by simpa [withinOpt, cfgMultistage] using hcd)
  have hevs : multistageEvs N ram disk traj = .ok (evs ++ [⟨.endReverse, 1, N⟩]) := by
    unfold multistageEvs
    rw [if_neg (by omega), hsto]
    simp only
    rw [if_neg (by intro h; have := hunits (by omega); omega), hseg]
  -- the segment behind it: its labels are entries of the `storage` tuple
  have hsw : segWith N (fun m k => nAdvance m k traj) storage.length
      (fun d => storage.getD d .none) false N false true 0 N 0 = some evs := by
    unfold multistageSeg at hseg
    cases hs : segWith N (fun m k => nAdvance m k traj) storage.length
        (fun d => storage.getD d .none) false N false true 0 N 0 with
    | none => rw [hs] at hseg; cases hseg
    | some evs' =>
      rw [hs] at hseg
      simp only [Option.map_some, Option.some.injEq] at hseg
      rw [List.append_cancel_right hseg]
  have hs : multistageSched N ram disk traj = .ok (offlineSched N (multistageEvs N ram disk traj)
      (fun st => match st with
        | .ram => some (storage.contains .ram)
        | .disk => some (storage.contains .disk)
        | _ => some false)) := by
    unfold multistageSched
    rw [if_neg (by omega), hsto]
    rfl
  refine offline_class_clean rfl rfl rfl hs hevs hclean (fun st => by cases st <;> rfl) ?_ ?_
  · rintro ⟨e, he, ht⟩
    obtain ⟨d', _, hd'⟩ := segWith_touches hsw e he .ram (.inl rfl) ht
    have : Storage.ram ∈ storage := mem_of_getD_eq hd' (by simp)
    simp [this]
  · rintro ⟨e, he, ht⟩
    obtain ⟨d', _, hd'⟩ := segWith_touches hsw e he .disk (.inr rfl) ht
    have : Storage.disk ∈ storage := mem_of_getD_eq hd' (by simp)
    simp [this]

/-- the same with the fuel bound existentially quantified: some `fuel0` (namely the length of the
generator's stream plus 4) such that every fuel `≥ fuel0` works -/
theorem multistage_monitor_clean' (N ram disk : Nat) (traj : Traj)
    (hv : validMultistage N ram disk = true) :
    ∃ s fuel0, multistageSched N ram disk traj = .ok s ∧
      ∀ k fuel, fuel0 ≤ fuel → monitor (cfgMultistage ram disk N) k (s.canon N k fuel) = [] := by
  obtain ⟨s, evs, hs, _, h⟩ := multistage_monitor_clean N ram disk traj hv
  exact ⟨s, evs.length + 4, hs, h⟩

/-! ### non-vacuity -/

example : validMultistage 6 2 2 = true := by decide
example : ∃ s evs, multistageSched 6 2 2 .revolve = .ok s ∧
    multistageEvs 6 2 2 .revolve = .ok evs ∧
    ∀ k fuel, evs.length + 4 ≤ fuel → monitor (cfgMultistage 2 2 6) k (s.canon 6 k fuel) = [] :=
  multistage_monitor_clean 6 2 2 .revolve (by decide)
example : validMultistage 1 0 0 = true := by decide
example : validMultistage 40 0 3 = true := by decide

end Ckpt

section AxiomCheck
open Ckpt
#print axioms segWith_dryOk
#print axioms allocate_isSome
#print axioms multistageStorage_spec
#print axioms multistage_monitor_clean
#print axioms multistage_monitor_clean'
end AxiomCheck
