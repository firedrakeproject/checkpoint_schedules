import CkptVerif.Proofs.OpsHRevolve
import CkptVerif.Proofs.HRevolveOk
/-!
# Refinement for HRevolve, main induction
-/
namespace Ckpt.Ops

/-- what is proved about `hrecAt … = some ops` against `hRs … = some evs` -/
def HR (c : HCtx) (lo hi K : Nat) (evs : List Ev) (ops : List Op) : Prop :=
  OpsFacts lo hi (K = 0) ops ∧ ops ≠ [] ∧
  ∀ (tail : List Op) (wrap : Option Op) (S : List (Option Storage × Nat)), TailOk lo tail →
    SnapOk lo S →
    ∀ pos prev, Conv c.N wrap pos prev ops tail lo (c.N - hi) S evs (lo + 1) (c.N - lo) S

/-- what is proved about `hauxAt … = some ops` against `hAs … pending = some evs` -/
def HA (c : HCtx) (lo hi K cm : Nat) (pending : Option Nat) (evs : List Ev) (ops : List Op) : Prop :=
  OpsFacts lo hi (K = 0) ops ∧ ops ≠ [] ∧
  (∀ y, TailOk lo y → lastRd (some (lvl K), lo) (ops ++ y) = !reloads c K cm (hi - lo - 1)) ∧
  (pending = some K → ∀ (tail : List Op) (wrap : Option Op) (S : List (Option Storage × Nat)),
    TailOk lo tail → SnapOk lo S →
    ∀ pos prev, Conv c.N wrap pos prev (Op.w K lo :: ops) tail lo (c.N - hi) S evs (lo + 1)
      (c.N - lo) S) ∧
  (pending = none → ∀ (tail : List Op) (wrap : Option Op) (S : List (Option Storage × Nat)),
    TailOk lo tail → SnapOk lo S →
    ∀ pos prev n0, Conv c.N wrap pos prev (Op.r K lo :: ops) tail n0 (c.N - hi)
      ((some (lvl K), lo) :: S)
      (evLoad (reloads c K cm (hi - lo - 1)) lo (lvl K) (c.N - hi) :: evs) (lo + 1) (c.N - lo) S)

/-- `Write lo` in RAM, one `Forward` to `m`, the turn-around at `m`, the loop re-loading `lo` -/
theorem facts_w_loop (lo hi m n : Nat) (p : Prop) (hm : lo < m) (hlt : lo < hi) :
    OpsFacts lo hi p ([Op.w 0 lo, Op.fwd lo m] ++ hturn m ++ hqLoop lo n) :=
  (((facts_w lo hi 0 p (by omega) hlt (fun _ => rfl)).append (facts_fwd lo hi lo m p hm)).append
    (facts_hturn lo hi m p)).append (facts_hqLoop lo hi p hlt n)

/-- the part after `Write/Read; Forward [lo, lo+l]` of a segment whose right part is a single
step: turn around, then re-load `(lo, RAM)` again and again -/
theorem Yloop_conv (c : HCtx) (wrap : Option Op) (tail : List Op) (lo l : Nat) (spine : Bool)
    (S : List (Option Storage × Nat)) (hl : 1 ≤ l) (hN : lo + l + 1 ≤ c.N)
    (hsp : spine = true ↔ lo + l + 1 = c.N) (htail : TailOk lo tail) (hS : SnapOk lo S) :
    ∀ pos prev, Conv c.N wrap pos prev (hturn (lo + l) ++ hqLoop lo (l - 1)) tail (lo + l)
      (c.N - (lo + l + 1)) ((some .ram, lo) :: S)
      (evBase c (lo + l) (lo + l + 1) spine ++
        ((List.range (l - 1)).reverse.flatMap (loopEv c lo) ++
          [evLoad false lo .ram (c.N - (lo + 1))] ++ evBase c lo (lo + 1) false))
      (lo + 1) (c.N - lo) S := by
  intro pos prev
  refine Conv.append (n1 := lo + l + 1) (r1 := c.N - (lo + l)) (S1 := (some .ram, lo) :: S)
    (by simp [hturn]) ?_ ?_
  · rw [evBase_eq_turn c (lo + l) spine hsp]
    exact hturn_block c.N wrap _ _ _ (lo + l) _ (by omega)
  · exact Conv.congr (hqLoop_conv c wrap tail lo S htail hS (l - 1) (by omega) _ _ (lo + l + 1))
      rfl (by omega) rfl rfl rfl

theorem hrev_refine_R (c : HCtx) (fuel : Nat)
    (ihR : ∀ lo hi K cm spine evs, K ≤ 1 → lo < hi → hi ≤ c.N → (spine = true ↔ hi = c.N) →
      hRs c fuel lo hi K cm spine = some evs →
      ∃ ops, hrecAt c fuel lo (hi - lo - 1) K cm = some ops ∧ HR c lo hi K evs ops)
    (ihA : ∀ lo hi K cm spine pending evs, K ≤ 1 → lo < hi → hi ≤ c.N →
      (spine = true ↔ hi = c.N) → (pending = none → spine = false) →
      hAs c fuel lo hi K cm spine pending = some evs →
      ∃ ops, hauxAt c fuel lo (hi - lo - 1) K cm = some ops ∧ HA c lo hi K cm pending evs ops) :
    ∀ lo hi K cm spine evs, K ≤ 1 → lo < hi → hi ≤ c.N → (spine = true ↔ hi = c.N) →
      hRs c (fuel + 1) lo hi K cm spine = some evs →
      ∃ ops, hrecAt c (fuel + 1) lo (hi - lo - 1) K cm = some ops ∧ HR c lo hi K evs ops := by
  intro lo hi K cm spine evs hK hlt hN hsp h
  rw [hRs_succ] at h
  rw [hrecAt]
  by_cases h0 : hi - lo - 1 = 0
  · rw [if_pos h0] at h
    rw [if_pos h0]
    cases h
    obtain rfl : hi = lo + 1 := by omega
    refine ⟨_, rfl, facts_hturn _ _ _ _, by simp [hturn], ?_⟩
    intro tail wrap S _ _ pos prev
    rw [evBase_eq_turn c lo spine hsp]
    exact hturn_block c.N wrap pos prev tail lo S hN
  rw [if_neg h0] at h
  rw [if_neg h0]
  by_cases hk0 : K = 0 ∧ cm = 0
  · rw [if_pos hk0] at h; cases h
  rw [if_neg hk0] at h
  rw [if_neg hk0]
  by_cases h1 : hi - lo - 1 = 1
  · rw [if_pos h1] at h
    rw [if_pos h1]
    cases h
    obtain rfl : hi = lo + 1 + 1 := by omega
    refine ⟨_, rfl, facts_w_loop lo _ _ 0 _ (by omega) (by omega), by simp, ?_⟩
    intro tail wrap S htail hS pos prev
    have hY := Yloop_conv c wrap tail lo 1 spine S (le_refl _) hN hsp htail hS
    have := Conv.write_prefix (Op.w 0 lo) _ (lvl 0) lo 1 (c.N - (lo + 1 + 1)) (convAct_w 0 lo (by omega))
      rfl rfl rfl (by omega) (by omega) (snap_key lo S hS _) hY pos prev
    refine Conv.evs this ?_
    simp [evFwd, evLoad]
  rw [if_neg h1] at h
  rw [if_neg h1]
  by_cases hK0 : K = 0
  · subst hK0
    rw [if_pos rfl] at h
    rw [if_pos rfl]
    obtain ⟨aux, haux, hfa, hne, _, hP, _⟩ := ihA lo hi 0 cm spine (some 0) evs (by omega) hlt hN hsp
      (fun h => by cases h) h
    rw [haux]
    refine ⟨_, rfl, ?_, by simp, ?_⟩
    · exact (facts_w lo hi 0 _ (by omega) hlt (fun _ => rfl)).append hfa
    · intro tail wrap S htail hS pos prev
      exact hP rfl tail wrap S htail hS pos prev
  rw [if_neg hK0] at h
  rw [if_neg hK0]
  by_cases ht : olt (oadd (some (c.w K)) (c.tab.optp K (hi - lo - 1) cm))
      (c.tab.opt (K - 1) (hi - lo - 1) (cv c (K - 1))) = true
  · rw [if_pos ht] at h
    rw [if_pos ht]
    obtain ⟨aux, haux, hfa, hne, _, hP, _⟩ := ihA lo hi K cm spine (some K) evs hK hlt hN hsp
      (fun h => by cases h) h
    rw [haux]
    refine ⟨_, rfl, ?_, by simp, ?_⟩
    · exact (facts_w lo hi K _ hK hlt (fun h => h)).append hfa
    · intro tail wrap S htail hS pos prev
      exact hP rfl tail wrap S htail hS pos prev
  · rw [if_neg ht] at h
    rw [if_neg ht]
    obtain ⟨ops, hops, hf, hne, hconv⟩ := ihR lo hi (K - 1) (cv c (K - 1)) spine evs (by omega) hlt
      hN hsp h
    exact ⟨ops, hops, hf.mono (le_refl _) (le_refl _) (fun h => absurd h hK0), hne, hconv⟩

theorem reloads_one (c : HCtx) (K cm : Nat) :
    reloads c K cm 1 = !(decide (c.w 0 + c.rr 0 < c.rr K)) := by
  unfold reloads; simp

theorem reloads_zero_l (c : HCtx) (K cm : Nat) : reloads c K cm 0 = false := by
  unfold reloads; simp

/-- the right end of a segment `[lo, hi)` with `n + 1` steps -/
theorem hi_of_length {lo hi n : Nat} (hlt : lo < hi) (h : hi - lo - 1 = n) : hi = lo + n + 1 := by
  omega

/-- the small cases of `hA`: `l = 0`, `l = 1`, and the `cm = 1` loop -/
theorem hrev_refine_A_small (c : HCtx) (fuel lo hi K cm : Nat) (spine : Bool)
    (pending : Option Nat) (evs : List Ev) (hK : K ≤ 1) (hlt : lo < hi) (hN : hi ≤ c.N)
    (hsp : spine = true ↔ hi = c.N) (hps : pending = none → spine = false) (hcm : cm ≠ 0)
    (hsmall : hi - lo - 1 = 0 ∨ hi - lo - 1 = 1 ∨ (K = 0 ∧ cm = 1))
    (h : hAs c (fuel + 1) lo hi K cm spine pending = some evs) :
    ∃ ops, hauxAt c (fuel + 1) lo (hi - lo - 1) K cm = some ops ∧ HA c lo hi K cm pending evs ops := by
  rw [hAs_succ, if_neg hcm] at h
  rw [hauxAt, if_neg hcm]
  by_cases h0 : hi - lo - 1 = 0
  · rw [if_pos h0] at h
    rw [if_pos h0]
    have hpn : pending = none := by
      cases pending with
      | none => rfl
      | some p => simp at h
    subst hpn
    simp only [Option.isSome_none, Bool.false_eq_true, if_false] at h
    cases h
    obtain rfl : hi = lo + 1 := hi_of_length hlt h0
    refine ⟨_, rfl, facts_hturn _ _ _ _, by simp [hturn], ?_, (fun h => by cases h), fun _ => ?_⟩
    · intro y hy
      rw [h0, reloads_zero_l]
      exact lastRd_noTouch_tail lo _ _ y (fun o ho ht => by
        rw [opTouches_hturn lo o ho] at ht; cases ht) hy
    · intro tail wrap S htail hS pos prev n0
      rw [h0, reloads_zero_l]
      refine Conv.move_prefix (Op.r K lo) _ (lvl K) lo _ (convAct_r K lo hK) rfl rfl rfl
        (snap_key lo S hS _) (lastRd_noTouch_tail lo _ _ tail (fun o ho ht => by
          rw [opTouches_hturn lo o ho] at ht; cases ht) htail) ?_ pos prev n0
      intro pos' prev'
      rw [evBase_eq_turn c lo spine hsp]
      exact hturn_block c.N wrap pos' prev' tail lo S hN
  rw [if_neg h0] at h
  rw [if_neg h0]
  by_cases h1 : hi - lo - 1 = 1
  · rw [if_pos h1] at h
    rw [if_pos h1]
    have hpn : pending = none := by
      cases pending with
      | none => rfl
      | some p => simp at h
    subst hpn
    have hsf := hps rfl
    subst hsf
    simp only [Option.isSome_none, Bool.false_eq_true, if_false] at h
    clear hsmall h0
    obtain rfl : hi = lo + 1 + 1 := hi_of_length hlt h1
    have hN1 : ¬ lo + 1 = c.N := Nat.ne_of_lt hN
    by_cases ht : c.w 0 + c.rr 0 < c.rr K
    · rw [if_pos ht] at h
      rw [if_pos ht]
      cases h
      have hK0 : K ≠ 0 := by
        intro h; subst h; exact absurd ht (Nat.not_lt.2 (Nat.le_add_left _ _))
      have hf : OpsFacts lo (lo + 1 + 1) True
          ([Op.w 0 lo, Op.fwd lo (lo + 1)] ++ hturn (lo + 1) ++ hqLoop lo 0) :=
        facts_w_loop lo _ _ 0 _ (Nat.lt_succ_self lo) hlt
      have hnotouch : ∀ o ∈ [Op.w 0 lo, Op.fwd lo (lo + 1)] ++ hturn (lo + 1) ++ hqLoop lo 0,
          opTouches o = true → opKeyOf o ≠ (some (lvl K), lo) := by
        intro o ho hto he
        have := hf.ram trivial o ho hto
        rw [he, lvl_pos K hK0] at this
        cases this
      refine ⟨_, rfl, hf.mono (le_refl _) (le_refl _) (fun _ => trivial), by simp, ?_,
        (fun h => by cases h), fun _ => ?_⟩
      · intro y hy
        rw [h1, reloads_one]
        simp only [ht, decide_true, Bool.not_true, Bool.not_false]
        exact lastRd_noTouch_tail lo _ _ y hnotouch hy
      · intro tail wrap S htail hS pos prev n0
        rw [h1, reloads_one]
        simp only [ht, decide_true, Bool.not_true]
        refine Conv.move_prefix (Op.r K lo) _ (lvl K) lo _ (convAct_r K lo hK) rfl rfl rfl
          (snap_key lo S hS _) (lastRd_noTouch_tail lo _ _ tail hnotouch htail) ?_ pos prev n0
        intro pos' prev'
        have hY := Yloop_conv c wrap tail lo 1 false S (le_refl _) hN hsp htail hS
        have := Conv.write_prefix (Op.w 0 lo) _ (lvl 0) lo 1 (c.N - (lo + 1 + 1))
          (convAct_w 0 lo (Nat.zero_le 1)) rfl rfl rfl Nat.one_pos hN1 (snap_key lo S hS _) hY pos' prev'
        refine Conv.evs this ?_
        simp [evFwd, evLoad]
    · rw [if_neg ht] at h
      rw [if_neg ht]
      cases h
      have hlist : [Op.fwd lo (lo + 1)] ++ hturn (lo + 1) ++ [Op.r K lo] ++ hturn lo ++ [Op.d 0 lo] =
          Op.fwd lo (lo + 1) :: (hturn (lo + 1) ++ (Op.r K lo :: (hturn lo ++ [Op.d 0 lo]))) := by
        simp
      have hfacts : OpsFacts lo (lo + 1 + 1) (K = 0)
          ([Op.fwd lo (lo + 1)] ++ hturn (lo + 1) ++ [Op.r K lo] ++ hturn lo ++ [Op.d 0 lo]) :=
        ((((facts_fwd _ _ _ _ _ (Nat.lt_succ_self lo)).append (facts_hturn _ _ _ _)).append
          (facts_r lo _ K _ hK hlt (fun h => h))).append (facts_hturn _ _ _ _)).append
          (facts_d _ _ _ _)
      have hl2 : ∀ y, lastRd (some (lvl K), lo)
          ((hturn (lo + 1) ++ (Op.r K lo :: (hturn lo ++ [Op.d 0 lo]))) ++ y) = false := by
        intro y
        rw [List.append_assoc, lastRd_skip _ _ _ (fun o ho ht => by
          rw [opTouches_hturn _ o ho] at ht; cases ht), List.cons_append]
        exact lastRd_r K lo hK _
      refine ⟨_, rfl, hfacts, by simp, ?_, (fun h => by cases h), fun _ => ?_⟩
      · intro y _
        rw [h1, reloads_one, hlist, List.cons_append, lastRd]
        simp only [opIsRead, opIsWrite, Op.fwd, OpKind.isRead, OpKind.isWrite, Bool.false_eq_true,
          false_and, if_false, ht, decide_false, Bool.not_false, Bool.not_true]
        exact hl2 y
      · intro tail wrap S htail hS pos prev n0
        rw [h1, reloads_one, hlist]
        simp only [ht, decide_false, Bool.not_false]
        have hkey := snap_key lo S hS (some (lvl K))
        have := Conv.copy_prefix (wrap := wrap) (tail := tail)
          (Y := hturn (lo + 1) ++ (Op.r K lo :: (hturn lo ++ [Op.d 0 lo])))
          (S := (some (lvl K), lo) :: S) (S' := S)
          (evsY := evBase c (lo + 1) (lo + 1 + 1) false ++ (evLoad false lo (lvl K) (c.N - (lo + 1)) ::
            turnEvs c.N lo)) (n' := lo + 1) (r' := c.N - lo)
          (Op.r K lo) _ (lvl K) lo 1 (c.N - (lo + 1 + 1)) (convAct_r K lo hK) rfl rfl rfl Nat.one_pos hN1
          (hl2 tail)
          (by
            intro pos' prev'
            refine Conv.append (n1 := lo + 1 + 1) (r1 := c.N - (lo + 1))
              (S1 := (some (lvl K), lo) :: S) (by simp [hturn]) ?_ ?_
            · rw [evBase_eq_turn c (lo + 1) false hsp]
              exact hturn_block c.N wrap _ _ _ (lo + 1) _ hN
            · exact Conv.move_prefix (Op.r K lo) _ (lvl K) lo _ (convAct_r K lo hK) rfl rfl rfl hkey
                (lastRd_noTouch_tail lo _ _ tail (fun o ho ht => by
                  rw [opTouches_hturn_d lo o ho] at ht; cases ht) htail)
                (hturn_d_block c.N wrap tail lo S (Nat.le_of_succ_le hN)) _ _ _)
          pos prev n0
        refine Conv.evs this ?_
        rw [evBase_eq_turn c lo false ⟨fun h => Bool.noConfusion h, fun h => absurd h hN1⟩]
        simp [evFwd, evLoad]
  rw [if_neg h1] at h
  rw [if_neg h1]
  have hkc : K = 0 ∧ cm = 1 := by
    rcases hsmall with h | h | h
    · exact absurd h h0
    · exact absurd h h1
    · exact h
  rw [if_pos hkc] at h
  rw [if_pos hkc]
  obtain ⟨hK0, hcm1⟩ := hkc
  subst hK0 hcm1
  obtain ⟨l', (hl' : hi - lo - 1 = l' + 1)⟩ := Nat.exists_eq_succ_of_ne_zero h0
  have hl1 : 1 ≤ l' := Nat.pos_of_ne_zero fun e => h1 (by rw [hl', e])
  clear hsmall h0 h1
  obtain rfl : hi = lo + (l' + 1) + 1 := hi_of_length hlt hl'
  rw [hl', hAs_loop_body c lo l' spine pending _ rfl] at h
  cases h
  rw [hl']
  have hNl : ¬ lo + (l' + 1) = c.N := Nat.ne_of_lt hN
  have hfacts : OpsFacts lo (lo + (l' + 1) + 1) (0 = 0)
      ([Op.fwd lo (lo + (l' + 1))] ++ hturn (lo + (l' + 1)) ++ hqLoop lo (l' + 1 - 1)) :=
    ((facts_fwd _ _ _ _ _ (Nat.lt_add_of_pos_right (Nat.succ_pos l'))).append
      (facts_hturn _ _ _ _)).append (facts_hqLoop lo _ _ hlt _)
  have hl2 : ∀ y, lastRd (some (lvl 0), lo)
      ((hturn (lo + (l' + 1)) ++ hqLoop lo (l' + 1 - 1)) ++ y) = false := by
    intro y
    rw [List.append_assoc, lastRd_skip _ _ _ (fun o ho ht => by
      rw [opTouches_hturn _ o ho] at ht; cases ht)]
    exact lastRd_hqLoop lo _ y
  have hlist : [Op.fwd lo (lo + (l' + 1))] ++ hturn (lo + (l' + 1)) ++ hqLoop lo (l' + 1 - 1) =
      Op.fwd lo (lo + (l' + 1)) :: (hturn (lo + (l' + 1)) ++ hqLoop lo (l' + 1 - 1)) := by simp
  refine ⟨_, rfl, hfacts, by simp, ?_, fun hpk => ?_, fun hpn => ?_⟩
  · intro y _
    rw [hl', reloads_zero c 1 _ (Nat.succ_le_succ hl1), hlist, List.cons_append, lastRd]
    simp only [opIsRead, opIsWrite, Op.fwd, OpKind.isRead, OpKind.isWrite, Bool.false_eq_true,
      false_and, if_false, Bool.not_true]
    exact hl2 y
  · subst hpk
    intro tail wrap S htail hS pos prev
    rw [hlist]
    have hY := Yloop_conv c wrap tail lo (l' + 1) spine S (Nat.le_add_left 1 l') hN hsp htail hS
    have := Conv.write_prefix (Op.w 0 lo) _ (lvl 0) lo (l' + 1) (c.N - (lo + (l' + 1) + 1))
      (convAct_w 0 lo (Nat.zero_le 1)) rfl rfl rfl (Nat.succ_pos l') hNl (snap_key lo S hS _) hY pos prev
    refine Conv.evs this ?_
    simp [evFwd, Nat.add_assoc]
  · subst hpn
    intro tail wrap S htail hS pos prev n0
    rw [hlist, hl', reloads_zero c 1 _ (Nat.succ_le_succ hl1)]
    have hY := Yloop_conv c wrap tail lo (l' + 1) spine S (Nat.le_add_left 1 l') hN hsp htail hS
    have := Conv.copy_prefix (Op.r 0 lo) _ (lvl 0) lo (l' + 1) (c.N - (lo + (l' + 1) + 1))
      (convAct_r 0 lo (Nat.zero_le 1)) rfl rfl rfl (Nat.succ_pos l') hNl (hl2 tail) hY pos prev n0
    refine Conv.evs this ?_
    simp [evFwd, evLoad, Nat.add_assoc]

/-- a split point `j ≤ l - 1` of a segment of length `l + 1 = hi - lo`, `l ≥ 2`, leaves at least two
steps on its right -/
theorem split_point_bound {lo hi j : Nat} (hl : 2 ≤ hi - lo - 1) (hj : j ≤ hi - lo - 1 - 1) :
    lo + j + 2 ≤ hi := by
  omega

theorem hrev_refine_A (c : HCtx) (fuel : Nat)
    (ihR : ∀ lo hi K cm spine evs, K ≤ 1 → lo < hi → hi ≤ c.N → (spine = true ↔ hi = c.N) →
      hRs c fuel lo hi K cm spine = some evs →
      ∃ ops, hrecAt c fuel lo (hi - lo - 1) K cm = some ops ∧ HR c lo hi K evs ops)
    (ihA : ∀ lo hi K cm spine pending evs, K ≤ 1 → lo < hi → hi ≤ c.N →
      (spine = true ↔ hi = c.N) → (pending = none → spine = false) →
      hAs c fuel lo hi K cm spine pending = some evs →
      ∃ ops, hauxAt c fuel lo (hi - lo - 1) K cm = some ops ∧ HA c lo hi K cm pending evs ops) :
    ∀ lo hi K cm spine pending evs, K ≤ 1 → lo < hi → hi ≤ c.N → (spine = true ↔ hi = c.N) →
      (pending = none → spine = false) →
      hAs c (fuel + 1) lo hi K cm spine pending = some evs →
      ∃ ops, hauxAt c (fuel + 1) lo (hi - lo - 1) K cm = some ops ∧
        HA c lo hi K cm pending evs ops := by
  intro lo hi K cm spine pending evs hK hlt hN hsp hps h
  by_cases hcm : cm = 0
  · rw [hAs_succ, if_pos hcm] at h; cases h
  by_cases hsmall : hi - lo - 1 = 0 ∨ hi - lo - 1 = 1 ∨ (K = 0 ∧ cm = 1)
  · exact hrev_refine_A_small c fuel lo hi K cm spine pending evs hK hlt hN hsp hps hcm hsmall h
  have h0 : ¬ hi - lo - 1 = 0 := fun h => hsmall (Or.inl h)
  have h1 : ¬ hi - lo - 1 = 1 := fun h => hsmall (Or.inr (Or.inl h))
  have hkc : ¬ (K = 0 ∧ cm = 1) := fun h => hsmall (Or.inr (Or.inr h))
  have hl2 : 2 ≤ hi - lo - 1 := (Nat.two_le_iff _).2 ⟨h0, h1⟩
  rw [hAs_succ, if_neg hcm, if_neg h0, if_neg h1, if_neg hkc] at h
  rw [hauxAt, if_neg hcm, if_neg h0, if_neg h1, if_neg hkc]
  clear hsmall h0 h1
  by_cases hs : hSplit c K cm (hi - lo - 1) = true
  · -- a split
    rw [if_pos hs] at h
    rw [if_pos hs]
    obtain ⟨hj1, hj2⟩ := hSplit_range c K cm (hi - lo - 1) hl2
    generalize argminO (hCands c K cm (hi - lo - 1)) = j at hj1 hj2 h ⊢
    replace hj2 : lo + j + 2 ≤ hi := split_point_bound hl2 hj2
    have hlj : lo < lo + j := Nat.lt_add_of_pos_right hj1
    have hjlt : lo + j < hi := Nat.lt_of_succ_lt hj2
    have hNj : ¬ lo + j = c.N := Nat.ne_of_lt (Nat.lt_of_lt_of_le hjlt hN)
    have hrel : reloads c K cm (hi - lo - 1) = true := by
      by_cases hK0 : K = 0
      · subst hK0; exact reloads_zero c cm _ hl2
      · rw [reloads_pos c K cm _ hl2 hK0]; exact hs
    cases hr : hRs c fuel (lo + j) hi K (cm - 1) spine with
    | none => rw [hr] at h; cases h
    | some evsR =>
      cases ha : hAs c fuel lo (lo + j) K cm false none with
      | none => rw [hr, ha] at h; cases h
      | some evsL =>
        rw [hr, ha] at h
        cases h
        obtain ⟨R, hR, hRf, hRne, hRc⟩ := ihR (lo + j) hi K (cm - 1) spine evsR hK hjlt hN hsp hr
        obtain ⟨L, hL, hLf, hLne, hLl, _, hLq⟩ := ihA lo (lo + j) K cm false none evsL hK hlj
          (hjlt.le.trans hN) ⟨fun h => Bool.noConfusion h, fun h => absurd h hNj⟩ (fun _ => rfl) ha
        have hLq := hLq rfl
        rw [Nat.sub_add_eq, Nat.sub_right_comm] at hR
        rw [Nat.add_sub_cancel_left] at hL hLl hLq
        rw [hR, hL]
        dsimp only
        -- the optional final `Discard`
        obtain ⟨D, hD, hops⟩ : ∃ D : List Op, (D = [] ∨ D = [Op.d 0 lo]) ∧
            (if K = 0 ∧ (([Op.fwd lo (lo + j)] ++ R ++ [Op.r K lo] ++ L).getLast?.map (·.kind)) ≠
                some .discard
              then [Op.fwd lo (lo + j)] ++ R ++ [Op.r K lo] ++ L ++ [Op.d 0 lo]
              else [Op.fwd lo (lo + j)] ++ R ++ [Op.r K lo] ++ L) =
            Op.fwd lo (lo + j) :: (R ++ (Op.r K lo :: (L ++ D))) := by
          by_cases hcnd : K = 0 ∧ (([Op.fwd lo (lo + j)] ++ R ++ [Op.r K lo] ++ L).getLast?.map
              (·.kind)) ≠ some .discard
          · exact ⟨[Op.d 0 lo], Or.inr rfl, by rw [if_pos hcnd]; simp⟩
          · exact ⟨[], Or.inl rfl, by rw [if_neg hcnd]; simp⟩
        rw [hops]
        have hDt : ∀ o ∈ D, opTouches o = false := by
          intro o ho
          rcases hD with rfl | rfl
          · cases ho
          · rw [List.mem_singleton] at ho; subst ho; rfl
        have hDf : OpsFacts lo hi (K = 0) D := by
          rcases hD with rfl | rfl
          · exact OpsFacts.of_noTouch (by intro o ho; cases ho) (by intro o ho; cases ho)
          · exact facts_d _ _ _ _
        have hRk : ∀ o ∈ R, opTouches o = true → opKeyOf o ≠ (some (lvl K), lo) := by
          intro o ho ht he
          have := (hRf.keys o ho ht).1
          rw [he] at this
          exact absurd this (Nat.not_le.2 hlj)
        have hlastY : ∀ y, lastRd (some (lvl K), lo) ((R ++ (Op.r K lo :: (L ++ D))) ++ y) = false := by
          intro y
          rw [List.append_assoc, lastRd_skip _ _ _ hRk, List.cons_append]
          exact lastRd_r K lo hK _
        -- the part after the first `Forward`
        have hY : ∀ (tail : List Op) (wrap : Option Op) (S : List (Option Storage × Nat)),
            TailOk lo tail → SnapOk lo S →
            ∀ pos prev, Conv c.N wrap pos prev (R ++ (Op.r K lo :: (L ++ D))) tail (lo + j)
              (c.N - hi) ((some (lvl K), lo) :: S)
              (evsR ++ (evLoad (reloads c K cm (j - 1)) lo (lvl K) (c.N - (lo + j)) :: evsL))
              (lo + 1) (c.N - lo) S := by
          intro tail wrap S htail hS pos prev
          have htailR : TailOk (lo + j) ((Op.r K lo :: (L ++ D)) ++ tail) := by
            intro o ho ht
            rcases List.mem_append.1 ho with ho | ho
            · rcases List.mem_cons.1 ho with rfl | ho
              · rw [opKeyOf_r K lo hK]; exact hlj
              · rcases List.mem_append.1 ho with ho | ho
                · exact (hLf.keys o ho ht).2
                · rw [hDt o ho] at ht; cases ht
            · exact Nat.lt_of_lt_of_le (htail o ho ht) (Nat.le_add_right lo j)
          refine Conv.append (n1 := lo + j + 1) (r1 := c.N - (lo + j))
            (S1 := (some (lvl K), lo) :: S) hRne ?_ ?_
          · exact hRc _ wrap _ htailR (hS.cons hlj _) _ _
          · have hq := hLq (D ++ tail) wrap S ((TailOk.of_noTouch hDt).append htail) hS (pos + R.length)
              R.getLast? (lo + j + 1)
            show Conv c.N wrap _ _ ((Op.r K lo :: L) ++ D) tail _ _ _ _ _ _ _
            rcases hD with rfl | rfl
            · rw [List.append_nil]; exact hq
            · refine Conv.discard_suffix (Op.d 0 lo) _ (convAct_d 0 lo (Nat.zero_le 1)) (Or.inl rfl) ?_ hq
              cases L with
              | nil => exact absurd rfl hLne
              | cons x xs => simp
        have hfacts : OpsFacts lo hi (K = 0) (Op.fwd lo (lo + j) :: (R ++ (Op.r K lo :: (L ++ D)))) := by
          have e : Op.fwd lo (lo + j) :: (R ++ (Op.r K lo :: (L ++ D))) =
              [Op.fwd lo (lo + j)] ++ R ++ [Op.r K lo] ++ L ++ D := by simp
          rw [e]
          exact ((((facts_fwd _ _ _ _ _ hlj).append
            (hRf.mono (Nat.le_add_right lo j) (le_refl _) id)).append
            (facts_r lo hi K _ hK hlt (fun h => h))).append
            (hLf.mono (le_refl _) hjlt.le id)).append hDf
        refine ⟨_, rfl, hfacts, by simp, ?_, fun hpk => ?_, fun hpn => ?_⟩
        · intro y _
          rw [hrel, List.cons_append, lastRd]
          simp only [opIsRead, opIsWrite, Op.fwd, OpKind.isRead, OpKind.isWrite, Bool.false_eq_true,
            false_and, if_false, Bool.not_true]
          exact hlastY y
        · subst hpk
          intro tail wrap S htail hS pos prev
          have := Conv.write_prefix (Op.w K lo) _ (lvl K) lo j (c.N - hi) (convAct_w K lo hK) rfl rfl rfl
            hj1 hNj (snap_key lo S hS _) (hY tail wrap S htail hS) pos prev
          refine Conv.evs this ?_
          simp [evFwd]
        · subst hpn
          intro tail wrap S htail hS pos prev n0
          rw [hrel]
          have := Conv.copy_prefix (Op.r K lo) _ (lvl K) lo j (c.N - hi) (convAct_r K lo hK) rfl rfl rfl
            hj1 hNj (hlastY tail) (hY tail wrap S htail hS) pos prev n0
          refine Conv.evs this ?_
          simp [evFwd, evLoad]
  rw [if_neg hs] at h
  rw [if_neg hs]
  by_cases hK0 : K = 0
  · -- fall back to a single slot
    subst hK0
    rw [if_pos rfl] at h
    rw [if_pos rfl]
    obtain ⟨ops, hops, hf, hne, hl, hP, hQ⟩ := ihA lo hi 0 1 spine pending evs (Nat.zero_le 1) hlt hN hsp
      hps h
    refine ⟨ops, hops, hf, hne, ?_, hP, ?_⟩
    · intro y hy
      rw [reloads_zero c cm _ hl2, ← reloads_zero c 1 _ hl2]
      exact hl y hy
    · intro hpn tail wrap S htail hS pos prev n0
      have := hQ hpn tail wrap S htail hS pos prev n0
      rw [reloads_zero c 1 _ hl2] at this
      rw [reloads_zero c cm _ hl2]
      exact this
  · -- fall through to the level below
    rw [if_neg hK0] at h
    rw [if_neg hK0]
    have hpn : pending = none := by
      cases pending with
      | none => rfl
      | some p => simp at h
    subst hpn
    simp only [Option.isSome_none, Bool.false_eq_true, if_false] at h
    obtain ⟨ops, hops, hf, hne, hconv⟩ := ihR lo hi (K - 1) (cv c (K - 1)) spine evs
      ((Nat.sub_le K 1).trans hK) hlt hN hsp h
    have hrel : reloads c K cm (hi - lo - 1) = false := by
      rw [reloads_pos c K cm _ hl2 hK0]; simpa using hs
    have hnot : ∀ o ∈ ops, opTouches o = true → opKeyOf o ≠ (some (lvl K), lo) := by
      intro o ho ht he
      have := hf.ram (Nat.sub_eq_zero_of_le hK) o ho ht
      rw [he, lvl_pos K hK0] at this
      cases this
    refine ⟨ops, hops, hf.mono (le_refl _) (le_refl _) (fun h => absurd h hK0), hne, ?_,
      (fun h => by cases h), fun _ => ?_⟩
    · intro y hy
      rw [hrel]
      exact lastRd_noTouch_tail lo _ _ y hnot hy
    · intro tail wrap S htail hS pos prev n0
      rw [hrel]
      exact Conv.move_prefix (Op.r K lo) _ (lvl K) lo _ (convAct_r K lo hK) rfl rfl rfl
        (snap_key lo S hS _) (lastRd_noTouch_tail lo _ _ tail hnot htail) (hconv tail wrap S htail hS)
        pos prev n0

/-- **the block theorem for HRevolve** -/
theorem hrev_refine (c : HCtx) : ∀ fuel,
    (∀ lo hi K cm spine evs, K ≤ 1 → lo < hi → hi ≤ c.N → (spine = true ↔ hi = c.N) →
      hRs c fuel lo hi K cm spine = some evs →
      ∃ ops, hrecAt c fuel lo (hi - lo - 1) K cm = some ops ∧ HR c lo hi K evs ops) ∧
    (∀ lo hi K cm spine pending evs, K ≤ 1 → lo < hi → hi ≤ c.N →
      (spine = true ↔ hi = c.N) → (pending = none → spine = false) →
      hAs c fuel lo hi K cm spine pending = some evs →
      ∃ ops, hauxAt c fuel lo (hi - lo - 1) K cm = some ops ∧ HA c lo hi K cm pending evs ops) := by
  intro fuel
  induction fuel with
  | zero =>
    constructor
    · intro lo hi K cm spine evs _ _ _ _ h; rw [hRs] at h; cases h
    · intro lo hi K cm spine pending evs _ _ _ _ _ h; rw [hAs] at h; cases h
  | succ fuel ih =>
    exact ⟨hrev_refine_R c fuel ih.1 ih.2, hrev_refine_A c fuel ih.1 ih.2⟩

/-- **Refinement for HRevolve**: the twin (`hrevolve(N-1, (c0, c1), …)` converted by `_iterator`)
yields exactly the stream of the recursive model (`hR` + `resolveLoads`). -/
theorem hrevolveTwin_eq (N c0 c1 : Nat) (c : Costs) (hN : 1 ≤ N) (hc0 : 1 ≤ c0) :
    hrevolveTwin N c0 c1 c = hrevolveEvs N c0 c1 c := by
  obtain ⟨evs, _, hev, _⟩ := hrevolve_clean N c0 c1 c hN hc0
  have hctx : hrevolveCtx N c0 c1 c = hCtxOf N c0 c1 c := rfl
  -- the model stream is the structural stream
  have hres := resolveLoads_hR (hCtxOf N c0 c1 c) (4 * N + 8) 0 N 1 c1 true (le_refl _)
  rw [hrevolveEvs_eq] at hev
  cases hr : hR (hCtxOf N c0 c1 c) (4 * N + 8) 0 N 1 c1 true with
  | none => rw [hr] at hev; cases hev
  | some hops =>
    rw [hr] at hev hres
    have hevs : resolveLoads hops = evs := by
      injection hev with hev
      exact List.append_cancel_right hev
    rw [Option.map_some, hevs] at hres
    -- stage 1
    obtain ⟨ops, hops', hfacts, _, hconv⟩ := (hrev_refine (hCtxOf N c0 c1 c) (4 * N + 8)).1 0 N 1 c1
      true evs (le_refl _) (by omega) (le_refl _) (by constructor <;> intro _ <;> rfl) hres.symm
    have hshift := (shiftOps_hrevolve (hCtxOf N c0 c1 c) (4 * N + 8)).1 0 (N - 1) 1 c1
    rw [show N - 0 - 1 = N - 1 by omega] at hops'
    rw [hops'] at hshift
    have htop : hrevolveOpsTop N c0 c1 c = some ops := by
      unfold hrevolveOpsTop
      rw [hctx]
      cases hro : hrevolveRecOps (hCtxOf N c0 c1 c) (4 * N + 8) (N - 1) 1 c1 with
      | none => rw [hro] at hshift; cases hshift
      | some x =>
        rw [hro, Option.map_some, shiftOps_zero] at hshift
        exact hshift
    -- stage 2
    have hc := hconv [] ops.getLast? [] (TailOk.nil 0) (by intro k hk; cases hk) 0 none
    have hcN : (hCtxOf N c0 c1 c).N = N := rfl
    rw [hcN] at hc
    have h1 : hrevolveTwin N c0 c1 c = .ok (evs ++ [⟨.endReverse, 1, N⟩]) := by
      unfold hrevolveTwin twinOf
      rw [htop]
      exact convertOps_of_conv N ops hfacts.wf evs (0 + 1) (N - 0)
        (Conv.congr hc rfl (by omega) rfl rfl rfl)
    have h2 : hrevolveEvs N c0 c1 c = .ok (evs ++ [⟨.endReverse, 1, N⟩]) := by
      rw [hrevolveEvs_eq, hr]
      dsimp only
      rw [hevs]
    rw [h1, h2]

end Ckpt.Ops
