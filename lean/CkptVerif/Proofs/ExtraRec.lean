import CkptVerif.Model.Mixed
import CkptVerif.Proofs.MixedDP
/-!
# The recurrence of `optimal_extra_steps` as a minimum

`extraCell n s` (the model of `optimal_extra_steps`) is, for `n ≥ 2` and `s ≠ 1`, the minimum of the
split candidates `splitCand n s extraCell i`, `1 ≤ i < n` (`extraCell_le_cand`, `extraCell_attained`).
`gwT m k = m + extraCell m (clampS m k)` is the total number of forward steps; in terms of `gwT` the
clamps of the keys disappear (`gwT_rec_le`, `gwT_rec_attained`).
-/
namespace Ckpt.GW

/-! ## the fold of `extraStep` computes a minimum -/

theorem extraStep_some (cand : Nat → Nat) (c y : Nat) :
    extraStep cand (some c) y = some (min c (cand y)) := by
  show (if cand y < c then some (cand y) else some c) = _
  by_cases hlt : cand y < c
  · rw [if_pos hlt, Nat.min_eq_right (Nat.le_of_lt hlt)]
  · rw [if_neg hlt, Nat.min_eq_left (Nat.le_of_not_lt hlt)]

theorem extraStep_fold_eq (cand : Nat → Nat) (l : List Nat) (c : Nat) :
    l.foldl (extraStep cand) (some c) = some (minFold cand c l) := by
  induction l generalizing c with
  | nil => rfl
  | cons y ys ih => rw [List.foldl_cons, extraStep_some, minFold_cons, ih]

theorem extraStep_fold_some (cand : Nat → Nat) (l : List Nat) (c : Nat) :
    ∃ v, l.foldl (extraStep cand) (some c) = some v ∧ v ≤ c ∧ (∀ x, x ∈ l → v ≤ cand x) ∧
      (v = c ∨ ∃ x, x ∈ l ∧ v = cand x) :=
  ⟨_, extraStep_fold_eq cand l c, minFold_le_init cand c l, minFold_le_mem cand c l,
    minFold_attained cand c l⟩

/-- the value of the `optimal_extra_steps` loop over a non-empty list is the minimum candidate -/
theorem extraMin_spec (cand : Nat → Nat) (l : List Nat) (hl : l ≠ []) :
    (∀ x, x ∈ l → (l.foldl (extraStep cand) none).getD 0 ≤ cand x) ∧
      ∃ x, x ∈ l ∧ (l.foldl (extraStep cand) none).getD 0 = cand x := by
  obtain ⟨y, ys, rfl⟩ := List.exists_cons_of_ne_nil hl
  rw [List.foldl_cons, show extraStep cand none y = some (cand y) from rfl, extraStep_fold_eq]
  show (∀ x, x ∈ y :: ys → minFold cand (cand y) ys ≤ cand x) ∧
    ∃ x, x ∈ y :: ys ∧ minFold cand (cand y) ys = cand x
  refine ⟨fun x hx => ?_, ?_⟩
  · rcases List.mem_cons.mp hx with rfl | h
    · exact minFold_le_init cand _ ys
    · exact minFold_le_mem cand _ ys x h
  · rcases minFold_attained cand (cand y) ys with h | ⟨x, hx, h⟩
    · exact ⟨y, List.mem_cons_self .., h⟩
    · exact ⟨x, List.mem_cons_of_mem _ hx, h⟩

/-! ## values and recurrence of `extraCell` -/

theorem extraCell_le_one (n s : Nat) (hn : n ≤ 1) : extraCell n s = 0 := by
  rw [extraCell_eq, extraF_def, if_pos hn]

theorem extraCell_s1 (n : Nat) (hn : 2 ≤ n) : extraCell n 1 = n * (n - 1) / 2 := by
  rw [extraCell_eq, extraF_def, if_neg (by omega), if_pos rfl]

theorem extraCell_fold (n s : Nat) (hn : 2 ≤ n) (hs : s ≠ 1) :
    extraCell n s =
      ((List.range' 1 (n - 1)).foldl (extraStep (splitCand n s extraCell)) none).getD 0 := by
  rw [extraCell_eq, extraF_def, if_neg (by omega), if_neg hs]

theorem range'_one_ne_nil (n : Nat) (hn : 2 ≤ n) : List.range' 1 (n - 1) ≠ [] := by
  intro h
  have := congrArg List.length h
  rw [List.length_range'] at this
  simp at this
  omega

/-- `extraCell n s` is below every split candidate -/
theorem extraCell_le_cand (n s i : Nat) (hs : s ≠ 1) (h1 : 1 ≤ i) (h2 : i < n) :
    extraCell n s ≤ splitCand n s extraCell i := by
  have hn : 2 ≤ n := by omega
  rw [extraCell_fold n s hn hs]
  apply (extraMin_spec _ _ (range'_one_ne_nil n hn)).1
  rw [List.mem_range'_1]; omega

/-- `extraCell n s` is one of the split candidates -/
theorem extraCell_attained (n s : Nat) (hn : 2 ≤ n) (hs : s ≠ 1) :
    ∃ i, 1 ≤ i ∧ i < n ∧ extraCell n s = splitCand n s extraCell i := by
  rw [extraCell_fold n s hn hs]
  obtain ⟨x, hx, h⟩ := (extraMin_spec (splitCand n s extraCell) _ (range'_one_ne_nil n hn)).2
  rw [List.mem_range'_1] at hx
  exact ⟨x, by omega, by omega, h⟩

/-- with no unit at all the recurrence still has a value; it is at most `n - 1` -/
theorem extraCell_zero_le (n : Nat) : extraCell n 0 ≤ n - 1 := by
  induction n using Nat.strongRecOn with
  | _ n ih =>
    by_cases hn : n ≤ 1
    · rw [extraCell_le_one n 0 hn]; omega
    · have h := extraCell_le_cand n 0 1 (by omega) (Nat.le_refl _) (by omega)
      have e : splitCand n 0 extraCell 1 = 1 + extraCell 1 (clampS 1 0) + extraCell (n - 1) 0 := by
        unfold splitCand
        have : clampS (n - 1) (0 - 1) = 0 := clampS_zero _
        rw [this]
      rw [e, extraCell_le_one 1 _ (Nat.le_refl _)] at h
      have := ih (n - 1) (by omega)
      omega

/-! ## the total number of forward steps -/

/-- `m + optimal_extra_steps(m, min(k, m-1))` -/
def gwT (m k : Nat) : Nat := m + extraCell m (clampS m k)

theorem gwT_one (k : Nat) : gwT 1 k = 1 := by
  unfold gwT; rw [extraCell_le_one 1 _ (Nat.le_refl _)]

theorem gwT_ge (m k : Nat) : m ≤ gwT m k := by unfold gwT; omega

theorem gwT_two (k : Nat) (hk : 1 ≤ k) : gwT 2 k = 3 := by
  unfold gwT
  have : clampS 2 k = 1 := clampS_of_ge hk
  rw [this, extraCell_s1 2 (Nat.le_refl _)]

theorem gwT_k1 (m : Nat) (hm : 2 ≤ m) : gwT m 1 = m + m * (m - 1) / 2 := by
  unfold gwT
  have : clampS m 1 = 1 := clampS_one hm
  rw [this, extraCell_s1 m hm]

theorem gwT_cand (m k i : Nat) (h1 : 1 ≤ i) (h2 : i < m) :
    m + splitCand m (clampS m k) extraCell i = i + gwT i k + gwT (m - i) (k - 1) := by
  unfold splitCand gwT
  rw [clampS_clampS i m k (by omega), clampS_clampS_pred (m - i) m k (by omega)]
  omega

/-- the recurrence in terms of totals: upper bound by every split -/
theorem gwT_rec_le (m k i : Nat) (hk : 2 ≤ k) (h1 : 1 ≤ i) (h2 : i < m) :
    gwT m k ≤ i + gwT i k + gwT (m - i) (k - 1) := by
  by_cases h3 : m = 2
  · subst h3
    have hi : i = 1 := by omega
    subst hi
    rw [gwT_two k (by omega), gwT_one, gwT_one]; omega
  · have hc : clampS m k ≠ 1 := by unfold clampS; omega
    have := extraCell_le_cand m (clampS m k) i hc h1 h2
    rw [← gwT_cand m k i h1 h2]
    show m + extraCell m (clampS m k) ≤ _
    omega

/-- the recurrence in terms of totals: some split attains the value -/
theorem gwT_rec_attained (m k : Nat) (hm : 2 ≤ m) (hk : 2 ≤ k) :
    ∃ i, 1 ≤ i ∧ i < m ∧ gwT m k = i + gwT i k + gwT (m - i) (k - 1) := by
  by_cases h3 : m = 2
  · subst h3
    refine ⟨1, Nat.le_refl _, by omega, ?_⟩
    rw [gwT_two k (by omega), gwT_one, gwT_one]
  · have hc : clampS m k ≠ 1 := by unfold clampS; omega
    obtain ⟨i, h1, h2, h⟩ := extraCell_attained m (clampS m k) hm hc
    refine ⟨i, h1, h2, ?_⟩
    rw [← gwT_cand m k i h1 h2]
    show m + extraCell m (clampS m k) = _
    omega

/-! ## triangular numbers (for the one-unit case) -/

theorem tri_succ (n : Nat) : (n + 1) * n / 2 = n * (n - 1) / 2 + n := by
  cases n with
  | zero => rfl
  | succ k =>
    have e1 : (k + 1 + 1) * (k + 1) = k * k + 3 * k + 2 := by
      simp only [Nat.add_mul, Nat.mul_add, Nat.mul_one, Nat.one_mul]; omega
    have e2 : (k + 1) * (k + 1 - 1) = k * k + k := by
      simp only [Nat.add_sub_cancel, Nat.add_mul, Nat.one_mul]
    rw [e1, e2]; omega

theorem tri_grow (a d : Nat) (ha : 1 ≤ a) :
    (a + 1) * a / 2 + 2 * d ≤ (a + 1 + d) * (a + 1 + d - 1) / 2 := by
  induction d with
  | zero => simp
  | succ d ih =>
    have := tri_succ (a + 1 + d)
    have e : a + 1 + (d + 1) - 1 = a + 1 + d := by omega
    have e' : a + 1 + (d + 1) = a + 1 + d + 1 := by omega
    rw [e, e', this]; omega

/-- with one unit the optimal split is forced: the right part is a single step -/
theorem one_unit_split (m a : Nat) (h1 : 1 ≤ a) (h2 : a ≤ m - 1)
    (h : a + extraCell a (clampS a 1) + extraCell (m - a) (clampS (m - a) (1 - 1)) =
      extraCell m (clampS m 1)) : m - a = 1 := by
  have hm : 2 ≤ m := by omega
  -- `m = a + 1 + d`; the claim is `d = 0`
  obtain ⟨d, rfl⟩ : ∃ d, m = a + 1 + d := ⟨m - a - 1, by omega⟩
  rw [show a + 1 + d - a = d + 1 by omega] at h ⊢
  have hc0 : clampS (d + 1) (1 - 1) = 0 := clampS_zero _
  have hc1 : clampS (a + 1 + d) 1 = 1 := clampS_one hm
  rw [hc0, hc1, extraCell_s1 _ hm] at h
  have hz := extraCell_zero_le (d + 1)
  have ha : a + extraCell a (clampS a 1) = (a + 1) * a / 2 := by
    by_cases ha1 : a = 1
    · subst ha1; rw [extraCell_le_one 1 _ (Nat.le_refl _)]
    · have : clampS a 1 = 1 := clampS_one (by omega)
      rw [this, extraCell_s1 a (by omega), tri_succ a]; omega
  rw [ha] at h
  have hg := tri_grow a d h1
  omega

end Ckpt.GW
