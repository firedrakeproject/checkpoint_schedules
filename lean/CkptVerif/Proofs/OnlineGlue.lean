import CkptVerif.Proofs.OfflineGlue
import CkptVerif.Proofs.SegLabels
import CkptVerif.Spec.Configs
/-!
# The canonical trace of an ONLINE schedule, and what the monitor does with it

For a `Sched` with `maxN0 = none` whose forward loop makes progress, the canonical driver
(`Sched.canon N k fuel`, finalisation point `N ≥ 1`) records

* the init line and a `uses` line,
* the forward act lines `fwdObs s N …` (reported `n = min (new n) N`; `max_n = none` except on
  the last one, where the driver has finalised: `n = N`, `max_n = some N`),
* then, depending on `passes`:
  - `none` (SingleMemory, SingleDisk copy, TwoLevel): the act lines of `first N` (a `uses` line
    after its EndForward), then `k - 1` times `again N`, then a `uses` line;
  - `some 1` (SingleDisk move): the act lines of `first N`, the last one (EndReverse) exhausted,
    three stop lines, a `uses` line;
  - `some 0` (None): the EndForward line, exhausted, a `uses` line, three stop lines, a `uses` line.

`monitor cfg k` of that trace is `[]` as soon as the observation list is `Clean` from `XS.init cfg`
to a state satisfying the end condition, and `uses_storage_type` answers `True` for RAM and DISK
unless the budget for that storage is 0 (C11: an accepted stream never names such a storage).
-/
namespace Ckpt

/-- the observations of the forward phase, started with the forward at `n`: `fwdEv` is applied
until the reported `n` reaches `N`; the driver then finalises (`n = N`, `max_n = some N`). -/
def fwdObs (s : Sched) (N : Nat) : (fuel : Nat) → (n : Nat) → List Obs
  | 0, _ => []
  | f+1, n =>
    if N ≤ (s.fwdEv n).n then [⟨(s.fwdEv n).act, N, (s.fwdEv n).r, some N, false, true⟩]
    else ⟨(s.fwdEv n).act, (s.fwdEv n).n, (s.fwdEv n).r, none, false, true⟩ ::
      fwdObs s N f (s.fwdEv n).n

structure FwdHyp (s : Sched) : Prop where
  online : s.maxN0 = none
  progress : ∀ n, n < (s.fwdEv n).n
  notER : ∀ n, (s.fwdEv n).act ≠ .endReverse
  notEF : ∀ n, (s.fwdEv n).act ≠ .endForward

theorem canonLoop_fwd_more (s : Sched) (H : FwdHyp s) (N k g : Nat) (m : MSt)
    (hN : m.maxN = none) (hp : m.phase = .fwd) (hlt : (s.fwdEv m.n).n < N) :
    s.canonLoop N k (g + 1) m 0 false =
      Line.act ⟨(s.fwdEv m.n).act, (s.fwdEv m.n).n, (s.fwdEv m.n).r, none, false, true⟩ ::
      s.canonLoop N k g (⟨(s.fwdEv m.n).n, (s.fwdEv m.n).r, none, true, false, .fwd⟩ : MSt) 0 false := by
  rw [Sched.canonLoop]
  simp only [next_fwd_none s m hp hN]
  have h1 := H.notER m.n
  have h2 := H.notEF m.n
  have h3 : ¬ N ≤ (s.fwdEv m.n).n := by omega
  simp [h1, h2, h3, hN]

theorem canonLoop_fwd_last (s : Sched) (H : FwdHyp s) (N k g : Nat) (m : MSt) (h1N : 1 ≤ N)
    (hN : m.maxN = none) (hp : m.phase = .fwd) (hle : N ≤ (s.fwdEv m.n).n) :
    s.canonLoop N k (g + 1) m 0 false =
      Line.act ⟨(s.fwdEv m.n).act, N, (s.fwdEv m.n).r, some N, false, true⟩ ::
      s.canonLoop N k g (⟨N, (s.fwdEv m.n).r, some N, true, false, .fwd⟩ : MSt) 0 false := by
  rw [Sched.canonLoop]
  simp only [next_fwd_none s m hp hN]
  have h1 := H.notER m.n
  have h2 := H.notEF m.n
  have hfin : finalize (⟨(s.fwdEv m.n).n, (s.fwdEv m.n).r, none, true, false, .fwd⟩ : MSt) (N : Int) =
      ((⟨N, (s.fwdEv m.n).r, some N, true, false, .fwd⟩ : MSt), .ok) := by
    rw [finalize_none_ge _ _ (by omega) rfl (by simp; omega)]
    simp
  simp [h1, h2, hle, hN, hfin]

theorem canonLoop_fwd (s : Sched) (H : FwdHyp s) (N k : Nat) (h1N : 1 ≤ N) :
    ∀ (fF : Nat) (m : MSt) (g : Nat), m.maxN = none → m.phase = .fwd → m.n < N → N - m.n ≤ fF →
      ∃ r, s.canonLoop N k ((fwdObs s N fF m.n).length + g) m 0 false =
        (fwdObs s N fF m.n).map Line.act ++
          s.canonLoop N k g (⟨N, r, some N, true, false, .fwd⟩ : MSt) 0 false := by
  intro fF
  induction fF with
  | zero => intro m g _ _ h1 h2; omega
  | succ fF ih =>
    intro m g hN hp hlt hfF
    have hprog := H.progress m.n
    by_cases hle : N ≤ (s.fwdEv m.n).n
    · refine ⟨(s.fwdEv m.n).r, ?_⟩
      have : fwdObs s N (fF + 1) m.n =
          [⟨(s.fwdEv m.n).act, N, (s.fwdEv m.n).r, some N, false, true⟩] := by
        rw [fwdObs, if_pos hle]
      rw [this]
      simp only [List.length_singleton, List.map_cons, List.map_nil, List.cons_append,
        List.nil_append]
      rw [show 1 + g = g + 1 by omega]
      exact canonLoop_fwd_last s H N k g m h1N hN hp hle
    · have hlt' : (s.fwdEv m.n).n < N := by omega
      obtain ⟨r, ih'⟩ := ih (⟨(s.fwdEv m.n).n, (s.fwdEv m.n).r, none, true, false, .fwd⟩ : MSt) g
        rfl rfl hlt' (by simp only; omega)
      refine ⟨r, ?_⟩
      have : fwdObs s N (fF + 1) m.n =
          ⟨(s.fwdEv m.n).act, (s.fwdEv m.n).n, (s.fwdEv m.n).r, none, false, true⟩ ::
            fwdObs s N fF (s.fwdEv m.n).n := by
        rw [fwdObs, if_neg hle]
      rw [this]
      simp only [List.length_cons, List.map_cons, List.cons_append]
      rw [show (fwdObs s N fF (s.fwdEv m.n).n).length + 1 + g =
        ((fwdObs s N fF (s.fwdEv m.n).n).length + g) + 1 by omega]
      rw [canonLoop_fwd_more s H N k _ m hN hp hlt', ih']

/-- one adjoint calculation: events other than `EndReverse`, then the `EndReverse` -/
def IsPass (evs : List Ev) : Prop :=
  ∃ pre er, evs = pre ++ [er] ∧ er.act = .endReverse ∧ ∀ e ∈ pre, e.act ≠ .endReverse

/-- once `max_n = N` is known the generator produces `efs`, an `EndForward`, and then one adjoint
calculation `pass` -/
structure FirstHyp (s : Sched) (N : Nat) (efs : Ev) (pass : List Ev) : Prop where
  first : s.first N = .ok (efs :: pass)
  endForward : efs.act = .endForward
  pass : IsPass pass

theorem afterFin_none (s : Sched) (hs : s.passes = none) (e : Ev) (d : Nat) :
    s.afterFin e d = false := by
  unfold Sched.afterFin; rw [hs]

theorem after_none_last (s : Sched) (hs : s.passes = none) (N : Nat) (e : Ev) (d : Nat) :
    s.after N e [] d = (.run (s.again N) (afterDone e d), false) := by
  rw [after_eq, afterFin_none s hs]; rfl

/-- step of the canonical loop on an `EndReverse` that does not exhaust the schedule -/
theorem canonLoop_act_er (s : Sched) (Nfin k f : Nat) (m : MSt) (seen : Nat) (usedEF : Bool)
    (nE rE N : Nat) (ph : Phase)
    (hnext : s.next m = ((⟨nE, rE, some N, true, false, ph⟩ : MSt),
      .act ⟨.endReverse, nE, rE, some N, false, true⟩)) :
    s.canonLoop Nfin k (f + 1) m seen usedEF =
      Line.act ⟨.endReverse, nE, rE, some N, false, true⟩ ::
      (if seen + 1 ≥ k then [s.usesLine]
       else s.canonLoop Nfin k f (⟨nE, rE, some N, true, false, ph⟩ : MSt) (seen + 1) usedEF) := by
  rw [Sched.canonLoop]
  simp only [hnext]
  by_cases hk : seen + 1 ≥ k
  · simp [hk]
  · simp [hk]

theorem pass_loop (s : Sched) (hs : s.passes = none) (N k : Nat) (er : Ev)
    (her : er.act = .endReverse) (pre : List Ev) (g : Nat) (m : MSt) (seen d : Nat)
    (hpre : ∀ e ∈ pre, e.act ≠ .endReverse) (hN : m.maxN = some N)
    (hp : m.phase = .run (pre ++ [er]) d) :
    ∃ d', s.canonLoop N k ((pre ++ [er]).length + g) m seen true =
      (pre ++ [er]).map (fun e => Line.act (Ev.obs e N)) ++
        (if seen + 1 ≥ k then [s.usesLine]
         else s.canonLoop N k g (⟨er.n, er.r, some N, true, false, .run (s.again N) d'⟩ : MSt)
           (seen + 1) true) := by
  obtain ⟨X, used', m', h1, -, h3, hN', hp'⟩ := canonLoop_prefix s N N k er [] d seen pre (g + 1) m
    true (fun e he => ⟨hpre e he, afterFin_none s hs e d⟩) hN (.inr hp)
  obtain ⟨rfl, rfl⟩ := h3 rfl
  refine ⟨afterDone er d, ?_⟩
  have hnext := next_pending s N m' er [] d hN' hp'
  rw [after_none_last s hs, hN'] at hnext
  obtain ⟨act, n, r⟩ := er
  simp only at her
  subst her
  rw [show (pre ++ [(⟨.endReverse, n, r⟩ : Ev)]).length + g = pre.length + (g + 1) by
    rw [List.length_append, List.length_singleton]; omega,
    h1, canonLoop_act_er s N k g m' seen true n r N _ hnext]
  simp [Ev.obs]

/-- the events of the `j` further adjoint calculations -/
def agains (s : Sched) (N : Nat) (j : Nat) : List Ev := (List.replicate j (s.again N)).flatten

theorem agains_succ (s : Sched) (N j : Nat) : agains s N (j + 1) = s.again N ++ agains s N j := by
  simp [agains, List.replicate_succ]

theorem length_agains (s : Sched) (N : Nat) : ∀ j, (agains s N j).length = j * (s.again N).length
  | 0 => by simp [agains]
  | j+1 => by rw [agains_succ, List.length_append, length_agains s N j, Nat.succ_mul]; omega

/-- all remaining adjoint calculations: the loop stops at the `k`-th `EndReverse` -/
theorem passes_loop (s : Sched) (hs : s.passes = none) (N k : Nat) (apre : List Ev) (aer : Ev)
    (hagain : s.again N = apre ++ [aer]) (haer : aer.act = .endReverse)
    (hapre : ∀ e ∈ apre, e.act ≠ .endReverse) :
    ∀ (j : Nat) (pre : List Ev) (er : Ev) (g : Nat) (m : MSt) (seen d : Nat),
      er.act = .endReverse → (∀ e ∈ pre, e.act ≠ .endReverse) → m.maxN = some N →
      m.phase = .run (pre ++ [er]) d → seen + 1 + j = k →
      s.canonLoop N k ((pre ++ [er] ++ agains s N j).length + g) m seen true =
        (pre ++ [er] ++ agains s N j).map (fun e => Line.act (Ev.obs e N)) ++ [s.usesLine] := by
  intro j
  induction j with
  | zero =>
    intro pre er g m seen d her hpre hN hp hk
    obtain ⟨d', h⟩ := pass_loop s hs N k er her pre g m seen d hpre hN hp
    have : agains s N 0 = [] := rfl
    rw [this, List.append_nil, h, if_pos (by omega)]
  | succ j ih =>
    intro pre er g m seen d her hpre hN hp hk
    obtain ⟨d', h⟩ := pass_loop s hs N k er her pre ((s.again N ++ agains s N j).length + g) m
      seen d hpre hN hp
    rw [agains_succ]
    rw [show (pre ++ [er] ++ (s.again N ++ agains s N j)).length + g =
      (pre ++ [er]).length + ((s.again N ++ agains s N j).length + g) by
        simp only [List.length_append]; omega]
    rw [h, if_neg (by omega)]
    have := ih apre aer g (⟨er.n, er.r, some N, true, false, .run (s.again N) d'⟩ : MSt)
      (seen + 1) d' haer hapre rfl (by rw [hagain]) (by omega)
    rw [← hagain] at this
    rw [this]
    simp [List.map_append]

/-- the `EndForward` step right after finalisation (schedule not exhausted by it) -/
theorem canonLoop_ef (s : Sched) (hs : s.passes = none) (N k g : Nat) (m : MSt)
    (efs e' : Ev) (rest : List Ev) (hfirst : s.first N = .ok (efs :: e' :: rest))
    (hefs : efs.act = .endForward) (hN : m.maxN = some N) (hp : m.phase = .fwd) :
    s.canonLoop N k (g + 1) m 0 false =
      [Line.act (Ev.obs efs N), s.usesLine] ++
        s.canonLoop N k g (⟨efs.n, efs.r, some N, true, false, .run (e' :: rest) 0⟩ : MSt) 0 true := by
  have hne : efs.act ≠ .endReverse := by rw [hefs]; simp
  have hnext := next_fwd_cons s m N efs (e' :: rest) hp hN hfirst
  rw [after_more s N efs _ 0 (List.cons_ne_nil _ _) hne (afterFin_none s hs _ _), hN] at hnext
  rw [canonLoop_act_more s N k g m 0 false efs N _ hne hnext]
  simp [hefs, Ev.obs]

/-- **Canonical trace of an online schedule with unboundedly many adjoint calculations**
(SingleMemory, SingleDisk with copies, TwoLevel), for `k ≥ 1` requested calculations. -/
theorem canon_online_unbounded (s : Sched) (H : FwdHyp s) (hs : s.passes = none) (N k : Nat)
    (h1N : 1 ≤ N) (hk : 1 ≤ k) {efs : Ev} {pass : List Ev} (P : FirstHyp s N efs pass)
    (hag : IsPass (s.again N)) (fuel : Nat)
    (hfuel : (fwdObs s N N 0).length + 1 + (pass ++ agains s N (k - 1)).length ≤ fuel) :
    s.canon N k fuel =
      [Line.init 0 0 none false false, s.usesLine] ++
        ((fwdObs s N N 0).map Line.act ++ [Line.act (Ev.obs efs N), s.usesLine] ++
          (pass ++ agains s N (k - 1)).map (fun e => Line.act (Ev.obs e N))) ++ [] ++
        [s.usesLine] := by
  obtain ⟨hfirst, hefs, ppre, per, rfl, hper, hppre⟩ := P
  obtain ⟨apre, aer, hagain, haer, hapre⟩ := hag
  obtain ⟨g, rfl⟩ : ∃ g, fuel = (fwdObs s N N 0).length +
      (((ppre ++ [per] ++ agains s N (k - 1)).length + g) + 1) := ⟨fuel -
        ((fwdObs s N N 0).length + 1 + (ppre ++ [per] ++ agains s N (k - 1)).length), by omega⟩
  obtain ⟨e', rest', hl⟩ : ∃ e' rest', ppre ++ [per] = e' :: rest' := by
    cases ppre with
    | nil => exact ⟨_, _, rfl⟩
    | cons a t => exact ⟨_, _, rfl⟩
  unfold Sched.canon
  simp only [MSt.line, Sched.init, H.online]
  obtain ⟨r, hf⟩ := canonLoop_fwd s H N k h1N N (⟨0, 0, none, false, false, .fwd⟩ : MSt)
    (((ppre ++ [per] ++ agains s N (k - 1)).length + g) + 1) rfl rfl (by simp only; omega)
    (by simp only; omega)
  rw [hf, canonLoop_ef s hs N k _ _ efs e' rest' (by rw [hfirst, hl]) hefs rfl rfl, ← hl,
    passes_loop s hs N k apre aer hagain haer hapre (k - 1) ppre per g _ 0 0 hper hppre rfl rfl
      (by omega)]
  simp

theorem actsOf_map_obs (N : Nat) (evs : List Ev) :
    actsOf (evs.map (fun e => Line.act (Ev.obs e N))) = evs.map (Ev.obs · N) := by
  rw [show (fun e => Line.act (Ev.obs e N)) = Line.act ∘ (Ev.obs · N) from rfl, ← List.map_map,
    actsOf_map_act]

theorem ActUses.map_obs (u : Line) (N : Nat) (evs : List Ev) :
    ActUses u (evs.map (fun e => Line.act (Ev.obs e N))) := by
  intro l hl
  obtain ⟨e, _, rfl⟩ := List.mem_map.mp hl
  exact .inr ⟨_, rfl⟩

theorem ActUses.act_uses (u : Line) (o : Obs) : ActUses u [Line.act o, u] := by
  intro l hl
  simp only [List.mem_cons, List.not_mem_nil, or_false] at hl
  rcases hl with rfl | rfl
  · exact .inr ⟨_, rfl⟩
  · exact .inl rfl

theorem endViols_none (cfg : Cfg) (k : Nat) (xf : XS) (hp : cfg.passes = none)
    (h1 : xf.ended = true) (h2 : xf.done = k) (h3 : xf.r = 0) : endViols cfg k xf = [] := by
  unfold endViols; rw [hp]; simp [chk, h1, h2, h3]

/-- the observation list of an online schedule with unboundedly many adjoint calculations -/
def onlineObs (s : Sched) (N k : Nat) (first : List Ev) : List Obs :=
  fwdObs s N N 0 ++ (first ++ agains s N (k - 1)).map (Ev.obs · N)

theorem actsOf_online_body (s : Sched) (N : Nat) (efs : Ev) (rest : List Ev) :
    actsOf ((fwdObs s N N 0).map Line.act ++ [Line.act (Ev.obs efs N), s.usesLine] ++
      rest.map (fun e => Line.act (Ev.obs e N))) =
      fwdObs s N N 0 ++ (efs :: rest).map (Ev.obs · N) := by
  rw [actsOf_append, actsOf_append, actsOf_map_act, actsOf_map_obs, List.append_assoc]
  rfl

theorem actsOf_canon_unbounded (s : Sched) (H : FwdHyp s) (hs : s.passes = none) (N k : Nat)
    (h1N : 1 ≤ N) (hk : 1 ≤ k) {efs : Ev} {pass : List Ev} (P : FirstHyp s N efs pass)
    (hag : IsPass (s.again N)) (fuel : Nat)
    (hfuel : (onlineObs s N k (efs :: pass)).length ≤ fuel) :
    actsOf (s.canon N k fuel) = onlineObs s N k (efs :: pass) := by
  have hlen : (fwdObs s N N 0).length + 1 + (pass ++ agains s N (k - 1)).length ≤ fuel := by
    simp only [onlineObs, List.length_append, List.length_map, List.length_cons] at hfuel ⊢
    omega
  rw [canon_online_unbounded s H hs N k h1N hk P hag fuel hlen, actsOf_append, actsOf_append,
    actsOf_append, actsOf_online_body]
  simp [onlineObs, actsOf, Sched.usesLine]

/-- **Monitor theorem, online, `passes = none`.**  If the observation list
`onlineObs s N k (first N)` is accepted by the executor and ends in a state with
`ended`, `done = k`, `r = 0`, the canonical trace passes the whole monitor. -/
theorem monitor_online_unbounded (cfg : Cfg) (s : Sched) (H : FwdHyp s) (hs : s.passes = none)
    (N k : Nat) (h1N : 1 ≤ N) (hk : 1 ≤ k) {efs : Ev} {pass : List Ev} (P : FirstHyp s N efs pass)
    (hag : IsPass (s.again N)) (fuel : Nat)
    (hfuel : (onlineObs s N k (efs :: pass)).length ≤ fuel)
    (hon : cfg.online = true) (hpass : cfg.passes = none) (xf : XS)
    (hclean : Clean cfg (XS.init cfg) (onlineObs s N k (efs :: pass)) xf)
    (hended : xf.ended = true) (hdone : xf.done = k) (hr : xf.r = 0)
    (huses : ∀ st, (s.uses st).isSome = true)
    (hram : s.uses .ram = some true ∨ ZeroBudget cfg .ram)
    (hdisk : s.uses .disk = some true ∨ ZeroBudget cfg .disk) :
    monitor cfg k (s.canon N k fuel) = [] := by
  have hlen : (fwdObs s N N 0).length + 1 + (pass ++ agains s N (k - 1)).length ≤ fuel := by
    simp only [onlineObs, List.length_append, List.length_map, List.length_cons] at hfuel ⊢
    omega
  rw [canon_online_unbounded s H hs N k h1N hk P hag fuel hlen]
  have hacts : actsOf ((fwdObs s N N 0).map Line.act ++ [Line.act (Ev.obs efs N), s.usesLine] ++
      (pass ++ agains s N (k - 1)).map (fun e => Line.act (Ev.obs e N))) =
      onlineObs s N k (efs :: pass) := actsOf_online_body s N efs _
  have hinit : (none : Option Nat) = if cfg.online then none else some cfg.N := by rw [hon]; rfl
  rw [hinit]
  apply monitor_shape cfg k (s.uses .ram) (s.uses .disk) (s.uses .work) (s.uses .none) _ [] xf
  · exact ((ActUses.map_act _ _).append (ActUses.act_uses _ _)).append (ActUses.map_obs _ _ _)
  · rw [hacts]; exact hclean
  · exact .inl rfl
  · exact endViols_none cfg k xf hpass hended hdone hr
  · exact ⟨huses _, huses _, huses _, huses _⟩
  · rw [hacts]; exact hclean.uses_of_budget rfl hram
  · rw [hacts]; exact hclean.uses_of_budget rfl hdisk

theorem ActUses.actLines (u : Line) (N : Nat) (evs : List Ev) (usedEF : Bool) :
    ActUses u (actLines u N evs usedEF) := fun l hl => mem_actLines u N l evs usedEF hl

theorem canon_online_single (s : Sched) (H : FwdHyp s) (hs : s.passes = some 1) (N k : Nat)
    (h1N : 1 ≤ N) {efs : Ev} {pass : List Ev} (P : FirstHyp s N efs pass) (fuel : Nat)
    (hfuel : (fwdObs s N N 0).length + pass.length + 2 ≤ fuel) :
    ∃ nE rE, s.canon N k fuel =
      [Line.init 0 0 none false false, s.usesLine] ++
        ((fwdObs s N N 0).map Line.act ++ actLines s.usesLine N (efs :: pass) false) ++
        [Line.stop nE rE (some N) true true, Line.stop nE rE (some N) true true,
         Line.stop nE rE (some N) true true] ++ [s.usesLine] := by
  obtain ⟨hfirst, hefs, ppre, ⟨act, nE, rE⟩, rfl, hper, hppre⟩ := P
  simp only at hper
  subst hper
  rw [List.length_append, List.length_singleton] at hfuel
  refine ⟨nE, rE, ?_⟩
  obtain ⟨g, rfl⟩ : ∃ g, fuel = (fwdObs s N N 0).length + g := ⟨fuel - (fwdObs s N N 0).length, by omega⟩
  unfold Sched.canon
  simp only [MSt.line, Sched.init, H.online]
  obtain ⟨r, hf⟩ := canonLoop_fwd s H N k h1N N (⟨0, 0, none, false, false, .fwd⟩ : MSt) g rfl rfl
    (by simp only; omega) (by simp only; omega)
  rw [hf]
  have := canonLoop_offline s hs N N k nE rE (efs :: ppre) g
    (⟨N, r, some N, true, false, .fwd⟩ : MSt) 0 false
    (by
      intro e he
      rcases List.mem_cons.mp he with rfl | he
      · rw [hefs]; simp
      · exact hppre e he)
    (by simp only [List.length_cons]; omega) rfl (.inl ⟨rfl, hfirst, rfl⟩)
  rw [this]
  simp

theorem monitor_online_single (cfg : Cfg) (s : Sched) (H : FwdHyp s) (hs : s.passes = some 1)
    (N k : Nat) (h1N : 1 ≤ N) {efs : Ev} {pass : List Ev} (P : FirstHyp s N efs pass) (fuel : Nat)
    (hfuel : (fwdObs s N N 0).length + pass.length + 2 ≤ fuel)
    (hon : cfg.online = true) (hpass : cfg.passes = some 1) (xf : XS)
    (hclean : Clean cfg (XS.init cfg) (fwdObs s N N 0 ++ obsOffline N (efs :: pass)) xf)
    (hdone : 1 ≤ xf.done)
    (huses : ∀ st, (s.uses st).isSome = true)
    (hram : s.uses .ram = some true ∨ ZeroBudget cfg .ram)
    (hdisk : s.uses .disk = some true ∨ ZeroBudget cfg .disk) :
    monitor cfg k (s.canon N k fuel) = [] := by
  obtain ⟨nE, rE, hcanon⟩ := canon_online_single s H hs N k h1N P fuel hfuel
  rw [hcanon]
  have hacts : actsOf ((fwdObs s N N 0).map Line.act ++
      actLines s.usesLine N (efs :: pass) false) =
      fwdObs s N N 0 ++ obsOffline N (efs :: pass) := by
    rw [actsOf_append, actsOf_map_act, obsOffline_eq_rec]
    exact congrArg _ (actsOf_actLines _ _ _ _ N _ false)
  have hfin : finished cfg xf = true := finished_of_done cfg hpass xf hdone
  have hinit : (none : Option Nat) = if cfg.online then none else some cfg.N := by rw [hon]; rfl
  rw [hinit]
  apply monitor_shape cfg k (s.uses .ram) (s.uses .disk) (s.uses .work) (s.uses .none) _ _ xf
  · exact (ActUses.map_act _ _).append (ActUses.actLines _ _ _ _)
  · rw [hacts]; exact hclean
  · exact .inr ⟨hfin, _, _, _, rfl⟩
  · unfold endViols; rw [hpass]; simp [chk, hfin]
  · exact ⟨huses _, huses _, huses _, huses _⟩
  · rw [hacts]; exact hclean.uses_of_budget rfl hram
  · rw [hacts]; exact hclean.uses_of_budget rfl hdisk

theorem canon_online_zero (s : Sched) (H : FwdHyp s) (hs : s.passes = some 0) (N k : Nat)
    (h1N : 1 ≤ N) (efs : Ev) (rest : List Ev) (hfirst : s.first N = .ok (efs :: rest))
    (hefs : efs.act = .endForward) (fuel : Nat) (hfuel : (fwdObs s N N 0).length + 2 ≤ fuel) :
    s.canon N k fuel =
      [Line.init 0 0 none false false, s.usesLine] ++
        ((fwdObs s N N 0).map Line.act ++
          [Line.act ⟨.endForward, efs.n, efs.r, some N, true, true⟩, s.usesLine]) ++
        [Line.stop efs.n efs.r (some N) true true, Line.stop efs.n efs.r (some N) true true,
         Line.stop efs.n efs.r (some N) true true] ++ [s.usesLine] := by
  obtain ⟨g, rfl⟩ : ∃ g, fuel = (fwdObs s N N 0).length + ((g + 1) + 1) :=
    ⟨fuel - (fwdObs s N N 0).length - 2, by omega⟩
  unfold Sched.canon
  simp only [MSt.line, Sched.init, H.online]
  obtain ⟨r, hf⟩ := canonLoop_fwd s H N k h1N N (⟨0, 0, none, false, false, .fwd⟩ : MSt)
    ((g + 1) + 1) rfl rfl (by simp only; omega) (by simp only; omega)
  rw [hf]
  have hnext := next_fwd_cons s (⟨N, r, some N, true, false, .fwd⟩ : MSt) N efs rest rfl rfl hfirst
  have hafter : s.after N efs rest 0 = (.stopped, true) := by
    rw [after_eq]
    have : s.afterFin efs 0 = true := by simp [Sched.afterFin, hs, hefs]
    rw [this]; rfl
  rw [hafter] at hnext
  have hstep : s.canonLoop N k ((g + 1) + 1) (⟨N, r, some N, true, false, .fwd⟩ : MSt) 0 false =
      [Line.act ⟨.endForward, efs.n, efs.r, some N, true, true⟩, s.usesLine] ++
        s.canonLoop N k (g + 1) (⟨efs.n, efs.r, some N, true, true, .stopped⟩ : MSt) 0 true := by
    rw [Sched.canonLoop]
    simp only [hnext]
    simp [hefs]
  rw [hstep, canonLoop_stopped s N k g _ _ _ rfl rfl]
  simp [MSt.line]

theorem monitor_online_zero (cfg : Cfg) (s : Sched) (H : FwdHyp s) (hs : s.passes = some 0)
    (N k : Nat) (h1N : 1 ≤ N) (efs : Ev) (rest : List Ev) (hfirst : s.first N = .ok (efs :: rest))
    (hefs : efs.act = .endForward) (fuel : Nat) (hfuel : (fwdObs s N N 0).length + 2 ≤ fuel)
    (hon : cfg.online = true) (hpass : cfg.passes = some 0) (xf : XS)
    (hclean : Clean cfg (XS.init cfg)
      (fwdObs s N N 0 ++ [⟨.endForward, efs.n, efs.r, some N, true, true⟩]) xf)
    (hended : xf.ended = true)
    (huses : ∀ st, (s.uses st).isSome = true)
    (hram : s.uses .ram = some true ∨ ZeroBudget cfg .ram)
    (hdisk : s.uses .disk = some true ∨ ZeroBudget cfg .disk) :
    monitor cfg k (s.canon N k fuel) = [] := by
  rw [canon_online_zero s H hs N k h1N efs rest hfirst hefs fuel hfuel]
  have hacts : actsOf ((fwdObs s N N 0).map Line.act ++
      [Line.act ⟨.endForward, efs.n, efs.r, some N, true, true⟩, s.usesLine]) =
      fwdObs s N N 0 ++ [⟨.endForward, efs.n, efs.r, some N, true, true⟩] := by
    rw [actsOf_append, actsOf_map_act]; rfl
  have hfin : finished cfg xf = true := by unfold finished; rw [hpass]; exact hended
  have hinit : (none : Option Nat) = if cfg.online then none else some cfg.N := by rw [hon]; rfl
  rw [hinit]
  apply monitor_shape cfg k (s.uses .ram) (s.uses .disk) (s.uses .work) (s.uses .none) _ _ xf
  · exact (ActUses.map_act _ _).append (ActUses.act_uses _ _)
  · rw [hacts]; exact hclean
  · exact .inr ⟨hfin, _, _, _, rfl⟩
  · unfold endViols; rw [hpass]; simp [chk, hfin]
  · exact ⟨huses _, huses _, huses _, huses _⟩
  · rw [hacts]; exact hclean.uses_of_budget rfl hram
  · rw [hacts]; exact hclean.uses_of_budget rfl hdisk

theorem fwdHyp_singleMemory : FwdHyp singleMemorySched :=
  ⟨rfl, fun n => Nat.lt_add_of_pos_right maxsize_pos, fun _ => by simp [singleMemorySched],
    fun _ => by simp [singleMemorySched]⟩

theorem fwdHyp_singleDisk (mv : Bool) : FwdHyp (singleDiskSched mv) :=
  ⟨rfl, fun n => Nat.lt_succ_self n, fun _ => by simp [singleDiskSched],
    fun _ => by simp [singleDiskSched]⟩

theorem fwdHyp_none : FwdHyp noneSched :=
  ⟨rfl, fun n => Nat.lt_add_of_pos_right maxsize_pos, fun _ => by simp [noneSched],
    fun _ => by simp [noneSched]⟩

theorem fwdHyp_twoLevel (p b : Nat) (st : Storage) (traj : Traj) (s : Sched)
    (h : twoLevelSched p b st traj = .ok s) : FwdHyp s := by
  obtain ⟨hp, _, rfl⟩ := twoLevel_ok p b st traj s h
  exact ⟨rfl, fun n => by simp only; omega, fun _ => by simp, fun _ => by simp⟩

/-- the reverse loop of SingleDisk ends in its only `EndReverse` -/
def singleDiskBody (move : Bool) (N : Nat) : Nat → List Ev
  | 0 => []
  | k+1 =>
    ⟨if move then .move k .disk .work else .copy k .disk .work, k, N - (k+1)⟩ ::
    ⟨.reverse (k+1) k true, k, N - k⟩ :: singleDiskBody move N k

theorem singleDiskPass_eq (move : Bool) (N : Nat) : ∀ j,
    singleDiskPass move N j = singleDiskBody move N j ++ [⟨.endReverse, 0, if move then N else 0⟩]
  | 0 => rfl
  | j+1 => by rw [singleDiskPass, singleDiskBody, singleDiskPass_eq move N j]; rfl

theorem singleDiskBody_noER (move : Bool) (N : Nat) : ∀ j, ∀ e ∈ singleDiskBody move N j,
    e.act ≠ .endReverse ∧ ∀ x, touches x e.act = true → x = .disk ∨ x = .work
  | 0 => by intro e he; cases he
  | j+1 => by
    intro e he
    rw [singleDiskBody] at he
    simp only [List.mem_cons] at he
    rcases he with rfl | rfl | he
    · cases move <;> simp [touches] <;> intro x hx <;> rcases hx with h | h <;> simp [← h]
    · simp [touches]
    · exact singleDiskBody_noER move N j e he

theorem length_singleDiskBody (mv : Bool) (N : Nat) : ∀ j, (singleDiskBody mv N j).length = 2 * j
  | 0 => rfl
  | j+1 => by rw [singleDiskBody, List.length_cons, List.length_cons, length_singleDiskBody mv N j]; omega

theorem twoLevelBlocks_noER (N p b : Nat) (st : Storage) (traj : Traj) : ∀ (blk : Nat)
    (evs : List Ev), twoLevelBlocks N p b st traj blk = some evs → ∀ e ∈ evs, e.act ≠ .endReverse := by
  intro blk
  induction blk with
  | zero => intro evs h e he; simp only [twoLevelBlocks, Option.some.injEq] at h; subst h; cases he
  | succ blk ih =>
    intro evs h
    rw [twoLevelBlocks] at h
    split at h
    · cases h
    · rename_i seg hs
      split at h
      · cases h
      · rename_i rest hr
        simp only [Option.some.injEq] at h
        subst h
        intro e he
        rcases List.mem_append.mp he with he | he
        · exact segWith_no_endReverse hs e he
        · exact ih _ hr e he

theorem isPass_singleDiskPass (mv : Bool) (N : Nat) : IsPass (singleDiskPass mv N N) :=
  ⟨_, _, singleDiskPass_eq mv N N, rfl, fun e he => (singleDiskBody_noER mv N N e he).1⟩

end Ckpt

section AxiomCheck
open Ckpt
#print axioms canon_online_unbounded
#print axioms monitor_online_unbounded
#print axioms canon_online_single
#print axioms monitor_online_single
#print axioms canon_online_zero
#print axioms monitor_online_zero
end AxiomCheck
