import CkptVerif.Proofs.RevolveOptimal
import CkptVerif.Proofs.HRevolveCost
/-!
# H-Revolve without disk units is the Revolve optimum

* `hopt0_eq_opt0`: with free RAM transfers (`w0 = r0 = 0`) level 0 of the hierarchical table
  `hoptTable` IS the memory-only table `opt0Table`;
* `C07_hrevolve_nodisk_optimal`: the stream of `HRevolve(N, c0, 0)` costs no more than ANY complete
  stream the executor accepts for `cfgHRevolve c0 0 N` (restart data only).
(For `c1 ≥ 1` the corresponding statement is false for `obsCost` and open for the transfer-aware cost:
see `Proofs/DiskCounterexamples.lean`.)
-/
namespace Ckpt.RC
open Ckpt Ckpt.GW

theorem gwT_le_one (n : Nat) (hn : 1 ≤ n) : ∀ k, 1 ≤ k → gwT n k ≤ gwT n 1 := by
  intro k hk
  induction k with
  | zero => omega
  | succ k ih =>
    rcases Nat.eq_zero_or_pos k with rfl | hk1
    · exact le_refl _
    · exact le_trans (gwT_anti k hk1 n hn) (ih hk1)

theorem opt0Get_le_row1 (lmax mmax uf ub l m : Nat) (hl : l ≤ lmax) (hm1 : 1 ≤ m) (hm : m ≤ mmax) :
    opt0Get (opt0Table lmax mmax uf ub) m l ≤ opt0Get (opt0Table lmax mmax uf ub) 1 l := by
  have h1 := opt0_eq_gwT lmax mmax uf ub l m hl hm1 hm
  have h2 := opt0_eq_gwT lmax mmax uf ub l 1 hl (le_refl _) (by omega)
  have := Nat.mul_le_mul_left uf (gwT_le_one (l + 1) (by omega) m hm1)
  omega

section
variable (lmax c0 c1 w1 r1 ub uf : Nat)

/-- **level 0 of the hierarchical table is the memory-only table** (RAM transfers are free) -/
theorem hopt0_eq_opt0 (hc0 : 1 ≤ c0) : ∀ l, l ≤ lmax → ∀ m, 1 ≤ m → m ≤ c0 →
    (hoptTable lmax c0 c1 0 w1 0 r1 ub uf).optp 0 l m = some (opt0Get (opt0Table lmax c0 uf ub) m l) ∧
    (hoptTable lmax c0 c1 0 w1 0 r1 ub uf).opt 0 l m = some (opt0Get (opt0Table lmax c0 uf ub) m l) := by
  intro l
  induction l using Nat.strong_induction_on with
  | _ l ih =>
    intro hl m hm1 hm
    rcases Nat.lt_or_ge l 2 with hl2 | hl2
    · rcases Nat.eq_zero_or_pos l with rfl | hpos
      · rw [opt0Get_zero _ _ _ _ _ hm]
        exact hopt0_row0 lmax c0 c1 0 w1 0 r1 ub uf hc0 m hm
      · have : l = 1 := by omega
        subst this
        rw [opt0Get_one _ _ _ _ _ hm1 hm]
        obtain ⟨a, b⟩ := hopt0_row1 lmax c0 c1 0 w1 0 r1 ub uf hl m hm1 hm
        rw [a, b]
        exact ⟨by simp, by simp⟩
    · have hcol := hopt0_col1 lmax c0 c1 0 w1 0 r1 ub uf hc0 l hl2 hl
      have hrow1 := opt0Get_row1 lmax c0 uf ub l hc0 hl2 hl
      rcases Nat.eq_or_lt_of_le hm1 with rfl | hm2
      · rw [hrow1, hcol.1, hcol.2]
        exact ⟨by simp, by simp⟩
      · obtain ⟨a, b⟩ := hopt0_rec lmax c0 c1 0 w1 0 r1 ub uf hc0 l m hl2 hl hm2 hm
        obtain ⟨_, hmin, hmem⟩ := opt0Get_rec lmax c0 uf ub m l hm2 hm hl2 hl
        -- the candidates, by the induction hypothesis
        have hc : (List.range' 1 (l - 1)).map (fun j =>
              oadd (oadd (oadd (some (j * uf)) ((hoptTable lmax c0 c1 0 w1 0 r1 ub uf).opt 0 (l - j) (m - 1)))
                (some 0)) ((hoptTable lmax c0 c1 0 w1 0 r1 ub uf).optp 0 (j - 1) m)) =
            ((List.range' 1 (l - 1)).map (fun j =>
              j * uf + opt0Get (opt0Table lmax c0 uf ub) (m - 1) (l - j) +
                opt0Get (opt0Table lmax c0 uf ub) m (j - 1))).map some := by
          rw [List.map_map]
          apply List.map_congr_left
          intro j hj
          rw [List.mem_range'_1] at hj
          rw [(ih (l - j) (by omega) (by omega) (m - 1) (by omega) (by omega)).2,
            (ih (j - 1) (by omega) (by omega) m hm1 hm).1]
          simp [oadd]
        have hp : (hoptTable lmax c0 c1 0 w1 0 r1 ub uf).optp 0 l m =
            some (opt0Get (opt0Table lmax c0 uf ub) m l) := by
          rw [a, hc]
          apply ominList_eq_of
          · exact List.mem_append_left _ (List.mem_map.mpr ⟨_, hmem, rfl⟩)
          · intro y hy
            rcases List.mem_append.mp hy with hy | hy
            · obtain ⟨x, hx, rfl⟩ := List.mem_map.mp hy
              rw [ole_some_some]
              exact hmin x hx
            · rw [List.mem_singleton] at hy
              rw [hy, hcol.1, ole_some_some]
              have := opt0Get_le_row1 lmax c0 uf ub l m hl hm1 hm
              rw [hrow1] at this
              omega
        refine ⟨hp, ?_⟩
        rw [b, hp]
        simp [oadd]

end

/-- the cost of the HRevolve stream without disk units is the Revolve optimum
`uf·(N + E(N, min(c0, N-1))) + ub·N` -/
theorem hrevolve_nodisk_cost (N c0 : Nat) (c : Costs) (hN : 1 ≤ N) (hc0 : 1 ≤ c0) (evs : List Ev)
    (h : hrevolveEvs N c0 0 c = .ok evs) :
    cost c evs = c.uf * (N + extraCell N (clampS N c0)) + c.ub * N := by
  obtain ⟨v, hv, hc⟩ := hrevolve_cost N c0 0 c hN hc0 evs h
  have hv' : v = opt0Get (opt0Table (N - 1) c0 c.uf c.ub) c0 (N - 1) := by
    rcases Nat.eq_or_lt_of_le hN with h1 | h2
    · -- N = 1
      subst h1
      have := (hopt1_row0 (1 - 1) c0 0 0 c.wd 0 c.rd c.ub c.uf 0 (le_refl _)).2
      rw [this] at hv
      rw [opt0Get_zero _ _ _ _ _ (le_refl _)]
      exact (Option.some.inj hv).symm
    · rw [hopt1_col0_eq (N - 1) c0 0 0 c.wd 0 c.rd c.ub c.uf hc0 (N - 1) (by omega) (le_refl _),
        (hopt0_eq_opt0 (N - 1) c0 0 c.wd c.rd c.ub c.uf hc0 (N - 1) (le_refl _) c0 hc0 (le_refl _)).2] at hv
      exact (Option.some.inj hv).symm
  rw [hc, hv']
  exact opt0_closed N c0 c hN hc0

/-- **HRevolve without disk units is cost-optimal among ALL executable schedules** -/
theorem C07_hrevolve_nodisk_optimal (N c0 : Nat) (c : Costs) (hN : 1 ≤ N) (hc0 : 1 ≤ c0)
    (evs : List Ev) (h : hrevolveEvs N c0 0 c = .ok evs) (os : List Obs)
    (hclean : (run (cfgHRevolve c0 0 N) os).2 = [])
    (hdone : finished (cfgHRevolve c0 0 N) (run (cfgHRevolve c0 0 N) os).1 = true)
    (hnd : ∀ o ∈ os, storesDeps o.act = false) :
    cost c evs ≤ obsCost c os := by
  rw [hrevolve_nodisk_cost N c0 c hN hc0 evs h]
  exact cost_lowerBound (cfg := cfgHRevolve c0 0 N) (s := c0) ⟨⟨c0, 0, rfl, rfl, rfl⟩, rfl, rfl, rfl⟩
    hN c os hclean hdone hnd

end Ckpt.RC

#print axioms Ckpt.RC.hopt0_eq_opt0
#print axioms Ckpt.RC.C07_hrevolve_nodisk_optimal
