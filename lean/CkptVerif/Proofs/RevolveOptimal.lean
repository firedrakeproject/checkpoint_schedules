import CkptVerif.Proofs.LowerBound
import CkptVerif.Proofs.RevolveCost
import CkptVerif.Proofs.RevolveSteps
import CkptVerif.Proofs.RevolveOk
/-!
# C07 for Revolve: the stream is cost-optimal among ALL executable schedules

`obsCost c os` is the cost of a stream of observations in the cost model of the Revolve family
(`Proofs/Cost.lean`): `uf` per forward step, `ub` per reversed step, `wd` per checkpoint written to
DISK by a `Forward`, `rd` per `Copy`/`Move` out of DISK.  It agrees with `RC.cost` on the
observations of an event list (`obsCost_map_obs`).

`C07_revolve_optimal`: for `N ≥ 1`, `cm ≥ 1`, `uf > 0` the stream of `Revolve(N, cm)` costs no more
than ANY stream that the checking executor accepts for `cfgRevolve cm N`, that completes the adjoint
calculation and whose storage units hold restart data only.  Nothing else is assumed of the
competing stream.

Ingredients: the lower bound on forward steps `GW.lowerBound` (`C05_full`), a count of the reversed
steps of a complete accepted run (`revSteps_eq`), `RC.revolve_cost` and `RC.opt0_eq_gwT`.
-/
namespace Ckpt.RC
open Ckpt.GW Ckpt.Mean

def actCost (c : Costs) : Action → Nat
  | .forward n0 n1 _ _ st => (n1 - n0) * c.uf + (if st = .disk then c.wd else 0)
  | .reverse n1 n0 _ => (n1 - n0) * c.ub
  | .copy _ src _ => if src = .disk then c.rd else 0
  | .move _ src _ => if src = .disk then c.rd else 0
  | _ => 0

def obsCost (c : Costs) (os : List Obs) : Nat := (os.map (fun o => actCost c o.act)).sum

theorem obsCost_nil (c : Costs) : obsCost c [] = 0 := rfl

theorem obsCost_cons (c : Costs) (o : Obs) (os : List Obs) :
    obsCost c (o :: os) = actCost c o.act + obsCost c os := by
  unfold obsCost; rw [List.map_cons, List.sum_cons]

theorem obsCost_append (c : Costs) (as bs : List Obs) :
    obsCost c (as ++ bs) = obsCost c as + obsCost c bs := by
  unfold obsCost; rw [List.map_append, List.sum_append]

theorem evCost_eq_actCost (c : Costs) (e : Ev) : evCost c e = actCost c e.act := by
  unfold evCost actCost
  cases e.act <;> rfl

/-- `obsCost` depends on the actions only, and is `RC.cost` on them -/
theorem obsCost_eq_cost (c : Costs) (evs : List Ev) (os : List Obs)
    (h : os.map (·.act) = evs.map (·.act)) : obsCost c os = cost c evs := by
  induction evs generalizing os with
  | nil =>
    rw [List.map_nil, List.map_eq_nil_iff] at h
    subst h; rfl
  | cons e es ih =>
    cases os with
    | nil => simp at h
    | cons o os =>
      simp only [List.map_cons, List.cons.injEq] at h
      rw [obsCost_cons, cost_cons, ih os h.2, evCost_eq_actCost, h.1]

/-- **agreement**: on the observations of an event list, `obsCost` is the stream cost `RC.cost` -/
theorem obsCost_map_obs (c : Costs) (evs : List Ev) (N : Nat) :
    obsCost c (evs.map (Ev.obs · N)) = cost c evs := by
  apply obsCost_eq_cost
  rw [List.map_map]
  rfl

def actRev : Action → Nat
  | .reverse n1 n0 _ => n1 - n0
  | _ => 0

def obsRevSteps (os : List Obs) : Nat := (os.map (fun o => actRev o.act)).sum

theorem obsRevSteps_cons (o : Obs) (os : List Obs) :
    obsRevSteps (o :: os) = actRev o.act + obsRevSteps os := by
  unfold obsRevSteps; rw [List.map_cons, List.sum_cons]

/-- with one permitted adjoint calculation the counter `r` only grows, by the reversed steps -/
theorem nextState_r {cfg : Cfg} (hp : cfg.passes = some 1) (x : XS) (a : Action) :
    (nextState cfg x a).r = x.r + actRev a := by
  cases a with
  | forward n0 n1 wi wa st => rfl
  | reverse n1 n0 cl => rfl
  | copy n src dst =>
    simp only [nextState, actRev]
    cases findCp x.cps n src with
    | none => rfl
    | some c => dsimp only; split <;> rfl
  | move n src dst =>
    simp only [nextState, actRev]
    cases findCp x.cps n src with
    | none => rfl
    | some c => dsimp only; split <;> rfl
  | endForward => rfl
  | endReverse =>
    simp only [nextState, hp, actRev]
    have : decide (x.done + 1 < 1) = false := by simp
    rw [this]
    rfl

/-- a clean run that ends finished reverses exactly the steps that were still to be reversed -/
theorem runFrom_revSteps {cfg : Cfg} {s : Nat} (H : CfgHyp cfg s) (os : List Obs) :
    ∀ (i : Nat) (x : XS), Inv cfg s x → (runFrom cfg i x os).2 = [] →
      finished cfg (runFrom cfg i x os).1 = true → (∀ o ∈ os, storesDeps o.act = false) →
      x.r + obsRevSteps os = cfg.N := by
  intro i x hinv hclean hfin
  revert hinv
  refine runFrom_induction (motive := fun x os => Inv cfg s x →
    (∀ o ∈ os, storesDeps o.act = false) → x.r + obsRevSteps os = cfg.N) ?_ ?_ os i x hclean hfin
  · intro x hfin hinv _
    exact hinv.done ((finished_iff_done H.passes x).mp hfin)
  · intro x o os hclean ih hinv hnd
    obtain ⟨hinv', _⟩ := step_pot H hinv o hclean (hnd o (List.mem_cons_self ..))
    have := ih hinv' (fun o' ho' => hnd o' (List.mem_cons_of_mem _ ho'))
    rw [nextState_r H.passes] at this
    rw [obsRevSteps_cons]
    omega

/-- **every complete accepted stream reverses exactly `N` steps** -/
theorem revSteps_eq {cfg : Cfg} {s : Nat} (H : CfgHyp cfg s) (os : List Obs)
    (hclean : (run cfg os).2 = []) (hdone : finished cfg (run cfg os).1 = true)
    (hnd : ∀ o ∈ os, storesDeps o.act = false) : obsRevSteps os = cfg.N := by
  have := runFrom_revSteps H os 0 (XS.init cfg) (inv_init H) hclean hdone hnd
  have e : (XS.init cfg).r = 0 := rfl
  omega

theorem obsCost_ge (c : Costs) (os : List Obs) :
    c.uf * obsFwdSteps os + c.ub * obsRevSteps os ≤ obsCost c os := by
  induction os with
  | nil => exact le_refl _
  | cons o os ih =>
    rw [obsCost_cons, obsFwdSteps_cons, obsRevSteps_cons, Nat.mul_add, Nat.mul_add]
    have : c.uf * actFwd o.act + c.ub * actRev o.act ≤ actCost c o.act := by
      cases o.act <;> simp [actFwd, actRev, actCost, Nat.mul_comm]
    omega

/-- **cost lower bound** for a budget of `s` units split in any way between RAM and disk: any
complete accepted stream (restart data only) costs at least `uf·(N + E(N, min(s, N-1))) + ub·N` -/
theorem cost_lowerBound {cfg : Cfg} {s : Nat} (H : CfgHyp cfg s) (hN : 1 ≤ cfg.N) (c : Costs)
    (os : List Obs) (hclean : (run cfg os).2 = []) (hdone : finished cfg (run cfg os).1 = true)
    (hnd : ∀ o ∈ os, storesDeps o.act = false) :
    c.uf * (cfg.N + extraCell cfg.N (clampS cfg.N s)) + c.ub * cfg.N ≤ obsCost c os := by
  have h1 := lowerBound H hN os hclean hdone hnd
  have h2 := revSteps_eq H os hclean hdone hnd
  have h3 := obsCost_ge c os
  rw [h2] at h3
  have := Nat.mul_le_mul_left c.uf h1
  omega

theorem cfgHyp_revolve (cm N : Nat) : CfgHyp (cfgRevolve cm N) cm :=
  ⟨⟨cm, 0, rfl, rfl, rfl⟩, rfl, rfl, rfl⟩

/-- the value of the memory-only table together with the first sweep, in closed form -/
theorem opt0_closed (N cm : Nat) (c : Costs) (hN : 1 ≤ N) (hcm : 1 ≤ cm) :
    opt0Get (opt0Table (N - 1) cm c.uf c.ub) cm (N - 1) + N * c.uf =
      c.uf * (N + extraCell N (clampS N cm)) + c.ub * N := by
  have := opt0_eq_gwT (N - 1) cm c.uf c.ub (N - 1) cm (le_refl _) hcm (le_refl _)
  rw [Nat.sub_add_cancel hN] at this
  unfold gwT at this
  rw [this, Nat.mul_comm N c.ub, Nat.add_comm]

/-- the cost of the Revolve stream in closed form: `uf·(N + E(N, min(cm, N-1))) + ub·N` -/
theorem revolve_cost_closed (N cm : Nat) (c : Costs) (hN : 1 ≤ N) (hcm : 1 ≤ cm) (evs : List Ev)
    (h : revolveEvs N cm c = .ok evs) :
    cost c evs = c.uf * (N + extraCell N (clampS N cm)) + c.ub * N := by
  rw [revolve_cost N cm c hN evs h]
  exact opt0_closed N cm c hN hcm

/-- **C07 for Revolve, complete.**  For `N ≥ 1` steps, `cm ≥ 1` RAM units and any cost vector with
`uf > 0`: the stream of `Revolve` costs no more than ANY stream of observations that the checking
executor accepts for the configuration `cfgRevolve cm N` (offline, `cm` RAM units, no disk, one
adjoint calculation), that completes the adjoint calculation and that writes restart data only into
the storage units. -/
theorem C07_revolve_optimal (N cm : Nat) (c : Costs) (hN : 1 ≤ N) (hcm : 1 ≤ cm) (huf : 0 < c.uf)
    (evs : List Ev) (h : revolveEvs N cm c = .ok evs) (os : List Obs)
    (hclean : (run (cfgRevolve cm N) os).2 = [])
    (hdone : finished (cfgRevolve cm N) (run (cfgRevolve cm N) os).1 = true)
    (hnd : ∀ o ∈ os, storesDeps o.act = false) :
    cost c evs ≤ obsCost c os := by
  have _ := huf
  rw [revolve_cost_closed N cm c hN hcm evs h]
  exact cost_lowerBound (cfgHyp_revolve cm N) hN c os hclean hdone hnd

/-- the same as a statement about the table: `opt0[cm][N-1] + N·uf` is a lower bound for the cost of
every complete accepted stream -/
theorem C07_opt0_lowerBound (N cm : Nat) (c : Costs) (hN : 1 ≤ N) (hcm : 1 ≤ cm) (os : List Obs)
    (hclean : (run (cfgRevolve cm N) os).2 = [])
    (hdone : finished (cfgRevolve cm N) (run (cfgRevolve cm N) os).1 = true)
    (hnd : ∀ o ∈ os, storesDeps o.act = false) :
    opt0Get (opt0Table (N - 1) cm c.uf c.ub) cm (N - 1) + N * c.uf ≤ obsCost c os := by
  rw [opt0_closed N cm c hN hcm]
  exact cost_lowerBound (cfgHyp_revolve cm N) hN c os hclean hdone hnd

/-- the bound is attained by an accepted stream: the observations of the Revolve stream are accepted,
complete, hold restart data only, and their `obsCost` is the stream cost -/
theorem revolve_obs_attains (N cm : Nat) (c : Costs) (hN : 1 ≤ N) (hcm : 1 ≤ cm) :
    ∃ evs os, revolveEvs N cm c = .ok evs ∧ os.map (·.act) = evs.map (·.act) ∧
      (run (cfgRevolve cm N) os).2 = [] ∧
      finished (cfgRevolve cm N) (run (cfgRevolve cm N) os).1 = true ∧
      (∀ o ∈ os, storesDeps o.act = false) ∧ obsCost c os = cost c evs := by
  obtain ⟨evs, sn, hevs, hclean⟩ := revolve_clean N cm c hN hcm
  have hseg : revSeg N (opt0Table (N - 1) cm c.uf c.ub) c.uf cm true 0 N = some evs := by
    unfold revolveEvs at hevs
    dsimp only at hevs
    split at hevs
    · cases hevs
    · rename_i seg hseg
      injection hevs with hevs
      rw [hseg, List.append_cancel_right hevs]
  have hacts : (evs.map (Ev.obs · N) ++ [(⟨.endReverse, 1, N, some N, true, true⟩ : Obs)]).map (·.act)
      = (evs ++ [(⟨.endReverse, 1, N⟩ : Ev)]).map (·.act) := by
    rw [List.map_append, List.map_append, List.map_map]
    rfl
  refine ⟨_, _, hevs, hacts, hclean.run_viols, ?_, ?_, obsCost_eq_cost c _ _ hacts⟩
  · rw [hclean.run_state]; rfl
  · intro o ho
    rcases List.mem_append.mp ho with ho | ho
    · obtain ⟨e, he, rfl⟩ := List.mem_map.mp ho
      unfold revSeg at hseg
      exact segWith_noStoresDeps _ _ _ _ _ _ _ _ _ _ _ _ hseg e he
    · rw [List.mem_singleton] at ho; subst ho; rfl

end Ckpt.RC

namespace Ckpt
alias C07_revolve_optimal := RC.C07_revolve_optimal
alias C07_opt0_lowerBound := RC.C07_opt0_lowerBound
end Ckpt

#print axioms Ckpt.RC.C07_revolve_optimal
#print axioms Ckpt.RC.C07_opt0_lowerBound
#print axioms Ckpt.RC.revolve_obs_attains
#print axioms Ckpt.RC.obsCost_map_obs
#print axioms Ckpt.RC.revSteps_eq
