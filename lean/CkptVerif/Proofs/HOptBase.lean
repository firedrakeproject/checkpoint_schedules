import CkptVerif.Model.Revolve
import CkptVerif.Proofs.Argmin
import Mathlib.Tactic
/-!
# Tools for the two-level cost table `hoptTable`

* `g2`/`s2` on well-shaped 2-D arrays;
* `writes_spec`: a fold of cell writes on a pair of tables whose written values read only
  lexicographically earlier cells (column first, then row) ends in a state that satisfies, at every
  written cell, the defining equation *evaluated in the final state*;
* order facts for `oadd`, `omin`, `ominList`.
-/
namespace Ckpt.RC
open List

abbrev T2 := Array (Array (Option Nat))

/-- `lmax + 1` rows of `c + 1` entries -/
def Shape (lmax c : Nat) (t : T2) : Prop :=
  t.size = lmax + 1 ∧ ∀ (l : Nat) (row : Array (Option Nat)), t[l]? = some row → row.size = c + 1

theorem g2_eq (t : T2) (l m : Nat) : g2 t l m = ((t[l]?.getD #[])[m]?).getD none := by
  simp [g2]

theorem g2_s2_ne (t : T2) (l m l' m' : Nat) (v : Option Nat) (h : ¬ (l = l' ∧ m = m')) :
    g2 (s2 t l m v) l' m' = g2 t l' m' := by
  simp only [g2_eq, s2, Array.getElem?_modify]
  by_cases hl : l = l'
  · subst hl
    have hm : m ≠ m' := fun hm => h ⟨rfl, hm⟩
    rw [if_pos rfl]
    cases t[l]? with
    | none => rfl
    | some row => simp [Array.getElem?_setIfInBounds_ne hm]
  · rw [if_neg hl]

theorem g2_s2_eq {lmax c : Nat} {t : T2} (hs : Shape lmax c t) (l m : Nat) (v : Option Nat)
    (hl : l ≤ lmax) (hm : m ≤ c) : g2 (s2 t l m v) l m = v := by
  simp only [g2_eq, s2, Array.getElem?_modify, if_true]
  have hlt : l < t.size := by rw [hs.1]; omega
  have hrow : t[l]? = some t[l] := Array.getElem?_eq_getElem hlt
  have hsz := hs.2 l _ hrow
  rw [hrow]
  simp only [Option.map_some, Option.getD_some, Array.getElem?_setIfInBounds, if_true]
  rw [if_pos (by rw [hsz]; omega)]
  rfl

theorem Shape.g2_out {lmax c : Nat} {t : T2} (hs : Shape lmax c t) (l m : Nat)
    (h : lmax < l ∨ c < m) : g2 t l m = none := by
  rw [g2_eq]
  cases hr : t[l]? with
  | none => rfl
  | some row =>
    have hm : c < m := by
      rcases h with h | h
      · have := (Array.getElem?_eq_some_iff.1 hr).1
        rw [hs.1] at this; omega
      · exact h
    rw [Option.getD_some, Array.getElem?_eq_none (by rw [hs.2 l row hr]; omega)]
    rfl

theorem Shape.s2 {lmax c : Nat} {t : T2} (hs : Shape lmax c t) (l m : Nat) (v : Option Nat) :
    Shape lmax c (s2 t l m v) := by
  refine ⟨by simp [Ckpt.s2, hs.1], ?_⟩
  intro l' row h
  simp only [Ckpt.s2, Array.getElem?_modify] at h
  by_cases hl : l = l'
  · rw [if_pos hl] at h
    cases hr : t[l']? with
    | none => rw [hr] at h; cases h
    | some r =>
      rw [hr] at h
      simp only [Option.map_some, Option.some.injEq] at h
      rw [← h, Array.size_setIfInBounds]
      exact hs.2 l' r hr
  · rw [if_neg hl] at h; exact hs.2 l' row h

def hBlank (lmax c : Nat) : T2 := Array.replicate (lmax + 1) (Array.replicate (c + 1) none)

theorem hBlank_shape (lmax c : Nat) : Shape lmax c (hBlank lmax c) := by
  refine ⟨by simp [hBlank], ?_⟩
  intro l row h
  simp only [hBlank, Array.getElem?_replicate] at h
  split at h
  · injection h with h; rw [← h]; simp
  · cases h

theorem hBlank_g2 (lmax c l m : Nat) : g2 (hBlank lmax c) l m = none := by
  simp only [g2_eq, hBlank, Array.getElem?_replicate]
  split
  · simp only [Option.getD_some, Array.getElem?_replicate]
    split <;> rfl
  · rfl

/-- cells are `(l, m)`; the tables are filled column by column, each column top-down -/
def lt2 (x y : Nat × Nat) : Prop := x.2 < y.2 ∨ (x.2 = y.2 ∧ x.1 < y.1)

def AgreeBefore (σ σ' : T2 × T2) (k : Nat × Nat) : Prop :=
  ∀ x, lt2 x k → g2 σ.1 x.1 x.2 = g2 σ'.1 x.1 x.2 ∧ g2 σ.2 x.1 x.2 = g2 σ'.2 x.1 x.2

def writeStep (F G : T2 × T2 → Nat × Nat → Option Nat) (σ : T2 × T2) (k : Nat × Nat) : T2 × T2 :=
  (s2 σ.1 k.1 k.2 (F σ k), s2 σ.2 k.1 k.2 (G σ k))

/-- A fold of writes at strictly increasing cells, where the value written at `k` depends only on
cells before `k`: shapes are kept, other cells are untouched, and each written cell satisfies its
equation in the FINAL state. -/
theorem writes_spec {lmax c c' : Nat} (F G : T2 × T2 → Nat × Nat → Option Nat) :
    ∀ (ks : List (Nat × Nat)) (σ : T2 × T2),
      (∀ σ σ', ∀ k ∈ ks, AgreeBefore σ σ' k → F σ k = F σ' k ∧ G σ k = G σ' k) →
      ks.Pairwise lt2 →
      (∀ k ∈ ks, k.1 ≤ lmax ∧ k.2 ≤ c ∧ k.2 ≤ c') → Shape lmax c σ.1 → Shape lmax c' σ.2 →
      Shape lmax c (ks.foldl (writeStep F G) σ).1 ∧ Shape lmax c' (ks.foldl (writeStep F G) σ).2 ∧
      (∀ x, x ∉ ks → g2 (ks.foldl (writeStep F G) σ).1 x.1 x.2 = g2 σ.1 x.1 x.2 ∧
        g2 (ks.foldl (writeStep F G) σ).2 x.1 x.2 = g2 σ.2 x.1 x.2) ∧
      ∀ k ∈ ks, g2 (ks.foldl (writeStep F G) σ).1 k.1 k.2 = F (ks.foldl (writeStep F G) σ) k ∧
        g2 (ks.foldl (writeStep F G) σ).2 k.1 k.2 = G (ks.foldl (writeStep F G) σ) k := by
  intro ks
  induction ks with
  | nil => intro σ _ _ _ h1 h2; exact ⟨h1, h2, fun _ _ => ⟨rfl, rfl⟩, fun k hk => by cases hk⟩
  | cons k ks ih =>
    intro σ hloc hpw hin h1 h2
    obtain ⟨hk, hpw'⟩ := pairwise_cons.1 hpw
    obtain ⟨hkl, hkc, hkc'⟩ := hin k mem_cons_self
    rw [foldl_cons]
    have s1 : Shape lmax c (writeStep F G σ k).1 := h1.s2 _ _ _
    have s2' : Shape lmax c' (writeStep F G σ k).2 := h2.s2 _ _ _
    obtain ⟨i1, i2, i3, i4⟩ := ih (writeStep F G σ k)
      (fun σ σ' k' hk' => hloc σ σ' k' (mem_cons_of_mem _ hk')) hpw' (fun k' hk' => hin k' (mem_cons_of_mem _ hk')) s1 s2'
    have hirr : ∀ x : Nat × Nat, ¬ lt2 x x := by
      intro x h; rcases h with h | ⟨_, h⟩ <;> omega
    have hasym : ∀ x y : Nat × Nat, lt2 x y → ¬ lt2 y x := by
      intro x y h h'; rcases h with h | ⟨h, h2⟩ <;> rcases h' with h' | ⟨h', h3⟩ <;> omega
    have hknot : k ∉ ks := fun hmem => hirr k (hk k hmem)
    refine ⟨i1, i2, ?_, ?_⟩
    · intro x hx
      have hxk : x ≠ k := fun h => hx (h ▸ mem_cons_self)
      have hxks : x ∉ ks := fun h => hx (mem_cons_of_mem _ h)
      have hne : ¬ (k.1 = x.1 ∧ k.2 = x.2) := fun h => hxk (Prod.ext h.1.symm h.2.symm)
      obtain ⟨a, b⟩ := i3 x hxks
      exact ⟨by rw [a]; exact g2_s2_ne _ _ _ _ _ _ hne, by rw [b]; exact g2_s2_ne _ _ _ _ _ _ hne⟩
    · intro k' hk'
      rcases mem_cons.1 hk' with rfl | hk'
      · obtain ⟨a, b⟩ := i3 k' hknot
        -- the final state agrees with `σ` before `k'`
        have hag : AgreeBefore σ (ks.foldl (writeStep F G) (writeStep F G σ k')) k' := by
          intro x hx
          have hxk : x ≠ k' := fun h => hirr k' (h ▸ hx)
          have hxks : x ∉ ks := fun h => hasym x k' hx (hk x h)
          have hne : ¬ (k'.1 = x.1 ∧ k'.2 = x.2) := fun h => hxk (Prod.ext h.1.symm h.2.symm)
          obtain ⟨a', b'⟩ := i3 x hxks
          exact ⟨by rw [a']; exact (g2_s2_ne _ _ _ _ _ _ hne).symm,
            by rw [b']; exact (g2_s2_ne _ _ _ _ _ _ hne).symm⟩
        obtain ⟨hF, hG⟩ := hloc _ _ k' mem_cons_self hag
        rw [a, b, ← hF, ← hG]
        exact ⟨g2_s2_eq h1 _ _ _ hkl hkc, g2_s2_eq h2 _ _ _ hkl hkc'⟩
      · exact i4 k' hk'

/-- nested loops (outer `m`, inner `l`) as one fold over the cells `(l, m)` -/
theorem nested_fold_eq {σT : Type} (step : σT → Nat × Nat → σT) (ms ls : List Nat) (σ : σT) :
    ms.foldl (fun p m => ls.foldl (fun p l => step p (l, m)) p) σ =
      (ms.flatMap (fun m => ls.map (fun l => (l, m)))).foldl step σ := by
  rw [foldl_flatMap]
  congr 1
  funext p m
  rw [foldl_map]

/-- the cells `(l, m)`, `m0 ≤ m < m0 + nm`, `l0 ≤ l < l0 + nl`, in the order of the nested loops -/
def cells (m0 nm l0 nl : Nat) : List (Nat × Nat) :=
  (List.range' m0 nm).flatMap (fun m => (List.range' l0 nl).map (fun l => (l, m)))

theorem cells_pairwise (m0 nm l0 nl : Nat) : (cells m0 nm l0 nl).Pairwise lt2 := by
  rw [cells, pairwise_flatMap]
  constructor
  · intro m _
    rw [pairwise_map]
    exact (pairwise_lt_range' (s := l0) (n := nl)).imp (fun h => Or.inr ⟨rfl, h⟩)
  · refine (pairwise_lt_range' (s := m0) (n := nm)).imp ?_
    intro a b hab x hx y hy
    obtain ⟨_, _, rfl⟩ := mem_map.1 hx
    obtain ⟨_, _, rfl⟩ := mem_map.1 hy
    exact Or.inl hab

theorem mem_cells {m0 nm l0 nl l m : Nat} :
    (l, m) ∈ cells m0 nm l0 nl ↔ (m0 ≤ m ∧ m < m0 + nm) ∧ (l0 ≤ l ∧ l < l0 + nl) := by
  rw [cells, mem_flatMap]
  constructor
  · rintro ⟨m', hm, hx⟩
    obtain ⟨l', hl, h⟩ := mem_map.1 hx
    cases h
    exact ⟨mem_range'_1.1 hm, mem_range'_1.1 hl⟩
  · rintro ⟨hm, hl⟩
    exact ⟨m, mem_range'_1.2 hm, mem_map.2 ⟨l, mem_range'_1.2 hl, rfl⟩⟩

theorem ole_none (a : Option Nat) : ole a none = true := by cases a <;> simp [ole, olt]

theorem oadd_mono {a a' b b' : Option Nat} (h1 : ole a a' = true) (h2 : ole b b' = true) :
    ole (oadd a b) (oadd a' b') = true := by
  cases a <;> cases a' <;> cases b <;> cases b' <;> simp [ole, olt, oadd] at *
  omega

theorem omin_le_left (a b : Option Nat) : ole (omin a b) a = true := by
  unfold omin
  split
  · rename_i h; exact ole_of_olt h
  · exact ole_refl a

theorem omin_le_right (a b : Option Nat) : ole (omin a b) b = true := by
  unfold omin
  split
  · exact ole_refl b
  · rename_i h; simpa [ole] using h

theorem omin_mono {a a' b b' : Option Nat} (h1 : ole a a' = true) (h2 : ole b b' = true) :
    ole (omin a b) (omin a' b') = true := by
  have e : omin a' b' = a' ∨ omin a' b' = b' := by unfold omin; split <;> simp
  rcases e with e | e <;> rw [e]
  · exact ole_trans (omin_le_left a b) h1
  · exact ole_trans (omin_le_right a b) h2

theorem isSome_of_ole_some {a : Option Nat} {n : Nat} (h : ole a (some n) = true) : a.isSome = true := by
  cases a <;> simp [ole, olt] at *

theorem ominList_mono (L L' : List (Option Nat))
    (h : ∀ y ∈ L', ∃ x ∈ L, ole x y = true) : ole (ominList L) (ominList L') = true := by
  by_cases hne : L' = []
  · subst hne; exact ole_none _
  · obtain ⟨x, hx, hxy⟩ := h _ (ominList_mem L' hne)
    exact ole_trans (ominList_le L x hx) hxy

theorem ominList_isSome_of_mem (L : List (Option Nat)) (n : Nat) (h : some n ∈ L) :
    (ominList L).isSome = true :=
  isSome_of_ole_some (ominList_le L _ h)

end Ckpt.RC
