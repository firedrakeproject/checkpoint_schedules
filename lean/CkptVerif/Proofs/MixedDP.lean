import CkptVerif.Proofs.DP
/-!
# `optimal_steps_mixed` agrees with the cost computed by `mixed_step_memoization`

Both kernels compute, for a valid clamped key `(n, s)` with `n > s + 1`, `s ≥ 2`, the minimum of
`1 + cost(n-1, s-1)` and of `i + cost(i, s) + cost(n-i, s-1)` over `2 ≤ i < n`; the planner keeps
the last minimiser and compares with the `WRITE_ADJ_DEPS` candidate at the end, the helper folds
`min` starting from that candidate.  The running minimum `minFold` and its order facts are here too
(the loop of `optimal_extra_steps` is one as well, `Proofs/ExtraRec.lean`).
-/
namespace Ckpt

/-! ## the running minimum -/

/-- running minimum of `cand` over a list -/
def minFold (cand : Nat → Nat) (b : Nat) (l : List Nat) : Nat :=
  l.foldl (fun m i => min m (cand i)) b

theorem minFold_nil (cand : Nat → Nat) (b : Nat) : minFold cand b [] = b := rfl

theorem minFold_cons (cand : Nat → Nat) (b x : Nat) (l : List Nat) :
    minFold cand b (x :: l) = minFold cand (min b (cand x)) l := rfl

theorem minFold_min (cand : Nat → Nat) (a b : Nat) (l : List Nat) :
    minFold cand (min a b) l = min a (minFold cand b l) := by
  induction l generalizing b with
  | nil => rfl
  | cons x xs ih => rw [minFold_cons, minFold_cons, Nat.min_assoc, ih]

theorem minFold_le_init (cand : Nat → Nat) (b : Nat) (l : List Nat) : minFold cand b l ≤ b := by
  induction l generalizing b with
  | nil => exact Nat.le_refl _
  | cons x xs ih => rw [minFold_cons]; exact Nat.le_trans (ih _) (Nat.min_le_left _ _)

theorem minFold_le_mem (cand : Nat → Nat) (b : Nat) (l : List Nat) (i : Nat) (hi : i ∈ l) :
    minFold cand b l ≤ cand i := by
  induction l generalizing b with
  | nil => cases hi
  | cons x xs ih =>
    rw [minFold_cons]
    rcases List.mem_cons.mp hi with rfl | hi
    · exact Nat.le_trans (minFold_le_init _ _ _) (Nat.min_le_right _ _)
    · exact ih _ hi

theorem minFold_ge (cand : Nat → Nat) (b : Nat) (l : List Nat) (c : Nat) (hb : c ≤ b)
    (hl : ∀ i ∈ l, c ≤ cand i) : c ≤ minFold cand b l := by
  induction l generalizing b with
  | nil => exact hb
  | cons x xs ih =>
    rw [minFold_cons]
    exact ih _ (Nat.le_min.mpr ⟨hb, hl x (List.mem_cons_self ..)⟩)
      (fun i hi => hl i (List.mem_cons_of_mem _ hi))

theorem minFold_attained (cand : Nat → Nat) (b : Nat) (l : List Nat) :
    minFold cand b l = b ∨ ∃ i ∈ l, minFold cand b l = cand i := by
  induction l generalizing b with
  | nil => left; rfl
  | cons x xs ih =>
    rw [minFold_cons]
    rcases ih (min b (cand x)) with h | ⟨i, hi, h⟩
    · rcases Nat.le_total b (cand x) with hle | hle
      · left; rw [h, Nat.min_eq_left hle]
      · right; exact ⟨x, List.mem_cons_self .., by rw [h, Nat.min_eq_right hle]⟩
    · right; exact ⟨i, List.mem_cons_of_mem _ hi, h⟩

theorem minFold_mono (cand cand' : Nat → Nat) (b b' : Nat) (l : List Nat) (hb : b ≤ b')
    (hl : ∀ i ∈ l, cand i ≤ cand' i) : minFold cand b l ≤ minFold cand' b' l :=
  minFold_ge cand' b' l _ (Nat.le_trans (minFold_le_init _ _ _) hb)
    (fun i hi => Nat.le_trans (minFold_le_mem cand b l i hi) (hl i hi))

/-! ## the two folds compute the same minimum -/

/-- from a `some` accumulator the planner's loop stays `some`, with the running minimum as cost -/
theorem memoStep_fold_some (cand : Nat → Nat) (l : List Nat) (c : Cell) :
    ∃ c', l.foldl (memoStep cand) (some c) = some c' ∧ c'.cost = minFold cand c.cost l := by
  induction l generalizing c with
  | nil => exact ⟨c, rfl, rfl⟩
  | cons x xs ih =>
    rw [List.foldl_cons, minFold_cons, memoStep_some]
    by_cases hx : cand x ≤ c.cost
    · rw [if_pos hx]
      obtain ⟨c', h1, h2⟩ := ih ⟨stWriteIcs, x, cand x⟩
      exact ⟨c', h1, by rw [h2, Nat.min_eq_right hx]⟩
    · rw [if_neg hx]
      obtain ⟨c', h1, h2⟩ := ih c
      exact ⟨c', h1, by rw [h2, Nat.min_eq_left (by omega)]⟩

/-- the planner's loop (over a non-empty range) followed by the final comparison has the cost
computed by the `min`-fold -/
theorem memoFinish_fold_cost (cand : Nat → Nat) (m1 : Nat) (l : List Nat) (hne : l ≠ []) :
    (memoFinish m1 (l.foldl (memoStep cand) none)).cost = minFold cand m1 l := by
  obtain ⟨x, xs, rfl⟩ := List.exists_cons_of_ne_nil hne
  rw [List.foldl_cons]
  have e : memoStep cand none x = some ⟨stWriteIcs, x, cand x⟩ := rfl
  rw [e]
  obtain ⟨c', h1, h2⟩ := memoStep_fold_some cand xs ⟨stWriteIcs, x, cand x⟩
  rw [h1, minFold_cons, minFold_min, memoFinish_some, ← h2]
  by_cases hlt : m1 < c'.cost
  · rw [if_pos hlt, Nat.min_eq_left (by omega)]
  · rw [if_neg hlt, Nat.min_eq_right (by omega)]

/-! ## triangular numbers (the one-unit values) -/

theorem tri_succ (m : Nat) : (m + 1) * (m + 1 + 1) / 2 = m * (m + 1) / 2 + (m + 1) := by
  have e : (m + 1) * (m + 1 + 1) = m * (m + 1) + (m + 1) * 2 := by
    rw [Nat.mul_add (m + 1) (m + 1) 1, Nat.mul_one, Nat.add_mul m 1 (m + 1), Nat.one_mul,
      Nat.mul_two]
    omega
  rw [e, Nat.add_mul_div_right _ _ (by omega : 0 < 2)]

theorem tri_ge (m : Nat) (hm : 2 ≤ m) : m + 1 ≤ m * (m + 1) / 2 := by
  obtain ⟨j, rfl⟩ : ∃ j, m = j + 2 := ⟨m - 2, by omega⟩
  induction j with
  | zero => decide
  | succ j ih => rw [show j + 1 + 2 = j + 2 + 1 by omega, tri_succ]; omega

/-! ## valid keys -/

theorem validKey_iff (n s : Nat) : validKey n s = true ↔ 1 ≤ n ∧ min 1 (n - 1) ≤ s ∧ s ≤ n - 1 := by
  unfold validKey
  rw [Bool.and_eq_true, Bool.and_eq_true, decide_eq_true_eq, decide_eq_true_eq, decide_eq_true_eq]
  exact and_assoc

/-- validity of a clamped key -/
theorem validKey_clamp_iff (ni si : Nat) :
    validKey ni (clampS ni si) = true ↔ 1 ≤ ni ∧ (ni = 1 ∨ 1 ≤ si) := by
  rw [validKey_iff]; unfold clampS; omega

theorem validKey_left (n s i : Nat) (_hn : s + 1 < n) (hs : 2 ≤ s) (h2 : 2 ≤ i) (_hi : i < n) :
    validKey i (clampS i s) = true :=
  (validKey_clamp_iff i s).2 ⟨by omega, by omega⟩

theorem validKey_right (n s i : Nat) (_hn : s + 1 < n) (hs : 2 ≤ s) (_h2 : 1 ≤ i) (hi : i < n) :
    validKey (n - i) (clampS (n - i) (s - 1)) = true :=
  (validKey_clamp_iff (n - i) (s - 1)).2 ⟨by omega, by omega⟩

/-! ## the main statement -/

theorem optMixed_eq_memo_cost (n s : Nat) (h : validKey n s = true) :
    optMixedCell n s = (memoCell n s).cost := by
  induction n using Nat.strongRecOn generalizing s with
  | ind n ih =>
    rw [validKey_iff] at h
    rw [optMixedCell_eq, memoCell_eq, optMixedF_def, memoF_def]
    by_cases h1 : n ≤ 1
    · have h1' : n ≤ s + 1 := by omega
      have hn : n = 1 := by omega
      rw [if_pos h1, if_pos h1', hn]
    · rw [if_neg h1]
      by_cases h2 : n ≤ s + 1
      · rw [if_pos h2, if_pos h2]
      · rw [if_neg h2, if_neg h2]
        by_cases h3 : s = 1
        · rw [if_pos h3, if_pos h3]
        · rw [if_neg h3, if_neg h3]
          have hs : 2 ≤ s := by omega
          have hn : s + 1 < n := by omega
          -- the candidates agree by the induction hypothesis
          have hlast : optMixedCell (n - 1) (clampS (n - 1) (s - 1)) =
              (memoCell (n - 1) (clampS (n - 1) (s - 1))).cost :=
            ih (n - 1) (by omega) _ (validKey_right n s 1 hn hs (by omega) (by omega))
          have hcand : ∀ i, i ∈ List.range' 2 (n - 2) →
              splitCand n s optMixedCell i =
                splitCand n s (fun i j => (memoCell i j).cost) i := by
            intro i hi
            rw [List.mem_range'_1] at hi
            unfold splitCand
            rw [ih i (by omega) _ (validKey_left n s i hn hs (by omega) (by omega)),
              ih (n - i) (by omega) _ (validKey_right n s i hn hs (by omega) (by omega))]
          have hfold : ∀ b, (List.range' 2 (n - 2)).foldl
                (fun m i => min m (splitCand n s optMixedCell i)) b =
              minFold (splitCand n s (fun i j => (memoCell i j).cost)) b
                (List.range' 2 (n - 2)) := by
            intro b
            unfold minFold
            apply foldl_congr_mem
            intro a i hi
            show min a _ = min a _
            rw [hcand i hi]
          rw [hfold, hlast]
          exact (memoFinish_fold_cost _ _ _ ((List.range'_ne_nil_iff 2).2 (by omega))).symm

/-- in terms of the cached entry points (including the `ValueError` cases) -/
theorem optMixedSpec_eq_memoSpec_cost (n s : Nat) :
    optMixedSpec n s = (memoSpec n s).map (·.cost) := by
  show (if validKey n (clampS n s) = true then some (optMixedCell n (clampS n s)) else none) =
    Option.map (·.cost)
      (if validKey n (clampS n s) = true then some (memoCell n (clampS n s)) else none)
  by_cases h : validKey n (clampS n s) = true
  · rw [if_pos h, if_pos h, Option.map_some, optMixed_eq_memo_cost n _ h]
  · rw [if_neg h, if_neg h, Option.map_none]

end Ckpt
