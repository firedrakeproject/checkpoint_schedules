import CkptVerif.Proofs.HRevolveStruct
import CkptVerif.Proofs.HOptTables
/-!
# `hoptTable` as folds of cell writes, and the split it guarantees

`hoptTable_eq` reads the loops of `hoptTable` as folds (`hBorder`, `hLevel0`, `hLevel1`; `h1Step` is one
cell of the level-1 loop).  `InB2 t l m`: the cell is within the bounds of `t`, so that a write there is
read back (`g2_s2_same`).

`hoptTable_split`, from the level-1 recurrence `RC.hopt1_rec`
`optp[1][l][m] = min (opt[0][l][c0] :: [j·uf + opt[1][l-j][m-1] + r1 + optp[1][j-1][m] | 1 ≤ j < l])`
and `optp[1][l][m] = ∞` for `l ≥ 2` outside `1 ≤ m ≤ c1`, `l ≤ lmax`: whenever `hR` decides to write a
DISK checkpoint, `hA` finds a split (`tabOk_hCtxOf`).
-/
namespace Ckpt

abbrev Tab2 := Array (Array (Option Nat))

def hBlank (lmax c : Nat) : Tab2 := Array.replicate (lmax + 1) (Array.replicate (c + 1) none)

/-- the border initialisation of one level -/
def hBorder (lmax w0 r0 ub uf : Nat) (k c : Nat) (tp t : Tab2) : Tab2 × Tab2 :=
  let q := (List.range (c + 1)).foldl (fun (p : Tab2 × Tab2) m =>
    (s2 p.1 0 m (some ub), s2 p.2 0 m (some ub))) (tp, t)
  (List.range (c + 1)).foldl (fun (p : Tab2 × Tab2) m =>
    if (m = 0 ∧ k = 0) ∨ lmax < 1 then p else
    let v := uf + 2 * ub + r0
    (s2 p.1 1 m (some v), s2 p.2 1 m (some (w0 + v)))) q

/-- level 0 (not analysed here) -/
def hLevel0 (lmax c0 w0 r0 ub uf : Nat) : Tab2 × Tab2 :=
  let b := hBorder lmax w0 r0 ub uf 0 c0 (hBlank lmax c0) (hBlank lmax c0)
  let q := (List.range' 2 (lmax - 1)).foldl (fun (p : Tab2 × Tab2) l =>
      let v := (l + 1) * ub + l * (l + 1) / 2 * uf + l * r0
      (s2 p.1 l 1 (some v), s2 p.2 l 1 (some (w0 + v)))) b
  (List.range' 2 (c0 - 1)).foldl (fun (p : Tab2 × Tab2) m =>
      (List.range' 2 (lmax - 1)).foldl (fun (p : Tab2 × Tab2) l =>
        let cands := (List.range' 1 (l - 1)).map (fun j =>
          oadd (oadd (oadd (some (j * uf)) (g2 p.2 (l - j) (m - 1))) (some r0)) (g2 p.1 (j - 1) m))
        let v := ominList (cands ++ [g2 p.1 l 1])
        (s2 p.1 l m v, s2 p.2 l m (oadd (some w0) v))) p) q

/-- the candidates of the level-1 recurrence, read from the tables `p` -/
def h1Cands (uf r1 : Nat) (p : Tab2 × Tab2) (m l : Nat) : List (Option Nat) :=
  (List.range' 1 (l - 1)).map (fun j =>
    oadd (oadd (oadd (some (j * uf)) (g2 p.2 (l - j) (m - 1))) (some r1)) (g2 p.1 (j - 1) m))

def h1Val (uf r1 : Nat) (o : Option Nat) (p : Tab2 × Tab2) (m l : Nat) : Option Nat :=
  ominList ([o] ++ h1Cands uf r1 p m l)

def h1Step (c0 w1 r1 uf : Nat) (o0 : Tab2) (p : Tab2 × Tab2) (m l : Nat) : Tab2 × Tab2 :=
  (s2 p.1 l m (h1Val uf r1 (g2 o0 l c0) p m l),
   s2 p.2 l m (omin (g2 o0 l c0) (oadd (some w1) (h1Val uf r1 (g2 o0 l c0) p m l))))

def hLevel1 (lmax c0 c1 w1 r1 uf : Nat) (o0 : Tab2) (init : Tab2 × Tab2) : Tab2 × Tab2 :=
  (List.range' 1 c1).foldl (fun (p : Tab2 × Tab2) m =>
    (List.range' 1 lmax).foldl (fun (p : Tab2 × Tab2) l => h1Step c0 w1 r1 uf o0 p m l) p)
    (init.1, (List.range' 2 (lmax - 1)).foldl (fun o l => s2 o l 0 (g2 o0 l c0)) init.2)

theorem hoptTable_eq (lmax c0 c1 w0 w1 r0 r1 ub uf : Nat) :
    hoptTable lmax c0 c1 w0 w1 r0 r1 ub uf =
      { optp0 := (hLevel0 lmax c0 w0 r0 ub uf).1
        opt0 := (hLevel0 lmax c0 w0 r0 ub uf).2
        optp1 := (hLevel1 lmax c0 c1 w1 r1 uf (hLevel0 lmax c0 w0 r0 ub uf).2
          (hBorder lmax w0 r0 ub uf 1 c1 (hBlank lmax c1) (hBlank lmax c1))).1
        opt1 := (hLevel1 lmax c0 c1 w1 r1 uf (hLevel0 lmax c0 w0 r0 ub uf).2
          (hBorder lmax w0 r0 ub uf 1 c1 (hBlank lmax c1) (hBlank lmax c1))).2 } := rfl

theorem g2_eq (t : Tab2) (l m : Nat) : g2 t l m = ((t[l]?.getD #[])[m]?).getD none :=
  RC.g2_eq t l m

theorem s2_row (t : Tab2) (a b : Nat) (v : Option Nat) (l : Nat) :
    (s2 t a b v)[l]? = if a = l then t[l]?.map (fun row => row.setIfInBounds b v) else t[l]? :=
  Array.getElem?_modify

def InB2 (t : Tab2) (l m : Nat) : Prop := ∃ row, t[l]? = some row ∧ m < row.size

theorem InB2_s2 (t : Tab2) (a b : Nat) (v : Option Nat) (l m : Nat) (h : InB2 t l m) :
    InB2 (s2 t a b v) l m := by
  obtain ⟨row, hr, hs⟩ := h
  by_cases hal : a = l
  · refine ⟨row.setIfInBounds b v, ?_, ?_⟩
    · rw [s2_row, if_pos hal, hr, Option.map_some]
    · rw [Array.size_setIfInBounds]; exact hs
  · exact ⟨row, by rw [s2_row, if_neg hal, hr], hs⟩

theorem g2_s2_same (t : Tab2) (a b : Nat) (v : Option Nat) (h : InB2 t a b) :
    g2 (s2 t a b v) a b = v := by
  obtain ⟨row, hr, hs⟩ := h
  rw [g2_eq, s2_row, if_pos rfl, hr, Option.map_some, Option.getD_some,
    Array.getElem?_setIfInBounds_self_of_lt hs, Option.getD_some]

theorem InB2_hBlank (lmax c l m : Nat) (h1 : l ≤ lmax) (h2 : m ≤ c) : InB2 (hBlank lmax c) l m := by
  refine ⟨Array.replicate (c + 1) none, ?_, ?_⟩
  · unfold hBlank; rw [Array.getElem?_replicate, if_pos (by omega)]
  · rw [Array.size_replicate]; omega

theorem foldl_inv {σ α : Type} (P : σ → Prop) (f : σ → α → σ) (l : List α)
    (hf : ∀ s x, x ∈ l → P s → P (f s x)) (init : σ) (h : P init) : P (l.foldl f init) := by
  induction l generalizing init with
  | nil => exact h
  | cons x xs ih =>
    rw [List.foldl_cons]
    exact ih (fun s y hy => hf s y (List.mem_cons_of_mem _ hy)) _
      (hf init x (List.mem_cons_self ..) h)

theorem olt_of_olt_oadd (w : Nat) (a b : Option Nat) (h : olt (oadd (some w) a) b = true) :
    olt a b = true := by
  cases a <;> cases b <;> simp [oadd, olt] at h ⊢
  omega

theorem olt_ominList_of_cons (o : Option Nat) (cands : List (Option Nat))
    (h : olt (ominList ([o] ++ cands)) o = true) : olt (ominList cands) o = true := by
  have hmem := ominList_mem ([o] ++ cands) (by simp)
  rcases List.mem_append.1 hmem with h1 | h1
  · rw [List.mem_singleton] at h1
    rw [h1, olt_irrefl] at h
    cases h
  · exact olt_of_ole_of_olt (ominList_le cands _ h1) h

/-- for the tables `hrevolveEvs` builds: if writing to DISK is cheaper than the memory-only
solution, the DISK recurrence attains its minimum at a proper split -/
theorem hoptTable_split (lmax c0 c1 w0 w1 r0 r1 ub uf : Nat) (l cm : Nat) (hl : 2 ≤ l) (w : Nat)
    (h : olt (oadd (some w) ((hoptTable lmax c0 c1 w0 w1 r0 r1 ub uf).optp 1 l cm))
      ((hoptTable lmax c0 c1 w0 w1 r0 r1 ub uf).opt 0 l c0) = true) :
    cm ≠ 0 ∧
    olt (ominList ((List.range' 1 (l - 1)).map (fun j =>
      oadd (oadd (oadd (some (j * uf))
        ((hoptTable lmax c0 c1 w0 w1 r0 r1 ub uf).opt 1 (l - j) (cm - 1))) (some r1))
        ((hoptTable lmax c0 c1 w0 w1 r0 r1 ub uf).optp 1 (j - 1) cm))))
      ((hoptTable lmax c0 c1 w0 w1 r0 r1 ub uf).opt 0 l c0) = true := by
  have h' := olt_of_olt_oadd w _ _ h
  have hno : ∀ o : Option Nat, olt none o ≠ true := fun o => by cases o <;> simp [olt]
  by_cases hout : lmax < l ∨ c1 < cm
  · rw [RC.hopt1_outside lmax c0 c1 w0 w1 r0 r1 ub uf l cm hout] at h'
    exact absurd h' (hno _)
  · rcases Nat.eq_zero_or_pos cm with rfl | hcm
    · rw [(RC.hopt1_col0 lmax c0 c1 w0 w1 r0 r1 ub uf l hl (by omega)).1] at h'
      exact absurd h' (hno _)
    · rw [(RC.hopt1_rec lmax c0 c1 w0 w1 r0 r1 ub uf l cm (by omega) (by omega) hcm (by omega)).1] at h'
      exact ⟨by omega, olt_ominList_of_cons _ _ h'⟩

end Ckpt
