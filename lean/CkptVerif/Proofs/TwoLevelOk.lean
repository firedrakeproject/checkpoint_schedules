import CkptVerif.Model.Online
import CkptVerif.Spec.Configs
import CkptVerif.Proofs.SegOk
import CkptVerif.Proofs.BasicOk
/-!
# TwoLevelCheckpointSchedule is accepted by the specification executor

for every period `p ≥ 1`, every number `b` of binomial units, binomial storage RAM or DISK, both
trajectories, every `N ≥ 1` and every number `k ≥ 1` of adjoint calculations: the observations of
the canonical trace run through the executor from `XS.init` without a violation of any tag.

The periodic DISK checkpoints written by the forward sweep (`sweepCps`) stay in storage for the
whole run; each period block is a binomial segment whose depth-0 level re-loads its periodic
checkpoint by `Copy` (`level0_ok`), and whose deeper levels are an ordinary binomial segment on
`b` units (`segWith_ok`, after `segWith_persist_irrel` and `segWith_shift`).
-/
namespace Ckpt.On

/-- above depth 0 the `persist` flag is irrelevant -/
theorem segWith_persist_irrel (N : Nat) (σ : Nat → Nat → Option Nat) (S : Nat) (alloc : Nat → Storage) :
    ∀ (fuel : Nat) (sd sp : Bool) (lo hi d : Nat), 1 ≤ d →
      segWith N σ S alloc true fuel sd sp lo hi d = segWith N σ S alloc false fuel sd sp lo hi d := by
  intro fuel
  induction fuel with
  | zero => intros; rfl
  | succ fuel ih =>
    intro sd sp lo hi d hd
    have hd0 : d ≠ 0 := by omega
    have ih1 : ∀ sd sp lo hi, segWith N σ S alloc true fuel sd sp lo hi (d + 1)
        = segWith N σ S alloc false fuel sd sp lo hi (d + 1) := fun _ _ _ _ => ih _ _ _ _ _ (by omega)
    have ih0 : ∀ sd sp lo hi, segWith N σ S alloc true fuel sd sp lo hi d
        = segWith N σ S alloc false fuel sd sp lo hi d := fun _ _ _ _ => ih _ _ _ _ _ hd
    simp only [segWith, ih1, ih0, hd0, and_false, Bool.false_eq_true, if_false]

/-- a segment at depth `d+1` is the segment at depth `d` of the stack without its bottom -/
theorem segWith_shift (N : Nat) (σ : Nat → Nat → Option Nat) (S : Nat) (alloc : Nat → Storage) :
    ∀ (fuel : Nat) (sd sp : Bool) (lo hi d : Nat),
      segWith N σ S alloc false fuel sd sp lo hi (d + 1)
        = segWith N σ (S - 1) (fun i => alloc (i + 1)) false fuel sd sp lo hi d := by
  intro fuel
  induction fuel with
  | zero => intros; rfl
  | succ fuel ih =>
    intro sd sp lo hi d
    have e : S - (d + 1) = S - 1 - d := by omega
    simp only [segWith, ih, e, Bool.false_eq_true, false_and, if_false]

/-- storage after `j` Forwards of the online sweep: restart checkpoints at the multiples of the
period, most recent first -/
def sweepCps (p N : Nat) : Nat → List Cp
  | 0 => []
  | j+1 => ⟨j * p, .disk, min p (N - j * p), 0⟩ :: sweepCps p N j

theorem sweepCps_mem {p N j : Nat} {c : Cp} (h : c ∈ sweepCps p N j) :
    ∃ i, i < j ∧ c = ⟨i * p, .disk, min p (N - i * p), 0⟩ := by
  induction j with
  | zero => simp [sweepCps] at h
  | succ j ih =>
    rcases List.mem_cons.mp h with rfl | h'
    · exact ⟨j, by omega, rfl⟩
    · obtain ⟨i, hi, hc⟩ := ih h'
      exact ⟨i, by omega, hc⟩

theorem countSt_sweepCps (p N j : Nat) (s : Storage) :
    countSt (sweepCps p N j) s = if .disk = s then j else 0 := by
  induction j with
  | zero => simp [sweepCps, countSt]
  | succ j ih => rw [sweepCps, countSt_cons, ih]; split <;> simp [Nat.add_comm]

theorem findCp_sweepCps_none (p N j : Nat) (hp : 1 ≤ p) (st : Storage) :
    findCp (sweepCps p N j) (j * p) st = none := by
  unfold findCp
  rw [List.find?_eq_none]
  intro c hc
  obtain ⟨i, hi, rfl⟩ := sweepCps_mem hc
  have : i * p < j * p := Nat.mul_lt_mul_of_pos_right hi hp
  exact fun h => absurd (of_decide_eq_true h).1 (Nat.ne_of_lt this)

theorem findCp_sweepCps (p N q blk : Nat) (hp : 1 ≤ p) (h : blk < q) :
    findCp (sweepCps p N q) (blk * p) .disk = some ⟨blk * p, .disk, min p (N - blk * p), 0⟩ := by
  induction q with
  | zero => exact absurd h (Nat.not_lt_zero _)
  | succ q ih =>
    by_cases hk : blk = q
    · subst hk; simp [sweepCps, findCp]
    · have hq : blk < q := Nat.lt_of_le_of_ne (Nat.le_of_lt_succ h) hk
      have := ih hq
      unfold findCp at this ⊢
      rw [sweepCps, List.find?_cons_of_neg]
      · exact this
      · have hlt : blk * p < q * p := Nat.mul_lt_mul_of_pos_right hq hp
        exact fun h => absurd (of_decide_eq_true h).1 (Nat.ne_of_gt hlt)

theorem sweepCps_outside (p N q blk : Nat) : Outside (sweepCps p N q) (blk * p + 1) (blk * p + p) := by
  intro c hc
  obtain ⟨i, _, rfl⟩ := sweepCps_mem hc
  rcases Nat.lt_or_ge blk i with h | h
  · right
    have : (blk + 1) * p ≤ i * p := Nat.mul_le_mul_right p h
    rw [Nat.succ_mul] at this
    exact this
  · left
    have : i * p ≤ blk * p := Nat.mul_le_mul_right p h
    show i * p < blk * p + 1
    omega

theorem ceilDiv_ge (N p : Nat) (hp : 1 ≤ p) : N ≤ ceilDiv N p * p := by
  unfold ceilDiv
  have h := Nat.lt_mul_div_succ (N + p - 1) (show 0 < p by omega)
  rw [Nat.mul_succ, Nat.mul_comm] at h
  omega

theorem ceilDiv_lt (N p blk : Nat) (hN : 1 ≤ N) (h : blk + 1 ≤ ceilDiv N p) : blk * p < N := by
  unfold ceilDiv at h
  have h1 : (blk + 1) * p ≤ (N + p - 1) / p * p := Nat.mul_le_mul_right p h
  have h2 := Nat.div_mul_le_self (N + p - 1) p
  rw [Nat.succ_mul] at h1
  omega

theorem ceilDiv_pos (N p : Nat) (hp : 1 ≤ p) (hN : 1 ≤ N) : 1 ≤ ceilDiv N p := by
  have := ceilDiv_ge N p hp
  rcases Nat.eq_zero_or_pos (ceilDiv N p) with h | h
  · rw [h] at this; omega
  · exact h

/-- the depth-0 level of a period block: its restart checkpoint `⟨lo0, DISK, L, 0⟩` is one of
the periodic checkpoints (anywhere in `sweep`), re-loaded by `Copy` and never deleted; the levels
above it form a binomial segment on `b` units with labels `alloc (· + 1)`. -/
theorem level0_ok {cfg : Cfg} {N : Nat} {σ : Nat → Nat → Option Nat} {b : Nat} {alloc : Nat → Storage}
    {sweep : List Cp} {lo0 hi0 dn L : Nat}
    (H : SegHyp cfg N σ b (fun i => alloc (i + 1)) sweep (lo0 + 1) hi0 dn)
    (ha0 : alloc 0 = .disk)
    (hfind : findCp sweep lo0 .disk = some ⟨lo0, .disk, L, 0⟩)
    (hL : hi0 ≤ lo0 + L) (hL0 : 0 < L) (hhiN : hi0 ≤ N) :
    ∀ (fuel hi : Nat) (f : Option Nat) (sn : List Cp), hi - lo0 ≤ fuel → lo0 < hi → hi ≤ hi0 →
      ∃ evs, segWith N σ (b + 1) alloc true fuel true false lo0 hi 0 = some evs ∧
        Clean cfg (X f (N - hi) none none sweep true dn sn) (evs.map (Ev.obs · N))
          (X (some (lo0 + 1)) (N - lo0) none none sweep true dn sn) := by
  intro fuel
  have hcN := H.hN
  have hal := H.alive
  induction fuel with
  | zero => intro hi _ _ h1 h2; omega
  | succ fuel ih =>
    intro hi f sn hfuel hlt hhi
    obtain ⟨m, rfl⟩ := Nat.exists_eq_add_of_le hlt.le
    rw [Nat.add_sub_cancel_left] at hfuel
    have hm1 : 1 ≤ m := Nat.lt_add_right_iff_pos.mp hlt
    have hmN : lo0 + m ≤ N := hhi.trans hhiN
    have hsub : N - (N - (lo0 + m)) = lo0 + m := Nat.sub_sub_self hmN
    have hload := step_load cfg N false f lo0 L (N - (lo0 + m)) .disk sweep dn sn hcN hal rfl
      (by rw [hsub]; exact hhi.trans hL) (by rw [hsub]; exact hlt) hfind
    clear hsub
    by_cases hbase : lo0 + m = lo0 + 1
    · obtain rfl : m = 1 := Nat.add_left_cancel hbase
      refine ⟨_, segWith_unit N σ (b + 1) alloc true fuel true false lo0 0, ?_⟩
      simp only [and_self, if_true, Bool.false_eq_true, if_false, List.append_nil, List.cons_append,
        List.nil_append, List.map_cons, ha0]
      exact Clean.cons hload (turn_clean hcN hal lo0 false _ none sweep sn hmN (fun h => by cases h))
    · have hm2 : 2 ≤ m := Nat.lt_of_le_of_ne hm1 fun h => hbase (h ▸ rfl)
      obtain ⟨a, ha, ha1, ha2⟩ := H.range m (b + 1) hm2 (Nat.le_add_left 1 b)
      -- the split point is strictly inside: `0 < a < m`
      have ham : a + 1 ≤ m := Nat.add_le_of_le_sub hm1 ha2
      clear ha2
      have hmid : lo0 + a < lo0 + m := Nat.add_lt_add_left ham lo0
      have hunits : lo0 + a + 2 ≤ lo0 + m → 0 + 1 ≤ b := fun h =>
        Nat.le_of_succ_le_succ (seg_units_right H.one hm2 (Nat.le_add_left 1 b) ha
          (Nat.le_of_add_le_add_left (Nat.add_assoc lo0 a 2 ▸ h)))
      have hfr : lo0 + m - (lo0 + a) ≤ fuel := by
        rw [Nat.add_sub_add_left]
        exact Nat.sub_le_of_le_add (hfuel.trans (Nat.add_le_add_left ha1 fuel))
      -- the levels above: an ordinary segment on `b` units
      obtain ⟨right, sn1, hright, hsn1, hrun_right⟩ := segWith_ok false H fuel false false (lo0 + a) (lo0 + m) 0
        [] 0 (some (lo0 + a)) sn none none (fun h => by cases h)
        hfr hmid hmN (Nat.add_le_add_left ha1 lo0) hhi (fun h => by cases h) (fun h => by cases h)
        (fun c hc => by cases hc) trivial rfl hunits (fun _ => rfl) (fun h => by cases h)
      rw [hsn1 rfl] at hrun_right
      have hright' : segWith N σ (b + 1) alloc true fuel false false (lo0 + a) (lo0 + m) (0 + 1) = some right := by
        rw [segWith_persist_irrel N σ (b + 1) alloc fuel false false (lo0 + a) (lo0 + m) (0 + 1) (le_refl _),
          segWith_shift N σ (b + 1) alloc fuel false false (lo0 + a) (lo0 + m) 0]
        exact hright
      -- the depth-0 level again, on the left part
      obtain ⟨left, hleft, hrun_left⟩ := ih (lo0 + a) (some (lo0 + a + 1)) sn
        (by rw [Nat.add_sub_cancel_left]; exact Nat.le_of_succ_le_succ (ham.trans hfuel))
        (Nat.lt_add_of_pos_right ha1) (hmid.le.trans hhi)
      refine ⟨_, segWith_split N σ (b + 1) alloc true fuel true false lo0 (lo0 + m) 0 a right left hbase
        (by rwa [Nat.add_sub_cancel_left]) hright' hleft, ?_⟩
      simp only [if_true, List.map_append, List.map_cons, List.map_nil, ha0]
      simp only [Bool.false_eq_true, if_false, List.nil_append, Bool.not_false, false_and] at hrun_right
      have h2 := seg_plain hcN hal lo0 a (lo0 + m) (some (lo0, lo0 + L)) none sweep true sn hmid.le hmN ha1
      exact Clean.append (Clean.append (Clean.cons hload (Clean.single h2)) hrun_right) hrun_left

/-- the budgets of TwoLevel: the periodic DISK checkpoints plus at most `b` binomial ones in `st` -/
theorem withinBudget_twoLevel (p b N q : Nat) (st : Storage)
    (hq : q ≤ ceilDiv N p) (stack : List Cp) (hstack : ∀ c ∈ stack, c.st = st) (hlen : stack.length ≤ b) :
    withinBudget (cfgTwoLevel p b st N) (stack ++ sweepCps p N q) = true := by
  simp only [withinBudget, countSt_append, countSt_sweepCps, countSt_all hstack]
  by_cases hs : st = .ram
  · simp [cfgTwoLevel, withinOpt, hs]; omega
  · cases st <;> simp [cfgTwoLevel, withinOpt] at hs ⊢ <;> omega

theorem alive_twoLevel (p b N : Nat) (st : Storage) (dn : Nat) : Alive (cfgTwoLevel p b st N) dn :=
  alive_of_passes_none rfl dn

/-- the labels of a period block's stack: the periodic checkpoint on DISK, the binomial ones in `st` -/
def twoLevelAlloc (st : Storage) : Nat → Storage := fun d => if d = 0 then .disk else st

/-- one period block `[blk·p, min (blk·p + p) N)` -/
theorem twoLevel_block (p b N : Nat) (st : Storage) (traj : Traj) (hp : 1 ≤ p) (hst : st = .ram ∨ st = .disk)
    (hN : 1 ≤ N) (blk : Nat) (hblk : blk + 1 ≤ ceilDiv N p) (dn : Nat) (f : Option Nat) (sn : List Cp) :
    ∃ evs, segWith N (fun m k => nAdvance m k traj) (b + 1) (fun d => if d = 0 then .disk else st) true
        (min (blk * p + p) N - blk * p + 1) true false (blk * p) (min (blk * p + p) N) 0 = some evs ∧
      Clean (cfgTwoLevel p b st N)
        (X f (N - min (blk * p + p) N) none none (sweepCps p N (ceilDiv N p)) true dn sn)
        (evs.map (Ev.obs · N))
        (X (some (blk * p + 1)) (N - blk * p) none none (sweepCps p N (ceilDiv N p)) true dn sn) := by
  have hlo : blk * p < N := ceilDiv_lt N p blk hN hblk
  have hstore : st.isStore = true := by rcases hst with rfl | rfl <;> rfl
  have H : SegHyp (cfgTwoLevel p b st N) N (fun m k => nAdvance m k traj) b
      (fun i => (fun d => if d = 0 then Storage.disk else st) (i + 1))
      (sweepCps p N (ceilDiv N p)) (blk * p + 1) (min (blk * p + p) N) dn := {
    hN := rfl
    alive := alive_twoLevel p b N st dn
    range := fun m k hm hk => nAdvance_range m k traj hm hk
    one := fun m hm => nAdvance_one m traj (Nat.le_of_succ_le hm)
    store := fun i _ => (congrArg Storage.isStore (if_neg (Nat.succ_ne_zero i))).trans hstore
    budget := fun stack hl hlen =>
      withinBudget_twoLevel p b N _ st (le_refl _) stack (Labelled.const (fun i => if_neg (Nat.succ_ne_zero i)) hl) hlen
    base := (sweepCps_outside p N (ceilDiv N p) blk).mono (le_refl _) (Nat.min_le_left _ _)
  }
  -- the periodic checkpoint at `blk * p` covers the whole block
  have hcover : min (blk * p + p) N ≤ blk * p + min p (N - blk * p) := by
    rw [← Nat.add_min_add_left, Nat.add_sub_cancel' hlo.le]
  exact level0_ok (L := min p (N - blk * p)) H rfl (findCp_sweepCps p N _ blk hp hblk)
    hcover (Nat.lt_min.mpr ⟨hp, Nat.sub_pos_of_lt hlo⟩) (Nat.min_le_right _ _) _ _ f sn (Nat.le_succ _)
    (Nat.lt_min.mpr ⟨Nat.lt_add_of_pos_right hp, hlo⟩) (le_refl _)

/-- the blocks `blk-1, …, 0` of one adjoint calculation -/
theorem twoLevel_blocks (p b N : Nat) (st : Storage) (traj : Traj) (hp : 1 ≤ p) (hst : st = .ram ∨ st = .disk)
    (hN : 1 ≤ N) (dn : Nat) (sn : List Cp) (blk : Nat) (hblk : blk ≤ ceilDiv N p) (f : Option Nat) :
    ∃ evs, twoLevelBlocks N p b st traj blk = some evs ∧
      Clean (cfgTwoLevel p b st N)
        (X f (N - min (blk * p) N) none none (sweepCps p N (ceilDiv N p)) true dn sn)
        (evs.map (Ev.obs · N))
        (X (if blk = 0 then f else some 1) N none none (sweepCps p N (ceilDiv N p)) true dn sn) := by
  induction blk generalizing f with
  | zero =>
    refine ⟨[], rfl, ?_⟩
    simp only [Nat.zero_mul, Nat.zero_min, Nat.sub_zero, if_true, List.map_nil]
    exact Clean.nil _ _
  | succ blk ih =>
    obtain ⟨evs, hevs, hclean⟩ := twoLevel_block p b N st traj hp hst hN blk hblk dn f sn
    obtain ⟨rest, hrest, hclean'⟩ := ih (Nat.le_of_succ_le hblk) (some (blk * p + 1))
    refine ⟨evs ++ rest, ?_, ?_⟩
    · simp only [twoLevelBlocks, hevs, hrest]
    · rw [Nat.succ_mul, List.map_append]
      rw [Nat.min_eq_left (ceilDiv_lt N p blk hN hblk).le] at hclean'
      have e2 : (if blk = 0 then some (blk * p + 1) else some 1) = (some 1 : Option Nat) := by
        by_cases h : blk = 0
        · subst h; simp
        · simp [h]
      rw [e2] at hclean'
      simp only [Nat.add_one_ne_zero, if_false]
      exact Clean.append hclean hclean'

/-- one adjoint calculation: all blocks, then `EndReverse`; storage is the periodic checkpoints
before and after -/
theorem twoLevel_pass (p b N : Nat) (st : Storage) (traj : Traj) (hp : 1 ≤ p) (hst : st = .ram ∨ st = .disk)
    (hN : 1 ≤ N) (dn : Nat) (f : Option Nat) :
    (∃ evs, twoLevelBlocks N p b st traj ((N + p - 1) / p) = some evs) ∧
      Clean (cfgTwoLevel p b st N)
        (X f 0 none none (sweepCps p N (ceilDiv N p)) true dn (sweepCps p N (ceilDiv N p)))
        ((twoLevelPass N p b st traj).map (Ev.obs · N))
        (X (some 1) 0 none none (sweepCps p N (ceilDiv N p)) true (dn + 1) (sweepCps p N (ceilDiv N p))) := by
  obtain ⟨evs, hevs, hclean⟩ := twoLevel_blocks p b N st traj hp hst hN dn (sweepCps p N (ceilDiv N p))
    (ceilDiv N p) (le_refl _) f
  have hq := ceilDiv_pos N p hp hN
  have hge := ceilDiv_ge N p hp
  have hq0 : ¬ ceilDiv N p = 0 := Nat.ne_of_gt hq
  have e : N - min (ceilDiv N p * p) N = 0 := by rw [Nat.min_eq_right hge]; exact Nat.sub_self N
  rw [e] at hclean
  simp only [hq0, if_false] at hclean
  have hevs' : twoLevelBlocks N p b st traj ((N + p - 1) / p) = some evs := hevs
  refine ⟨⟨evs, hevs'⟩, ?_⟩
  simp only [twoLevelPass, hevs', List.map_append, List.map_cons, List.map_nil]
  refine Clean.append hclean (Clean.single ?_)
  exact step_endReverse_again (cfgTwoLevel p b st N) N (some 1) 1 none none _ dn _ rfl rfl (Or.inl rfl)
    (sameCps_refl _)

theorem twoLevel_passes (p b N : Nat) (st : Storage) (traj : Traj) (hp : 1 ≤ p) (hst : st = .ram ∨ st = .disk)
    (hN : 1 ≤ N) (k dn : Nat) :
    Clean (cfgTwoLevel p b st N)
      (X (some 1) 0 none none (sweepCps p N (ceilDiv N p)) true dn (sweepCps p N (ceilDiv N p)))
      (List.replicate k ((twoLevelPass N p b st traj).map (Ev.obs · N))).flatten
      (X (some 1) 0 none none (sweepCps p N (ceilDiv N p)) true (dn + k) (sweepCps p N (ceilDiv N p))) := by
  induction k generalizing dn with
  | zero => exact Clean.nil _ _
  | succ k ih =>
    rw [List.replicate_succ, List.flatten_cons]
    have h2 := ih (dn + 1)
    have e : dn + 1 + k = dn + (k + 1) := by rw [Nat.add_assoc, Nat.add_comm 1 k]
    rw [e] at h2
    exact Clean.append (twoLevel_pass p b N st traj hp hst hN dn (some 1)).2 h2

/-- decoration of an online forward event by the canonical client: `n` clipped to `N` by
`finalize`, `max_n` known from then on -/
def fwdObs (N : Nat) (e : Ev) : Obs := ⟨e.act, min e.n N, e.r, if N ≤ e.n then some N else none, false, true⟩

/-- the online forward phase: the `j`-th Forward starts from `j·p` -/
def twoLevelFwdObs (s : Sched) (p N : Nat) : List Obs :=
  (List.range (ceilDiv N p)).map (fun j => fwdObs N (s.fwdEv (j * p)))

/-- the `Sched` that `twoLevelSched` returns for valid parameters -/
def twoLevelS (p b : Nat) (st : Storage) (traj : Traj) : Sched :=
  { maxN0 := none
    fwdEv := fun n => ⟨.forward n (n + p) true false .disk, n + p, 0⟩
    first := fun N =>
      match twoLevelBlocks N p b st traj ((N + p - 1) / p) with
      | some _ => .ok (⟨.endForward, N, 0⟩ :: twoLevelPass N p b st traj)
      | none => .error (.later "Invalid checkpointing state")
    again := fun N => twoLevelPass N p b st traj
    passes := none
    uses := fun s => some (s = .disk || s = st) }

theorem twoLevelSched_ok (p b : Nat) (st : Storage) (traj : Traj) (hp : 1 ≤ p) (hst : st = .ram ∨ st = .disk) :
    twoLevelSched p b st traj = .ok (twoLevelS p b st traj) := by
  unfold twoLevelSched twoLevelS
  rw [if_neg (by omega), if_neg (not_not.mpr hst)]
  rfl

theorem twoLevel_forward (p b N : Nat) (st : Storage) (traj : Traj) (hp : 1 ≤ p) (hN : 1 ≤ N)
    (j : Nat) (hj : j ≤ ceilDiv N p) :
    Clean (cfgTwoLevel p b st N) (XS.init (cfgTwoLevel p b st N))
      ((List.range j).map (fun j => fwdObs N ((twoLevelS p b st traj).fwdEv (j * p))))
      (XF (decide (N ≤ j * p)) (some (min (j * p) N)) 0 none none (sweepCps p N j) false 0 []) := by
  induction j with
  | zero =>
    have : decide (N ≤ 0 * p) = false := decide_eq_false (by rw [Nat.zero_mul]; exact Nat.not_le.mpr hN)
    rw [this]
    simp only [Nat.zero_mul, Nat.zero_min]
    exact Clean.nil _ _
  | succ j ih =>
    rw [List.range_succ, List.map_append]
    refine Clean.append (ih (Nat.le_of_succ_le hj)) ?_
    have hlt : j * p < N := ceilDiv_lt N p j hN hj
    have hd : decide (N ≤ j * p) = false := decide_eq_false (Nat.not_le.mpr hlt)
    have hm : min (j * p) N = j * p := Nat.min_eq_left hlt.le
    rw [hd, hm]
    have hB : withinBudget (cfgTwoLevel p b st N) (⟨j * p, .disk, 0, 0⟩ :: sweepCps p N j) = true := by
      rw [withinBudget_congr _ ⟨j * p, .disk, 0, 0⟩ ⟨j * p, .disk, min p (N - j * p), 0⟩ _ rfl]
      exact withinBudget_twoLevel p b N (j + 1) st hj [] (fun c hc => by cases hc) (Nat.zero_le _)
    have h := step_write_online (cfgTwoLevel p b st N) N (j * p) (j * p + p) 0 true false .disk none none
      (sweepCps p N j) 0 [] rfl (alive_twoLevel p b N st 0) rfl (Nat.lt_add_of_pos_right hp) rfl
      (fun h => by cases h)
      (findCp_sweepCps_none p N j hp .disk) hB
    have e1 : min (j * p + p) N - j * p = min p (N - j * p) := by
      apply Nat.sub_eq_of_eq_add
      rw [Nat.add_comm _ (j * p), ← Nat.add_min_add_left, Nat.add_sub_cancel' hlt.le]
    simp only [if_true, Bool.false_eq_true, if_false, e1] at h
    rw [Nat.succ_mul]
    exact Clean.single h

/-- the observations of the canonical trace of TwoLevel with `k` adjoint calculations: the
online forward events (`n` clipped, `max_n` known once the forward reaches `N`), then `first N`,
then `k-1` times `again N` -/
def twoLevelObs (p b : Nat) (st : Storage) (traj : Traj) (N k : Nat) : Option (List Obs) :=
  match twoLevelSched p b st traj with
  | .error _ => none
  | .ok s =>
    match s.first N with
    | .error _ => none
    | .ok evs =>
      some (twoLevelFwdObs s p N ++ evs.map (Ev.obs · N) ++
        (List.replicate (k - 1) ((s.again N).map (Ev.obs · N))).flatten)

/-- TwoLevel: the canonical trace with `k` adjoint calculations is accepted; storage is the
periodic checkpoints after every calculation -/
theorem twoLevel_clean (p b N k : Nat) (st : Storage) (traj : Traj) (hp : 1 ≤ p)
    (hst : st = .ram ∨ st = .disk) (hN : 1 ≤ N) (hk : 1 ≤ k) :
    ∃ obs, twoLevelObs p b st traj N k = some obs ∧
      Clean (cfgTwoLevel p b st N) (XS.init (cfgTwoLevel p b st N)) obs
        (X (some 1) 0 none none (sweepCps p N (ceilDiv N p)) true k (sweepCps p N (ceilDiv N p))) := by
  obtain ⟨⟨evs, hevs⟩, hpass⟩ := twoLevel_pass p b N st traj hp hst hN 0 (some N)
  have hfirst : (twoLevelS p b st traj).first N = .ok (⟨.endForward, N, 0⟩ :: twoLevelPass N p b st traj) := by
    simp only [twoLevelS, hevs]
  have hobs : twoLevelObs p b st traj N k = some
      (twoLevelFwdObs (twoLevelS p b st traj) p N ++
        (⟨.endForward, N, 0⟩ :: twoLevelPass N p b st traj).map (Ev.obs · N) ++
        (List.replicate (k - 1) ((twoLevelPass N p b st traj).map (Ev.obs · N))).flatten) := by
    simp only [twoLevelObs, twoLevelSched_ok p b st traj hp hst, hfirst]
    rfl
  refine ⟨_, hobs, ?_⟩
  -- forward sweep
  have h1 := twoLevel_forward p b N st traj hp hN (ceilDiv N p) (le_refl _)
  have hge := ceilDiv_ge N p hp
  have hd : decide (N ≤ ceilDiv N p * p) = true := decide_eq_true hge
  have hm : min (ceilDiv N p * p) N = N := Nat.min_eq_right hge
  rw [hd, hm, XF_true] at h1
  -- EndForward
  have h2 := step_endForward (cfgTwoLevel p b st N) N none none (sweepCps p N (ceilDiv N p)) 0 [] rfl
    (alive_twoLevel p b N st 0)
  -- the further calculations
  have h3 := twoLevel_passes p b N st traj hp hst hN (k - 1) 1
  have e : 1 + (k - 1) = k := Nat.add_sub_cancel' hk
  rw [e] at h3
  rw [List.map_cons]
  exact Clean.append (Clean.append h1 (Clean.cons h2 hpass)) h3

example : ∃ obs, twoLevelObs 3 2 .ram .maximum 10 2 = some obs ∧
    Clean (cfgTwoLevel 3 2 .ram 10) (XS.init (cfgTwoLevel 3 2 .ram 10)) obs
      (X (some 1) 0 none none (sweepCps 3 10 4) true 2 (sweepCps 3 10 4)) :=
  twoLevel_clean 3 2 10 2 .ram .maximum (by omega) (Or.inl rfl) (by omega) (by omega)

example : ∃ obs, twoLevelObs 4 0 .disk .revolve 9 3 = some obs ∧
    Clean (cfgTwoLevel 4 0 .disk 9) (XS.init (cfgTwoLevel 4 0 .disk 9)) obs
      (X (some 1) 0 none none (sweepCps 4 9 3) true 3 (sweepCps 4 9 3)) :=
  twoLevel_clean 4 0 9 3 .disk .revolve (by omega) (Or.inr rfl) (by omega) (by omega)

/-! the observation list is what the canonical client records (checked on instances; `+kernel`: the
traces are evaluated once, by the kernel, not by the elaborator first) -/

example : twoLevelObs 3 2 .disk .revolve 10 2
    = some (actLines ((twoLevelS 3 2 .disk .revolve).canon 10 2 500)) := by decide +kernel
example : twoLevelObs 4 1 .ram .maximum 9 3
    = some (actLines ((twoLevelS 4 1 .ram .maximum).canon 9 3 500)) := by decide +kernel
example : twoLevelObs 5 0 .ram .maximum 5 1
    = some (actLines ((twoLevelS 5 0 .ram .maximum).canon 5 1 500)) := by decide +kernel

end Ckpt.On
