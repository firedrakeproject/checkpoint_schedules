import CkptVerif.Model.Revolve
import CkptVerif.Proofs.Period
import CkptVerif.Proofs.SegLabels
import Mathlib.Tactic
/-!
# PeriodicDiskRevolve: which operations the model stream performs on DISK (C19, stream part)

For `periodicEvs N cm c = .ok evs` with period `mx` (`mxrr cm c.uf (c.wd + c.rd) = some mx`, the
closed form of `mxrr_spec`, independent of `N`) and `q = (N - 2) / mx`:

* (iv) `evs = sweep ++ revSeg[q·mx, N) ++ (for b = q-1 … 0: move (b·mx) :: revSeg[b·mx, (b+1)·mx)) ++ [EndReverse]`;
* (i) the first `q` events are the DISK writes `Forward (i·mx) ((i+1)·mx) true false .disk`,
  `i = 0 … q-1`; `EndForward` comes after them;
* (ii) no later event writes to DISK;
* (iii) the loads from DISK are exactly the moves `Move (b·mx) .disk .work`, `b = q-1 … 0`, once
  each, and no `Copy` reads from DISK.
-/
namespace Ckpt
open List

def Action.storages : Action → List Storage
  | .forward _ _ _ _ st => [st]
  | .copy _ src dst => [src, dst]
  | .move _ src dst => [src, dst]
  | _ => []

def writesDisk (e : Ev) : Bool :=
  match e.act with
  | .forward _ _ _ _ st => decide (st = .disk)
  | .copy _ _ dst => decide (dst = .disk)
  | .move _ _ dst => decide (dst = .disk)
  | _ => false

/-- `Move n .disk dst`: the DISK checkpoint `n` is loaded (to `dst`) and deleted -/
def diskMove (e : Ev) : Option (Nat × Storage) :=
  match e.act with
  | .move n .disk dst => some (n, dst)
  | _ => none

/-- `Copy _ .disk _`: a DISK checkpoint is read and kept -/
def copiesFromDisk (e : Ev) : Bool :=
  match e.act with
  | .copy _ .disk _ => true
  | _ => false

def NoDisk (e : Ev) : Prop := ∀ s ∈ e.act.storages, s ≠ Storage.disk

theorem NoDisk.writes {e : Ev} (h : NoDisk e) : writesDisk e = false := by
  rcases e with ⟨act, n, r⟩
  cases act <;> simp [NoDisk, Action.storages, writesDisk] at h ⊢
  · exact h
  · exact h.2
  · exact h.2

theorem NoDisk.move {e : Ev} (h : NoDisk e) : diskMove e = none := by
  rcases e with ⟨act, n, r⟩
  cases act with
  | move n src dst =>
    cases src <;> simp [NoDisk, Action.storages, diskMove] at h ⊢
  | _ => simp [diskMove]

theorem NoDisk.copy {e : Ev} (h : NoDisk e) : copiesFromDisk e = false := by
  rcases e with ⟨act, n, r⟩
  cases act with
  | copy n src dst =>
    cases src <;> simp [NoDisk, Action.storages, copiesFromDisk] at h ⊢
  | _ => simp [copiesFromDisk]

theorem mem_storages_iff (s : Storage) (a : Action) : s ∈ a.storages ↔ touches s a = true := by
  cases a <;> simp [Action.storages, touches, @eq_comm _ s]

/-- the memory-only Revolve segment never names DISK: its stack is labelled RAM throughout -/
theorem revSeg_noDisk {N : Nat} {t : Array (Array Nat)} {uf cm : Nat} {spine : Bool} {lo hi : Nat}
    {evs : List Ev} (h : revSeg N t uf cm spine lo hi = some evs) : ∀ e ∈ evs, NoDisk e := by
  intro e he s hs
  rcases segWith_touches' h e he s ((mem_storages_iff s _).1 hs) with rfl | ⟨_, _, rfl⟩ <;> simp

/-- the `i`-th periodic DISK write of the sweep -/
def sweepEv (mx i : Nat) : Ev := ⟨.forward (i * mx) ((i + 1) * mx) true false .disk, (i + 1) * mx, 0⟩

/-- the load of the DISK checkpoint of block `b` -/
def blockMove (N mx b : Nat) : Ev := ⟨.move (b * mx) .disk .work, b * mx, N - (b + 1) * mx⟩

/-- the Revolve segment of block `b` (`[]` if `revSeg` failed, which it does not) -/
def blockSeg (N : Nat) (t0 : Array (Array Nat)) (uf cm mx b : Nat) : List Ev :=
  (revSeg N t0 uf cm false (b * mx) ((b + 1) * mx)).getD []

/-- `move :: revSeg` for the blocks `b-1, …, 0` -/
def blocksOf (N : Nat) (t0 : Array (Array Nat)) (uf cm mx : Nat) : Nat → List Ev
  | 0 => []
  | b + 1 => blockMove N mx b :: (blockSeg N t0 uf cm mx b ++ blocksOf N t0 uf cm mx b)

theorem blocksOf_eq_flatMap (N : Nat) (t0 : Array (Array Nat)) (uf cm mx : Nat) : ∀ q,
    blocksOf N t0 uf cm mx q =
      (List.range q).reverse.flatMap (fun b => blockMove N mx b :: blockSeg N t0 uf cm mx b)
  | 0 => rfl
  | q + 1 => by
    rw [blocksOf, blocksOf_eq_flatMap N t0 uf cm mx q, range_succ, reverse_append]
    simp

theorem periodicSweep_eq (l mx : Nat) (hmx : 1 ≤ mx) :
    ∀ (fuel q0 : Nat), l - q0 * mx + 1 ≤ fuel →
      ∃ q, q0 ≤ q ∧ periodicSweep l mx fuel (q0 * mx) = ((List.range' q0 (q - q0)).map (sweepEv mx), q * mx) ∧
        l - q * mx ≤ mx ∧ ∀ i, q0 ≤ i → i < q → l - i * mx > mx := by
  intro fuel
  induction fuel with
  | zero => intro q0 h; omega
  | succ fuel ih =>
    intro q0 hfuel
    unfold periodicSweep
    by_cases hc : l - q0 * mx > mx
    · rw [if_pos hc]
      obtain ⟨q, h1, h2, h3, h4⟩ := ih (q0 + 1) (by rw [Nat.succ_mul]; omega)
      rw [Nat.succ_mul] at h2
      rw [h2]
      refine ⟨q, by omega, ?_, h3, ?_⟩
      · have e : q - q0 = (q - (q0 + 1)) + 1 := by omega
        rw [e, range'_succ, map_cons]
        simp only [sweepEv, Nat.succ_mul]
      · intro i hi1 hi2
        rcases Nat.eq_or_lt_of_le hi1 with rfl | hlt
        · exact hc
        · exact h4 i hlt hi2
    · rw [if_neg hc]
      refine ⟨q0, le_refl _, by simp, by omega, fun i h1 h2 => by omega⟩

theorem periodicBlocks_eq (N : Nat) (t0 : Array (Array Nat)) (uf cm mx : Nat) :
    ∀ (q : Nat) (blocks : List Ev), periodicBlocks N t0 uf cm mx q = some blocks →
      blocks = blocksOf N t0 uf cm mx q ∧
      ∀ b < q, revSeg N t0 uf cm false (b * mx) ((b + 1) * mx) = some (blockSeg N t0 uf cm mx b) := by
  intro q
  induction q with
  | zero =>
    intro blocks h
    simp only [periodicBlocks, Option.some.injEq] at h
    exact ⟨h.symm, fun b hb => by omega⟩
  | succ q ih =>
    intro blocks h
    unfold periodicBlocks at h
    dsimp only at h
    split at h
    · cases h
    · rename_i evs hevs
      split at h
      · cases h
      · rename_i rest hrest
        injection h with h
        obtain ⟨ih1, ih2⟩ := ih rest hrest
        have hseg : revSeg N t0 uf cm false (q * mx) ((q + 1) * mx) = some evs := by
          rw [Nat.succ_mul]; exact hevs
        have hbs : blockSeg N t0 uf cm mx q = evs := by simp [blockSeg, hseg]
        constructor
        · rw [← h, blocksOf, hbs, ih1]
          simp [blockMove, Nat.succ_mul]
        · intro b hb
          rcases Nat.eq_or_lt_of_le (Nat.le_of_lt_succ hb) with rfl | hlt
          · rw [hbs]; exact hseg
          · exact ih2 b hlt

theorem period_count_eq (N mx q : Nat) (hmx : 1 ≤ mx)
    (h1 : N - 1 - q * mx ≤ mx) (h2 : ∀ i, i < q → N - 1 - i * mx > mx) : q = (N - 2) / mx := by
  symm
  apply Nat.div_eq_of_lt_le
  · rcases Nat.eq_zero_or_pos q with rfl | hq
    · simp
    · have := h2 (q - 1) (by omega)
      have e : q * mx = (q - 1) * mx + mx := by
        conv_lhs => rw [show q = (q - 1) + 1 by omega, Nat.succ_mul]
      omega
  · rw [Nat.succ_mul]; omega

theorem period_cond_iff (N mx i : Nat) (hmx : 1 ≤ mx) :
    N - 1 - i * mx > mx ↔ i < (N - 2) / mx := by
  rw [Nat.lt_iff_add_one_le, Nat.le_div_iff_mul_le (by omega), Nat.succ_mul]
  omega

theorem filter_lt_range_length : ∀ (n q : Nat), q ≤ n →
    ((List.range n).filter (fun i => decide (i < q))).length = q
  | 0, q, h => by simp; omega
  | n + 1, q, h => by
    rw [range_succ, filter_append, length_append]
    rcases Nat.eq_or_lt_of_le h with rfl | hlt
    · have : (List.range n).filter (fun i => decide (i < n + 1)) = List.range n := by
        rw [filter_eq_self]; intro a ha; simp at ha ⊢; omega
      rw [this]; simp
    · rw [filter_lt_range_length n q (by omega)]
      simp; omega

theorem period_count (N mx : Nat) (hmx : 1 ≤ mx) :
    ((List.range N).filter (fun i => decide (N - 1 - i * mx > mx))).length = (N - 2) / mx := by
  have : (fun i => decide (N - 1 - i * mx > mx)) = fun i => decide (i < (N - 2) / mx) := by
    funext i; rw [decide_eq_decide]; exact period_cond_iff N mx i hmx
  rw [this]
  apply filter_lt_range_length
  calc (N - 2) / mx ≤ N - 2 := Nat.div_le_self _ _
    _ ≤ N := Nat.sub_le _ _

/-- (iv) The stream literally is
`sweep ++ revSeg[q·mx, N) ++ (for b = q-1 … 0: move (b·mx) :: revSeg[b·mx, (b+1)·mx)) ++ [EndReverse]`. -/
theorem periodic_structure (N cm : Nat) (c : Costs) (mx : Nat) (evs : List Ev) (hN : 1 ≤ N)
    (hmx : mxrr cm c.uf (c.wd + c.rd) = some mx) (h : periodicEvs N cm c = .ok evs) :
    let q := (N - 2) / mx
    let t0 := opt0Table (max (N - 1) (mx + 1)) cm c.uf c.ub
    1 ≤ mx ∧ q * mx < N ∧ N - 1 - q * mx ≤ mx ∧
    ∃ mid, revSeg N t0 c.uf cm true (q * mx) N = some mid ∧
      (∀ b < q, revSeg N t0 c.uf cm false (b * mx) ((b + 1) * mx) = some (blockSeg N t0 c.uf cm mx b)) ∧
      evs = (List.range q).map (sweepEv mx) ++ mid ++
        (List.range q).reverse.flatMap (fun b => blockMove N mx b :: blockSeg N t0 c.uf cm mx b) ++
        [⟨.endReverse, 1, N⟩] := by
  intro q t0
  have hqdef : q = (N - 2) / mx := rfl
  clear_value q
  have hmx1 : 1 ≤ mx := mxrr_pos _ _ _ _ hmx
  obtain ⟨q', _, h2, h3, h4⟩ := periodicSweep_eq (N - 1) mx hmx1 N 0 (by omega)
  have hq : q' = q := by
    rw [hqdef]; exact period_count_eq N mx q' hmx1 h3 (fun i hi => h4 i (Nat.zero_le _) hi)
  subst hq
  rw [Nat.zero_mul, Nat.sub_zero, ← range_eq_range'] at h2
  have hlt : q' * mx < N := by
    rcases Nat.eq_zero_or_pos q' with h0 | hpos
    · rw [h0]; omega
    · have := h4 (q' - 1) (Nat.zero_le _) (by omega)
      have e : q' * mx = (q' - 1) * mx + mx := by
        conv_lhs => rw [show q' = (q' - 1) + 1 by omega, Nat.succ_mul]
      omega
  refine ⟨hmx1, hlt, h3, ?_⟩
  simp only [periodicEvs, hmx, h2] at h
  have hdiv : q' * mx / mx = q' := Nat.mul_div_cancel _ (by omega)
  rw [hdiv] at h
  split at h
  · cases h
  · rename_i mid hmid
    split at h
    · cases h
    · rename_i blocks hblocks
      injection h with h
      obtain ⟨hb1, hb2⟩ := periodicBlocks_eq N _ c.uf cm mx q' blocks hblocks
      refine ⟨mid, hmid, hb2, ?_⟩
      rw [← h, hb1, blocksOf_eq_flatMap]

theorem sweepEv_writes (mx i : Nat) : writesDisk (sweepEv mx i) = true := by simp [writesDisk, sweepEv]

theorem blocksOf_filterMap_diskMove (N : Nat) (t0 : Array (Array Nat)) (uf cm mx : Nat) : ∀ q,
    (∀ b < q, revSeg N t0 uf cm false (b * mx) ((b + 1) * mx) = some (blockSeg N t0 uf cm mx b)) →
    (blocksOf N t0 uf cm mx q).filterMap diskMove =
      (List.range q).reverse.map (fun b => (b * mx, Storage.work))
  | 0, _ => rfl
  | q + 1, hseg => by
    have ih := blocksOf_filterMap_diskMove N t0 uf cm mx q (fun b hb => hseg b (by omega))
    have hnone : (blockSeg N t0 uf cm mx q).filterMap diskMove = [] := by
      rw [filterMap_eq_nil_iff]
      intro e he
      exact (revSeg_noDisk (hseg q (by omega)) e he).move
    have hmv : diskMove (blockMove N mx q) = some (q * mx, Storage.work) := rfl
    rw [blocksOf, filterMap_cons_some hmv, filterMap_append, hnone, ih, range_succ, reverse_append]
    simp

theorem blocksOf_props (N : Nat) (t0 : Array (Array Nat)) (uf cm mx : Nat) : ∀ q,
    (∀ b < q, revSeg N t0 uf cm false (b * mx) ((b + 1) * mx) = some (blockSeg N t0 uf cm mx b)) →
    ∀ e ∈ blocksOf N t0 uf cm mx q, writesDisk e = false ∧ copiesFromDisk e = false ∧
      e.act ≠ .endForward
  | 0, _ => by intro e he; cases he
  | q + 1, hseg => by
    have ih := blocksOf_props N t0 uf cm mx q (fun b hb => hseg b (by omega))
    intro e he
    rw [blocksOf] at he
    rcases mem_cons.1 he with rfl | he
    · simp [writesDisk, copiesFromDisk, blockMove]
    · rcases mem_append.1 he with he | he
      · have hnd := revSeg_noDisk (hseg q (by omega)) e he
        refine ⟨hnd.writes, hnd.copy, ?_⟩
        exact segWith_no_endForward (hseg q (by omega)) e he
      · exact ih e he
/-- (i)–(iii), for the stream `periodicEvs N cm c = .ok evs`, with `q = (N-2)/mx`. -/
theorem periodic_disk_ops (N cm : Nat) (c : Costs) (mx : Nat) (evs : List Ev) (hN : 1 ≤ N)
    (hmx : mxrr cm c.uf (c.wd + c.rd) = some mx) (h : periodicEvs N cm c = .ok evs) :
    let q := (N - 2) / mx
    -- (i) the first `q` events are the periodic DISK writes, in order; `EndForward` comes later
    evs.take q = (List.range q).map (fun i =>
      (⟨.forward (i * mx) ((i + 1) * mx) true false .disk, (i + 1) * mx, 0⟩ : Ev)) ∧
    (∀ e ∈ evs.take q, writesDisk e = true ∧ e.act ≠ .endForward) ∧
    (∃ e ∈ evs.drop q, e.act = .endForward) ∧
    -- (ii) no other event writes to DISK (in particular none after `EndForward`)
    (∀ e ∈ evs.drop q, writesDisk e = false) ∧
    -- (iii) every DISK checkpoint is loaded exactly once, by a `Move` to WORK, last written first
    evs.filterMap diskMove = (List.range q).reverse.map (fun b => (b * mx, Storage.work)) ∧
    (∀ e ∈ evs, copiesFromDisk e = false) := by
  intro q
  obtain ⟨_, _, _, mid, hmid, hsegs, hevs⟩ := periodic_structure N cm c mx evs hN hmx h
  rw [← blocksOf_eq_flatMap] at hevs
  set t0 := opt0Table (max (N - 1) (mx + 1)) cm c.uf c.ub with ht0
  have hq : q = (N - 2) / mx := rfl
  rw [← hq] at hevs hsegs hmid
  have hlen : ((List.range q).map (sweepEv mx)).length = q := by simp
  have hsw : ∀ e ∈ (List.range q).map (sweepEv mx), writesDisk e = true ∧ e.act ≠ .endForward ∧
      diskMove e = none ∧ copiesFromDisk e = false := by
    intro e he
    obtain ⟨i, _, rfl⟩ := mem_map.1 he
    simp [writesDisk, sweepEv, diskMove, copiesFromDisk]
  have hmidnd := revSeg_noDisk hmid
  have hbl := blocksOf_props N t0 c.uf cm mx q hsegs
  have hassoc : evs = (List.range q).map (sweepEv mx) ++
      (mid ++ blocksOf N t0 c.uf cm mx q ++ [⟨.endReverse, 1, N⟩]) := by
    rw [hevs]; simp only [append_assoc]
  have htake : evs.take q = (List.range q).map (sweepEv mx) := by
    rw [hassoc, take_left' hlen]
  have hdrop : evs.drop q = mid ++ blocksOf N t0 c.uf cm mx q ++ [⟨.endReverse, 1, N⟩] := by
    rw [hassoc, drop_left' hlen]
  refine ⟨by rw [htake]; rfl, ?_, ?_, ?_, ?_, ?_⟩
  · intro e he
    rw [htake] at he
    exact ⟨(hsw e he).1, (hsw e he).2.1⟩
  · obtain ⟨e, he, hact⟩ := countP_pos_iff.1 (by rw [segWith_endForward_count hmid]; exact Nat.one_pos)
    exact ⟨e, by rw [hdrop]; exact mem_append_left _ (mem_append_left _ he), of_decide_eq_true hact⟩
  · intro e he
    rw [hdrop] at he
    rcases mem_append.1 he with he | he
    · rcases mem_append.1 he with he | he
      · exact (hmidnd e he).writes
      · exact (hbl e he).1
    · rw [mem_singleton.1 he]; rfl
  · rw [hevs, filterMap_append, filterMap_append, filterMap_append,
      blocksOf_filterMap_diskMove N t0 c.uf cm mx q hsegs]
    have e1 : ((List.range q).map (sweepEv mx)).filterMap diskMove = [] := by
      rw [filterMap_eq_nil_iff]; intro e he; exact (hsw e he).2.2.1
    have e2 : mid.filterMap diskMove = [] := by
      rw [filterMap_eq_nil_iff]; intro e he; exact (hmidnd e he).move
    rw [e1, e2]
    simp [diskMove]
  · intro e he
    rw [hevs] at he
    rcases mem_append.1 he with he | he
    · rcases mem_append.1 he with he | he
      · rcases mem_append.1 he with he | he
        · exact (hsw e he).2.2.2
        · exact (hmidnd e he).copy
      · exact (hbl e he).2.1
    · rw [mem_singleton.1 he]; rfl

/-- (iii) as a multiset statement: the keys moved from DISK are `{i·mx | i < q}`, each once -/
theorem periodic_disk_moves_perm (N cm : Nat) (c : Costs) (mx : Nat) (evs : List Ev) (hN : 1 ≤ N)
    (hmx : mxrr cm c.uf (c.wd + c.rd) = some mx) (h : periodicEvs N cm c = .ok evs) :
    ((evs.filterMap diskMove).map (·.1)).Perm ((List.range ((N - 2) / mx)).map (· * mx)) := by
  rw [(periodic_disk_ops N cm c mx evs hN hmx h).2.2.2.2.1, map_map]
  exact (reverse_perm _).map _

-- a concrete instance: N = 9, one RAM unit, unit costs: period 2, q = 3
example : mxrr 1 1 2 = some 2 ∧ (9 - 2) / 2 = 3 ∧
    (match periodicEvs 9 1 ⟨1, 1, 1, 1⟩ with
      | .ok evs => evs.filterMap diskMove | .error _ => []) = [(4, .work), (2, .work), (0, .work)] := by
  decide +kernel

end Ckpt
