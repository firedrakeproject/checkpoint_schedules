import CkptVerif.Proofs.MixedTab
/-!
# The Mixed stream depends on the planner only through the cells it queries (C16, stream part)

* `mseg_congr` / `mixedEvs_congr`: two planners that agree on all keys `(m, k)` with `m ≤ M`,
  `k ≤ K` give the same stream (no assumption on the planners; also failing runs agree).
* `mixedEvs_tab_eq_memo`: the stream driven by the tabulated planner (numba path) is the stream
  driven by the memoised planner.
-/
namespace Ckpt

/-- planners agreeing on all keys in range give the same segment stream -/
theorem mseg_congr (N : Nat) (plan1 plan2 : Planner) (st : Storage) (M K : Nat)
    (hag : ∀ m k, m ≤ M → k ≤ K → plan1 m k = plan2 m k) :
    ∀ (fuel lo hi k : Nat) (spine reuse : Bool), hi - lo ≤ M → k ≤ K →
      mseg N plan1 st fuel lo hi k spine reuse = mseg N plan2 st fuel lo hi k spine reuse := by
  intro fuel
  induction fuel with
  | zero => intro lo hi k spine reuse _ _; rfl
  | succ fuel ih =>
    intro lo hi k spine reuse hM hK
    rw [mseg, mseg, ← hag (hi - lo) k hM hK]
    cases plan1 (hi - lo) k with
    | none => rfl
    | some c =>
      -- the two sides differ in the recursive calls only, each under its guard
      refine ite_congr rfl (fun _ => rfl) fun _ => ite_congr rfl (fun _ => ?_) fun _ =>
        ite_congr rfl (fun _ => ?_) fun _ => rfl
      · refine ite_congr rfl (fun _ => rfl) fun hg => ?_
        rw [ih (lo + 1) hi (k - 1) spine false (by omega) (by omega)]
      · refine ite_congr rfl (fun _ => rfl) fun hg => ?_
        dsimp only
        rw [ih (lo + c.len) hi (k - 1) spine false (by omega) (by omega),
          hag c.len k (by omega) hK]
        cases mseg N plan2 st fuel (lo + c.len) hi (k - 1) spine false with
        | none => rfl
        | some right =>
          cases plan2 c.len k with
          | none => rfl
          | some c2 =>
            dsimp only
            rw [ih lo (lo + c.len) k false (decide (c2.kind = stWriteIcs)) (by omega) hK]

theorem mixedEvs_congr (plan1 plan2 : Planner) (N s : Nat) (st : Storage)
    (hag : ∀ m k, m ≤ N → k ≤ min s (N - 1) → plan1 m k = plan2 m k) :
    mixedEvs plan1 N s st = mixedEvs plan2 N s st := by
  unfold mixedEvs
  rw [mseg_congr N plan1 plan2 st N (min s (N - 1)) hag N 0 N (min s (N - 1)) true false
    (by omega) (Nat.le_refl _)]

/-! ## the tabulated planner -/

/-- C16 (stream part): the numba path yields the same stream as the memoised path, whenever the
table is large enough (`N ≤ n`, `min s (N-1) ≤ s'`). -/
theorem mixedEvs_tab_eq_memo (n s' : Nat) (t : Array (Array TCell))
    (ht : mixedTab n s' = some t) (N s : Nat) (st : Storage) (hNn : N ≤ n)
    (hs : min s (N - 1) ≤ s') :
    mixedEvs (tabPlan t) N s st = mixedEvs memoPlan N s st :=
  mixedEvs_congr (tabPlan t) memoPlan N s st
    (fun m k hm hk => tabPlan_eq_memoPlan n s' t ht m k (by omega) (by omega))

/-- read from the memoised side; the hypotheses `hN`, `hsv` (validity of `(N, s)`) are not needed -/
theorem mixedEvs_tab_eq_memo_valid (n s' : Nat) (t : Array (Array TCell))
    (ht : mixedTab n s' = some t) (N s : Nat) (st : Storage) (hN : 1 ≤ N)
    (hsv : min 1 (N - 1) ≤ s) (hNn : N ≤ n) (hs : min s (N - 1) ≤ s') :
    mixedEvs memoPlan N s st = mixedEvs (tabPlan t) N s st :=
  (mixedEvs_tab_eq_memo n s' t ht N s st hNn hs).symm

end Ckpt
