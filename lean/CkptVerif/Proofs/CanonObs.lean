import CkptVerif.Proofs.TwoLevelOk
import CkptVerif.Proofs.OnlineGlue
/-!
# The observation lists of `BasicOk`/`TwoLevelOk` are those of the canonical trace

`OnlineGlue.lean` describes the observations on the `act` lines of the canonical trace of an online
schedule generically (`fwdObs`, `onlineObs`).  Here: for each online class that list is the
explicit list whose acceptance is proved in `BasicOk.lean` / `TwoLevelOk.lean`, for all parameters.
-/
namespace Ckpt.On

theorem actLines_act (o : Obs) (ls : List Line) : actLines (.act o :: ls) = o :: actLines ls := rfl

def NoER (evs : List Ev) : Prop := ∀ e ∈ evs, e.act ≠ .endReverse

theorem NoER.append {a b : List Ev} (ha : NoER a) (hb : NoER b) : NoER (a ++ b) := by
  intro e he
  rcases List.mem_append.mp he with h | h
  · exact ha e h
  · exact hb e h

theorem fwdObs_of_le {N : Nat} {e : Ev} (h : N ≤ e.n) :
    fwdObs N e = ⟨e.act, N, e.r, some N, false, true⟩ := by
  rw [fwdObs, Nat.min_eq_right h, if_pos h]

theorem fwdObs_of_lt {N : Nat} {e : Ev} (h : e.n < N) :
    fwdObs N e = ⟨e.act, e.n, e.r, none, false, true⟩ := by
  rw [fwdObs, Nat.min_eq_left (Nat.le_of_lt h), if_neg (Nat.not_le_of_lt h)]

/-- If every `fwdEv` advances by `p` (SingleMemory, None: `maxsize`; SingleDisk: `1`; TwoLevel: the
period), the forward phase from `n` consists of the `q + 1` Forwards from `n, n + p, …`, where
`n + q·p < N ≤ n + (q+1)·p`, as the canonical client sees them (`fwdObs`: `n` clipped to `N`,
`max_n` known on the last one). -/
theorem fwdObs_const (s : Sched) (N p : Nat) (hstep : ∀ n, (s.fwdEv n).n = n + p) :
    ∀ (q n f : Nat), n + q * p < N → N ≤ n + (q + 1) * p → q + 1 ≤ f →
      Ckpt.fwdObs s N f n = (List.range (q + 1)).map (fun i => fwdObs N (s.fwdEv (n + i * p))) := by
  intro q
  induction q with
  | zero =>
    intro n f h1 h2 hf
    obtain ⟨f, rfl⟩ : ∃ f', f = f' + 1 := ⟨f - 1, by omega⟩
    have hle : N ≤ (s.fwdEv n).n := by rw [hstep]; omega
    rw [Ckpt.fwdObs, if_pos hle]
    simp only [Nat.zero_add, List.range_one, List.map_cons, List.map_nil, Nat.zero_mul,
      Nat.add_zero, fwdObs_of_le hle]
  | succ q ih =>
    intro n f h1 h2 hf
    obtain ⟨f, rfl⟩ : ∃ f', f = f' + 1 := ⟨f - 1, by omega⟩
    rw [Nat.succ_mul] at h1 h2
    have hn := hstep n
    have hlt : (s.fwdEv n).n < N := by omega
    rw [Ckpt.fwdObs, if_neg (Nat.not_le_of_lt hlt),
      ih (s.fwdEv n).n f (by omega) (by omega) (by omega),
      List.range_succ_eq_map (n := q + 1), List.map_cons, List.map_map]
    congr 1
    · rw [Nat.zero_mul, Nat.add_zero, fwdObs_of_lt hlt]
    · apply List.map_congr_left
      intro i _
      show fwdObs N (s.fwdEv ((s.fwdEv n).n + i * p)) = fwdObs N (s.fwdEv (n + (i + 1) * p))
      rw [hn, Nat.succ_mul, Nat.add_assoc, Nat.add_comm p]

/-- SingleMemory and None, `N ≤ sys.maxsize`: a single Forward -/
theorem fwdObs_maxsize (s : Sched) (hstep : ∀ n, (s.fwdEv n).n = n + maxsize) (N : Nat)
    (h1 : 1 ≤ N) (h2 : N ≤ maxsize) :
    Ckpt.fwdObs s N N 0 = [⟨(s.fwdEv 0).act, N, (s.fwdEv 0).r, some N, false, true⟩] := by
  have h3 : N ≤ (s.fwdEv 0).n := by rw [hstep]; omega
  rw [fwdObs_const s N maxsize hstep 0 0 N (by omega) (by omega) h1]
  simp only [Nat.zero_add, List.range_one, List.map_cons, List.map_nil, Nat.zero_mul, fwdObs_of_le h3]

theorem length_singleDiskFwdObs (N : Nat) : (singleDiskFwdObs N).length = N := by
  simp [singleDiskFwdObs]

theorem singleDiskFwdObs_eq (move : Bool) (N : Nat) :
    (List.range N).map (fun j => fwdObs N ((singleDiskSched move).fwdEv j)) = singleDiskFwdObs N := by
  apply List.map_congr_left
  intro j hj
  have hj' : j < N := List.mem_range.mp hj
  have hm : min (j + 1) N = j + 1 := by omega
  by_cases h : j + 1 = N
  · simp [fwdObs, singleDiskSched, h]
  · have h2 : ¬ N ≤ j + 1 := by omega
    simp [fwdObs, singleDiskSched, h, hm, h2]

/-- SingleDisk: one Forward per step -/
theorem fwdObs_singleDisk (mv : Bool) (N : Nat) (h1 : 1 ≤ N) :
    Ckpt.fwdObs (singleDiskSched mv) N N 0 = singleDiskFwdObs N := by
  rw [fwdObs_const (singleDiskSched mv) N 1 (fun _ => rfl) (N - 1) 0 N (by omega) (by omega)
    (by omega), show N - 1 + 1 = N by omega, ← singleDiskFwdObs_eq mv N]
  simp only [Nat.zero_add, Nat.mul_one]

/-- TwoLevel: one Forward per started period -/
theorem fwdObs_twoLevel (p b : Nat) (st : Storage) (traj : Traj) (N : Nat) (hp : 1 ≤ p)
    (hN : 1 ≤ N) :
    Ckpt.fwdObs (twoLevelS p b st traj) N N 0 = twoLevelFwdObs (twoLevelS p b st traj) p N := by
  have hpos := ceilDiv_pos N p hp hN
  have hlt := ceilDiv_lt N p (ceilDiv N p - 1) hN (by omega)
  have hge := ceilDiv_ge N p hp
  have hle : ceilDiv N p - 1 ≤ (ceilDiv N p - 1) * p := Nat.le_mul_of_pos_right _ (by omega)
  have e : ceilDiv N p - 1 + 1 = ceilDiv N p := by omega
  rw [fwdObs_const (twoLevelS p b st traj) N p (fun _ => rfl) (ceilDiv N p - 1) 0 N
    (by omega) (by rw [e]; omega) (by omega), e]
  simp only [twoLevelFwdObs, Nat.zero_add]

theorem map_agains (s : Sched) (N j : Nat) :
    (agains s N j).map (Ev.obs · N) = (List.replicate j ((s.again N).map (Ev.obs · N))).flatten := by
  simp [agains, List.map_flatten, List.map_replicate]

theorem isPass_singleMemory (N : Nat) : IsPass (singleMemorySched.again N) :=
  ⟨[⟨.reverse N 0 false, N, N⟩], _, rfl, rfl, by simp⟩

theorem singleMemory_onlineObs (N k : Nat) (hN : 1 ≤ N) (hmax : N ≤ maxsize) (hk : 1 ≤ k) :
    onlineObs singleMemorySched N k (⟨.endForward, N, 0⟩ :: singleMemorySched.again N) =
      singleMemoryObs N k := by
  obtain ⟨k', rfl⟩ := Nat.exists_eq_add_of_le hk
  rw [onlineObs, fwdObs_maxsize singleMemorySched (fun _ => rfl) N hN hmax, List.map_append,
    map_agains]
  simp [singleMemoryObs, singleMemoryPass, singleMemorySched, Ev.obs, Nat.add_comm 1 k',
    List.replicate_succ]

theorem none_onlineObs (N : Nat) (hN : 1 ≤ N) (hmax : N ≤ maxsize) :
    Ckpt.fwdObs noneSched N N 0 ++ [⟨.endForward, N, 0, some N, true, true⟩] = noneObs N := by
  rw [fwdObs_maxsize noneSched (fun _ => rfl) N hN hmax]
  rfl

theorem singleDisk_copy_onlineObs (N k : Nat) (hN : 1 ≤ N) (hk : 1 ≤ k) :
    onlineObs (singleDiskSched false) N k (⟨.endForward, N, 0⟩ :: singleDiskPass false N N) =
      singleDiskObs false N k := by
  obtain ⟨k', rfl⟩ := Nat.exists_eq_add_of_le hk
  have hobs : (fun e : Ev => sdObs false N e) = (fun e => Ev.obs e N) := by
    funext e; simp [sdObs, Ev.obs]
  rw [onlineObs, fwdObs_singleDisk false N hN, List.map_append, map_agains]
  simp [singleDiskObs, singleDiskPassObs, singleDiskSched, singleDiskPass_eq,
    Nat.add_comm 1 k', List.replicate_succ, hobs, sdObs, Ev.obs]

theorem singleDisk_move_onlineObs (N k : Nat) (hN : 1 ≤ N) :
    Ckpt.fwdObs (singleDiskSched true) N N 0 ++
        obsOffline N (⟨.endForward, N, 0⟩ :: singleDiskPass true N N) =
      singleDiskObs true N k := by
  have hbody : (singleDiskBody true N N).map (sdObs true N) =
      (singleDiskBody true N N).map (Ev.obs · N) := by
    apply List.map_congr_left
    intro e he
    simp [sdObs, Ev.obs, (singleDiskBody_noER true N N e he).1]
  rw [fwdObs_singleDisk true N hN, obsOffline_eq_rec, singleDiskPass_eq, ← List.cons_append,
    obsRec_snoc]
  simp [singleDiskObs, singleDiskPassObs, singleDiskPass_eq, hbody, sdObs, Ev.obs]

/-- TwoLevel's stream after finalisation, in the form the generic theorems ask for -/
theorem twoLevel_first (p b N : Nat) (st : Storage) (traj : Traj) (hp : 1 ≤ p)
    (hst : st = .ram ∨ st = .disk) (hN : 1 ≤ N) :
    FirstHyp (twoLevelS p b st traj) N ⟨.endForward, N, 0⟩ (twoLevelPass N p b st traj) := by
  obtain ⟨⟨blocks, hblocks⟩, _⟩ := twoLevel_pass p b N st traj hp hst hN 0 none
  refine ⟨by simp only [twoLevelS, hblocks], rfl, blocks, ⟨.endReverse, 1, 0⟩, ?_, rfl,
    twoLevelBlocks_noER N p b st traj _ blocks hblocks⟩
  unfold twoLevelPass; rw [hblocks]

theorem twoLevel_length_onlineObs (p b N k : Nat) (st : Storage) (traj : Traj) (hp : 1 ≤ p)
    (hN : 1 ≤ N) (hk : 1 ≤ k) :
    (onlineObs (twoLevelS p b st traj) N k (⟨.endForward, N, 0⟩ :: twoLevelPass N p b st traj)).length
      = ceilDiv N p + 1 + k * (twoLevelPass N p b st traj).length := by
  obtain ⟨k', rfl⟩ := Nat.exists_eq_add_of_le' hk
  have hag : ((twoLevelS p b st traj).again N).length = (twoLevelPass N p b st traj).length := rfl
  have hfw : (twoLevelFwdObs (twoLevelS p b st traj) p N).length = ceilDiv N p := by
    simp [twoLevelFwdObs]
  simp only [onlineObs, List.length_append, List.length_map, length_agains, Nat.add_sub_cancel,
    fwdObs_twoLevel p b st traj N hp hN, hfw, hag, List.length_cons, Nat.succ_mul]
  omega

theorem twoLevel_onlineObs (p b N k : Nat) (st : Storage) (traj : Traj) (hp : 1 ≤ p)
    (hst : st = .ram ∨ st = .disk) (hN : 1 ≤ N) (evs : List Ev)
    (hfirst : (twoLevelS p b st traj).first N = .ok evs) :
    twoLevelObs p b st traj N k = some (onlineObs (twoLevelS p b st traj) N k evs) := by
  simp only [twoLevelObs, twoLevelSched_ok p b st traj hp hst, hfirst]
  rw [onlineObs, fwdObs_twoLevel p b st traj N hp hN, List.map_append, map_agains,
    List.append_assoc]


/-- **TwoLevel**: `twoLevelObs` is the list of observations on the `act` lines of the canonical
trace, for all valid parameters (and enough fuel for the trace to be complete). -/
theorem twoLevel_canon (p b N k fuel : Nat) (st : Storage) (traj : Traj) (hp : 1 ≤ p)
    (hst : st = .ram ∨ st = .disk) (hN : 1 ≤ N) (hk : 1 ≤ k)
    (hfuel : ceilDiv N p + 1 + k * (twoLevelPass N p b st traj).length ≤ fuel) :
    twoLevelObs p b st traj N k = some (actLines ((twoLevelS p b st traj).canon N k fuel)) := by
  have P := twoLevel_first p b N st traj hp hst hN
  rw [twoLevel_onlineObs p b N k st traj hp hst hN _ P.first]
  exact congrArg some (actsOf_canon_unbounded _ (fwdHyp_twoLevel p b st traj _
    (twoLevelSched_ok p b st traj hp hst)) rfl N k hN hk P P.pass fuel
    (by rw [twoLevel_length_onlineObs p b N k st traj hp hN hk]; exact hfuel)).symm

example : ∃ s, twoLevelSched 3 2 .ram .maximum = .ok s ∧
    Clean (cfgTwoLevel 3 2 .ram 10) (XS.init (cfgTwoLevel 3 2 .ram 10)) (actLines (s.canon 10 2 500))
      (X (some 1) 0 none none (sweepCps 3 10 4) true 2 (sweepCps 3 10 4)) := by
  obtain ⟨obs, hobs, hclean⟩ := twoLevel_clean 3 2 10 2 .ram .maximum (by omega) (.inl rfl)
    (by omega) (by omega)
  rw [twoLevel_canon 3 2 10 2 500 .ram .maximum (by omega) (.inl rfl) (by omega) (by omega)
    (by decide)] at hobs
  exact ⟨_, twoLevelSched_ok 3 2 .ram .maximum (by omega) (.inl rfl), Option.some.inj hobs ▸ hclean⟩

end Ckpt.On

section AxiomCheck
open Ckpt.On
#print axioms fwdObs_const
#print axioms twoLevel_canon
end AxiomCheck
