import CkptVerif.Proofs.OpsRevolve
import CkptVerif.Proofs.HRevolveStruct
/-!
# Refinement for HRevolve: the twin's stream is the structural stream `hRs` (= `resolveLoads ∘ hR`)
-/
namespace Ckpt.Ops

/-! ## `hrevolve_recurse` / `hrevolve_aux` at offset `lo`, in block form -/

/-- `Write_Forward [0, lo+1]; Forward [lo, lo+1]; Backward [lo+1, lo]; Discard_Forward [0, lo+1]` -/
def hturn (lo : Nat) : List Op :=
  [Op.wf 0 (lo + 1), Op.fwd lo (lo + 1), Op.bwd (lo + 1) lo, Op.df 0 (lo + 1)]

/-- the stored segment `[lo, lo+n+1)` with one RAM slot -/
def hqLoop (lo : Nat) : Nat → List Op
  | 0 => [Op.r 0 lo] ++ hturn lo ++ [Op.d 0 lo]
  | n+1 => [Op.r 0 lo, Op.fwd lo (lo + n + 1)] ++ hturn (lo + n + 1) ++ hqLoop lo n

mutual
def hrecAt (c : HCtx) : (fuel lo l K cmem : Nat) → Option (List Op)
  | 0, _, _, _, _ => none
  | fuel+1, lo, l, K, cmem =>
    if l = 0 then some (hturn lo)
    else if K = 0 ∧ cmem = 0 then none
    else if l = 1 then
      some ([Op.w 0 lo, Op.fwd lo (lo + 1)] ++ hturn (lo + 1) ++ hqLoop lo 0)
    else if K = 0 then
      match hauxAt c fuel lo l 0 cmem with
      | none => none
      | some aux => some ([Op.w 0 lo] ++ aux)
    else if olt (oadd (some (c.w K)) (c.tab.optp K l cmem)) (c.tab.opt (K - 1) l (cv c (K - 1))) then
      match hauxAt c fuel lo l K cmem with
      | none => none
      | some aux => some ([Op.w K lo] ++ aux)
    else hrecAt c fuel lo l (K - 1) (cv c (K - 1))
def hauxAt (c : HCtx) : (fuel lo l K cmem : Nat) → Option (List Op)
  | 0, _, _, _, _ => none
  | fuel+1, lo, l, K, cmem =>
    if cmem = 0 then none
    else if l = 0 then some (hturn lo)
    else if l = 1 then
      if c.w 0 + c.rr 0 < c.rr K then
        some ([Op.w 0 lo, Op.fwd lo (lo + 1)] ++ hturn (lo + 1) ++ hqLoop lo 0)
      else
        some ([Op.fwd lo (lo + 1)] ++ hturn (lo + 1) ++ [Op.r K lo] ++ hturn lo ++ [Op.d 0 lo])
    else if K = 0 ∧ cmem = 1 then
      some ([Op.fwd lo (lo + l)] ++ hturn (lo + l) ++ hqLoop lo (l - 1))
    else if hSplit c K cmem l then
      match hrecAt c fuel (lo + argminO (hCands c K cmem l)) (l - argminO (hCands c K cmem l)) K
          (cmem - 1) with
      | none => none
      | some right =>
        match hauxAt c fuel lo (argminO (hCands c K cmem l) - 1) K cmem with
        | none => none
        | some left =>
          let s := [Op.fwd lo (lo + argminO (hCands c K cmem l))] ++ right ++ [Op.r K lo] ++ left
          some (if K = 0 ∧ (s.getLast?.map (·.kind)) ≠ some .discard then s ++ [Op.d 0 lo] else s)
    else if K = 0 then hauxAt c fuel lo l 0 1
    else hrecAt c fuel lo l (K - 1) (cv c (K - 1))
end

theorem shiftOp_w (s K n : Nat) : shiftOp s (Op.w K n) = Op.w K (s + n) := by
  simp [shiftOp, Op.w, Nat.add_comm]
theorem shiftOp_r (s K n : Nat) : shiftOp s (Op.r K n) = Op.r K (s + n) := by
  simp [shiftOp, Op.r, Nat.add_comm]
theorem shiftOp_d (s K n : Nat) : shiftOp s (Op.d K n) = Op.d K (s + n) := by
  simp [shiftOp, Op.d, Nat.add_comm]
theorem shiftOp_wf (s K n : Nat) : shiftOp s (Op.wf K n) = Op.wf K (s + n) := by
  simp [shiftOp, Op.wf, Nat.add_comm]
theorem shiftOp_df (s K n : Nat) : shiftOp s (Op.df K n) = Op.df K (s + n) := by
  simp [shiftOp, Op.df, Nat.add_comm]

theorem shiftOps_hturn (s lo : Nat) : shiftOps s (hturn lo) = hturn (s + lo) := by
  simp [shiftOps, hturn, shiftOp_wf, shiftOp_fwd, shiftOp_bwd, shiftOp_df, Nat.add_assoc]

theorem shiftOps_hqLoop (s lo : Nat) : ∀ n, shiftOps s (hqLoop lo n) = hqLoop (s + lo) n := by
  intro n
  induction n with
  | zero =>
    rw [hqLoop, hqLoop, shiftOps_append, shiftOps_append, shiftOps_hturn]
    simp [shiftOps, shiftOp_r, shiftOp_d]
  | succ n ih =>
    rw [hqLoop, hqLoop, shiftOps_append, shiftOps_append, ih, shiftOps_hturn]
    simp [shiftOps, shiftOp_r, shiftOp_fwd, Nat.add_assoc]

theorem hrevolve_loop_eq (l : Nat) : ∀ n, n + 1 ≤ l →
    (List.range n).reverse.flatMap (hrevolveLoopBody l) ++
      [Op.r 0 0, Op.wf 0 1, Op.fwd 0 1, Op.bwd 1 0, Op.df 0 1, Op.d 0 0] = hqLoop 0 n := by
  intro n
  induction n with
  | zero => intro _; simp [hqLoop, hturn]
  | succ n ih =>
    intro hn
    have hr : (List.range (n + 1)).reverse = n :: (List.range n).reverse := by
      rw [List.range_succ, List.reverse_append]; rfl
    rw [hr, List.flatMap_cons, List.append_assoc, ih (by omega)]
    have h1 : n ≠ l - 1 := by omega
    simp [hrevolveLoopBody, hqLoop, hturn, h1]

theorem getLast?_shiftOps_kind (s : Nat) (ops : List Op) :
    (shiftOps s ops).getLast?.map (·.kind) = ops.getLast?.map (·.kind) := by
  unfold shiftOps
  rw [List.getLast?_map]
  cases ops.getLast? with
  | none => rfl
  | some o => simp [shiftOp_kind]

/-- the Python sequences shifted by `lo` are the block forms at offset `lo` -/
theorem shiftOps_hrevolve (c : HCtx) : ∀ fuel,
    (∀ lo l K cm, (hrevolveRecOps c fuel l K cm).map (shiftOps lo) = hrecAt c fuel lo l K cm) ∧
    (∀ lo l K cm, (hrevolveAuxOps c fuel l K cm).map (shiftOps lo) = hauxAt c fuel lo l K cm) := by
  intro fuel
  induction fuel with
  | zero =>
    constructor
    · intro lo l K cm; rw [hrevolveRecOps, hrecAt]; rfl
    · intro lo l K cm; rw [hrevolveAuxOps, hauxAt]; rfl
  | succ fuel ih =>
    obtain ⟨ihR, ihA⟩ := ih
    constructor
    · intro lo l K cm
      rw [hrevolveRecOps, hrecAt]
      by_cases h0 : l = 0
      · rw [if_pos h0, if_pos h0, Option.map_some]
        simp [shiftOps, hturn, shiftOp_wf, shiftOp_fwd, shiftOp_bwd, shiftOp_df]
      rw [if_neg h0, if_neg h0]
      by_cases hk : K = 0 ∧ cm = 0
      · rw [if_pos hk, if_pos hk]; rfl
      rw [if_neg hk, if_neg hk]
      by_cases h1 : l = 1
      · rw [if_pos h1, if_pos h1, Option.map_some]
        simp [shiftOps, hturn, hqLoop, shiftOp_wf, shiftOp_fwd, shiftOp_bwd, shiftOp_df, shiftOp_w,
          shiftOp_r, shiftOp_d]
      rw [if_neg h1, if_neg h1]
      by_cases hK : K = 0
      · rw [if_pos hK, if_pos hK, ← ihA lo l 0 cm]
        cases hrevolveAuxOps c fuel l 0 cm with
        | none => rfl
        | some aux =>
          simp only [Option.map_some]
          rw [shiftOps_append]
          simp [shiftOps, shiftOp_w]
      rw [if_neg hK, if_neg hK]
      by_cases ht : olt (oadd (some (c.w K)) (c.tab.optp K l cm))
          (c.tab.opt (K - 1) l (cv c (K - 1))) = true
      · rw [if_pos ht, if_pos ht, ← ihA lo l K cm]
        cases hrevolveAuxOps c fuel l K cm with
        | none => rfl
        | some aux =>
          simp only [Option.map_some]
          rw [shiftOps_append]
          simp [shiftOps, shiftOp_w]
      · rw [if_neg ht, if_neg ht]
        exact ihR lo l (K - 1) (cv c (K - 1))
    · intro lo l K cm
      rw [hrevolveAuxOps, hauxAt]
      by_cases hc : cm = 0
      · rw [if_pos hc, if_pos hc]; rfl
      rw [if_neg hc, if_neg hc]
      by_cases h0 : l = 0
      · rw [if_pos h0, if_pos h0, Option.map_some]
        simp [shiftOps, hturn, shiftOp_wf, shiftOp_fwd, shiftOp_bwd, shiftOp_df]
      rw [if_neg h0, if_neg h0]
      by_cases h1 : l = 1
      · rw [if_pos h1, if_pos h1]
        dsimp only
        by_cases ht : c.w 0 + c.rr 0 < c.rr K
        · rw [if_pos ht]
          simp [ht, shiftOps, hturn, hqLoop, shiftOp_wf, shiftOp_fwd, shiftOp_bwd, shiftOp_df,
            shiftOp_w, shiftOp_r, shiftOp_d]
        · rw [if_neg ht]
          simp [ht, shiftOps, hturn, shiftOp_wf, shiftOp_fwd, shiftOp_bwd, shiftOp_df,
            shiftOp_r, shiftOp_d]
      rw [if_neg h1, if_neg h1]
      by_cases hk : K = 0 ∧ cm = 1
      · rw [if_pos hk, if_pos hk, Option.map_some]
        obtain ⟨l', rfl⟩ : ∃ l', l = l' + 1 := ⟨l - 1, by omega⟩
        have hr : (List.range (l' + 1)).reverse = l' :: (List.range l').reverse := by
          rw [List.range_succ, List.reverse_append]; rfl
        rw [hr, List.flatMap_cons, List.append_assoc, hrevolve_loop_eq (l' + 1) l' (by omega),
          shiftOps_append, shiftOps_hqLoop]
        simp [hrevolveLoopBody, shiftOps, hturn, shiftOp_wf, shiftOp_fwd, shiftOp_bwd, shiftOp_df,
          Nat.add_assoc]
      rw [if_neg hk, if_neg hk]
      dsimp only
      have hcands : (List.range' 1 (l - 1)).map (fun j =>
          oadd (oadd (oadd (some (j * c.uf)) (c.tab.opt K (l - j) (cm - 1))) (some (c.rr K)))
            (c.tab.optp K (j - 1) cm)) = hCands c K cm l := rfl
      rw [hcands]
      by_cases hK : K = 0
      · subst hK
        rw [if_pos rfl]
        have hsp : olt (ominList (hCands c 0 cm l)) (c.tab.optp 0 l 1) = hSplit c 0 cm l := rfl
        rw [hsp]
        by_cases hs : hSplit c 0 cm l = true
        · rw [if_pos hs, if_pos hs]
          generalize argminO (hCands c 0 cm l) = j
          rw [← ihR (lo + j) (l - j) 0 (cm - 1), ← ihA lo (j - 1) 0 cm]
          cases hrevolveRecOps c fuel (l - j) 0 (cm - 1) with
          | none => rfl
          | some right =>
            cases hrevolveAuxOps c fuel (j - 1) 0 cm with
            | none => rfl
            | some left =>
              simp only [Option.map_some]
              have e : shiftOps lo ([Op.fwd 0 j] ++ shiftOps j right ++ [Op.r 0 0] ++ left) =
                  [Op.fwd lo (lo + j)] ++ shiftOps (lo + j) right ++ [Op.r 0 lo] ++ shiftOps lo left := by
                rw [shiftOps_append, shiftOps_append, shiftOps_append, shiftOps_shiftOps]
                simp [shiftOps, shiftOp_fwd, shiftOp_r]
              have ek := getLast?_shiftOps_kind lo
                ([Op.fwd 0 j] ++ shiftOps j right ++ [Op.r 0 0] ++ left)
              rw [e] at ek
              by_cases hd : (([Op.fwd 0 j] ++ shiftOps j right ++ [Op.r 0 0] ++ left).getLast?.map
                  (·.kind)) ≠ some .discard
              · rw [if_pos hd, if_pos ⟨trivial, by rw [ek]; exact hd⟩, shiftOps_append, e]
                simp [shiftOps, shiftOp_d]
              · rw [if_neg hd, if_neg (fun h => hd (by rw [← ek]; exact h.2)), e]
        · rw [if_neg hs, if_neg hs, if_pos rfl]
          exact ihA lo l 0 1
      · rw [if_neg hK]
        have hsp : olt (ominList (hCands c K cm l)) (c.tab.opt (K - 1) l (cv c (K - 1))) =
            hSplit c K cm l := by
          unfold hSplit hOther; rw [if_neg hK]
        rw [hsp]
        by_cases hs : hSplit c K cm l = true
        · rw [if_pos hs, if_pos hs]
          generalize argminO (hCands c K cm l) = j
          rw [← ihR (lo + j) (l - j) K (cm - 1), ← ihA lo (j - 1) K cm]
          cases hrevolveRecOps c fuel (l - j) K (cm - 1) with
          | none => rfl
          | some right =>
            cases hrevolveAuxOps c fuel (j - 1) K cm with
            | none => rfl
            | some left =>
              simp only [Option.map_some]
              rw [if_neg (fun h => hK h.1), shiftOps_append, shiftOps_append, shiftOps_append,
                shiftOps_shiftOps]
              simp [shiftOps, shiftOp_fwd, shiftOp_r]
        · rw [if_neg hs, if_neg hs, if_neg hK]
          exact ihR lo l (K - 1) (cv c (K - 1))

theorem convAct_w (K n : Nat) (hK : K ≤ 1) : convAct (Op.w K n) = .ok ⟨.write, n, none, some (lvl K)⟩ := by
  rcases Nat.le_one_iff_eq_zero_or_eq_one.1 hK with rfl | rfl <;> rfl

theorem convAct_r (K n : Nat) (hK : K ≤ 1) : convAct (Op.r K n) = .ok ⟨.read, n, none, some (lvl K)⟩ := by
  rcases Nat.le_one_iff_eq_zero_or_eq_one.1 hK with rfl | rfl <;> rfl

theorem convAct_d (K n : Nat) (hK : K ≤ 1) : convAct (Op.d K n) = .ok ⟨.discard, n, none, some (lvl K)⟩ := by
  rcases Nat.le_one_iff_eq_zero_or_eq_one.1 hK with rfl | rfl <;> rfl

theorem convAct_wf (K n : Nat) : convAct (Op.wf K n) = .ok ⟨.writeForward, n, none, some .work⟩ := rfl
theorem convAct_df (K n : Nat) : convAct (Op.df K n) = .ok ⟨.discardForward, n, none, some .work⟩ := rfl

theorem opKeyOf_r (K n : Nat) (hK : K ≤ 1) : opKeyOf (Op.r K n) = (some (lvl K), n) := by
  unfold opKeyOf; rw [convAct_r K n hK]

theorem opKeyOf_w (K n : Nat) (hK : K ≤ 1) : opKeyOf (Op.w K n) = (some (lvl K), n) := by
  unfold opKeyOf; rw [convAct_w K n hK]

theorem opTouches_hturn (lo : Nat) : ∀ o ∈ hturn lo, opTouches o = false := by
  intro o ho
  simp [hturn] at ho
  rcases ho with rfl | rfl | rfl | rfl <;> rfl

theorem opTouches_hturn_d (lo : Nat) : ∀ o ∈ hturn lo ++ [Op.d 0 lo], opTouches o = false := by
  intro o ho
  rcases List.mem_append.1 ho with ho | ho
  · exact opTouches_hturn lo o ho
  · rw [List.mem_singleton] at ho; subst ho; rfl

theorem wf_hturn (lo : Nat) : OpsWf (hturn lo) := by
  intro o ho
  simp [hturn] at ho
  rcases ho with rfl | rfl | rfl | rfl
  · exact ⟨_, convAct_wf _ _⟩
  · exact ⟨_, convAct_fwd _ _ (by omega)⟩
  · exact ⟨_, convAct_bwd _ _ (by omega)⟩
  · exact ⟨_, convAct_df _ _⟩

theorem hturn_block (N : Nat) (wrap : Option Op) (pos : Nat) (prev : Option Op) (tail : List Op)
    (lo : Nat) (S : List (Option Storage × Nat)) (hlo : lo + 1 ≤ N) :
    Conv N wrap pos prev (hturn lo) tail lo (N - (lo + 1)) S (turnEvs N lo) (lo + 1) (N - lo) S := by
  have e : N - lo = N - (lo + 1) + 1 := by omega
  rw [e]
  unfold hturn
  refine Conv.evs (evs' := [] ++ (fwdEvs N lo (lo + 1) (N - (lo + 1)) false true .work ++
    ([⟨.reverse (lo + 1) lo true, lo + 1, N - (lo + 1) + 1⟩] ++ ([] ++ [])))) ?_ (by simp [turnEvs])
  refine Conv.cons (step_wf N _ _ (Op.df 0 (lo + 1)) _ _ lo _ S (Or.inr ⟨rfl, rfl⟩) rfl rfl) ?_
  refine Conv.cons (n1 := lo + 1) (r1 := N - (lo + 1)) (S1 := S) ?_ ?_
  · rw [if_neg (by omega)]
    exact step_fwd_turn N _ _ _ _ lo _ S _ (convAct_wf _ _) (Or.inl rfl) rfl rfl (by omega)
  refine Conv.cons (step_bwd N _ _ _ _ lo _ S (by omega)) ?_
  refine Conv.cons (step_noop N _ _ _ _ _ (lo + 1) _ S _ (convAct_df _ _)
    (Or.inl ⟨Or.inl rfl, rfl⟩)) ?_
  exact Conv.nil _ _ _ _ _ _ _ _

theorem evBase_eq_turn (c : HCtx) (lo : Nat) (spine : Bool) (h : spine = true ↔ lo + 1 = c.N) :
    evBase c lo (lo + 1) spine = turnEvs c.N lo :=
  turnEvs_spine c.N lo spine h

/-- the turn-around step followed by the `Discard` of the RAM checkpoint it started from -/
theorem hturn_d_block (N : Nat) (wrap : Option Op) (tail : List Op) (lo : Nat)
    (S : List (Option Storage × Nat)) (hlo : lo + 1 ≤ N) (pos : Nat) (prev : Option Op) :
    Conv N wrap pos prev (hturn lo ++ [Op.d 0 lo]) tail lo (N - (lo + 1)) S (turnEvs N lo) (lo + 1)
      (N - lo) S :=
  Conv.discard_suffix (Op.d 0 lo) _ (convAct_d 0 lo (by omega)) (Or.inl rfl) (by simp [hturn])
    (hturn_block N wrap pos prev _ lo S hlo)

theorem lastRd_r (K n : Nat) (hK : K ≤ 1) (rest : List Op) :
    lastRd (some (lvl K), n) (Op.r K n :: rest) = false := by
  rw [lastRd, if_pos ⟨rfl, opKeyOf_r K n hK⟩]

theorem lastRd_hqLoop (lo n : Nat) (y : List Op) :
    lastRd (some .ram, lo) (hqLoop lo n ++ y) = false := by
  cases n <;> exact lastRd_r 0 lo (by omega) _

theorem mem_hqLoop_zero (lo : Nat) (o : Op) :
    o ∈ hqLoop lo 0 ↔ o = Op.r 0 lo ∨ o ∈ hturn lo ∨ o = Op.d 0 lo := by
  simp [hqLoop]

theorem mem_hqLoop_succ (lo n : Nat) (o : Op) :
    o ∈ hqLoop lo (n + 1) ↔ o = Op.r 0 lo ∨ o = Op.fwd lo (lo + n + 1) ∨ o ∈ hturn (lo + n + 1) ∨
      o ∈ hqLoop lo n := by
  simp [hqLoop]

theorem facts_hturn (lo hi lo' : Nat) (p : Prop) : OpsFacts lo hi p (hturn lo') :=
  OpsFacts.of_noTouch (wf_hturn lo') (opTouches_hturn lo')

theorem facts_d (lo hi n : Nat) (p : Prop) : OpsFacts lo hi p [Op.d 0 n] :=
  OpsFacts.single _ ⟨_, convAct_d 0 n (by omega)⟩ (fun ht => by cases ht)

theorem facts_r (lo hi K : Nat) (p : Prop) (hK : K ≤ 1) (hlt : lo < hi) (hp : p → K = 0) :
    OpsFacts lo hi p [Op.r K lo] :=
  OpsFacts.single _ ⟨_, convAct_r K lo hK⟩ (fun _ => by
    rw [opKeyOf_r K lo hK]
    exact ⟨le_refl _, hlt, fun h => by rw [hp h]; rfl⟩)

theorem facts_w (lo hi K : Nat) (p : Prop) (hK : K ≤ 1) (hlt : lo < hi) (hp : p → K = 0) :
    OpsFacts lo hi p [Op.w K lo] :=
  OpsFacts.single _ ⟨_, convAct_w K lo hK⟩ (fun _ => by
    rw [opKeyOf_w K lo hK]
    exact ⟨le_refl _, hlt, fun h => by rw [hp h]; rfl⟩)

theorem facts_hqLoop (lo hi : Nat) (p : Prop) (hlt : lo < hi) : ∀ n, OpsFacts lo hi p (hqLoop lo n) := by
  intro n
  induction n with
  | zero =>
    exact ((facts_r lo hi 0 p (by omega) hlt (fun _ => rfl)).append (facts_hturn lo hi lo p)).append
      (facts_d lo hi lo p)
  | succ n ih =>
    have : hqLoop lo (n + 1) = [Op.r 0 lo] ++ [Op.fwd lo (lo + n + 1)] ++ hturn (lo + n + 1) ++
        hqLoop lo n := by simp [hqLoop]
    rw [this]
    exact (((facts_r lo hi 0 p (by omega) hlt (fun _ => rfl)).append
      (facts_fwd lo hi _ _ p (by omega))).append (facts_hturn lo hi _ p)).append ih

/-- the stored segment `[lo, lo+n+1)` reversed with a single RAM slot -/
theorem hqLoop_conv (c : HCtx) (wrap : Option Op) (tail : List Op) (lo : Nat)
    (S : List (Option Storage × Nat)) (htail : TailOk lo tail) (hS : SnapOk lo S) :
    ∀ (n : Nat), lo + n + 1 < c.N →
      ∀ pos prev n0, Conv c.N wrap pos prev (hqLoop lo n) tail n0 (c.N - (lo + n + 1))
        ((some .ram, lo) :: S)
        ((List.range n).reverse.flatMap (loopEv c lo) ++ [evLoad false lo .ram (c.N - (lo + 1))] ++
          evBase c lo (lo + 1) false) (lo + 1) (c.N - lo) S := by
  intro n
  induction n with
  | zero =>
    intro hN pos prev n0
    have hlast : lastRd (some Storage.ram, lo) ((hturn lo ++ [Op.d 0 lo]) ++ tail) = true :=
      lastRd_noTouch_tail lo _ _ tail (fun o ho ht => by
        rw [opTouches_hturn_d lo o ho] at ht; cases ht) htail
    refine Conv.evs (Conv.move_prefix (Op.r 0 lo) _ .ram lo _ (convAct_r 0 lo (by omega)) rfl rfl rfl
      (snap_key lo S hS _) hlast (hturn_d_block c.N wrap tail lo S (by omega)) pos prev n0) ?_
    rw [evBase_eq_turn c lo false (by constructor <;> intro h <;> [cases h; omega])]
    simp [evLoad]
  | succ n ih =>
    intro hN pos prev n0
    have hlast : lastRd (some Storage.ram, lo) ((hturn (lo + n + 1) ++ hqLoop lo n) ++ tail) = false := by
      rw [List.append_assoc, lastRd_skip _ _ _ (fun o ho ht => by
        rw [opTouches_hturn _ o ho] at ht; cases ht)]
      exact lastRd_hqLoop lo n tail
    have hr : (List.range (n + 1)).reverse = n :: (List.range n).reverse := by
      rw [List.range_succ, List.reverse_append]; rfl
    refine Conv.evs (Conv.copy_prefix
      (evsY := turnEvs c.N (lo + (n + 1)) ++ ((List.range n).reverse.flatMap (loopEv c lo) ++
        [evLoad false lo .ram (c.N - (lo + 1))] ++ evBase c lo (lo + 1) false))
      (Op.r 0 lo) _ .ram lo (n + 1) _ (convAct_r 0 lo (by omega)) rfl rfl rfl (by omega) (by omega)
      hlast (fun pos prev => ?_) pos prev n0) ?_
    · refine Conv.append (n1 := lo + n + 1 + 1) (r1 := c.N - (lo + n + 1))
        (S1 := (some .ram, lo) :: S) (by simp [hturn]) ?_ (ih (by omega) _ _ (lo + n + 1 + 1))
      exact hturn_block c.N wrap _ _ _ (lo + n + 1) _ (by omega)
    · rw [hr, List.flatMap_cons, loopEv,
        show lo + n + 2 = lo + n + 1 + 1 from rfl,
        evBase_eq_turn c (lo + n + 1) false (by constructor <;> intro h <;> [cases h; omega])]
      simp [evLoad, evFwd, Nat.add_assoc]

end Ckpt.Ops
