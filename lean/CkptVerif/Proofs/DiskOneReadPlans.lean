import CkptVerif.Proofs.DiskOneReadSeq
/-!
# Plans with one-read disk checkpoints

State of a reversal: the adjoint stands at `a`; forward states are available under *tags*
(`ram e`: a RAM checkpoint at `e`, `disk e`: a disk checkpoint at `e`, `work e`: working storage).

A plan is a list of entries with increasing bases, the first at `0`:
* `ownH t b` / `ownD t b`: the state under tag `t` is carried to `b` (price `uf·(b - pos t)`) and kept
  in a RAM unit (`H`, *consuming*) or written to disk again (`D`, price `wr`);
* `dskN e b`: the disk checkpoint `e` is read when its turn comes and carried to `b`;
* `chH b` / `chD b`: the sweep that produced the previous non-`dskN` entry goes on to `b`.
The gaps are priced by `XiG`.
-/
namespace Ckpt.LB7

/-- under what a forward state is available: a RAM checkpoint, working storage, a disk checkpoint -/
inductive Tag | ram (e : Nat) | work (e : Nat) | disk (e : Nat)
deriving DecidableEq, Repr

/-- the step at which the state available under the tag stands -/
def Tag.pos : Tag → Nat
  | .ram e => e | .work e => e | .disk e => e

/-- an entry of a plan, see the head of the file; the last argument `b` is its base -/
inductive Ent
  | ownH (t : Tag) (b : Nat)
  | ownD (t : Tag) (b : Nat)
  | dskN (e b : Nat)
  | chH (b : Nat)
  | chD (b : Nat)
deriving DecidableEq, Repr

namespace Ent

/-- where the gap of the entry starts -/
def base : Ent → Nat
  | ownH _ b => b | ownD _ b => b | dskN _ b => b | chH b => b | chD b => b

/-- *consuming*: the state at the base is held in a RAM unit while the gaps above are reversed, so these
have one unit less -/
def cons : Ent → Bool
  | ownH _ _ => true | chH _ => true | _ => false

/-- the state at the base is written to disk (and read back once): price `wr` -/
def paysWr : Ent → Bool
  | ownD _ _ => true | chD _ => true | _ => false

/-- the sweep that produces the entry can go on: a later `chH`/`chD` entry may continue it from this base
(a `dskN` entry is produced when its turn comes, after the sweeps) -/
def sets : Ent → Bool
  | dskN _ _ => false | _ => true

/-- the entry continues the sweep of an earlier one -/
def isCh : Ent → Bool
  | chH _ => true | chD _ => true | _ => false

/-- the available state the entry uses up, if it does not continue a sweep -/
def tag? : Ent → Option Tag
  | ownH t _ => some t | ownD t _ => some t | dskN e _ => some (.disk e) | _ => none

/-- the state the entry starts from does not stand beyond its base -/
def srcLe : Ent → Prop
  | ownH t b => t.pos ≤ b | ownD t b => t.pos ≤ b | dskN e b => e ≤ b | _ => True

end Ent

section
variable (uf wr : Nat)

/-- forward steps that carry a state to the base of the entry.  `cp`, here and below: the base of the
last entry so far whose sweep can go on (`Ent.sets`), i.e. where a `chH`/`chD` entry continues from;
`none` before the first such entry. -/
def fee (cp : Option Nat) : Ent → Nat
  | .ownH t b => uf * (b - t.pos)
  | .ownD t b => uf * (b - t.pos)
  | .dskN e b => uf * (b - e)
  | .chH b => match cp with | some c => uf * (b - c) | none => 0
  | .chD b => match cp with | some c => uf * (b - c) | none => 0

/-- `cp` after the entry `E` -/
def cpStep (cp : Option Nat) (E : Ent) : Option Nat := if E.sets then some E.base else cp

/-- the fees of a list of entries, starting with `cp` -/
def feeSum : Option Nat → List Ent → Nat
  | _, [] => 0
  | cp, E :: rest => fee uf cp E + feeSum (cpStep cp E) rest

/-- every `chH`/`chD` entry has a sweep to continue -/
def ChainOk : Option Nat → List Ent → Prop
  | _, [] => True
  | cp, E :: rest => (E.isCh = true → cp.isSome = true) ∧ ChainOk (cpStep cp E) rest

/-- `cp` after all entries of `P` -/
def cpAfter (cp : Option Nat) (P : List Ent) : Option Nat := P.foldl cpStep cp

/-- what the disk transfers of the plan cost -/
def wrSum (P : List Ent) : Nat := (P.map (fun E => if E.paysWr then wr else 0)).sum

/-- what `XiG` and `SeqOk` need of a plan: the bases, and which of them are consuming -/
def seqOf (P : List Ent) : List (Nat × Bool) := P.map (fun E => (E.base, E.cons))

/-- the available states the plan uses up -/
def tags (P : List Ent) : List Tag := P.filterMap Ent.tag?

def SrcLe (P : List Ent) : Prop := ∀ E ∈ P, E.srcLe

/-- price of a plan for `cm` RAM units: carrying states to the bases, disk transfers, the gaps -/
noncomputable def val (cm : Nat) (P : List Ent) (a : Nat) : Nat :=
  feeSum uf none P + wrSum wr P + XiG uf wr cm (seqOf P) a

/-- a plan for the adjoint at `a` and the available states `Av`: each used once -/
structure PlanOk (cm a : Nat) (Av : Tag → Prop) (P : List Ent) : Prop where
  seq : SeqOk cm (seqOf P) a
  head : 0 < a → ∃ E rest, P = E :: rest ∧ E.base = 0
  src : SrcLe P
  chain : ChainOk none P
  nodup : (tags P).Nodup
  avail : ∀ t ∈ tags P, Av t

/-- some plan costs at most `n` -/
def DReach (cm : Nat) (Av : Tag → Prop) (a n : Nat) : Prop :=
  ∃ P, PlanOk cm a Av P ∧ val uf wr cm P a ≤ n

theorem cpAfter_nil (cp : Option Nat) : cpAfter cp [] = cp := rfl
theorem cpAfter_cons (cp : Option Nat) (E : Ent) (P : List Ent) :
    cpAfter cp (E :: P) = cpAfter (cpStep cp E) P := rfl
theorem cpAfter_append (cp : Option Nat) (A B : List Ent) :
    cpAfter cp (A ++ B) = cpAfter (cpAfter cp A) B := by
  unfold cpAfter; rw [List.foldl_append]

theorem feeSum_append (cp : Option Nat) (A B : List Ent) :
    feeSum uf cp (A ++ B) = feeSum uf cp A + feeSum uf (cpAfter cp A) B := by
  induction A generalizing cp with
  | nil => simp [feeSum, cpAfter_nil]
  | cons E A ih => rw [List.cons_append, feeSum, feeSum, ih, cpAfter_cons]; omega

theorem ChainOk_append (cp : Option Nat) (A B : List Ent) :
    ChainOk cp (A ++ B) ↔ ChainOk cp A ∧ ChainOk (cpAfter cp A) B := by
  induction A generalizing cp with
  | nil => simp [ChainOk, cpAfter_nil]
  | cons E A ih => rw [List.cons_append, ChainOk, ChainOk, ih, cpAfter_cons, and_assoc]

theorem wrSum_append (A B : List Ent) : wrSum wr (A ++ B) = wrSum wr A + wrSum wr B := by
  unfold wrSum; rw [List.map_append, List.sum_append]

theorem wrSum_cons (E : Ent) (A : List Ent) :
    wrSum wr (E :: A) = (if E.paysWr then wr else 0) + wrSum wr A := by
  unfold wrSum; rw [List.map_cons, List.sum_cons]

theorem seqOf_append (A B : List Ent) : seqOf (A ++ B) = seqOf A ++ seqOf B := by
  unfold seqOf; rw [List.map_append]

theorem seqOf_cons (E : Ent) (A : List Ent) : seqOf (E :: A) = (E.base, E.cons) :: seqOf A := rfl

theorem tags_append (A B : List Ent) : tags (A ++ B) = tags A ++ tags B := by
  unfold tags; rw [List.filterMap_append]

theorem tags_cons (E : Ent) (A : List Ent) :
    tags (E :: A) = (match E.tag? with | some t => [t] | none => []) ++ tags A := by
  unfold tags
  rw [List.filterMap_cons]
  cases E.tag? <;> rfl

/-- `cp'` is at least as far up as `cp` -/
def cpLe : Option Nat → Option Nat → Prop
  | none, _ => True
  | some _, none => False
  | some c, some c' => c ≤ c'

theorem cpLe_refl (cp : Option Nat) : cpLe cp cp := by
  cases cp <;> simp [cpLe]

theorem cpLe_step {cp cp' : Option Nat} (h : cpLe cp cp') (E : Ent) :
    cpLe (cpStep cp E) (cpStep cp' E) := by
  unfold cpStep
  split
  · simp [cpLe]
  · exact h

theorem fee_mono {cp cp' : Option Nat} (h : cpLe cp cp') (E : Ent)
    (hc : E.isCh = true → cp.isSome = true) : fee uf cp' E ≤ fee uf cp E := by
  cases E with
  | chH b =>
    cases cp with
    | none => simp [Ent.isCh] at hc
    | some c =>
      cases cp' with
      | none => simp [cpLe] at h
      | some c' =>
        simp only [cpLe] at h
        simp only [fee]
        exact Nat.mul_le_mul_left uf (by omega)
  | chD b =>
    cases cp with
    | none => simp [Ent.isCh] at hc
    | some c =>
      cases cp' with
      | none => simp [cpLe] at h
      | some c' =>
        simp only [cpLe] at h
        simp only [fee]
        exact Nat.mul_le_mul_left uf (by omega)
  | _ => exact le_refl _

theorem isSome_of_cpLe {cp cp' : Option Nat} (h : cpLe cp cp') (hs : cp.isSome = true) :
    cp'.isSome = true := by
  cases cp with
  | none => simp at hs
  | some c => cases cp' with
    | none => simp [cpLe] at h
    | some c' => rfl

theorem feeSum_mono : ∀ (P : List Ent) (cp cp' : Option Nat), cpLe cp cp' → ChainOk cp P →
    ChainOk cp' P ∧ feeSum uf cp' P ≤ feeSum uf cp P := by
  intro P
  induction P with
  | nil => intro cp cp' _ _; exact ⟨trivial, le_refl _⟩
  | cons E P ih =>
    intro cp cp' h hc
    obtain ⟨h1, h2⟩ := hc
    obtain ⟨i1, i2⟩ := ih _ _ (cpLe_step h E) h2
    refine ⟨⟨fun hE => isSome_of_cpLe h (h1 hE), i1⟩, ?_⟩
    have := fee_mono uf h E h1
    simp only [feeSum]
    omega

/-- no entry before the first own entry continues a sweep from below -/
def NoChainHead : List Ent → Prop
  | [] => True
  | .dskN _ _ :: rest => NoChainHead rest
  | .chH _ :: _ => False
  | .chD _ :: _ => False
  | _ :: _ => True

theorem feeSum_noChainHead : ∀ (P : List Ent) (cp cp' : Option Nat), NoChainHead P →
    feeSum uf cp P = feeSum uf cp' P ∧ (ChainOk cp P → ChainOk cp' P) := by
  intro P
  induction P with
  | nil => intro cp cp' _; exact ⟨rfl, fun _ => trivial⟩
  | cons E P ih =>
    intro cp cp' h
    cases E with
    | dskN e b =>
      obtain ⟨i1, i2⟩ := ih cp cp' h
      refine ⟨?_, ?_⟩
      · simp only [feeSum, fee, cpStep, Ent.sets]
        simp only [Bool.false_eq_true, if_false]
        rw [i1]
      · intro hc
        obtain ⟨h1, h2⟩ := hc
        refine ⟨by simp [Ent.isCh], ?_⟩
        simp only [cpStep, Ent.sets, Bool.false_eq_true, if_false] at h2 ⊢
        exact i2 h2
    | chH b => exact absurd h (by simp [NoChainHead])
    | chD b => exact absurd h (by simp [NoChainHead])
    | ownH t b =>
      exact ⟨rfl, fun hc => ⟨by simp [Ent.isCh], hc.2⟩⟩
    | ownD t b =>
      exact ⟨rfl, fun hc => ⟨by simp [Ent.isCh], hc.2⟩⟩

theorem planOk_nil (cm : Nat) (Av : Tag → Prop) : PlanOk cm 0 Av [] :=
  { seq := trivial
    head := fun h => absurd h (lt_irrefl _)
    src := fun _ hE => absurd hE List.not_mem_nil
    chain := trivial
    nodup := List.nodup_nil
    avail := fun _ ht => absurd ht List.not_mem_nil }

theorem dreach_final (cm : Nat) (Av : Tag → Prop) : DReach uf wr cm Av 0 0 :=
  ⟨[], planOk_nil cm Av, by simp [val, feeSum, wrSum, seqOf, XiG]⟩

theorem PlanOk.mono {cm a : Nat} {Av Av' : Tag → Prop} {P : List Ent} (h : PlanOk cm a Av P)
    (hAv : ∀ t, Av t → Av' t) : PlanOk cm a Av' P :=
  { h with avail := fun t ht => hAv t (h.avail t ht) }

theorem dreach_mono {cm a n : Nat} {Av Av' : Tag → Prop} (hAv : ∀ t, Av t → Av' t)
    (h : DReach uf wr cm Av a n) : DReach uf wr cm Av' a n := by
  obtain ⟨P, hP, hv⟩ := h
  exact ⟨P, hP.mono hAv, hv⟩

theorem SeqOk_pairwise : ∀ (s : List (Nat × Bool)) (k a : Nat), SeqOk k s a →
    s.Pairwise (fun p q => p.1 < q.1) := by
  intro s
  induction s with
  | nil => intro _ _ _; exact List.Pairwise.nil
  | cons p rest ih =>
    intro k a h
    rw [SeqOk_cons] at h
    obtain ⟨h1, _, h3⟩ := h
    have hp := ih _ a h3
    refine List.Pairwise.cons ?_ hp
    intro q hq
    cases rest with
    | nil => cases hq
    | cons r rest' =>
      simp only [nextB] at h1
      rcases List.mem_cons.mp hq with rfl | hq'
      · exact h1
      · have := (List.pairwise_cons.mp hp).1 q hq'
        omega

theorem bases_pairwise {cm a : Nat} {P : List Ent} (h : SeqOk cm (seqOf P) a) :
    P.Pairwise (fun X Y => X.base < Y.base) := by
  have := SeqOk_pairwise _ _ _ h
  unfold seqOf at this
  rw [List.pairwise_map] at this
  exact this

theorem bases_lt {cm a : Nat} {P : List Ent} (h : SeqOk cm (seqOf P) a) : ∀ E ∈ P, E.base < a := by
  intro E hE
  have := SeqOk_lt _ _ _ h (E.base, E.cons) (by unfold seqOf; exact List.mem_map.mpr ⟨E, hE, rfl⟩)
  exact this

theorem cpAfter_cases : ∀ (A : List Ent) (cp : Option Nat),
    cpAfter cp A = cp ∨ ∃ E ∈ A, cpAfter cp A = some E.base := by
  intro A
  induction A with
  | nil => intro cp; exact Or.inl rfl
  | cons X A ih =>
    intro cp
    rw [cpAfter_cons]
    rcases ih (cpStep cp X) with h | ⟨E, hE, h⟩
    · rw [h]
      unfold cpStep
      split
      · exact Or.inr ⟨X, List.mem_cons_self .., rfl⟩
      · exact Or.inl rfl
    · exact Or.inr ⟨E, List.mem_cons_of_mem _ hE, h⟩

theorem cpLe_of_below (A : List Ent) (b : Nat) (h : ∀ E ∈ A, E.base ≤ b) :
    cpLe (cpAfter none A) (some b) := by
  rcases cpAfter_cases A none with h0 | ⟨E, hE, h0⟩
  · rw [h0]; trivial
  · rw [h0]; exact h E hE

theorem cpAfter_ge (M : List Ent) (b : Nat) (h : ∀ E ∈ M, b ≤ E.base) :
    ∃ c, cpAfter (some b) M = some c ∧ b ≤ c := by
  rcases cpAfter_cases M (some b) with h0 | ⟨E, hE, h0⟩
  · exact ⟨b, h0, le_refl _⟩
  · exact ⟨E.base, h0, h E hE⟩

theorem head_replace {A X X' : List Ent} {B B' : Ent} (hb : B'.base = B.base)
    (h : ∃ E rest, A ++ B :: X = E :: rest ∧ E.base = 0) :
    ∃ E rest, A ++ B' :: X' = E :: rest ∧ E.base = 0 := by
  obtain ⟨E, rest, hE, h0⟩ := h
  cases A with
  | nil =>
    simp only [List.nil_append, List.cons.injEq] at hE
    exact ⟨B', X', rfl, by rw [hb, hE.1]; exact h0⟩
  | cons Z A' =>
    simp only [List.cons_append, List.cons.injEq] at hE
    exact ⟨Z, _, rfl, by rw [hE.1]; exact h0⟩

/-- **Surgery on a segment.**  The segment `B :: S` of a plan is replaced by `B' :: S'` with the same first
base.  Asked of the new segment alone: its sources, its chain, a bound `d` on what the gaps from `B` on
cost more, and that what lies above does not suffer from the new sweep pointer (the pointer does not go
back, or nothing above continues a sweep from below).  Fees and disk checkpoints are compared on the two
segments only. -/
theorem replace_segment {cm a : Nat} {Av Av' : Tag → Prop} (A S S' C : List Ent) (B B' : Ent) (d : Nat)
    (hP : PlanOk cm a Av (A ++ B :: (S ++ C)))
    (hb : B'.base = B.base) (hsrc : SrcLe (B' :: S'))
    (hchain : ChainOk (cpAfter none A) (B :: S) → ChainOk (cpAfter none A) (B' :: S'))
    (hcp : cpLe (cpAfter (cpAfter none A) (B :: S)) (cpAfter (cpAfter none A) (B' :: S')) ∨ NoChainHead C)
    (hseq : ∀ k, SeqOk k ((B.base, B.cons) :: (seqOf S ++ seqOf C)) a →
      SeqOk k ((B'.base, B'.cons) :: (seqOf S' ++ seqOf C)) a ∧
        XiG uf wr k ((B'.base, B'.cons) :: (seqOf S' ++ seqOf C)) a ≤
          XiG uf wr k ((B.base, B.cons) :: (seqOf S ++ seqOf C)) a + d)
    (hnd : (tags (A ++ B' :: (S' ++ C))).Nodup) (hav : ∀ t ∈ tags (A ++ B' :: (S' ++ C)), Av' t) :
    PlanOk cm a Av' (A ++ B' :: (S' ++ C)) ∧
      val uf wr cm (A ++ B' :: (S' ++ C)) a + feeSum uf (cpAfter none A) (B :: S) + wrSum wr (B :: S) ≤
        val uf wr cm (A ++ B :: (S ++ C)) a + feeSum uf (cpAfter none A) (B' :: S') + wrSum wr (B' :: S')
          + d := by
  have eold : A ++ B :: (S ++ C) = A ++ ((B :: S) ++ C) := rfl
  have enew : A ++ B' :: (S' ++ C) = A ++ ((B' :: S') ++ C) := rfl
  have hsold : seqOf (A ++ B :: (S ++ C)) = seqOf A ++ (B.base, B.cons) :: (seqOf S ++ seqOf C) := by
    rw [seqOf_append, seqOf_cons, seqOf_append]
  have hsnew : seqOf (A ++ B' :: (S' ++ C)) = seqOf A ++ (B'.base, B'.cons) :: (seqOf S' ++ seqOf C) := by
    rw [seqOf_append, seqOf_cons, seqOf_append]
  have hs := hP.seq
  rw [hsold] at hs
  obtain ⟨s1, s2⟩ := seq_prefix uf wr d ((B.base, B.cons) :: (seqOf S ++ seqOf C))
    ((B'.base, B'.cons) :: (seqOf S' ++ seqOf C)) a (fun _ => hb.symm) (by simp) hseq (seqOf A) cm hs
  rw [← hsold, ← hsnew] at s2
  have hchain' := hP.chain
  rw [eold, ChainOk_append, ChainOk_append] at hchain'
  obtain ⟨hcA, hcS, hcC⟩ := hchain'
  obtain ⟨m1, m2⟩ : ChainOk (cpAfter (cpAfter none A) (B' :: S')) C ∧
      feeSum uf (cpAfter (cpAfter none A) (B' :: S')) C ≤ feeSum uf (cpAfter (cpAfter none A) (B :: S)) C := by
    rcases hcp with h | h
    · obtain ⟨c1, c2⟩ := feeSum_mono uf C _ _ h hcC
      exact ⟨c1, c2⟩
    · obtain ⟨c1, c2⟩ := feeSum_noChainHead uf C (cpAfter (cpAfter none A) (B :: S))
        (cpAfter (cpAfter none A) (B' :: S')) h
      exact ⟨c2 hcC, le_of_eq c1.symm⟩
  refine ⟨⟨by rw [hsnew]; exact s1, fun ha => head_replace hb (hP.head ha), ?_, ?_, hnd, hav⟩, ?_⟩
  · intro X hX
    rw [enew] at hX
    rcases List.mem_append.mp hX with hX | hX
    · exact hP.src X (List.mem_append_left _ hX)
    · rcases List.mem_append.mp hX with hX | hX
      · exact hsrc X hX
      · exact hP.src X (List.mem_append_right _ (List.mem_cons_of_mem _ (List.mem_append_right _ hX)))
  · rw [enew, ChainOk_append, ChainOk_append]
    exact ⟨hcA, hchain hcS, m1⟩
  · unfold val
    rw [eold, enew, feeSum_append, feeSum_append, feeSum_append, feeSum_append, wrSum_append,
      wrSum_append, wrSum_append, wrSum_append, ← eold, ← enew]
    omega

/-- One entry is replaced by another with the same base that is held in RAM only if the old one was.
What lies above must not suffer from the new sweep pointer: either the pointer does not go back, or
nothing above continues a sweep from below. -/
theorem replace_entry {cm a : Nat} {Av Av' : Tag → Prop} (A C : List Ent) (E E' : Ent)
    (hP : PlanOk cm a Av (A ++ E :: C))
    (hb : E'.base = E.base) (hc : E'.cons = true → E.cons = true) (hsrc : E'.srcLe)
    (hch : E'.isCh = true → (cpAfter none A).isSome = true)
    (hcp : cpLe (cpStep (cpAfter none A) E) (cpStep (cpAfter none A) E') ∨ NoChainHead C)
    (hnd : (tags (A ++ E' :: C)).Nodup) (hav : ∀ t ∈ tags (A ++ E' :: C), Av' t) :
    PlanOk cm a Av' (A ++ E' :: C) ∧
      val uf wr cm (A ++ E' :: C) a + fee uf (cpAfter none A) E + (if E.paysWr then wr else 0) ≤
        val uf wr cm (A ++ E :: C) a + fee uf (cpAfter none A) E' + (if E'.paysWr then wr else 0) := by
  obtain ⟨h1, h2⟩ := replace_segment uf wr A [] [] C E E' 0 hP hb
    (fun X hX => by rw [List.mem_singleton.mp hX]; exact hsrc) (fun _ => ⟨hch, trivial⟩) hcp
    (fun k hk => by
      rw [hb]
      exact XiG_mono uf wr _ _ k k a (le_refl _)
        (FlagLe.cons E.base E'.cons E.cons _ _ hc (FlagLe.refl _)) hk)
    hnd hav
  refine ⟨h1, ?_⟩
  have e1 : ∀ X : Ent, feeSum uf (cpAfter none A) [X] = fee uf (cpAfter none A) X := fun _ => rfl
  have e2 : ∀ X : Ent, wrSum wr [X] = (if X.paysWr then wr else 0) := fun X => by
    rw [wrSum_cons]; rfl
  rw [e1, e1, e2, e2] at h2
  exact h2

theorem tags_replace (A C : List Ent) (E : Ent) :
    tags (A ++ E :: C) = tags A ++ ((match E.tag? with | some t => [t] | none => []) ++ tags C) := by
  rw [tags_append, tags_cons]

theorem exists_of_tag_mem {P : List Ent} {t : Tag} (h : t ∈ tags P) :
    ∃ A E C, P = A ++ E :: C ∧ E.tag? = some t := by
  unfold tags at h
  obtain ⟨E, hE, ht⟩ := List.mem_filterMap.mp h
  obtain ⟨A, C, rfl⟩ := List.append_of_mem hE
  exact ⟨A, E, C, rfl, ht⟩


def Ent.isOwn : Ent → Bool
  | .ownH _ _ => true | .ownD _ _ => true | _ => false

def Ent.toCh : Ent → Ent
  | .ownH _ b => .chH b | .ownD _ b => .chD b | E => E

def Ent.retag (t0 : Tag) : Ent → Ent
  | .ownH _ b => .ownH t0 b | .ownD _ b => .ownD t0 b | E => E

theorem fee_of_tag {E : Ent} {t : Tag} (h : E.tag? = some t) (cp : Option Nat) :
    fee uf cp E = uf * (E.base - t.pos) := by
  cases E <;> cases h <;> rfl

theorem srcLe_of_tag {E : Ent} {t : Tag} (h : E.tag? = some t) : E.srcLe ↔ t.pos ≤ E.base := by
  cases E <;> cases h <;> exact Iff.rfl

theorem isCh_facts {E : Ent} (h : E.isCh = true) : E.sets = true ∧ E.tag? = none ∧ E.srcLe := by
  cases E <;> cases h <;> exact ⟨rfl, rfl, trivial⟩

theorem fee_of_isCh {E : Ent} (h : E.isCh = true) (c : Nat) : fee uf (some c) E = uf * (E.base - c) := by
  cases E <;> cases h <;> rfl

theorem isCh_of_tag_none {E : Ent} (h : E.tag? = none) : E.isCh = true := by
  cases E <;> cases h <;> rfl

theorem isOwn_facts {E : Ent} (h : E.isOwn = true) :
    E.sets = true ∧ E.isCh = false ∧ ∃ t, E.tag? = some t := by
  cases E <;> cases h <;> exact ⟨rfl, rfl, _, rfl⟩

theorem isOwn_of_tag {E : Ent} {t : Tag} (h : E.tag? = some t) (hN : ∀ e b, E = .dskN e b → False) :
    E.isOwn = true := by
  cases E with
  | dskN e b => exact absurd rfl (hN e b)
  | ownH _ _ => rfl
  | ownD _ _ => rfl
  | chH _ => cases h
  | chD _ => cases h

theorem toCh_facts {E : Ent} (h : E.isOwn = true) :
    E.toCh.base = E.base ∧ E.toCh.cons = E.cons ∧ E.toCh.paysWr = E.paysWr ∧ E.toCh.isCh = true := by
  cases E <;> cases h <;> exact ⟨rfl, rfl, rfl, rfl⟩

theorem toCh_sets {E : Ent} (h : E.isOwn = true) : E.toCh.sets = true :=
  (isCh_facts (toCh_facts h).2.2.2).1

theorem retag_facts (t0 : Tag) {E : Ent} (h : E.isOwn = true) :
    (E.retag t0).base = E.base ∧ (E.retag t0).cons = E.cons ∧ (E.retag t0).paysWr = E.paysWr ∧
      (E.retag t0).tag? = some t0 ∧ (E.retag t0).isOwn = true := by
  cases E <;> cases h <;> exact ⟨rfl, rfl, rfl, rfl, rfl⟩

theorem cpLe_step_same {E E' : Ent} (hs : E.sets = true) (hs' : E'.sets = true) (hb : E'.base = E.base)
    (cp : Option Nat) : cpLe (cpStep cp E) (cpStep cp E') := by
  rw [cpStep, cpStep, if_pos hs, if_pos hs', hb]
  exact Nat.le_refl _

theorem dskN_mem_replace {A C : List Ent} {E E' : Ent} (hE' : E'.sets = true) {e b : Nat}
    (h : Ent.dskN e b ∈ A ++ E' :: C) : Ent.dskN e b ∈ A ++ E :: C := by
  simp only [List.mem_append, List.mem_cons] at h ⊢
  rcases h with h | h | h
  · exact Or.inl h
  · rw [← h] at hE'; cases hE'
  · exact Or.inr (Or.inr h)

/-! ## one sweep serves two entries: the upper one is chained -/

theorem chain_upper {cm a : Nat} {Av : Tag → Prop} (A M C : List Ent) (E1 E2 : Ent)
    (hP : PlanOk cm a Av (A ++ E1 :: M ++ E2 :: C)) (h1 : E1.sets = true) (h2 : E2.isOwn = true) :
    PlanOk cm a Av (A ++ E1 :: M ++ E2.toCh :: C) ∧
      val uf wr cm (A ++ E1 :: M ++ E2.toCh :: C) a + fee uf none E2 ≤
        val uf wr cm (A ++ E1 :: M ++ E2 :: C) a + uf * (E2.base - E1.base) ∧
      (∀ t ∈ tags (A ++ E1 :: M ++ E2.toCh :: C), t ∈ tags (A ++ E1 :: M ++ E2 :: C) ∧ E2.tag? ≠ some t) := by
  have hpw := bases_pairwise hP.seq
  -- the pointer at `E2` stands at or above `E1`
  have hM : ∀ X ∈ M, E1.base ≤ X.base := by
    intro X hX
    rw [List.pairwise_append] at hpw
    have := hpw.1
    rw [List.pairwise_append] at this
    have := this.2.1
    rw [List.pairwise_cons] at this
    exact le_of_lt (this.1 X hX)
  have hcpA : cpAfter none (A ++ E1 :: M) = cpAfter (some E1.base) M := by
    rw [cpAfter_append, cpAfter_cons, cpStep, if_pos h1]
  obtain ⟨c, hc, hcb⟩ := cpAfter_ge M E1.base hM
  obtain ⟨s2, nch2, t, ht⟩ := isOwn_facts h2
  obtain ⟨kb, kc, kp, kch⟩ := toCh_facts h2
  obtain ⟨ks, kt, ksrc⟩ := isCh_facts kch
  -- the tags: that of `E2` goes
  have hold : tags (A ++ E1 :: M ++ E2 :: C) = tags (A ++ E1 :: M) ++ t :: tags C := by
    rw [tags_replace, ht]; rfl
  have hnew : tags (A ++ E1 :: M ++ E2.toCh :: C) = tags (A ++ E1 :: M) ++ tags C := by
    rw [tags_replace, kt]; rfl
  have hnd := hP.nodup
  rw [hold] at hnd
  have hsub : ∀ t' ∈ tags (A ++ E1 :: M ++ E2.toCh :: C),
      t' ∈ tags (A ++ E1 :: M ++ E2 :: C) ∧ E2.tag? ≠ some t' := by
    rw [hnew, hold, ht]
    intro t' ht'
    rw [List.nodup_append] at hnd
    rcases List.mem_append.mp ht' with h | h
    · exact ⟨List.mem_append_left _ h, fun heq => hnd.2.2 t' h t (List.mem_cons_self ..) (Option.some.inj heq).symm⟩
    · exact ⟨List.mem_append_right _ (List.mem_cons_of_mem _ h),
        fun heq => (List.nodup_cons.mp hnd.2.1).1 ((Option.some.inj heq) ▸ h)⟩
  have := replace_entry uf wr (A ++ E1 :: M) C E2 E2.toCh hP kb kc.symm.trans ksrc
    (fun _ => by rw [hcpA, hc]; rfl) (Or.inl (cpLe_step_same s2 ks kb _))
    (by rw [hnew]; exact hnd.sublist (List.Sublist.append_left (List.sublist_cons_self _ _) _))
    (fun t' ht' => hP.avail t' (hsub t' ht').1)
  refine ⟨this.1, ?_, hsub⟩
  have hv := this.2
  rw [hcpA, hc, fee_of_isCh uf kch, fee_of_tag uf ht, kp, kb] at hv
  rw [fee_of_tag uf ht]
  have h6 : uf * (E2.base - c) ≤ uf * (E2.base - E1.base) := Nat.mul_le_mul_left uf (by omega)
  omega


/-! ## a state available under another tag, at or below the old position -/

theorem retag_one {cm a : Nat} {Av Av' : Tag → Prop} (t0 t1 : Tag) (hpos : t0.pos ≤ t1.pos) (h0 : Av t0)
    (P : List Ent) (hP : PlanOk cm a Av' P)
    (htags : ∀ t ∈ tags P, t = t1 ∨ (Av t ∧ t ≠ t0))
    (hN : ∀ e b, Ent.dskN e b ∈ P → Tag.disk e ≠ t1) :
    ∃ P₁, PlanOk cm a Av P₁ ∧ val uf wr cm P₁ a ≤ val uf wr cm P a + uf * (t1.pos - t0.pos) := by
  by_cases hin : t1 ∈ tags P
  · obtain ⟨A, E, C, rfl, hE⟩ := exists_of_tag_mem hin
    have hown : E.isOwn = true := isOwn_of_tag hE (by
      intro e b he
      subst he
      exact hN e b (by simp) (Option.some.inj hE))
    obtain ⟨rb, rc, rp, rt, rown⟩ := retag_facts t0 hown
    have hnd := hP.nodup
    rw [tags_replace, hE, List.nodup_append] at hnd
    obtain ⟨ndA, ndEC, ndx⟩ := hnd
    simp only [List.singleton_append, List.nodup_cons] at ndEC
    have hA : ∀ t ∈ tags A, Av t ∧ t ≠ t0 := by
      intro t ht
      rcases htags t (by rw [tags_replace]; exact List.mem_append_left _ ht) with h | h
      · subst h; exact absurd rfl (ndx t ht t (by simp))
      · exact h
    have hC : ∀ t ∈ tags C, Av t ∧ t ≠ t0 := by
      intro t ht
      rcases htags t (by rw [tags_replace]; simp [ht]) with h | h
      · subst h; exact absurd ht ndEC.1
      · exact h
    have hsrcE := (srcLe_of_tag hE).mp (hP.src E (by simp))
    have := replace_entry uf wr (Av' := Av) A C E (E.retag t0) hP rb rc.symm.trans
      ((srcLe_of_tag rt).mpr (by rw [rb]; omega)) (fun h => by rw [(isOwn_facts rown).2.1] at h; cases h)
      (Or.inl (cpLe_step_same (isOwn_facts hown).1 (isOwn_facts rown).1 rb _))
      (by
        rw [tags_replace, rt]
        simp only [List.singleton_append]
        rw [List.nodup_append]
        refine ⟨ndA, List.nodup_cons.mpr ⟨fun h => (hC t0 h).2 rfl, ndEC.2⟩, ?_⟩
        intro x hx y hy
        rcases List.mem_cons.mp hy with rfl | hy
        · exact (hA x hx).2
        · exact ndx x hx y (List.mem_cons_of_mem _ hy))
      (by
        intro t' ht'
        rw [tags_replace, rt] at ht'
        simp only [List.singleton_append, List.mem_append, List.mem_cons] at ht'
        rcases ht' with h | rfl | h
        · exact (hA t' h).1
        · exact h0
        · exact (hC t' h).1)
    refine ⟨_, this.1, ?_⟩
    have hv := this.2
    rw [fee_of_tag uf hE, fee_of_tag uf rt, rp, rb] at hv
    have : uf * (E.base - t0.pos) = uf * (E.base - t1.pos) + uf * (t1.pos - t0.pos) := by
      rw [← Nat.mul_add]; congr 1; omega
    omega
  · refine ⟨P, ⟨hP.seq, hP.head, hP.src, hP.chain, hP.nodup, ?_⟩, by omega⟩
    intro t ht
    rcases htags t ht with h | h
    · subst h; exact absurd ht hin
    · exact h.1

/-- Two tagged entries, `L` below `U`, neither a disk checkpoint read at its turn: `U` is chained to the
sweep of `L`, and `L` starts from the state under `t0` instead. -/
theorem chain_retag {cm a : Nat} {Av Av' : Tag → Prop} (t0 tl tu : Tag) (hpos : t0.pos ≤ tl.pos)
    (h0 : Av t0) (A M C : List Ent) (L U : Ent) (hL : L.tag? = some tl) (hU : U.tag? = some tu)
    (hP : PlanOk cm a Av' (A ++ L :: M ++ U :: C))
    (htags : ∀ t ∈ tags (A ++ L :: M ++ U :: C), t = tl ∨ t = tu ∨ (Av t ∧ t ≠ t0))
    (hN : ∀ e b, Ent.dskN e b ∈ A ++ L :: M ++ U :: C → Tag.disk e ≠ tl ∧ Tag.disk e ≠ tu) :
    ∃ P₁, PlanOk cm a Av P₁ ∧
      val uf wr cm P₁ a + uf * (U.base - tu.pos) ≤
        val uf wr cm (A ++ L :: M ++ U :: C) a + uf * (U.base - L.base) + uf * (tl.pos - t0.pos) ∧
      tl.pos ≤ L.base := by
  have hLo : L.isOwn = true := isOwn_of_tag hL (by
    intro e b he; subst he
    exact (hN e b (by simp)).1 (Option.some.inj hL))
  have hUo : U.isOwn = true := isOwn_of_tag hU (by
    intro e b he; subst he
    exact (hN e b (by simp)).2 (Option.some.inj hU))
  obtain ⟨c1, c2, c3⟩ := chain_upper uf wr A M C L U hP (isOwn_facts hLo).1 hUo
  obtain ⟨P₁, r1, r2⟩ := retag_one uf wr (Av := Av) t0 tl hpos h0 _ c1
    (by
      intro t ht
      obtain ⟨m1, m2⟩ := c3 t ht
      rcases htags t m1 with h | h | h
      · exact Or.inl h
      · subst h; exact absurd hU m2
      · exact Or.inr h)
    (fun e b hm => (hN e b (dskN_mem_replace (A := A ++ L :: M) (toCh_sets hUo) hm)).1)
  rw [fee_of_tag uf hU] at c2
  exact ⟨P₁, r1, by omega, (srcLe_of_tag hL).mp (hP.src L (by simp))⟩

/-- **Two tags for one**: a plan that uses the states under `t1` (at the position of `t0`) and
`t2` (further up) is turned into a plan that uses `t0` only, at the price of the distance. -/
theorem merge_two {cm a : Nat} {Av Av' : Tag → Prop} (t0 t1 t2 : Tag)
    (h01 : t0.pos = t1.pos) (h12 : t1.pos ≤ t2.pos) (h0 : Av t0) (hne : t1 ≠ t2)
    (P : List Ent) (hP : PlanOk cm a Av' P)
    (htags : ∀ t ∈ tags P, t = t1 ∨ t = t2 ∨ (Av t ∧ t ≠ t0))
    (hN : ∀ e b, Ent.dskN e b ∈ P → Tag.disk e ≠ t1 ∧ Tag.disk e ≠ t2) :
    ∃ P₁, PlanOk cm a Av P₁ ∧ val uf wr cm P₁ a ≤ val uf wr cm P a + uf * (t2.pos - t0.pos) := by
  by_cases hin2 : t2 ∈ tags P
  · by_cases hin1 : t1 ∈ tags P
    · -- both are used
      obtain ⟨A, E, C, rfl, hE⟩ := exists_of_tag_mem hin1
      have hin2' := hin2
      rw [tags_replace, hE] at hin2'
      simp only [List.singleton_append, List.mem_append, List.mem_cons] at hin2'
      rcases hin2' with hA | hEq | hC
      · -- the entry of `t2` lies below: the entry of `t1` is chained to it
        obtain ⟨A', Q, M, rfl, hQ⟩ := exists_of_tag_mem hA
        obtain ⟨P₁, r1, r2, hsQ⟩ := chain_retag uf wr (Av := Av) t0 t2 t1 (by omega) h0 A' M C Q E hQ hE hP
          (fun t ht => (htags t ht).elim (fun h => Or.inr (Or.inl h))
            (fun h => h.elim Or.inl (fun h => Or.inr (Or.inr h))))
          (fun e b hm => (hN e b hm).symm)
        refine ⟨P₁, r1, ?_⟩
        have : uf * (E.base - Q.base) ≤ uf * (E.base - t1.pos) := Nat.mul_le_mul_left uf (by omega)
        omega
      · exact absurd hEq.symm hne
      · -- the entry of `t2` lies above: it is chained to the entry of `t1`
        obtain ⟨M, Q, C', rfl, hQ⟩ := exists_of_tag_mem hC
        have e' : A ++ E :: M ++ Q :: C' = A ++ E :: (M ++ Q :: C') := by simp
        rw [← e'] at hP htags hN ⊢
        obtain ⟨P₁, r1, r2, hsE⟩ := chain_retag uf wr (Av := Av) t0 t1 t2 (by omega) h0 A M C' E Q hE hQ hP
          htags hN
        refine ⟨P₁, r1, ?_⟩
        have h7 : uf * (Q.base - E.base) ≤ uf * (Q.base - t2.pos) + uf * (t2.pos - t0.pos) := by
          rw [← Nat.mul_add]; exact Nat.mul_le_mul_left uf (by omega)
        have h8 : uf * (t1.pos - t0.pos) = 0 := by rw [h01, Nat.sub_self]; rfl
        omega
    · -- only `t2` is used
      obtain ⟨P₁, r1, r2⟩ := retag_one uf wr (Av := Av) t0 t2 (by omega) h0 P hP
        (by
          intro t ht
          rcases htags t ht with h | h | h
          · subst h; exact absurd ht hin1
          · exact Or.inl h
          · exact Or.inr h)
        (fun e b hm => (hN e b hm).2)
      exact ⟨P₁, r1, r2⟩
  · -- `t2` is not used
    obtain ⟨P₁, r1, r2⟩ := retag_one uf wr (Av := Av) t0 t1 (by omega) h0 P hP
      (by
        intro t ht
        rcases htags t ht with h | h | h
        · exact Or.inl h
        · subst h; exact absurd ht hin2
        · exact Or.inr h)
      (fun e b hm => (hN e b hm).1)
    refine ⟨P₁, r1, ?_⟩
    have h8 : uf * (t1.pos - t0.pos) = 0 := by rw [h01, Nat.sub_self]; rfl
    omega


/-! ## a disk checkpoint that is read at once -/

theorem dskN_to_ownD {cm a : Nat} {Av : Tag → Prop} (A C : List Ent) (e b : Nat)
    (hP : PlanOk cm a Av (A ++ .dskN e b :: C)) :
    PlanOk cm a Av (A ++ .ownD (.disk e) b :: C) ∧
      val uf wr cm (A ++ .ownD (.disk e) b :: C) a ≤ val uf wr cm (A ++ .dskN e b :: C) a + wr := by
  have hpw := bases_pairwise hP.seq
  have hA : ∀ X ∈ A, X.base ≤ b := by
    intro X hX
    rw [List.pairwise_append] at hpw
    have := hpw.2.2 X hX (.dskN e b) (by simp)
    exact le_of_lt this
  have htags : tags (A ++ .ownD (.disk e) b :: C) = tags (A ++ .dskN e b :: C) := by
    rw [tags_replace, tags_replace]; rfl
  have := replace_entry uf wr (Av' := Av) A C (.dskN e b) (.ownD (.disk e) b) hP rfl (fun h => h)
    (hP.src (.dskN e b) (by simp)) (fun h => by cases h) (Or.inl (cpLe_of_below A b hA))
    (by rw [htags]; exact hP.nodup) (by rw [htags]; exact hP.avail)
  refine ⟨this.1, ?_⟩
  have hv := this.2
  have e1 : fee uf (cpAfter none A) (.dskN e b) = uf * (b - e) := rfl
  have e2 : fee uf (cpAfter none A) (.ownD (.disk e) b) = uf * (b - e) := rfl
  have e3 : (if (Ent.dskN e b).paysWr = true then wr else 0) = 0 := rfl
  have e4 : (if (Ent.ownD (.disk e) b).paysWr = true then wr else 0) = wr := rfl
  rw [e1, e2, e3, e4] at hv
  omega

def AllN (Ns : List Ent) : Prop := ∀ E ∈ Ns, ∃ e b, E = .dskN e b

def nextBase (rest : List Ent) (q : Nat) : Nat :=
  match rest with | [] => q | E :: _ => E.base

/-- every disk checkpoint is carried to the base of the next one, the last one to `q` -/
def shiftUp : List Ent → Nat → List Ent
  | [], _ => []
  | .dskN e _ :: rest, q => .dskN e (nextBase rest q) :: shiftUp rest q
  | E :: rest, q => E :: shiftUp rest q

theorem AllN.tail {E : Ent} {Ns : List Ent} (h : AllN (E :: Ns)) : AllN Ns :=
  fun X hX => h X (List.mem_cons_of_mem _ hX)

theorem shiftUp_seq : ∀ (Ns : List Ent) (q : Nat), AllN Ns → Ns ≠ [] →
    seqOf Ns ++ [(q, false)] = (nextBase Ns q, false) :: seqOf (shiftUp Ns q) := by
  intro Ns
  induction Ns with
  | nil => intro q _ h; exact absurd rfl h
  | cons N Ns ih =>
    intro q hall _
    obtain ⟨e, b, rfl⟩ := hall _ (List.mem_cons_self ..)
    cases Ns with
    | nil => rfl
    | cons N' Ns' =>
      have := ih q hall.tail (by simp)
      simp only [seqOf_cons, List.cons_append, shiftUp, nextBase, Ent.base, Ent.cons] at this ⊢
      rw [this]

theorem shiftUp_cp (Ns : List Ent) (q : Nat) (hall : AllN Ns) (cp : Option Nat) :
    cpAfter cp (shiftUp Ns q) = cp ∧ cpAfter cp Ns = cp := by
  induction Ns with
  | nil => exact ⟨rfl, rfl⟩
  | cons N Ns ih =>
    obtain ⟨e, b, rfl⟩ := hall _ (List.mem_cons_self ..)
    have := ih hall.tail
    simp only [shiftUp, cpAfter_cons, cpStep, Ent.sets, Bool.false_eq_true, if_false]
    exact this

theorem shiftUp_tags (Ns : List Ent) (q : Nat) (hall : AllN Ns) : tags (shiftUp Ns q) = tags Ns := by
  induction Ns with
  | nil => rfl
  | cons N Ns ih =>
    obtain ⟨e, b, rfl⟩ := hall _ (List.mem_cons_self ..)
    simp only [shiftUp, tags_cons, Ent.tag?]
    rw [ih hall.tail]

theorem shiftUp_wr (Ns : List Ent) (q : Nat) (hall : AllN Ns) :
    wrSum wr (shiftUp Ns q) = 0 ∧ wrSum wr Ns = 0 := by
  induction Ns with
  | nil => exact ⟨rfl, rfl⟩
  | cons N Ns ih =>
    obtain ⟨e, b, rfl⟩ := hall _ (List.mem_cons_self ..)
    have := ih hall.tail
    simp only [shiftUp, wrSum_cons, Ent.paysWr, Bool.false_eq_true, if_false]
    omega

theorem shiftUp_chain (Ns : List Ent) (q : Nat) (hall : AllN Ns) (cp : Option Nat) :
    ChainOk cp (shiftUp Ns q) := by
  induction Ns with
  | nil => trivial
  | cons N Ns ih =>
    obtain ⟨e, b, rfl⟩ := hall _ (List.mem_cons_self ..)
    simp only [shiftUp, ChainOk, Ent.isCh, Bool.false_eq_true, false_implies, true_and, cpStep,
      Ent.sets, if_false]
    exact ih hall.tail

theorem nextBase_bounds (Ns : List Ent) (B Y : Ent)
    (hpw : (B :: Ns ++ [Y]).Pairwise (fun X Y => X.base < Y.base)) :
    B.base < nextBase Ns Y.base ∧ nextBase Ns Y.base ≤ Y.base := by
  cases Ns with
  | nil =>
    simp only [List.cons_append, List.nil_append, List.pairwise_cons] at hpw
    exact ⟨hpw.1 Y (by simp), le_refl _⟩
  | cons N Ns' =>
    simp only [List.cons_append, List.pairwise_cons] at hpw
    exact ⟨hpw.1 N (by simp), le_of_lt (hpw.2.1 Y (by simp))⟩

/-- fees after the shift: the whole stretch from the first old base to `q` is paid once more -/
theorem shiftUp_fee : ∀ (Ns : List Ent) (q : Nat) (cp : Option Nat), AllN Ns → SrcLe Ns →
    (Ns ++ [Ent.chH q]).Pairwise (fun X Y => X.base < Y.base) →
    feeSum uf cp (shiftUp Ns q) = feeSum uf cp Ns + uf * (q - nextBase Ns q) ∧ SrcLe (shiftUp Ns q) := by
  intro Ns
  induction Ns with
  | nil => intro q cp _ _ _; simp [shiftUp, feeSum, nextBase, SrcLe]
  | cons N Ns ih =>
    intro q cp hall hsrc hpw
    obtain ⟨e, b, rfl⟩ := hall _ (List.mem_cons_self ..)
    have heb : e ≤ b := hsrc _ (List.mem_cons_self ..)
    have hnb : b < nextBase Ns q := (nextBase_bounds Ns (.dskN e b) (.chH q) hpw).1
    have hnq : nextBase Ns q ≤ q := (nextBase_bounds Ns (.dskN e b) (.chH q) hpw).2
    obtain ⟨i1, i2⟩ := ih q cp hall.tail (fun X hX => hsrc X (List.mem_cons_of_mem _ hX))
      (List.pairwise_cons.mp hpw).2
    refine ⟨?_, ?_⟩
    · have hc1 : ∀ x, cpStep cp (.dskN e x) = cp := fun x => by simp [cpStep, Ent.sets]
      show fee uf cp (.dskN e (nextBase Ns q)) + feeSum uf (cpStep cp (.dskN e (nextBase Ns q))) (shiftUp Ns q) =
        fee uf cp (.dskN e b) + feeSum uf (cpStep cp (.dskN e b)) Ns + uf * (q - b)
      rw [hc1, hc1, i1]
      show uf * (nextBase Ns q - e) + (feeSum uf cp Ns + uf * (q - nextBase Ns q)) =
        uf * (b - e) + feeSum uf cp Ns + uf * (q - b)
      have e1 : uf * (nextBase Ns q - e) = uf * (b - e) + uf * (nextBase Ns q - b) := by
        rw [← Nat.mul_add]; congr 1; omega
      have e2 : uf * (q - b) = uf * (nextBase Ns q - b) + uf * (q - nextBase Ns q) := by
        rw [← Nat.mul_add]; congr 1; omega
      omega
    · intro X hX
      simp only [shiftUp, List.mem_cons] at hX
      rcases hX with rfl | hX
      · show e ≤ nextBase Ns q
        omega
      · exact i2 X hX


/-- the gaps when the chained entry `Y` above `B` and the disk checkpoints `Ns` is given up -/
theorem seq_remove_last (Ns : List Ent) (hNs : AllN Ns) (bB bY : Nat) (cB cY : Bool)
    (sC : List (Nat × Bool)) (a k : Nat)
    (h : SeqOk k ((bB, cB) :: (seqOf Ns ++ (bY, cY) :: sC)) a) :
    SeqOk k ((bB, cB) :: (seqOf (shiftUp Ns bY) ++ sC)) a ∧
      XiG uf wr k ((bB, cB) :: (seqOf (shiftUp Ns bY) ++ sC)) a ≤
        XiG uf wr k ((bB, cB) :: (seqOf Ns ++ (bY, cY) :: sC)) a +
          ((if cB then 0 else wr) + uf * (nextBase Ns bY - bB)) := by
  cases Ns with
  | nil => exact XiG_remove uf wr k bB bY cB cY sC a h
  | cons N Ns' =>
    obtain ⟨e, p1, rfl⟩ := hNs _ (List.mem_cons_self ..)
    -- the base `p1` goes, the base `bY` stays without its flag
    have e2 : seqOf (shiftUp (.dskN e p1 :: Ns') bY) = seqOf Ns' ++ [(bY, false)] :=
      (List.cons.inj (shiftUp_seq (.dskN e p1 :: Ns') bY hNs (by simp))).2.symm
    have e4 : seqOf Ns' ++ [(bY, false)] ++ sC = seqOf Ns' ++ (bY, false) :: sC := by simp
    rw [e2, e4]
    have hfl : FlagLe ((bB, cB) :: (seqOf Ns' ++ (bY, false) :: sC))
        ((bB, cB) :: (seqOf Ns' ++ (bY, cY) :: sC)) :=
      flagLe_append (FlagLe.refl ((bB, cB) :: seqOf Ns'))
        (FlagLe.cons bY false cY sC sC (by simp) (FlagLe.refl sC))
    obtain ⟨r1, r2⟩ := XiG_remove uf wr k bB p1 cB false (seqOf Ns' ++ (bY, cY) :: sC) a h
    obtain ⟨m1, m2⟩ := XiG_mono uf wr _ _ k k a (le_refl _) hfl r1
    exact ⟨m1, le_trans m2 r2⟩

/-- **The last entry of a sweep is given up**: the disk checkpoints passed by the sweep move up.  The
sweep is paid up to the last of them only; the gap above `B` grows, which costs a disk checkpoint unless
`B` is held in RAM. -/
theorem remove_last {cm a : Nat} {Av : Tag → Prop} (A Ns C : List Ent) (B Y : Ent)
    (hP : PlanOk cm a Av (A ++ B :: Ns ++ Y :: C)) (hB : B.sets = true) (hNs : AllN Ns)
    (hY : Y.isCh = true) (hC : NoChainHead C) :
    PlanOk cm a Av (A ++ B :: shiftUp Ns Y.base ++ C) ∧
      val uf wr cm (A ++ B :: shiftUp Ns Y.base ++ C) a + (if Y.paysWr then wr else 0) ≤
        val uf wr cm (A ++ B :: Ns ++ Y :: C) a + wr ∧
      (B.cons = true → val uf wr cm (A ++ B :: shiftUp Ns Y.base ++ C) a + (if Y.paysWr then wr else 0) ≤
        val uf wr cm (A ++ B :: Ns ++ Y :: C) a) := by
  obtain ⟨hYsets, hYtag, _⟩ := isCh_facts hY
  have eold : A ++ B :: Ns ++ Y :: C = A ++ B :: ((Ns ++ [Y]) ++ C) := by simp
  have enew : A ++ B :: shiftUp Ns Y.base ++ C = A ++ B :: (shiftUp Ns Y.base ++ C) := by simp
  rw [eold] at hP ⊢
  rw [enew]
  -- order facts
  have hpw := bases_pairwise hP.seq
  have hpw2 : (B :: Ns ++ [Y]).Pairwise (fun X Y => X.base < Y.base) := by
    have e : A ++ B :: ((Ns ++ [Y]) ++ C) = A ++ ((B :: Ns ++ [Y]) ++ C) := by simp
    rw [e, List.pairwise_append] at hpw
    exact (List.pairwise_append.mp hpw.2.1).1
  obtain ⟨hnb1, hnb2⟩ := nextBase_bounds Ns B Y hpw2
  have hpwN : (Ns ++ [Ent.chH Y.base]).Pairwise (fun X Y => X.base < Y.base) := by
    rw [List.cons_append, List.pairwise_cons] at hpw2
    have h2 := hpw2.2
    rw [List.pairwise_append] at h2 ⊢
    refine ⟨h2.1, List.pairwise_singleton _ _, fun x hx y hy => ?_⟩
    rw [List.mem_singleton.mp hy]
    exact h2.2.2 x hx Y (by simp)
  have hsrcN : SrcLe Ns := fun X hX => hP.src X (by simp [hX])
  -- the new segment: pointer, fees, tags
  have hstepB : cpStep (cpAfter none A) B = some B.base := by rw [cpStep, if_pos hB]
  obtain ⟨_, hcpN⟩ := shiftUp_cp Ns Y.base hNs (some B.base)
  obtain ⟨sf1, sf2⟩ := shiftUp_fee uf Ns Y.base (some B.base) hNs hsrcN hpwN
  have hty : tags [Y] = [] := by rw [tags_cons, hYtag]; rfl
  have htags : tags (A ++ B :: (shiftUp Ns Y.base ++ C)) = tags (A ++ B :: ((Ns ++ [Y]) ++ C)) := by
    rw [tags_append, tags_append, tags_cons, tags_cons, tags_append, tags_append, tags_append,
      shiftUp_tags Ns Y.base hNs, hty, List.append_nil]
  have es : seqOf (Ns ++ [Y]) ++ seqOf C = seqOf Ns ++ (Y.base, Y.cons) :: seqOf C := by
    rw [seqOf_append, List.append_assoc]; rfl
  obtain ⟨h1, h2⟩ := replace_segment uf wr A (Ns ++ [Y]) (shiftUp Ns Y.base) C B B
    ((if B.cons then 0 else wr) + uf * (nextBase Ns Y.base - B.base)) hP rfl
    (fun X hX => by
      rcases List.mem_cons.mp hX with rfl | hX
      · exact hP.src _ (by simp)
      · exact sf2 X hX)
    (fun h => ⟨h.1, by rw [hstepB]; exact shiftUp_chain Ns Y.base hNs _⟩) (Or.inr hC)
    (fun k hk => by
      rw [es] at hk ⊢
      exact seq_remove_last uf wr Ns hNs B.base Y.base B.cons Y.cons (seqOf C) a k hk)
    (by rw [htags]; exact hP.nodup) (by rw [htags]; exact hP.avail)
  -- fees: the stretch from the last disk checkpoint to `Y` is not swept any more
  have hfee : feeSum uf (cpAfter none A) (B :: (Ns ++ [Y])) =
      feeSum uf (cpAfter none A) (B :: shiftUp Ns Y.base) + uf * (nextBase Ns Y.base - B.base) := by
    have hY1 : feeSum uf (some B.base) [Y] = uf * (Y.base - B.base) := by
      rw [feeSum, feeSum, fee_of_isCh uf hY, Nat.add_zero]
    rw [feeSum, feeSum, hstepB, feeSum_append, hcpN, hY1, sf1]
    have e1 : uf * (Y.base - B.base) = uf * (nextBase Ns Y.base - B.base) + uf * (Y.base - nextBase Ns Y.base) := by
      rw [← Nat.mul_add]; congr 1; omega
    omega
  have hwr : wrSum wr (B :: (Ns ++ [Y])) = wrSum wr (B :: shiftUp Ns Y.base) + (if Y.paysWr then wr else 0) := by
    rw [wrSum_cons, wrSum_cons, wrSum_append, wrSum_cons, (shiftUp_wr wr Ns Y.base hNs).1,
      (shiftUp_wr wr Ns Y.base hNs).2]
    show _ + (0 + (_ + 0)) = _
    omega
  have hval : val uf wr cm (A ++ B :: (shiftUp Ns Y.base ++ C)) a + (if Y.paysWr then wr else 0) ≤
      val uf wr cm (A ++ B :: ((Ns ++ [Y]) ++ C)) a + (if B.cons then 0 else wr) := by
    omega
  refine ⟨h1, ?_, fun hBc => ?_⟩
  · have : (if B.cons = true then 0 else wr) ≤ wr := by split <;> omega
    omega
  · rw [if_pos hBc] at hval
    exact hval


/-- same base, same fee, same effect on the sweep pointer -/
def SameFee (E E' : Ent) : Prop :=
  E.base = E'.base ∧ E.sets = E'.sets ∧ E.isCh = E'.isCh ∧ E.srcLe = E'.srcLe ∧ E.tag? = E'.tag? ∧
    ∀ cp, fee uf cp E = fee uf cp E'

theorem SameFee.refl (E : Ent) : SameFee uf E E := ⟨rfl, rfl, rfl, rfl, rfl, fun _ => rfl⟩

theorem sameFee_list : ∀ (P P' : List Ent), List.Forall₂ (SameFee uf) P P' → ∀ cp,
    feeSum uf cp P = feeSum uf cp P' ∧ (ChainOk cp P ↔ ChainOk cp P') ∧ tags P = tags P' ∧
      (SrcLe P → SrcLe P') := by
  intro P P' h
  induction h with
  | nil => intro cp; exact ⟨rfl, Iff.rfl, rfl, fun h => h⟩
  | @cons E E' P P' hE _ ih =>
    intro cp
    obtain ⟨hb, hs, hc, hsl, ht, hf⟩ := hE
    have hstep : cpStep cp E = cpStep cp E' := by unfold cpStep; rw [hs, hb]
    obtain ⟨i1, i2, i3, i4⟩ := ih (cpStep cp E)
    refine ⟨?_, ?_, ?_, ?_⟩
    · simp only [feeSum]; rw [hf cp, ← hstep, i1]
    · simp only [ChainOk]; rw [hc, ← hstep, i2]
    · rw [tags_cons, tags_cons, ht, i3]
    · intro hsrc X hX
      rcases List.mem_cons.mp hX with rfl | hX
      · rw [← hsl]; exact hsrc E (List.mem_cons_self ..)
      · exact i4 (fun Y hY => hsrc Y (List.mem_cons_of_mem _ hY)) X hX

theorem forall₂_refl_sameFee (L : List Ent) : List.Forall₂ (SameFee uf) L L := by
  induction L with
  | nil => exact List.Forall₂.nil
  | cons E L ih => exact List.Forall₂.cons (SameFee.refl uf E) ih

def Tag.isDisk : Tag → Bool
  | .disk _ => true | _ => false

def Ent.isDN : Ent → Bool
  | .dskN _ _ => true | .chD _ => true | _ => false

def Ent.isRamHead : Ent → Bool
  | .ownH t _ => !t.isDisk | .ownD t _ => !t.isDisk | _ => false

def Ent.toD : Ent → Ent
  | .ownH t b => .ownD t b | .chH b => .chD b | E => E

def Ent.toH : Ent → Ent
  | .ownD t b => .ownH t b | .chD b => .chH b | E => E

theorem sameFee_toD (E : Ent) : SameFee uf E E.toD := by
  cases E <;> exact ⟨rfl, rfl, rfl, rfl, rfl, fun _ => rfl⟩

theorem sameFee_toH (E : Ent) : SameFee uf E E.toH := by
  cases E <;> exact ⟨rfl, rfl, rfl, rfl, rfl, fun _ => rfl⟩

theorem toD_facts {B : Ent} (h : B.cons = true) :
    B.toD.cons = false ∧ B.toD.base = B.base ∧ B.paysWr = false ∧ B.toD.paysWr = true ∧
      B.toD.isRamHead = B.isRamHead := by
  cases B <;> cases h <;> exact ⟨rfl, rfl, rfl, rfl, rfl⟩

theorem toH_kind (E : Ent) : E.toH.isOwn = E.isOwn ∧ E.toH.isCh = E.isCh := by
  cases E <;> exact ⟨rfl, rfl⟩

theorem seqOf_allN (Ns : List Ent) (h : AllN Ns) : ∀ p ∈ seqOf Ns, p.2 = false := by
  intro p hp
  unfold seqOf at hp
  obtain ⟨E, hE, rfl⟩ := List.mem_map.mp hp
  obtain ⟨e, b, rfl⟩ := h E hE
  rfl

/-- **Swap**: a consuming entry followed (in its sweep) by a disk entry: the lower one goes to disk,
the upper one is held in RAM. -/
theorem swap_good {cm a : Nat} {Av : Tag → Prop} (A Ns C : List Ent) (B : Ent) (q : Nat)
    (hP : PlanOk cm a Av (A ++ B :: Ns ++ .chD q :: C)) (hB : B.cons = true) (hNs : AllN Ns) :
    PlanOk cm a Av (A ++ B.toD :: Ns ++ .chH q :: C) ∧
      val uf wr cm (A ++ B.toD :: Ns ++ .chH q :: C) a ≤ val uf wr cm (A ++ B :: Ns ++ .chD q :: C) a := by
  have eold : A ++ B :: Ns ++ .chD q :: C = A ++ (B :: (Ns ++ (.chD q :: C))) := by simp
  have enew : A ++ B.toD :: Ns ++ .chH q :: C = A ++ (B.toD :: (Ns ++ (.chH q :: C))) := by simp
  rw [eold] at hP ⊢
  rw [enew]
  have hf2 : List.Forall₂ (SameFee uf) (A ++ (B :: (Ns ++ (.chD q :: C))))
      (A ++ (B.toD :: (Ns ++ (.chH q :: C)))) := by
    apply List.rel_append (forall₂_refl_sameFee uf A)
    apply List.Forall₂.cons (sameFee_toD uf B)
    apply List.rel_append (forall₂_refl_sameFee uf Ns)
    exact List.Forall₂.cons (sameFee_toH uf (.chD q)) (forall₂_refl_sameFee uf C)
  obtain ⟨f1, f2, f3, f4⟩ := sameFee_list uf _ _ hf2 none
  obtain ⟨dc, db, bp, dp, _⟩ := toD_facts hB
  have hseqold : seqOf (A ++ (B :: (Ns ++ (.chD q :: C)))) =
      seqOf A ++ ((B.base, true) :: seqOf Ns ++ (q, false) :: seqOf C) := by
    rw [seqOf_append, seqOf_cons, seqOf_append, seqOf_cons, hB]; rfl
  have hseqnew : seqOf (A ++ (B.toD :: (Ns ++ (.chH q :: C)))) =
      seqOf A ++ ((B.base, false) :: seqOf Ns ++ (q, true) :: seqOf C) := by
    rw [seqOf_append, seqOf_cons, seqOf_append, seqOf_cons, dc, db]; rfl
  have hseq := hP.seq
  rw [hseqold] at hseq
  obtain ⟨hseq', hxi⟩ := seq_prefix uf wr 0 ((B.base, true) :: seqOf Ns ++ (q, false) :: seqOf C)
    ((B.base, false) :: seqOf Ns ++ (q, true) :: seqOf C) a (fun _ => rfl) (by simp)
    (fun k hk => XiG_bubble uf wr (seqOf Ns) (seqOf_allN Ns hNs) k B.base q (seqOf C) a hk) (seqOf A) cm hseq
  rw [← hseqold, ← hseqnew] at hxi
  have hwr : wrSum wr (A ++ (B.toD :: (Ns ++ (.chH q :: C)))) = wrSum wr (A ++ (B :: (Ns ++ (.chD q :: C)))) := by
    rw [wrSum_append, wrSum_append, wrSum_cons, wrSum_cons, wrSum_append, wrSum_append,
      wrSum_cons, wrSum_cons, bp, dp]
    simp only [Ent.paysWr, if_true, Bool.false_eq_true, if_false]
    omega
  refine ⟨⟨by rw [hseqnew]; exact hseq', fun ha => head_replace db (hP.head ha), f4 hP.src, f2.mp hP.chain,
    by rw [← f3]; exact hP.nodup, by rw [← f3]; exact hP.avail⟩, ?_⟩
  unfold val
  rw [hwr, ← f1]
  omega

/-! ## a disk checkpoint read at its turn instead of at once -/

theorem own_to_dskN {cm a : Nat} {Av : Tag → Prop} (A C : List Ent) (E : Ent) (e b : Nat)
    (hE : E = .ownH (.disk e) b ∨ E = .ownD (.disk e) b)
    (hP : PlanOk cm a Av (A ++ E :: C)) (hC : NoChainHead C) :
    PlanOk cm a Av (A ++ .dskN e b :: C) ∧
      val uf wr cm (A ++ .dskN e b :: C) a + (if E.paysWr then wr else 0) ≤ val uf wr cm (A ++ E :: C) a := by
  have hEb : E.base = b ∧ E.tag? = some (.disk e) := by
    rcases hE with rfl | rfl <;> exact ⟨rfl, rfl⟩
  obtain ⟨hb, ht⟩ := hEb
  have htags : tags (A ++ .dskN e b :: C) = tags (A ++ E :: C) := by
    rw [tags_replace, tags_replace, ht]; rfl
  have := replace_entry uf wr (Av' := Av) A C E (.dskN e b) hP hb.symm (fun h => by cases h)
    (by have := (srcLe_of_tag ht).mp (hP.src E (by simp)); rw [hb] at this; exact this)
    (fun h => by cases h) (Or.inr hC) (by rw [htags]; exact hP.nodup) (by rw [htags]; exact hP.avail)
  refine ⟨this.1, ?_⟩
  have hv := this.2
  rw [fee_of_tag uf ht, hb] at hv
  have e0 : uf * (b - (Tag.disk e).pos) = uf * (b - e) := rfl
  have e1 : fee uf (cpAfter none A) (.dskN e b) = uf * (b - e) := rfl
  have e2 : (if (Ent.dskN e b).paysWr = true then wr else 0) = 0 := rfl
  rw [e0, e1, e2] at hv
  omega


def consCount (P : List Ent) : Nat := P.countP Ent.cons
def heads (P : List Ent) : Nat := P.countP Ent.isRamHead

theorem consCount_append (A B : List Ent) : consCount (A ++ B) = consCount A + consCount B :=
  List.countP_append
theorem heads_append (A B : List Ent) : heads (A ++ B) = heads A + heads B :=
  List.countP_append
theorem consCount_cons (E : Ent) (A : List Ent) :
    consCount (E :: A) = (if E.cons then 1 else 0) + consCount A := by
  unfold consCount; rw [List.countP_cons, Nat.add_comm]
theorem heads_cons (E : Ent) (A : List Ent) :
    heads (E :: A) = (if E.isRamHead then 1 else 0) + heads A := by
  unfold heads; rw [List.countP_cons, Nat.add_comm]

theorem consCount_eq_countT (P : List Ent) : countT (seqOf P) = consCount P := by
  induction P with
  | nil => rfl
  | cons E P ih => rw [seqOf_cons, countT_cons, consCount_cons, ih]

theorem isDN_facts {X : Ent} (h : X.isDN = true) : X.cons = false ∧ X.isRamHead = false := by
  cases X <;> cases h <;> exact ⟨rfl, rfl⟩

theorem isDN_cases {X : Ent} (h : X.isDN = true) : (∃ e b, X = .dskN e b) ∨ ∃ q, X = .chD q := by
  cases X <;> cases h
  · exact Or.inl ⟨_, _, rfl⟩
  · exact Or.inr ⟨_, rfl⟩

theorem ownD_of_not {B : Ent} (h1 : B.isDN = false) (h2 : B.cons = false) : ∃ t b, B = .ownD t b := by
  cases B with
  | ownD t b => exact ⟨t, b, rfl⟩
  | ownH _ _ => cases h2
  | chH _ => cases h2
  | dskN _ _ => cases h1
  | chD _ => cases h1

theorem dn_counts (T : List Ent) (h : ∀ X ∈ T, X.isDN = true) : consCount T = 0 ∧ heads T = 0 := by
  induction T with
  | nil => exact ⟨rfl, rfl⟩
  | cons X T ih =>
    obtain ⟨i1, i2⟩ := ih (fun Y hY => h Y (List.mem_cons_of_mem _ hY))
    obtain ⟨h1, h2⟩ := isDN_facts (h X (List.mem_cons_self ..))
    rw [consCount_cons, heads_cons, h1, h2, i1, i2]
    exact ⟨rfl, rfl⟩

theorem allN_isDN {Ns : List Ent} (h : AllN Ns) : ∀ X ∈ Ns, X.isDN = true := by
  intro X hX
  obtain ⟨e, b, rfl⟩ := h X hX
  rfl

theorem allN_counts (Ns : List Ent) (h : AllN Ns) : consCount Ns = 0 ∧ heads Ns = 0 :=
  dn_counts Ns (allN_isDN h)

theorem shiftUp_allN (Ns : List Ent) (q : Nat) (h : AllN Ns) : AllN (shiftUp Ns q) := by
  induction Ns with
  | nil => intro X hX; cases hX
  | cons N Ns ih =>
    obtain ⟨e, b, rfl⟩ := h _ (List.mem_cons_self ..)
    intro X hX
    simp only [shiftUp, List.mem_cons] at hX
    rcases hX with rfl | hX
    · exact ⟨_, _, rfl⟩
    · exact ih h.tail X hX

theorem shiftUp_length (Ns : List Ent) (q : Nat) : (shiftUp Ns q).length = Ns.length := by
  induction Ns with
  | nil => rfl
  | cons N Ns ih => cases N <;> simp [shiftUp, ih]

theorem noChainHead_append {Ns C : List Ent} (h : AllN Ns) (hC : NoChainHead C) : NoChainHead (Ns ++ C) := by
  induction Ns with
  | nil => exact hC
  | cons N Ns ih =>
    obtain ⟨e, b, rfl⟩ := h _ (List.mem_cons_self ..)
    exact ih h.tail

theorem exists_last (p : Ent → Bool) : ∀ (L : List Ent), (∃ X ∈ L, p X = true) →
    ∃ A B T, L = A ++ B :: T ∧ p B = true ∧ ∀ X ∈ T, p X = false := by
  intro L
  induction L with
  | nil => rintro ⟨X, hX, _⟩; cases hX
  | cons Y L ih =>
    intro h
    by_cases hL : ∃ X ∈ L, p X = true
    · obtain ⟨A, B, T, rfl, hB, hT⟩ := ih hL
      exact ⟨Y :: A, B, T, rfl, hB, hT⟩
    · have hall : ∀ X ∈ L, p X = false := by
        intro X hX
        cases hp : p X with
        | false => rfl
        | true => exact absurd ⟨X, hX, hp⟩ hL
      obtain ⟨X, hX, hpX⟩ := h
      rcases List.mem_cons.mp hX with rfl | hX'
      · exact ⟨[], X, L, rfl, hpX, hall⟩
      · rw [hall X hX'] at hpX; cases hpX

theorem not_sets_isN {E : Ent} (h : E.sets = false) : ∃ e b, E = .dskN e b := by
  cases E <;> simp_all [Ent.sets]

/-- the entry that ends the sweep is given up; what lies between stays disk-like -/
theorem drop_top {cm a : Nat} {Av : Tag → Prop} (A T C : List Ent) (B Y : Ent)
    (hP : PlanOk cm a Av (A ++ B :: T ++ Y :: C)) (hB : B.sets = true)
    (hT : ∀ X ∈ T, X.isDN = true) (hY : Y.isCh = true) (hC : NoChainHead C) :
    ∃ T', (∀ X ∈ T', X.isDN = true) ∧ T'.length = T.length ∧ PlanOk cm a Av (A ++ B :: T' ++ C) ∧
      val uf wr cm (A ++ B :: T' ++ C) a + (if Y.paysWr then wr else 0) ≤
        val uf wr cm (A ++ B :: T ++ Y :: C) a + wr := by
  obtain ⟨A₂, B₂, Ns₂, hdec, hB₂, hNs₂⟩ := exists_last Ent.sets (B :: T) ⟨B, by simp, hB⟩
  have hNs : AllN Ns₂ := fun X hX => not_sets_isN (hNs₂ X hX)
  have e1 : A ++ B :: T ++ Y :: C = (A ++ A₂) ++ B₂ :: Ns₂ ++ Y :: C := by
    have : A ++ B :: T ++ Y :: C = A ++ (B :: T) ++ Y :: C := by simp
    rw [this, hdec]; simp
  rw [e1] at hP
  obtain ⟨r1, r2, _⟩ := remove_last uf wr (A ++ A₂) Ns₂ C B₂ Y hP hB₂ hNs hY hC
  cases A₂ with
  | nil =>
    simp only [List.nil_append, List.cons.injEq] at hdec
    obtain ⟨rfl, rfl⟩ := hdec
    refine ⟨shiftUp T Y.base, allN_isDN (shiftUp_allN T Y.base hNs), shiftUp_length T Y.base, ?_, ?_⟩
    · simpa using r1
    · rw [e1]; simpa using r2
  | cons Z A₂' =>
    simp only [List.cons_append, List.cons.injEq] at hdec
    obtain ⟨rfl, rfl⟩ := hdec
    refine ⟨A₂' ++ B₂ :: shiftUp Ns₂ Y.base, ?_, ?_, ?_, ?_⟩
    · intro X hX
      simp only [List.mem_append, List.mem_cons] at hX
      rcases hX with hX | rfl | hX
      · exact hT X (by simp [hX])
      · exact hT X (by simp)
      · exact allN_isDN (shiftUp_allN Ns₂ Y.base hNs) X hX
    · simp [shiftUp_length]
    · have e2 : A ++ B :: (A₂' ++ B₂ :: shiftUp Ns₂ Y.base) ++ C
          = A ++ B :: A₂' ++ B₂ :: shiftUp Ns₂ Y.base ++ C := by simp
      rw [e2]; exact r1
    · have e2 : A ++ B :: (A₂' ++ B₂ :: shiftUp Ns₂ Y.base) ++ C
          = A ++ B :: A₂' ++ B₂ :: shiftUp Ns₂ Y.base ++ C := by simp
      rw [e2, e1]; exact r2

/-- all chained disk entries of a sweep are given up -/
theorem strip_tail {cm a : Nat} {Av : Tag → Prop} : ∀ (n : Nat) (T : List Ent), T.length = n →
    ∀ (A C : List Ent) (B : Ent), B.sets = true → (∀ X ∈ T, X.isDN = true) → NoChainHead C →
    PlanOk cm a Av (A ++ B :: T ++ C) →
    ∃ Ns', AllN Ns' ∧ PlanOk cm a Av (A ++ B :: Ns' ++ C) ∧
      val uf wr cm (A ++ B :: Ns' ++ C) a ≤ val uf wr cm (A ++ B :: T ++ C) a := by
  intro n
  induction n with
  | zero =>
    intro T hlen A C B _ _ _ hP
    have : T = [] := List.eq_nil_of_length_eq_zero hlen
    subst this
    exact ⟨[], fun X hX => absurd hX List.not_mem_nil, hP, le_refl _⟩
  | succ n ih =>
    intro T hlen A C B hB hT hC hP
    rcases List.eq_nil_or_concat T with h0 | ⟨T₁, X, hTX⟩
    · subst h0; simp at hlen
    rw [List.concat_eq_append] at hTX
    subst hTX
    have hlen1 : T₁.length = n := by simp at hlen; omega
    have hT1 : ∀ Y ∈ T₁, Y.isDN = true := fun Y hY => hT Y (by simp [hY])
    have hX := hT X (by simp)
    rcases isDN_cases hX with ⟨e, b, rfl⟩ | ⟨q, rfl⟩
    · have e1 : A ++ B :: (T₁ ++ [Ent.dskN e b]) ++ C = A ++ B :: T₁ ++ (Ent.dskN e b :: C) := by simp
      rw [e1] at hP
      obtain ⟨Ns', h1, h2, h3⟩ := ih T₁ hlen1 A (Ent.dskN e b :: C) B hB hT1 hC hP
      refine ⟨Ns' ++ [Ent.dskN e b], ?_, ?_, ?_⟩
      · intro Y hY
        rcases List.mem_append.mp hY with hY | hY
        · exact h1 Y hY
        · rw [List.mem_singleton] at hY; exact ⟨e, b, hY⟩
      · have e2 : A ++ B :: (Ns' ++ [Ent.dskN e b]) ++ C = A ++ B :: Ns' ++ (Ent.dskN e b :: C) := by simp
        rw [e2]; exact h2
      · have e2 : A ++ B :: (Ns' ++ [Ent.dskN e b]) ++ C = A ++ B :: Ns' ++ (Ent.dskN e b :: C) := by simp
        rw [e2, e1]; exact h3
    · have e1 : A ++ B :: (T₁ ++ [Ent.chD q]) ++ C = A ++ B :: T₁ ++ Ent.chD q :: C := by simp
      rw [e1] at hP
      obtain ⟨T', d1, d2, d3, d4⟩ := drop_top uf wr A T₁ C B (.chD q) hP hB hT1 rfl hC
      obtain ⟨Ns', h1, h2, h3⟩ := ih T' (by omega) A C B hB d1 hC d3
      refine ⟨Ns', h1, h2, ?_⟩
      rw [e1]
      simp only [Ent.paysWr, if_true] at d4
      omega


theorem cons_sets {E : Ent} (h : E.cons = true) : E.sets = true := by
  cases E <;> simp_all [Ent.cons, Ent.sets]

/-- a consuming entry, then (in the same sweep) disk entries, then a consuming entry at the end:
one of the two RAM units is saved -/
theorem chain_tail {cm a : Nat} {Av : Tag → Prop} : ∀ (T A Ns C : List Ent) (B : Ent) (q : Nat),
    B.cons = true → AllN Ns → (∀ X ∈ T, X.isDN = true) → NoChainHead C →
    PlanOk cm a Av (A ++ B :: Ns ++ T ++ .chH q :: C) →
    ∃ Q₁, PlanOk cm a Av (Q₁ ++ C) ∧
      val uf wr cm (Q₁ ++ C) a ≤ val uf wr cm (A ++ B :: Ns ++ T ++ .chH q :: C) a ∧
      consCount Q₁ + 1 = consCount (A ++ B :: Ns ++ T ++ [.chH q]) ∧
      heads Q₁ = heads (A ++ B :: Ns ++ T ++ [.chH q]) := by
  intro T
  induction T with
  | nil =>
    intro A Ns C B q hB hNs _ hC hP
    simp only [List.append_nil] at hP ⊢
    obtain ⟨r1, _, r3⟩ := remove_last uf wr A Ns C B (.chH q) hP (cons_sets hB) hNs rfl hC
    refine ⟨A ++ B :: shiftUp Ns q, r1, ?_, ?_, ?_⟩
    · have := r3 hB
      simp only [Ent.paysWr, Bool.false_eq_true, if_false, Nat.add_zero] at this
      exact this
    · have h1 := allN_counts _ (shiftUp_allN Ns q hNs)
      have h2 := allN_counts _ hNs
      simp only [consCount_append, consCount_cons, h1.1, h2.1, Ent.cons]
      simp [consCount]
    · have h1 := allN_counts _ (shiftUp_allN Ns q hNs)
      have h2 := allN_counts _ hNs
      simp only [heads_append, heads_cons, h1.2, h2.2, Ent.isRamHead]
      simp [heads]
  | cons X T ih =>
    intro A Ns C B q hB hNs hT hC hP
    have hX := hT X (List.mem_cons_self ..)
    have hT' : ∀ Y ∈ T, Y.isDN = true := fun Y hY => hT Y (List.mem_cons_of_mem _ hY)
    rcases isDN_cases hX with ⟨e, b, rfl⟩ | ⟨d, rfl⟩
    · have e1 : A ++ B :: Ns ++ (Ent.dskN e b :: T) ++ Ent.chH q :: C
          = A ++ B :: (Ns ++ [Ent.dskN e b]) ++ T ++ Ent.chH q :: C := by simp
      have e2 : A ++ B :: Ns ++ (Ent.dskN e b :: T) ++ [Ent.chH q]
          = A ++ B :: (Ns ++ [Ent.dskN e b]) ++ T ++ [Ent.chH q] := by simp
      rw [e1] at hP
      rw [e1, e2]
      apply ih A (Ns ++ [Ent.dskN e b]) C B q hB ?_ hT' hC hP
      intro Y hY
      rcases List.mem_append.mp hY with hY | hY
      · exact hNs Y hY
      · rw [List.mem_singleton] at hY; exact ⟨e, b, hY⟩
    · have e1 : A ++ B :: Ns ++ (Ent.chD d :: T) ++ Ent.chH q :: C
          = A ++ B :: Ns ++ Ent.chD d :: (T ++ Ent.chH q :: C) := by simp
      rw [e1] at hP
      obtain ⟨s1, s2⟩ := swap_good uf wr A Ns (T ++ Ent.chH q :: C) B d hP hB hNs
      have e3 : A ++ B.toD :: Ns ++ Ent.chH d :: (T ++ Ent.chH q :: C)
          = (A ++ B.toD :: Ns) ++ Ent.chH d :: [] ++ T ++ Ent.chH q :: C := by simp
      rw [e3] at s1 s2
      obtain ⟨Q₁, q1, q2, q3, q4⟩ := ih (A ++ B.toD :: Ns) [] C (.chH d) q rfl
        (fun Y hY => absurd hY List.not_mem_nil) hT' hC s1
      have h2 := allN_counts _ hNs
      obtain ⟨h3c, _, _, _, h3h⟩ := toD_facts hB
      have c1 : consCount [Ent.chH d] = 1 := rfl
      have c2 : consCount (Ent.chD d :: T) = consCount T := by rw [consCount_cons]; simp [Ent.cons]
      have c3 : heads [Ent.chH d] = 0 := rfl
      have c4 : heads (Ent.chD d :: T) = heads T := by rw [heads_cons]; simp [Ent.isRamHead]
      have hcB : consCount (B :: Ns) = 1 + consCount Ns := by rw [consCount_cons, hB]; rfl
      have hcBD : consCount (B.toD :: Ns) = consCount Ns := by rw [consCount_cons, h3c]; simp
      have hhB : heads (B.toD :: Ns) = heads (B :: Ns) := by rw [heads_cons, heads_cons, h3h]
      refine ⟨Q₁, q1, by rw [e1]; omega, ?_, ?_⟩
      · rw [q3]
        simp only [consCount_append, c1, c2, hcB, hcBD]
        omega
      · rw [q4]
        simp only [heads_append, c3, c4, hhB]
        omega

/-- a sweep that starts from a disk checkpoint read at once, and holds one RAM unit at its end:
the checkpoint is read at its turn instead -/
theorem disk_head_chain {cm a : Nat} {Av : Tag → Prop} (A T C : List Ent) (e b q : Nat)
    (hT : ∀ X ∈ T, X.isDN = true) (hC : NoChainHead C)
    (hP : PlanOk cm a Av (A ++ .ownD (.disk e) b :: T ++ .chH q :: C)) :
    ∃ Ns', AllN Ns' ∧ PlanOk cm a Av (A ++ .dskN e b :: Ns' ++ C) ∧
      val uf wr cm (A ++ .dskN e b :: Ns' ++ C) a ≤
        val uf wr cm (A ++ .ownD (.disk e) b :: T ++ .chH q :: C) a := by
  obtain ⟨T', d1, _, d3, d4⟩ := drop_top uf wr A T C (.ownD (.disk e) b) (.chH q) hP rfl hT rfl hC
  obtain ⟨Ns', h1, h2, h3⟩ := strip_tail uf wr T'.length T' rfl A C (.ownD (.disk e) b) rfl d1 hC d3
  have e1 : A ++ Ent.ownD (.disk e) b :: Ns' ++ C = A ++ Ent.ownD (.disk e) b :: (Ns' ++ C) := by simp
  rw [e1] at h2
  obtain ⟨o1, o2⟩ := own_to_dskN uf wr A (Ns' ++ C) (.ownD (.disk e) b) e b (Or.inr rfl) h2
    (noChainHead_append h1 hC)
  refine ⟨Ns', h1, by simpa using o1, ?_⟩
  have e2 : A ++ Ent.dskN e b :: Ns' ++ C = A ++ Ent.dskN e b :: (Ns' ++ C) := by simp
  rw [e2]
  rw [← e1] at o2
  simp only [Ent.paysWr, if_true, Bool.false_eq_true, if_false, Nat.add_zero] at o2 d4
  omega

theorem dn_cp_none : ∀ (L : List Ent), (∀ X ∈ L, X.isDN = true) → ChainOk none L → cpAfter none L = none := by
  intro L
  induction L with
  | nil => intro _ _; rfl
  | cons X L ih =>
    intro hL hc
    have hX := hL X (List.mem_cons_self ..)
    rcases isDN_cases hX with ⟨e, b, rfl⟩ | ⟨q, rfl⟩
    · have : cpStep none (Ent.dskN e b) = none := by simp [cpStep, Ent.sets]
      rw [cpAfter_cons, this]
      rw [ChainOk, this] at hc
      exact ih (fun Y hY => hL Y (List.mem_cons_of_mem _ hY)) hc.2
    · have := hc.1 rfl
      simp at this

theorem exists_nonDN {L : List Ent} (hc : ChainOk none L) (hs : (cpAfter none L).isSome = true) :
    ∃ X ∈ L, X.isDN = false := by
  by_contra hno
  have hall : ∀ X ∈ L, X.isDN = true := by
    intro X hX
    cases h : X.isDN with
    | true => rfl
    | false => exact absurd ⟨X, hX, h⟩ hno
  rw [dn_cp_none L hall hc] at hs
  simp at hs

theorem exists_setter {L : List Ent} (hs : (cpAfter none L).isSome = true) : ∃ X ∈ L, X.sets = true := by
  rcases cpAfter_cases L none with h | ⟨E, hE, h⟩
  · rw [h] at hs; simp at hs
  · by_contra hno
    have hall : ∀ X ∈ L, X.sets = false := by
      intro X hX
      cases hx : X.sets with
      | false => rfl
      | true => exact absurd ⟨X, hX, hx⟩ hno
    have : ∀ (L : List Ent) cp, (∀ X ∈ L, X.sets = false) → cpAfter cp L = cp := by
      intro L
      induction L with
      | nil => intro cp _; rfl
      | cons Y L ih =>
        intro cp hL
        rw [cpAfter_cons]
        have : cpStep cp Y = cp := by unfold cpStep; rw [hL Y (List.mem_cons_self ..)]; simp
        rw [this]
        exact ih cp (fun Z hZ => hL Z (List.mem_cons_of_mem _ hZ))
    rw [this L none hall] at hs
    simp at hs

/-- **One RAM unit less**: as long as more entries are held in RAM than sweeps start from RAM or
working storage, one of them can be given up at no cost. -/
theorem reduce_cons {cm a : Nat} {Av : Tag → Prop} : ∀ (n : Nat) (Q C : List Ent), Q.length ≤ n →
    NoChainHead C → PlanOk cm a Av (Q ++ C) → heads Q < consCount Q →
    ∃ Q₁, PlanOk cm a Av (Q₁ ++ C) ∧ val uf wr cm (Q₁ ++ C) a ≤ val uf wr cm (Q ++ C) a ∧
      consCount Q₁ < consCount Q ∧ heads Q₁ ≤ heads Q := by
  intro n
  induction n with
  | zero =>
    intro Q C hlen _ _ hlt
    have : Q = [] := List.eq_nil_of_length_eq_zero (by omega)
    subst this
    simp [heads, consCount] at hlt
  | succ n ih =>
    intro Q C hlen hC hP hlt
    -- a suffix `S` that does not continue a sweep from below is set aside
    have peel : ∀ Q' S : List Ent, Q = Q' ++ S → S ≠ [] → NoChainHead (S ++ C) → heads Q' < consCount Q' →
        ∃ Q₁, PlanOk cm a Av (Q₁ ++ C) ∧ val uf wr cm (Q₁ ++ C) a ≤ val uf wr cm (Q ++ C) a ∧
          consCount Q₁ < consCount Q ∧ heads Q₁ ≤ heads Q := by
      intro Q' S hQ hS hnc hlt'
      subst hQ
      rw [List.append_assoc] at hP ⊢
      have hl : Q'.length ≤ n := by
        rw [List.length_append] at hlen
        have := List.length_pos_iff.mpr hS
        omega
      obtain ⟨Q₁, q1, q2, q3, q4⟩ := ih Q' (S ++ C) hl hnc hP hlt'
      refine ⟨Q₁ ++ S, by rw [List.append_assoc]; exact q1, by rw [List.append_assoc]; exact q2, ?_, ?_⟩
      · rw [consCount_append, consCount_append]; omega
      · rw [heads_append, heads_append]; omega
    rcases List.eq_nil_or_concat Q with h0 | ⟨Q', Z, hQ⟩
    · subst h0; simp [heads, consCount] at hlt
    rw [List.concat_eq_append] at hQ
    subst hQ
    have hlen' : Q'.length ≤ n := by simp at hlen; omega
    have eQC : Q' ++ [Z] ++ C = Q' ++ (Z :: C) := by simp
    have hc0 : consCount ([] : List Ent) = 0 := rfl
    have hh0 : heads ([] : List Ent) = 0 := rfl
    rw [consCount_append, heads_append, consCount_cons, heads_cons, hc0, hh0] at hlt
    -- the chain condition at `Z`
    have hchain := hP.chain
    rw [eQC, ChainOk_append, ChainOk] at hchain
    obtain ⟨hcQ', hcZ, _⟩ := hchain
    cases Z with
    | dskN e b =>
      simp only [Ent.cons, Ent.isRamHead, Bool.false_eq_true, if_false] at hlt
      exact peel Q' _ rfl (List.cons_ne_nil _ _) hC (by omega)
    | ownH t b =>
      simp only [Ent.cons, Ent.isRamHead, if_true] at hlt
      cases t with
      | disk e =>
        rw [eQC] at hP ⊢
        obtain ⟨o1, o2⟩ := own_to_dskN uf wr Q' C (.ownH (.disk e) b) e b (Or.inl rfl) hP hC
        refine ⟨Q' ++ [.dskN e b], by simpa using o1, ?_, ?_, ?_⟩
        · have : Q' ++ [Ent.dskN e b] ++ C = Q' ++ Ent.dskN e b :: C := by simp
          rw [this]; omega
        · rw [consCount_append, consCount_append, consCount_cons, consCount_cons, hc0]
          exact Nat.add_lt_add_left Nat.zero_lt_one _
        · rw [heads_append, heads_append, heads_cons, heads_cons, hh0]
          exact Nat.le_refl _
      | ram e => exact peel Q' _ rfl (List.cons_ne_nil _ _) trivial (by simp [Tag.isDisk] at hlt; omega)
      | work e => exact peel Q' _ rfl (List.cons_ne_nil _ _) trivial (by simp [Tag.isDisk] at hlt; omega)
    | ownD t b =>
      simp only [Ent.cons, Bool.false_eq_true, if_false] at hlt
      exact peel Q' _ rfl (List.cons_ne_nil _ _) trivial (by split at hlt <;> omega)
    | chD q =>
      simp only [Ent.cons, Ent.isRamHead, Bool.false_eq_true, if_false] at hlt
      obtain ⟨X, hX, hXs⟩ := exists_setter (hcZ rfl)
      obtain ⟨A₂, B₂, Ns₂, rfl, hB₂, hNs₂⟩ := exists_last Ent.sets Q' ⟨X, hX, hXs⟩
      have hNs : AllN Ns₂ := fun Y hY => not_sets_isN (hNs₂ Y hY)
      have e1 : A₂ ++ B₂ :: Ns₂ ++ [Ent.chD q] ++ C = A₂ ++ B₂ :: Ns₂ ++ Ent.chD q :: C := by simp
      rw [e1] at hP ⊢
      obtain ⟨r1, r2, _⟩ := remove_last uf wr A₂ Ns₂ C B₂ (.chD q) hP hB₂ hNs rfl hC
      -- the disk checkpoints count neither as consuming nor as heads, before and after
      have h1 := allN_counts _ (shiftUp_allN Ns₂ q hNs)
      have h2 := allN_counts _ hNs
      rw [consCount_append, heads_append, consCount_cons, heads_cons, h2.1, h2.2] at hlt
      obtain ⟨Q₁, q1, q2, q3, q4⟩ := ih (A₂ ++ B₂ :: shiftUp Ns₂ q) C
        (by simp [shiftUp_length] at hlen' ⊢; omega) hC r1
        (by rw [consCount_append, heads_append, consCount_cons, heads_cons, h1.1, h1.2]; omega)
      rw [consCount_append, consCount_cons, h1.1] at q3
      rw [heads_append, heads_cons, h1.2] at q4
      refine ⟨Q₁, q1, le_trans q2 (Nat.le_of_add_le_add_right r2), ?_, ?_⟩
      · rw [consCount_append, consCount_append, consCount_cons, h2.1]; omega
      · rw [heads_append, heads_append, heads_cons, h2.2]; omega
    | chH q =>
      simp only [Ent.cons, Ent.isRamHead, if_true, Bool.false_eq_true, if_false] at hlt
      obtain ⟨X, hX, hXd⟩ := exists_nonDN hcQ' (hcZ rfl)
      obtain ⟨A, B, T, rfl, hBd, hTd⟩ := exists_last (fun E => !E.isDN) Q' ⟨X, hX, by simp [hXd]⟩
      have hT : ∀ Y ∈ T, Y.isDN = true := fun Y hY => by simpa using hTd Y hY
      have hBd' : B.isDN = false := by simpa using hBd
      have hTc := dn_counts T hT
      have e1 : A ++ B :: T ++ [Ent.chH q] ++ C = A ++ B :: [] ++ T ++ Ent.chH q :: C := by simp
      have e1' : A ++ B :: T ++ [Ent.chH q] = A ++ B :: [] ++ T ++ [Ent.chH q] := by simp
      by_cases hBc : B.cons = true
      · rw [e1] at hP
        obtain ⟨Q₁, q1, q2, q3, q4⟩ := chain_tail uf wr T A [] C B q hBc
          (fun Y hY => absurd hY List.not_mem_nil) hT hC hP
        exact ⟨Q₁, q1, by rw [e1]; exact q2, by rw [e1']; omega, by rw [e1']; omega⟩
      · -- `B` is neither disk-like nor held in RAM: an own entry that went to disk
        obtain ⟨t, b, rfl⟩ := ownD_of_not hBd' (by simpa using hBc)
        rw [consCount_append, heads_append, consCount_cons, heads_cons, hTc.1, hTc.2] at hlt
        cases t with
        | disk e =>
          have e2 : A ++ Ent.ownD (.disk e) b :: T ++ [Ent.chH q] ++ C
              = A ++ Ent.ownD (.disk e) b :: T ++ Ent.chH q :: C := by simp
          rw [e2] at hP ⊢
          obtain ⟨Ns', h1, h2, h3⟩ := disk_head_chain uf wr A T C e b q hT hC hP
          have hNc := allN_counts _ h1
          refine ⟨A ++ Ent.dskN e b :: Ns', h2, h3, ?_, ?_⟩
          · simp only [consCount_append, consCount_cons, Ent.cons, hNc.1, hTc.1, hc0]; simp
          · simp only [heads_append, heads_cons, Ent.isRamHead, hNc.2, hTc.2, hh0, Tag.isDisk]; simp
        | ram e =>
          exact peel A (Ent.ownD (.ram e) b :: T ++ [Ent.chH q]) (by simp) (by simp) trivial
            (by simp [Ent.cons, Ent.isRamHead, Tag.isDisk] at hlt; omega)
        | work e =>
          exact peel A (Ent.ownD (.work e) b :: T ++ [Ent.chH q]) (by simp) (by simp) trivial
            (by simp [Ent.cons, Ent.isRamHead, Tag.isDisk] at hlt; omega)


theorem isRamHead_eq (E : Ent) : E.isRamHead = (E.tag?.map (fun t => !t.isDisk)).getD false := by
  cases E <;> rfl

theorem heads_eq_tags (P : List Ent) : heads P = ((tags P).filter (fun t => !t.isDisk)).length := by
  induction P with
  | nil => rfl
  | cons E P ih =>
    rw [heads_cons, tags_cons, List.filter_append, List.length_append, ih, isRamHead_eq]
    cases E.tag? with
    | none => rfl
    | some t => cases h : t.isDisk <;> simp [h]

theorem heads_le {cm a : Nat} {Av : Tag → Prop} (L : List Tag) (hL : L.length ≤ cm)
    (hAv : ∀ t, Av t → t.isDisk = true ∨ t ∈ L) {P : List Ent} (hP : PlanOk cm a Av P) : heads P ≤ cm := by
  rw [heads_eq_tags]
  have hnd : ((tags P).filter (fun t => !t.isDisk)).Nodup := hP.nodup.filter _
  have hsub : (tags P).filter (fun t => !t.isDisk) ⊆ L := by
    intro t ht
    rw [List.mem_filter] at ht
    rcases hAv t (hP.avail t ht.1) with h | h
    · rw [h] at ht; simp at ht
    · exact h
  have := (hnd.subperm hsub).length_le
  omega

theorem reduce_all {cm a : Nat} {Av : Tag → Prop} (hheads : ∀ P, PlanOk cm a Av P → heads P ≤ cm) :
    ∀ (k : Nat) (P : List Ent), consCount P ≤ k → PlanOk cm a Av P →
    ∃ P', PlanOk cm a Av P' ∧ val uf wr cm P' a ≤ val uf wr cm P a ∧ consCount P' ≤ cm := by
  intro k
  induction k with
  | zero => intro P hk hP; exact ⟨P, hP, le_refl _, by omega⟩
  | succ k ih =>
    intro P hk hP
    by_cases hc : consCount P ≤ cm
    · exact ⟨P, hP, le_refl _, hc⟩
    · have hh := hheads P hP
      obtain ⟨Q₁, q1, q2, q3, _⟩ := reduce_cons uf wr P.length P [] (le_refl _) trivial
        (by simpa using hP) (by omega)
      simp only [List.append_nil] at q1 q2
      obtain ⟨P', p1, p2, p3⟩ := ih Q₁ (by omega) q1
      exact ⟨P', p1, by omega, p3⟩

theorem append_top {cm a : Nat} {Av Av' : Tag → Prop} (ha : 1 ≤ a) (P : List Ent)
    (hP : PlanOk cm (a - 1) Av' P) (hc : consCount P ≤ cm) (hAv : ∀ t, Av' t → Av t)
    (hw : Av (.work (a - 1))) (hnw : Tag.work (a - 1) ∉ tags P) :
    PlanOk cm a Av (P ++ [.ownH (.work (a - 1)) (a - 1)]) ∧
      val uf wr cm (P ++ [.ownH (.work (a - 1)) (a - 1)]) a = val uf wr cm P (a - 1) + uf := by
  have hs := XiG_snoc uf wr (seqOf P) cm a ha hP.seq (by rw [consCount_eq_countT]; exact hc)
  have hseq : seqOf (P ++ [.ownH (.work (a - 1)) (a - 1)]) = seqOf P ++ [(a - 1, true)] := by
    rw [seqOf_append]; rfl
  refine ⟨⟨by rw [hseq]; exact hs.1, ?_, ?_, ?_, ?_, ?_⟩, ?_⟩
  · intro _
    by_cases h0 : 0 < a - 1
    · obtain ⟨E, rest, hE, hE0⟩ := hP.head h0
      subst hE
      exact ⟨E, rest ++ [_], rfl, hE0⟩
    · cases P with
      | nil => exact ⟨_, [], rfl, by show a - 1 = 0; omega⟩
      | cons E rest =>
        have := bases_lt hP.seq E (List.mem_cons_self ..)
        omega
  · intro X hX
    rcases List.mem_append.mp hX with hX | hX
    · exact hP.src X hX
    · rw [List.mem_singleton] at hX; subst hX; exact le_refl _
  · rw [ChainOk_append]
    exact ⟨hP.chain, by simp [ChainOk, Ent.isCh]⟩
  · rw [tags_append]
    have : tags [Ent.ownH (.work (a - 1)) (a - 1)] = [.work (a - 1)] := rfl
    rw [this, List.nodup_append]
    refine ⟨hP.nodup, List.nodup_singleton _, ?_⟩
    intro x hx y hy
    rw [List.mem_singleton] at hy
    subst hy
    intro h
    subst h
    exact hnw hx
  · intro t ht
    rw [tags_append] at ht
    rcases List.mem_append.mp ht with h | h
    · exact hAv t (hP.avail t h)
    · have : tags [Ent.ownH (.work (a - 1)) (a - 1)] = [.work (a - 1)] := rfl
      rw [this, List.mem_singleton] at h
      subst h; exact hw
  · unfold val
    rw [hseq, hs.2, feeSum_append, wrSum_append]
    have e1 : feeSum uf (cpAfter none P) [Ent.ownH (.work (a - 1)) (a - 1)] = 0 := by
      simp [feeSum, fee, Tag.pos]
    have e2 : wrSum wr [Ent.ownH (.work (a - 1)) (a - 1)] = 0 := by simp [wrSum, Ent.paysWr]
    rw [e1, e2]
    omega

/-- **The turn-around**: the state `a - 1` stands in working storage; the step `a - 1 → a` is taken and
reversed.  Afterwards at most `cm` RAM checkpoints (the tags `L`) and any number of disk checkpoints
are available. -/
theorem dreach_turn {cm a n : Nat} {Av Av' : Tag → Prop} (ha : 1 ≤ a) (hw : Av (.work (a - 1)))
    (L : List Tag) (hL : L.length ≤ cm)
    (hAv : ∀ t, Av' t → Av t ∧ (t.isDisk = true ∨ t ∈ L) ∧ t ≠ .work (a - 1))
    (h : DReach uf wr cm Av' (a - 1) n) : DReach uf wr cm Av a (n + uf) := by
  obtain ⟨P, hP, hv⟩ := h
  obtain ⟨P', p1, p2, p3⟩ := reduce_all uf wr
    (fun Q hQ => heads_le L hL (fun t ht => (hAv t ht).2.1) hQ) (consCount P) P (le_refl _) hP
  obtain ⟨q1, q2⟩ := append_top uf wr (Av := Av) ha P' p1 p3 (fun t ht => (hAv t ht).1) hw
    (fun hin => (hAv _ (p1.avail _ hin)).2.2 rfl)
  exact ⟨_, q1, by omega⟩


theorem toH_facts (B : Ent) : B.toH.paysWr = false ∧ B.toH.base = B.base := by
  cases B <;> exact ⟨rfl, rfl⟩

theorem paysWr_of_not_cons {B : Ent} (hs : B.sets = true) (hc : ¬ B.cons = true) : B.paysWr = true := by
  cases B with
  | ownD _ _ => rfl
  | chD _ => rfl
  | ownH _ _ => exact absurd rfl hc
  | chH _ => exact absurd rfl hc
  | dskN _ _ => cases hs

/-- the last entry may as well be held in RAM: nothing lies above it, and the disk checkpoint is saved -/
theorem last_toH {cm a : Nat} {Av : Tag → Prop} (A : List Ent) (B : Ent)
    (hP : PlanOk cm a Av (A ++ [B])) (hB : B.paysWr = true) :
    PlanOk cm a Av (A ++ [B.toH]) ∧ val uf wr cm (A ++ [B.toH]) a + wr ≤ val uf wr cm (A ++ [B]) a := by
  obtain ⟨t3, t4⟩ := toH_facts B
  have hf2 : List.Forall₂ (SameFee uf) (A ++ [B]) (A ++ [B.toH]) :=
    List.rel_append (forall₂_refl_sameFee uf A) (List.Forall₂.cons (sameFee_toH uf B) List.Forall₂.nil)
  obtain ⟨f1, f2, f3, f4⟩ := sameFee_list uf _ _ hf2 none
  -- the last gap does not depend on the flag of the last base
  have hseq := hP.seq
  rw [seqOf_append] at hseq
  obtain ⟨hseq', hxi⟩ := seq_prefix uf wr 0 [(B.base, B.cons)] [(B.toH.base, B.toH.cons)] a
    (fun _ => t4.symm) (by simp)
    (fun k hk => ⟨by rw [t4]; exact hk, by rw [t4]; exact le_refl _⟩) (seqOf A) cm hseq
  have hxi' : XiG uf wr cm (seqOf (A ++ [B.toH])) a ≤ XiG uf wr cm (seqOf (A ++ [B])) a := by
    rw [seqOf_append, seqOf_append]; exact hxi
  refine ⟨⟨by rw [seqOf_append]; exact hseq', fun ha => head_replace t4 (hP.head ha), f4 hP.src,
    f2.mp hP.chain, by rw [← f3]; exact hP.nodup, by rw [← f3]; exact hP.avail⟩, ?_⟩
  have hw : wrSum wr (A ++ [B]) = wrSum wr (A ++ [B.toH]) + wr := by
    rw [wrSum_append, wrSum_append, wrSum_cons, wrSum_cons, hB, t3]
    simp [wrSum]
  unfold val
  rw [← f1, hw]
  omega

/-- plans at the very beginning: one own entry, the rest is chained -/
def InitShape (P : List Ent) : Prop := ∃ E0 L, P = E0 :: L ∧ E0.isOwn = true ∧ ∀ X ∈ L, X.isCh = true

theorem initShape_snoc {A : List Ent} {B Y : Ent} (h : InitShape (A ++ [B, Y])) :
    InitShape (A ++ [B]) ∧ Y.isCh = true ∧ B.sets = true ∧ InitShape (A ++ [B.toH]) := by
  obtain ⟨E0, L, hE, hown, hL⟩ := h
  cases A with
  | nil =>
    simp only [List.nil_append, List.cons.injEq] at hE
    obtain ⟨rfl, rfl⟩ := hE
    exact ⟨⟨B, [], rfl, hown, by simp⟩, hL Y (by simp), (isOwn_facts hown).1,
      ⟨B.toH, [], rfl, (toH_kind B).1.trans hown, by simp⟩⟩
  | cons Z A' =>
    simp only [List.cons_append, List.cons.injEq] at hE
    obtain ⟨rfl, rfl⟩ := hE
    have hBch : B.isCh = true := hL B (by simp)
    -- `A'` followed by a chained entry is chained
    have hsnoc : ∀ B' : Ent, B'.isCh = true → ∀ X ∈ A' ++ [B'], X.isCh = true := by
      intro B' hB' X hX
      rcases List.mem_append.mp hX with h | h
      · exact hL X (List.mem_append_left _ h)
      · rw [List.mem_singleton.mp h]; exact hB'
    exact ⟨⟨Z, A' ++ [B], rfl, hown, hsnoc B hBch⟩, hL Y (by simp), (isCh_facts hBch).1,
      ⟨Z, A' ++ [B.toH], rfl, hown, hsnoc B.toH ((toH_kind B).2.trans hBch)⟩⟩

theorem init_bound {cm N : Nat} {Av : Tag → Prop} (hN : 1 ≤ N) : ∀ (m : Nat) (P : List Ent),
    P.length = m → InitShape P → PlanOk cm N Av P → Gd uf wr cm N ≤ val uf wr cm P N := by
  intro m
  induction m with
  | zero =>
    intro P hlen hsh _
    obtain ⟨E0, L, rfl, _, _⟩ := hsh
    simp at hlen
  | succ m ih =>
    intro P hlen hsh hP
    rcases List.eq_nil_or_concat P with h0 | ⟨P₁, Y, hPY⟩
    · subst h0; simp at hlen
    rw [List.concat_eq_append] at hPY
    subst hPY
    rcases List.eq_nil_or_concat P₁ with h1 | ⟨A, B, hAB⟩
    · -- a single entry
      subst h1
      obtain ⟨X, rest, hX, hX0⟩ := hP.head (by omega)
      simp only [List.nil_append, List.cons.injEq] at hX
      obtain ⟨rfl, _⟩ := hX
      unfold val
      have : XiG uf wr cm (seqOf ([] ++ [Y])) N = Gd uf wr cm N := by
        simp [seqOf, XiG, hX0]
      rw [this]
      omega
    · rw [List.concat_eq_append] at hAB
      subst hAB
      have e1 : A ++ [B] ++ [Y] = A ++ [B, Y] := by simp
      rw [e1] at hsh hP ⊢
      obtain ⟨s1, s2, s3, s4⟩ := initShape_snoc hsh
      have hlen1 : (A ++ [B]).length = m := by simp at hlen ⊢; omega
      have e2 : A ++ [B, Y] = A ++ B :: [] ++ Y :: [] := by simp
      rw [e2] at hP ⊢
      -- the last entry is given up
      obtain ⟨r1, r2, r3⟩ := remove_last uf wr A [] [] B Y hP s3
        (fun X hX => absurd hX List.not_mem_nil) s2 trivial
      simp only [shiftUp, List.append_nil] at r1 r2 r3
      have hAB := ih (A ++ [B]) hlen1 s1 r1
      by_cases hBc : B.cons = true
      · exact le_trans hAB (le_trans (Nat.le_add_right _ _) (r3 hBc))
      · by_cases hYp : Y.paysWr = true
        · rw [if_pos hYp] at r2
          omega
        · -- `Y` was held in RAM and `B` was not: `B` is held instead
          rw [if_neg hYp] at r2
          have hBp := paysWr_of_not_cons s3 hBc
          obtain ⟨c1, c2⟩ := last_toH uf wr A B r1 hBp
          have := ih (A ++ [B.toH]) (by simp at hlen1 ⊢; omega) s4 c1
          omega

/-- **At the very beginning** only the state `0` in working storage is available: every plan costs at
least `Gd cm N`. -/
theorem dreach_init {cm N n : Nat} {Av : Tag → Prop} (hN : 1 ≤ N) (hAv : ∀ t, Av t → t = .work 0)
    (h : DReach uf wr cm Av N n) : Gd uf wr cm N ≤ n := by
  obtain ⟨P, hP, hv⟩ := h
  obtain ⟨E0, L, rfl, _⟩ := hP.head (by omega)
  have hsh : InitShape (E0 :: L) := by
    have hc := hP.chain
    have hE0 : E0.isOwn = true := by
      cases E0 with
      | ownH _ _ => rfl
      | ownD _ _ => rfl
      | dskN e b =>
        have := hAv _ (hP.avail (.disk e) (by simp [tags, Ent.tag?]))
        cases this
      | chH _ => have := hc.1 rfl; simp at this
      | chD _ => have := hc.1 rfl; simp at this
    refine ⟨E0, L, rfl, hE0, ?_⟩
    intro X hX
    cases hXt : X.tag? with
    | none => exact isCh_of_tag_none hXt
    | some t =>
      exfalso
      obtain ⟨_, _, t0, ht0⟩ := isOwn_facts hE0
      have hnd := hP.nodup
      rw [tags_cons, ht0] at hnd
      simp only [List.singleton_append, List.nodup_cons] at hnd
      have htL : t ∈ tags L := by
        unfold tags; exact List.mem_filterMap.mpr ⟨X, hX, hXt⟩
      have h1 := hAv t (hP.avail t (by rw [tags_cons]; exact List.mem_append_right _ htL))
      have h2 := hAv t0 (hP.avail t0 (by rw [tags_cons, ht0]; simp))
      rw [h1, ← h2] at htL
      exact hnd.1 htL
  have := init_bound uf wr hN (E0 :: L).length (E0 :: L) rfl hsh hP
  omega

end

end Ckpt.LB7
