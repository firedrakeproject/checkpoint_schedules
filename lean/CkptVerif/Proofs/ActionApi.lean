import CkptVerif.Model.ActionApi
/-!
# Value semantics of actions: iteration, length, membership, and the `repr` round trip
-/
namespace Ckpt

theorem steps_forward (n0 n1 : Nat) (wi wa : Bool) (st : Storage) :
    steps (.forward n0 n1 wi wa st) = List.range' n0 (n1 - n0) := rfl

theorem steps_reverse (n1 n0 : Nat) (c : Bool) :
    steps (.reverse n1 n0 c) = (List.range' n0 (n1 - n0)).reverse := rfl

/-- `len(action)`: `n1 - n0` for Forward/Reverse -/
theorem length_steps_forward (n0 n1 : Nat) (wi wa : Bool) (st : Storage) :
    (steps (.forward n0 n1 wi wa st)).length = n1 - n0 := by
  simp [steps]

theorem length_steps_reverse (n1 n0 : Nat) (c : Bool) :
    (steps (.reverse n1 n0 c)).length = n1 - n0 := by
  simp [steps]

/-- `__len__` for every action -/
theorem length_steps (a : Action) :
    (steps a).length = match a with
      | .forward n0 n1 _ _ _ => n1 - n0
      | .reverse n1 n0 _ => n1 - n0
      | _ => 0 := by
  cases a <;> simp [steps]

/-- `k in Forward(n0, n1, …)` iff `n0 ≤ k < n1` -/
theorem mem_steps_forward (k n0 n1 : Nat) (wi wa : Bool) (st : Storage) :
    k ∈ steps (.forward n0 n1 wi wa st) ↔ n0 ≤ k ∧ k < n1 := by
  simp only [steps, List.mem_range'_1]; omega

/-- `k in Reverse(n1, n0, …)` iff `n0 ≤ k < n1` -/
theorem mem_steps_reverse (k n1 n0 : Nat) (c : Bool) :
    k ∈ steps (.reverse n1 n0 c) ↔ n0 ≤ k ∧ k < n1 := by
  simp only [steps, List.mem_reverse, List.mem_range'_1]; omega

/-- Forward iterates upwards from `n0`, Reverse downwards from `n1 - 1`. -/
theorem getElem?_steps_forward (i n0 n1 : Nat) (wi wa : Bool) (st : Storage) (h : i < n1 - n0) :
    (steps (.forward n0 n1 wi wa st))[i]? = some (n0 + i) := by
  simp [steps, h]

theorem getElem?_steps_reverse (i n1 n0 : Nat) (c : Bool) (h : i < n1 - n0) :
    (steps (.reverse n1 n0 c))[i]? = some (n1 - 1 - i) := by
  simp only [steps]
  rw [List.getElem?_reverse (by simpa using h)]
  simp only [List.length_range']
  rw [List.getElem?_range' (by omega)]
  congr 1; omega

example : steps (.forward 2 5 true false .ram) = [2, 3, 4] := by decide
example : steps (.reverse 5 2 true) = [4, 3, 2] := by decide

theorem pyRepr_forward (n0 n1 : Nat) (wi wa : Bool) (st : Storage) :
    pyRepr (.forward n0 n1 wi wa st) =
      "Forward(" ++ pyNat n0 ++ ", " ++ pyNat n1 ++ ", " ++ pyBool wi ++ ", " ++ pyBool wa ++ ", "
        ++ pySt st ++ ")" := rfl

theorem pyRepr_reverse (n1 n0 : Nat) (c : Bool) :
    pyRepr (.reverse n1 n0 c) =
      "Reverse(" ++ pyNat n1 ++ ", " ++ pyNat n0 ++ ", " ++ pyBool c ++ ")" := rfl

theorem pyRepr_copy (n : Nat) (s d : Storage) :
    pyRepr (.copy n s d) = "Copy(" ++ pyNat n ++ ", " ++ pySt s ++ ", " ++ pySt d ++ ")" := rfl

theorem pyRepr_move (n : Nat) (s d : Storage) :
    pyRepr (.move n s d) = "Move(" ++ pyNat n ++ ", " ++ pySt s ++ ", " ++ pySt d ++ ")" := rfl

theorem lit_append (p r : List Char) : lit p (p ++ r) = some r := by
  induction p with
  | nil => rfl
  | cons a p ih => simp [lit, ih]

theorem lit_cons_ne (a b : Char) (ps cs : List Char) (h : a ≠ b) :
    lit (a :: ps) (b :: cs) = none := by
  simp [lit, h]

theorem pSep_append (r : List Char) : pSep (", ".toList ++ r) = some r := lit_append _ r

theorem pClose_close : pClose ")".toList = some () := rfl

theorem pBool_append (b : Bool) (r : List Char) :
    pBool ((pyBool b).toList ++ r) = some (b, r) := by
  cases b
  · show pBool ("False".toList ++ r) = _
    unfold pBool
    rw [show lit "True".toList ("False".toList ++ r) = none from rfl, lit_append]
  · show pBool ("True".toList ++ r) = _
    unfold pBool
    rw [lit_append]

theorem pSt_append (st : Storage) (r : List Char) :
    pSt ((pySt st).toList ++ r) = some (st, r) := by
  have h : ∀ x : String, ("StorageType." ++ x).toList ++ r = "StorageType.".toList ++ (x.toList ++ r) := by
    intro x; rw [String.toList_append, List.append_assoc]
  cases st
  · show pSt (("StorageType." ++ "RAM").toList ++ r) = _
    rw [h]; unfold pSt; rw [lit_append]; simp only; rw [lit_append]
  · show pSt (("StorageType." ++ "DISK").toList ++ r) = _
    rw [h]; unfold pSt; rw [lit_append]; simp only
    rw [show lit "RAM".toList ("DISK".toList ++ r) = none from rfl, lit_append]
  · show pSt (("StorageType." ++ "WORK").toList ++ r) = _
    rw [h]; unfold pSt; rw [lit_append]; simp only
    rw [show lit "RAM".toList ("WORK".toList ++ r) = none from rfl,
      show lit "DISK".toList ("WORK".toList ++ r) = none from rfl, lit_append]
  · show pSt (("StorageType." ++ "NONE").toList ++ r) = _
    rw [h]; unfold pSt; rw [lit_append]; simp only
    rw [show lit "RAM".toList ("NONE".toList ++ r) = none from rfl,
      show lit "DISK".toList ("NONE".toList ++ r) = none from rfl,
      show lit "WORK".toList ("NONE".toList ++ r) = none from rfl, lit_append]

theorem pNat_sep (n : Nat) (r : List Char) :
    pNat ((pyNat n).toList ++ (", ".toList ++ r)) = some (n, ", ".toList ++ r) := by
  unfold pyNat
  by_cases h : n = maxsize
  · rw [if_pos h]; unfold pNat; rw [lit_append, h]
  · rw [if_neg h]
    have hd : (toString n).toList = Nat.toDigits 10 n := Nat.toList_repr
    rw [hd]
    have hdig : ∀ c ∈ Nat.toDigits 10 n, c.isDigit = true :=
      fun c hc => Nat.isDigit_of_mem_toDigits (by omega) (by omega) hc
    have hne : Nat.toDigits 10 n ≠ [] := Nat.toDigits_ne_nil
    have htail : ", ".toList ++ r = ',' :: ' ' :: r := rfl
    unfold pNat
    have hlit : lit "sys.maxsize".toList (Nat.toDigits 10 n ++ (", ".toList ++ r)) = none := by
      cases hD : Nat.toDigits 10 n with
      | nil => exact absurd hD hne
      | cons d D =>
        have : d.isDigit = true := hdig d (by rw [hD]; simp)
        rw [show "sys.maxsize".toList = 's' :: "ys.maxsize".toList from rfl, List.cons_append]
        apply lit_cons_ne
        intro hsd; rw [← hsd] at this; exact absurd this (by decide)
    rw [hlit]
    simp only
    have htw : List.takeWhile Char.isDigit (Nat.toDigits 10 n ++ (", ".toList ++ r)) =
        Nat.toDigits 10 n := by
      rw [List.takeWhile_append_of_pos hdig, htail, List.takeWhile_cons_of_neg (by decide),
        List.append_nil]
    have hdw : List.dropWhile Char.isDigit (Nat.toDigits 10 n ++ (", ".toList ++ r)) =
        ", ".toList ++ r := by
      rw [List.dropWhile_append_of_pos hdig, htail, List.dropWhile_cons_of_neg (by decide)]
    rw [htw, hdw, if_neg (by simp [hne]), Nat.ofDigitChars_ten_toDigits]

theorem parseChars_pyRepr (a : Action) : parseChars (pyRepr a).toList = some a := by
  cases a with
  | forward n0 n1 wi wa st =>
    rw [pyRepr_forward]
    simp only [String.toList_append, List.append_assoc]
    unfold parseChars
    rw [lit_append]
    simp only [pForwardArgs, pNat_sep, pSep_append, pBool_append, pSt_append, pClose_close,
      Option.bind_eq_bind, Option.bind_some, Option.pure_def]
  | reverse n1 n0 c =>
    rw [pyRepr_reverse]
    simp only [String.toList_append, List.append_assoc]
    unfold parseChars
    rw [show ∀ r, lit "Forward(".toList ("Reverse(".toList ++ r) = none from fun _ => rfl]
    simp only
    rw [lit_append]
    simp only [pReverseArgs, pNat_sep, pSep_append, pBool_append, pClose_close,
      Option.bind_eq_bind, Option.bind_some, Option.pure_def]
  | copy n s d =>
    rw [pyRepr_copy]
    simp only [String.toList_append, List.append_assoc]
    unfold parseChars
    rw [show ∀ r, lit "Forward(".toList ("Copy(".toList ++ r) = none from fun _ => rfl,
      show ∀ r, lit "Reverse(".toList ("Copy(".toList ++ r) = none from fun _ => rfl]
    simp only
    rw [lit_append]
    simp only [pCopyArgs, pNat_sep, pSep_append, pSt_append, pClose_close,
      Option.bind_eq_bind, Option.bind_some, Option.pure_def]
  | move n s d =>
    rw [pyRepr_move]
    simp only [String.toList_append, List.append_assoc]
    unfold parseChars
    rw [show ∀ r, lit "Forward(".toList ("Move(".toList ++ r) = none from fun _ => rfl,
      show ∀ r, lit "Reverse(".toList ("Move(".toList ++ r) = none from fun _ => rfl,
      show ∀ r, lit "Copy(".toList ("Move(".toList ++ r) = none from fun _ => rfl]
    simp only
    rw [lit_append]
    simp only [pCopyArgs, pNat_sep, pSep_append, pSt_append, pClose_close,
      Option.bind_eq_bind, Option.bind_some, Option.pure_def]
  | endForward => rfl
  | endReverse => rfl

theorem parseRepr_pyRepr (a : Action) : parseRepr (pyRepr a) = some a := by
  unfold parseRepr
  rw [parseChars_pyRepr]
  simp only [if_true]

theorem parseRepr_eq_some_iff (s : String) (a : Action) :
    parseRepr s = some a ↔ pyRepr a = s := by
  constructor
  · intro h
    unfold parseRepr at h
    split at h
    · split at h
      · cases h; assumption
      · cases h
    · cases h
  · rintro rfl; exact parseRepr_pyRepr a

/-- `__eq__`/`__repr__`: `repr` is injective — two actions print the same iff they are equal. -/
theorem pyRepr_injective (a b : Action) (h : pyRepr a = pyRepr b) : a = b := by
  have := parseRepr_pyRepr a
  rw [h, parseRepr_pyRepr] at this
  exact (Option.some.inj this).symm

example : pyRepr (.forward 3 maxsize true false .disk) =
    "Forward(3, sys.maxsize, True, False, StorageType.DISK)" := by decide
example : parseRepr "Reverse(10, 0, True)" = some (.reverse 10 0 true) := by
  rw [parseRepr_eq_some_iff]; decide

end Ckpt

section AxiomCheck
open Ckpt
#print axioms steps_forward
#print axioms steps_reverse
#print axioms length_steps
#print axioms mem_steps_forward
#print axioms mem_steps_reverse
#print axioms parseChars_pyRepr
#print axioms parseRepr_pyRepr
#print axioms parseRepr_eq_some_iff
#print axioms pyRepr_injective
end AxiomCheck
