import CkptVerif.Proofs.Cost
import CkptVerif.Proofs.HOptTables
import CkptVerif.Proofs.HRevolveOk
import CkptVerif.Proofs.RevolveCost
/-!
# HRevolve: the cost of the model stream is the table value (C07)

For the context `hCtxOf N c0 c1 c` (RAM free, DISK write `wd`, DISK read `rd`):

* `hRs … lo hi K cm` costs `opt[K][hi-lo-1][cm] + (hi-lo)·uf`;
* `hAs … lo hi K cm pending` costs `optp[K][hi-lo-1][cm] + (hi-lo)·uf`, plus the write of the
  pending checkpoint (`w K`) if there is one; the read that preceded a just-loaded state
  (`pending = none`) is paid by the caller;
* `hrevolve_cost`, and "more disk units never cost more".
-/
namespace Ckpt.RC
open Ckpt List

theorem ominList_eq_of (L : List (Option Nat)) (x : Option Nat) (hx : x ∈ L)
    (hmin : ∀ y ∈ L, ole x y = true) : ominList L = x :=
  ole_antisymm (ominList_le L x hx) (hmin _ (ominList_mem L (ne_nil_of_mem hx)))

theorem ominList_insert (L cands : List (Option Nat)) (o : Option Nat)
    (hL : ∀ y, y ∈ L ↔ y = o ∨ y ∈ cands) :
    ominList L = if olt (ominList cands) o = true then ominList cands else o := by
  by_cases h : olt (ominList cands) o = true
  · rw [if_pos h]
    have hne : cands ≠ [] := by rintro rfl; cases h
    refine ominList_eq_of L _ ((hL _).2 (Or.inr (ominList_mem cands hne))) fun y hy => ?_
    rcases (hL y).1 hy with rfl | hy
    · exact ole_of_olt h
    · exact ominList_le cands y hy
  · rw [if_neg h]
    have hle : ole o (ominList cands) = true := by simpa [ole] using h
    refine ominList_eq_of L _ ((hL _).2 (Or.inl rfl)) fun y hy => ?_
    rcases (hL y).1 hy with rfl | hy
    · exact ole_refl _
    · exact ole_trans hle (ominList_le cands y hy)

theorem loop_sum (uf ub : Nat) : ∀ l,
    ((List.range l).map (fun idx => (idx + 2) * uf + ub)).sum = l * ub + (l * (l + 1) / 2 + l) * uf
  | 0 => by simp
  | l + 1 => by
    rw [range_succ, map_append, sum_append, loop_sum uf ub l, tri_succ]
    simp
    ring

section ctx
variable (N c0 c1 : Nat) (c : Costs)

/-- what writing the pending checkpoint costs -/
def pw (x : HCtx) : Option Nat → Nat
  | none => 0
  | some K => x.w K

theorem cost_evBase (x : HCtx) (lo hi : Nat) (spine : Bool) :
    cost c (evBase x lo hi spine) = (hi - lo) * c.uf + (hi - lo) * c.ub := by
  cases spine <;> simp [evBase, evCost]

theorem evCost_evFwd (lo tgt hi : Nat) (p : Option Nat) :
    evCost c (evFwd (hCtxOf N c0 c1 c) lo tgt hi p) =
      (tgt - lo) * c.uf + pw (hCtxOf N c0 c1 c) p := by
  cases p with
  | none => simp [evFwd, evCost, pw]
  | some K => by_cases hK : K = 0 <;> simp [evFwd, evCost, pw, lvl, hCtxOf, hK]

theorem evCost_evLoad (b : Bool) (n K r : Nat) :
    evCost c (evLoad b n (lvl K) r) = (hCtxOf N c0 c1 c).rr K := by
  by_cases hK : K = 0 <;> cases b <;> simp [evLoad, evCost, lvl, hCtxOf, hK]

theorem evCost_evLoad_ram (b : Bool) (n r : Nat) : evCost c (evLoad b n .ram r) = 0 := by
  cases b <;> simp [evLoad, evCost]

/-- two steps: advance over the first, reverse the second, load the start again, reverse the
first -/
theorem cost_two (lo hi : Nat) (spine : Bool) (p : Option Nat) (ld : Ev) (h : hi - lo - 1 = 1) :
    cost c ([evFwd (hCtxOf N c0 c1 c) lo (lo + 1) hi p] ++ evBase (hCtxOf N c0 c1 c) (lo + 1) hi spine
        ++ [ld] ++ evBase (hCtxOf N c0 c1 c) lo (lo + 1) false) =
      c.uf + 2 * c.ub + (hi - lo) * c.uf + pw (hCtxOf N c0 c1 c) p + evCost c ld := by
  have e1 : hi - (lo + 1) = 1 := by omega
  have e2 : lo + 1 - lo = 1 := by omega
  have e3 : hi - lo = 2 := by omega
  simp only [cost_append, cost_cons, cost_nil, cost_evBase, evCost_evFwd, e1, e2, e3]
  omega

/-- one RAM unit: every step but the first is reached by a forward from the single checkpoint -/
theorem cost_loop (lo l : Nat) (spine : Bool) (p : Option Nat) (hp : pw (hCtxOf N c0 c1 c) p = 0) :
    cost c ((List.range l).reverse.flatMap (fun idx =>
        (if idx ≠ l - 1 then [evLoad true lo .ram ((hCtxOf N c0 c1 c).N - (lo + idx + 2))] else []) ++
        [evFwd (hCtxOf N c0 c1 c) lo (lo + idx + 1) (lo + idx + 2) (if idx = l - 1 then p else none)] ++
        evBase (hCtxOf N c0 c1 c) (lo + idx + 1) (lo + idx + 2) (spine && decide (idx = l - 1)))) =
      l * c.ub + (l * (l + 1) / 2 + l) * c.uf := by
  rw [cost_flatMap, map_reverse, sum_reverse, ← loop_sum]
  refine congrArg List.sum (map_congr_left fun idx _ => ?_)
  have e1 : lo + idx + 1 - lo = idx + 1 := by omega
  have e2 : lo + idx + 2 - (lo + idx + 1) = 1 := by omega
  have hp' : pw (hCtxOf N c0 c1 c) (if idx = l - 1 then p else none) = 0 := by
    split
    · exact hp
    · rfl
  have hld : cost c (if idx ≠ l - 1 then
      [evLoad true lo .ram ((hCtxOf N c0 c1 c).N - (lo + idx + 2))] else []) = 0 := by
    split
    · rw [cost_singleton, evCost_evLoad_ram]
    · rfl
  rw [cost_append, cost_append, hld, cost_singleton, evCost_evFwd, hp', cost_evBase, e1, e2]
  ring

/-- the claim about `hRs`: its stream costs the `opt` entry plus the first sweep -/
def RCost (fuel : Nat) : Prop :=
  ∀ (lo hi K cm : Nat) (spine : Bool) (evs : List Ev), K ≤ 1 → cm ≤ cv (hCtxOf N c0 c1 c) K →
    lo < hi → hi - lo - 1 ≤ N - 1 →
    hRs (hCtxOf N c0 c1 c) fuel lo hi K cm spine = some evs →
    ∃ v, (hCtxOf N c0 c1 c).tab.opt K (hi - lo - 1) cm = some v ∧
      cost c evs = v + (hi - lo) * c.uf

/-- the claim about `hAs`: the `optp` entry, the first sweep, and the write of the pending
checkpoint -/
def ACost (fuel : Nat) : Prop :=
  ∀ (lo hi K cm : Nat) (spine : Bool) (pending : Option Nat) (evs : List Ev), K ≤ 1 →
    cm ≤ cv (hCtxOf N c0 c1 c) K → (pending = none ∨ pending = some K) →
    lo < hi → hi - lo - 1 ≤ N - 1 →
    hAs (hCtxOf N c0 c1 c) fuel lo hi K cm spine pending = some evs →
    ∃ v, (hCtxOf N c0 c1 c).tab.optp K (hi - lo - 1) cm = some v ∧
      cost c evs = v + (hi - lo) * c.uf + pw (hCtxOf N c0 c1 c) pending

theorem pw_zero : pw (hCtxOf N c0 c1 c) (some 0) = 0 := rfl

theorem ht_tab : (hCtxOf N c0 c1 c).tab = hoptTable (N - 1) c0 c1 0 c.wd 0 c.rd c.ub c.uf := rfl

variable (hc0 : 1 ≤ c0)
include hc0

theorem ht_row0 {K cm : Nat} (hK : K ≤ 1) (hcm : cm ≤ cv (hCtxOf N c0 c1 c) K) :
    (hCtxOf N c0 c1 c).tab.optp K 0 cm = some c.ub ∧
    (hCtxOf N c0 c1 c).tab.opt K 0 cm = some c.ub := by
  rw [ht_tab]
  obtain rfl | rfl : K = 0 ∨ K = 1 := by omega
  · exact hopt0_row0 _ _ _ _ _ _ _ _ _ hc0 cm hcm
  · exact hopt1_row0 _ _ _ _ _ _ _ _ _ cm hcm

theorem ht_row1 (h1 : 1 ≤ N - 1) {K cm : Nat} (hK : K ≤ 1) (hcm : cm ≤ cv (hCtxOf N c0 c1 c) K) :
    (1 ≤ cm → (hCtxOf N c0 c1 c).tab.optp K 1 cm = some (c.uf + 2 * c.ub)) ∧
    (¬ (K = 0 ∧ cm = 0) → (hCtxOf N c0 c1 c).tab.opt K 1 cm = some (c.uf + 2 * c.ub)) := by
  rw [ht_tab]
  have r0 : ∀ m, 1 ≤ m → m ≤ c0 →
      (hoptTable (N - 1) c0 c1 0 c.wd 0 c.rd c.ub c.uf).optp 0 1 m = some (c.uf + 2 * c.ub) ∧
      (hoptTable (N - 1) c0 c1 0 c.wd 0 c.rd c.ub c.uf).opt 0 1 m = some (c.uf + 2 * c.ub) := by
    intro m hm1 hm
    obtain ⟨a, b⟩ := hopt0_row1 (N - 1) c0 c1 0 c.wd 0 c.rd c.ub c.uf h1 m hm1 hm
    rw [a, b]; simp
  obtain rfl | rfl : K = 0 ∨ K = 1 := by omega
  · exact ⟨fun h => (r0 cm h hcm).1, fun h => (r0 cm (by omega) hcm).2⟩
  · -- with one step there is no split: `optp 1 1 m` is the level-0 value
    have p1 : ∀ m, 1 ≤ m → m ≤ c1 →
        (hoptTable (N - 1) c0 c1 0 c.wd 0 c.rd c.ub c.uf).optp 1 1 m = some (c.uf + 2 * c.ub) := by
      intro m hm1 hm
      rw [(hopt1_rec (N - 1) c0 c1 0 c.wd 0 c.rd c.ub c.uf 1 m (le_refl _) h1 hm1 hm).1,
        (r0 c0 hc0 (le_refl _)).2]
      rfl
    refine ⟨fun h => p1 cm h hcm, fun _ => ?_⟩
    rcases Nat.eq_zero_or_pos cm with rfl | hm1
    · rw [(hopt1_row1_col0 (N - 1) c0 c1 0 c.wd 0 c.rd c.ub c.uf h1).2]; simp
    · rw [(hopt1_rec (N - 1) c0 c1 0 c.wd 0 c.rd c.ub c.uf 1 cm (le_refl _) h1 hm1 hcm).2,
        p1 cm hm1 hcm, (r0 c0 hc0 (le_refl _)).2]
      simp [omin, oadd, olt]

/-- writing to RAM is free -/
theorem ht_opt0 {l cm : Nat} (hl2 : 2 ≤ l) (hl : l ≤ N - 1) (hcm1 : 1 ≤ cm) (hcm : cm ≤ c0) :
    (hCtxOf N c0 c1 c).tab.opt 0 l cm = (hCtxOf N c0 c1 c).tab.optp 0 l cm := by
  rw [ht_tab]
  rcases Nat.eq_or_lt_of_le hcm1 with rfl | hcm2
  · obtain ⟨a, b⟩ := hopt0_col1 (N - 1) c0 c1 0 c.wd 0 c.rd c.ub c.uf hc0 l hl2 hl
    rw [a, b, Nat.zero_add]
  · rw [(hopt0_rec (N - 1) c0 c1 0 c.wd 0 c.rd c.ub c.uf hc0 l cm hl2 hl hcm2 hcm).2]
    cases (hoptTable (N - 1) c0 c1 0 c.wd 0 c.rd c.ub c.uf).optp 0 l cm <;> simp [oadd]

omit hc0 in
/-- the level-1 value: stay on level 0, or write to disk and split there -/
theorem ht_opt1 {l cm : Nat} (hl2 : 2 ≤ l) (hl : l ≤ N - 1) (hcm : cm ≤ c1) :
    (hCtxOf N c0 c1 c).tab.opt 1 l cm = omin ((hCtxOf N c0 c1 c).tab.opt 0 l c0)
      (oadd (some c.wd) ((hCtxOf N c0 c1 c).tab.optp 1 l cm)) := by
  rw [ht_tab]
  rcases Nat.eq_zero_or_pos cm with rfl | hcm1
  · obtain ⟨a, b⟩ := hopt1_col0 (N - 1) c0 c1 0 c.wd 0 c.rd c.ub c.uf l hl2 hl
    rw [a, b]; simp [omin, oadd, olt]
  · exact (hopt1_rec (N - 1) c0 c1 0 c.wd 0 c.rd c.ub c.uf l cm (by omega) hl hcm1 hcm).2

theorem ht_col1 {l : Nat} (hl2 : 2 ≤ l) (hl : l ≤ N - 1) :
    (hCtxOf N c0 c1 c).tab.optp 0 l 1 = some ((l + 1) * c.ub + l * (l + 1) / 2 * c.uf) := by
  rw [ht_tab, (hopt0_col1 (N - 1) c0 c1 0 c.wd 0 c.rd c.ub c.uf hc0 l hl2 hl).1]
  simp

/-- the recurrence at the choice HRevolve makes: split at the least candidate if that beats the
alternative (one RAM unit on level 0, level 0 with all its units on level 1) -/
theorem ht_optp {K l cm : Nat} (hK : K ≤ 1) (hl2 : 2 ≤ l) (hl : l ≤ N - 1) (hcm1 : 1 ≤ cm)
    (hcm : cm ≤ cv (hCtxOf N c0 c1 c) K) (hne : ¬ (K = 0 ∧ cm = 1)) :
    (hCtxOf N c0 c1 c).tab.optp K l cm =
      if hSplit (hCtxOf N c0 c1 c) K cm l = true then ominList (hCands (hCtxOf N c0 c1 c) K cm l)
      else hOther (hCtxOf N c0 c1 c) K l := by
  obtain rfl | rfl : K = 0 ∨ K = 1 := by omega
  · refine Eq.trans ?_ (ominList_insert (hCands (hCtxOf N c0 c1 c) 0 cm l ++
      [hOther (hCtxOf N c0 c1 c) 0 l]) _ _ (by simp [or_comm]))
    rw [hOther_zero]
    exact (hopt0_rec (N - 1) c0 c1 0 c.wd 0 c.rd c.ub c.uf hc0 l cm hl2 hl (by omega) hcm).1
  · refine Eq.trans ?_ (ominList_insert (hOther (hCtxOf N c0 c1 c) 1 l ::
      hCands (hCtxOf N c0 c1 c) 1 cm l) _ _ (by simp))
    rw [hOther_one]
    exact (hopt1_rec (N - 1) c0 c1 0 c.wd 0 c.rd c.ub c.uf l cm (by omega) hl hcm1 hcm).1

/-! ## the cost of the two mutually recursive generators: one step of each, given both below -/

theorem hRs_cost_succ (fuel : Nat) (ihR : RCost N c0 c1 c fuel) (ihA : ACost N c0 c1 c fuel) :
    RCost N c0 c1 c (fuel + 1) := by
  intro lo hi K cm spine evs hK hcm hlt hl h
  rw [hRs_succ] at h
  by_cases h0 : hi - lo - 1 = 0
  · rw [if_pos h0] at h
    cases h
    have e : hi - lo = 1 := by omega
    rw [h0, cost_evBase, e]
    exact ⟨c.ub, (ht_row0 N c0 c1 c hc0 hK hcm).2, by omega⟩
  rw [if_neg h0] at h
  by_cases hz : K = 0 ∧ cm = 0
  · rw [if_pos hz] at h; cases h
  rw [if_neg hz] at h
  by_cases h1 : hi - lo - 1 = 1
  · rw [if_pos h1] at h
    cases h
    rw [h1, cost_two N c0 c1 c lo hi spine _ _ h1, evCost_evLoad_ram, pw_zero N c0 c1 c]
    exact ⟨_, (ht_row1 N c0 c1 c hc0 (by omega) hK hcm).2 hz, rfl⟩
  rw [if_neg h1] at h
  have hl2 : 2 ≤ hi - lo - 1 := by omega
  obtain rfl | rfl : K = 0 ∨ K = 1 := by omega
  · rw [if_pos rfl] at h
    obtain ⟨v, hv, hc⟩ := ihA lo hi 0 cm spine (some 0) evs hK hcm (Or.inr rfl) hlt hl h
    exact ⟨v, by rw [ht_opt0 N c0 c1 c hc0 hl2 hl (by omega) hcm, hv], hc⟩
  · rw [if_neg Nat.one_ne_zero] at h
    change (if olt (oadd (some c.wd) ((hCtxOf N c0 c1 c).tab.optp 1 (hi - lo - 1) cm))
        ((hCtxOf N c0 c1 c).tab.opt 0 (hi - lo - 1) c0) = true then _
      else hRs (hCtxOf N c0 c1 c) fuel lo hi 0 c0 spine) = some evs at h
    rw [ht_opt1 N c0 c1 c hl2 hl hcm, omin]
    by_cases hw : olt (oadd (some c.wd) ((hCtxOf N c0 c1 c).tab.optp 1 (hi - lo - 1) cm))
        ((hCtxOf N c0 c1 c).tab.opt 0 (hi - lo - 1) c0) = true
    · rw [if_pos hw] at h ⊢
      obtain ⟨v, hv, hc⟩ := ihA lo hi 1 cm spine (some 1) evs hK hcm (Or.inr rfl) hlt hl h
      refine ⟨c.wd + v, by rw [hv]; rfl, ?_⟩
      have : pw (hCtxOf N c0 c1 c) (some 1) = c.wd := rfl
      omega
    · rw [if_neg hw] at h ⊢
      exact ihR lo hi 0 c0 spine evs (Nat.zero_le _) (le_refl _) hlt hl h
theorem hAs_cost_succ (fuel : Nat) (ihR : RCost N c0 c1 c fuel) (ihA : ACost N c0 c1 c fuel) :
    ACost N c0 c1 c (fuel + 1) := by
  intro lo hi K cm spine pending evs hK hcm hp hlt hl h
  rw [hAs_succ] at h
  by_cases hc : cm = 0
  · rw [if_pos hc] at h; cases h
  rw [if_neg hc] at h
  have hcm1 : 1 ≤ cm := by omega
  by_cases h0 : hi - lo - 1 = 0
  · rw [if_pos h0] at h
    rcases hp with rfl | rfl
    · simp only [Option.isSome_none, Bool.false_eq_true, if_false] at h
      cases h
      have e : hi - lo = 1 := by omega
      rw [h0, cost_evBase, e]
      exact ⟨c.ub, (ht_row0 N c0 c1 c hc0 hK hcm).1, by simp only [pw]; omega⟩
    · simp at h
  rw [if_neg h0] at h
  by_cases h1 : hi - lo - 1 = 1
  · rw [if_pos h1] at h
    rcases hp with rfl | rfl
    · simp only [Option.isSome_none, Bool.false_eq_true, if_false] at h
      have hv := (ht_row1 N c0 c1 c hc0 (by omega) hK hcm).1 hcm1
      by_cases hw : (hCtxOf N c0 c1 c).w 0 + (hCtxOf N c0 c1 c).rr 0 < (hCtxOf N c0 c1 c).rr K
      · rw [if_pos hw] at h
        cases h
        rw [h1, cost_two N c0 c1 c lo hi spine _ _ h1, evCost_evLoad_ram, pw_zero N c0 c1 c]
        exact ⟨_, hv, rfl⟩
      · rw [if_neg hw] at h
        cases h
        -- the read from level `K` is free here
        have hr : (hCtxOf N c0 c1 c).rr K = 0 := Nat.eq_zero_of_not_pos hw
        rw [h1, cost_two N c0 c1 c lo hi spine _ _ h1, evCost_evLoad, hr]
        exact ⟨_, hv, rfl⟩
    · simp at h
  rw [if_neg h1] at h
  have hl2 : 2 ≤ hi - lo - 1 := by omega
  by_cases hloop : K = 0 ∧ cm = 1
  · rw [if_pos hloop] at h
    obtain ⟨rfl, rfl⟩ := hloop
    cases h
    have hpw0 : pw (hCtxOf N c0 c1 c) pending = 0 := by rcases hp with rfl | rfl <;> rfl
    have e3 : lo + 1 - lo = 1 := by omega
    have e4 : hi - lo = hi - lo - 1 + 1 := by omega
    rw [ht_col1 N c0 c1 c hc0 hl2 hl, cost_append, cost_append,
      cost_loop N c0 c1 c lo _ spine pending hpw0, cost_singleton, evCost_evLoad_ram, cost_evBase,
      e3, hpw0]
    refine ⟨_, rfl, ?_⟩
    generalize hi - lo - 1 = l at e4 ⊢
    rw [e4]
    ring
  rw [if_neg hloop] at h
  rw [ht_optp N c0 c1 c hc0 hK hl2 hl hcm1 hcm hloop]
  by_cases hs : hSplit (hCtxOf N c0 c1 c) K cm (hi - lo - 1) = true
  · rw [if_pos hs] at h ⊢
    obtain ⟨hj1, hj2⟩ := hSplit_range (hCtxOf N c0 c1 c) K cm (hi - lo - 1) hl2
    have hget := hCands_argmin (hCtxOf N c0 c1 c) K cm (hi - lo - 1) hl2
    generalize argminO (hCands (hCtxOf N c0 c1 c) K cm (hi - lo - 1)) = j at h hj1 hj2 hget
    split at h
    · cases h
    · rename_i right hright
      split at h
      · cases h
      · rename_i left hleft
        cases h
        obtain ⟨s1, s2, s3, s4, s5⟩ := seg_split hj1 hj2
        obtain ⟨vr, hvr, hcr⟩ := ihR (lo + j) hi K (cm - 1) spine right hK
          (Nat.le_trans (Nat.sub_le _ _) hcm) s1 (by rw [s2]; exact Nat.le_trans (Nat.sub_le _ _) hl)
          hright
        obtain ⟨vl, hvl, hcl⟩ := ihA lo (lo + j) K cm false none left hK hcm (Or.inl rfl)
          (Nat.lt_add_of_pos_right hj1) (by rw [s3]; exact Nat.le_trans s4 hl) hleft
        rw [s2] at hvr
        rw [s3] at hvl hcl
        rw [hvr, hvl] at hget
        refine ⟨j * c.uf + vr + (hCtxOf N c0 c1 c).rr K + vl, hget.symm, ?_⟩
        have pwn : pw (hCtxOf N c0 c1 c) none = 0 := rfl
        simp only [cost_append, cost_cons, cost_nil, evCost_evFwd, evCost_evLoad N c0 c1 c, hcr, hcl,
          pwn, s3, s5 c.uf]
        omega
  · rw [if_neg hs] at h ⊢
    obtain rfl | rfl : K = 0 ∨ K = 1 := by omega
    · rw [if_pos rfl] at h
      rw [hOther_zero]
      exact ihA lo hi 0 1 spine pending evs hK hc0 hp hlt hl h
    · rw [if_neg Nat.one_ne_zero] at h
      rw [hOther_one]
      rcases hp with rfl | rfl
      · simp only [Option.isSome_none, Bool.false_eq_true, if_false] at h
        exact ihR lo hi 0 c0 spine evs (Nat.zero_le _) (le_refl _) hlt hl h
      · simp at h

theorem hcost_main : ∀ fuel : Nat, RCost N c0 c1 c fuel ∧ ACost N c0 c1 c fuel
  | 0 => ⟨fun _ _ _ _ _ _ _ _ _ _ h => by simp [hRs] at h,
      fun _ _ _ _ _ _ _ _ _ _ _ _ h => by simp [hAs] at h⟩
  | fuel + 1 =>
    ⟨hRs_cost_succ N c0 c1 c hc0 fuel (hcost_main fuel).1 (hcost_main fuel).2,
      hAs_cost_succ N c0 c1 c hc0 fuel (hcost_main fuel).1 (hcost_main fuel).2⟩

end ctx

/-- C07 for HRevolve: the cost of the stream is the table entry `opt[1][N-1][c1]` (plus the `N` steps
of the initial forward sweep); the entry is finite. -/
theorem hrevolve_cost (N c0 c1 : Nat) (c : Costs) (hN : 1 ≤ N) (hc0 : 1 ≤ c0) (evs : List Ev)
    (h : hrevolveEvs N c0 c1 c = .ok evs) :
    ∃ v, (hoptTable (N - 1) c0 c1 0 c.wd 0 c.rd c.ub c.uf).opt 1 (N - 1) c1 = some v ∧
      cost c evs = v + N * c.uf := by
  rw [hrevolveEvs_eq] at h
  have hres := resolveLoads_hR (hCtxOf N c0 c1 c) (4 * N + 8) 0 N 1 c1 true (le_refl _)
  cases hr : hR (hCtxOf N c0 c1 c) (4 * N + 8) 0 N 1 c1 true with
  | none => rw [hr] at h; cases h
  | some ops =>
    rw [hr] at h hres
    injection h with h
    rw [Option.map_some] at hres
    obtain ⟨v, hv, hc⟩ := (hcost_main N c0 c1 c hc0 (4 * N + 8)).1 0 N 1 c1 true (resolveLoads ops)
      (le_refl _) (le_refl _) (by omega) (by omega) hres.symm
    rw [ht_tab] at hv
    refine ⟨v, hv, ?_⟩
    rw [← h, cost_append, hc]
    simp [evCost]

theorem hrevolve_cost_getD (N c0 c1 : Nat) (c : Costs) (hN : 1 ≤ N) (hc0 : 1 ≤ c0) (evs : List Ev)
    (h : hrevolveEvs N c0 c1 c = .ok evs) :
    cost c evs =
      ((hoptTable (N - 1) c0 c1 0 c.wd 0 c.rd c.ub c.uf).opt 1 (N - 1) c1).getD 0 + N * c.uf := by
  obtain ⟨v, hv, hc⟩ := hrevolve_cost N c0 c1 c hN hc0 evs h
  rw [hv, hc]; rfl

/-- C07: more disk units never cost more -/
theorem hrevolve_more_disk (N c0 c1 c1' : Nat) (c : Costs) (hN : 1 ≤ N) (hc0 : 1 ≤ c0)
    (hcc : c1 ≤ c1') (evs evs' : List Ev) (h : hrevolveEvs N c0 c1 c = .ok evs)
    (h' : hrevolveEvs N c0 c1' c = .ok evs') : cost c evs' ≤ cost c evs := by
  obtain ⟨v, hv, hc⟩ := hrevolve_cost N c0 c1 c hN hc0 evs h
  obtain ⟨v', hv', hc'⟩ := hrevolve_cost N c0 c1' c hN hc0 evs' h'
  have hanti := hopt1_antitone (N - 1) c0 c1' 0 c.wd 0 c.rd c.ub c.uf hc0 (N - 1) c1 c1' (le_refl _)
    hcc (le_refl _)
  rw [← (hopt1_indep (N - 1) c0 c1 c1' 0 c.wd 0 c.rd c.ub c.uf hcc c1 (le_refl _) (N - 1)
    (le_refl _)).1, hv, hv'] at hanti
  have : v' ≤ v := by simpa [ole, olt] using hanti
  omega

/-- C07: HRevolve with any number of disk units never costs more than with none, which is the
level-0 (RAM only) optimum -/
theorem hrevolve_le_level0 (N c0 c1 : Nat) (c : Costs) (hN : 1 ≤ N) (hc0 : 1 ≤ c0) (evs : List Ev)
    (h : hrevolveEvs N c0 c1 c = .ok evs) :
    ∃ v0, (hoptTable (N - 1) c0 c1 0 c.wd 0 c.rd c.ub c.uf).opt 0 (N - 1) c0 = some v0 ∧
      cost c evs ≤ v0 + N * c.uf := by
  obtain ⟨v, hv, hc⟩ := hrevolve_cost N c0 c1 c hN hc0 evs h
  have hle := hopt1_le_level0 (N - 1) c0 c1 0 c.wd 0 c.rd c.ub c.uf hc0 (N - 1) c1 (le_refl _) (le_refl _)
  obtain ⟨v0, hv0⟩ := Option.isSome_iff_exists.1
    (hopt0_isSome (N - 1) c0 c1 0 c.wd 0 c.rd c.ub c.uf (N - 1) c0 (le_refl _) hc0 (le_refl _)).2
  rw [hv, hv0] at hle
  have : v ≤ v0 := by simpa [ole, olt] using hle
  exact ⟨v0, hv0, by omega⟩

-- a concrete instance: N = 9, one RAM unit, 2 disk units, wd = 2, rd = 1: cost 34 + 9
example : (match hrevolveEvs 9 1 2 ⟨1, 1, 2, 1⟩ with | .ok e => cost ⟨1, 1, 2, 1⟩ e | .error _ => 0) =
    ((hoptTable 8 1 2 0 2 0 1 1 1).opt 1 8 2).getD 0 + 9 := by decide +kernel

end Ckpt.RC
