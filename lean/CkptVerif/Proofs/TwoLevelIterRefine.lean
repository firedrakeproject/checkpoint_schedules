import CkptVerif.Model.TwoLevelIter
import CkptVerif.Proofs.SegWith
import CkptVerif.Proofs.TwoLevelOk
/-!
# The iterative twin of `TwoLevelCheckpointSchedule._iterator` refines to the stream model

`twoLevelIterPass N p b st traj fuel = .ok (twoLevelPass N p b st traj)` for `1 ≤ p`, `1 ≤ N` and
enough fuel: the loops of `Model/TwoLevelIter.lean` (a literal transcription of
twolevel_binomial.py:79-153) yield exactly the recursive stream of `Model/Online.lean`, and none
of the `RuntimeError`s, the `assert`s or the `ValueError` of `n_advance` is reachable.
-/
namespace Ckpt.On

theorem toNat_units_copy (b d : Nat) : ((b : Int) + 1 - ((d + 1 : Nat) : Int) + 1).toNat = b + 1 - d := by omega
theorem toNat_units_write (b d : Nat) : ((b : Int) + 1 - (d : Int)).toNat = b + 1 - d := by omega

section
variable (N b : Nat) (st : Storage) (traj : Traj)

/-- lines 118-141 from inside the `else` branch: the rest of the write loop (fuel `g`), the check of
line 134, the turn-around, and the further iterations of the inner loop (fuel `F`) -/
def iterRest (n0s g F : Nat) (s : TLIter) : Except Err TLIter :=
  match tlWriteLoop N b st traj g s with
  | .error e => .error e
  | .ok s => if s.n ≠ N - s.r - 1 then .error tlInvalid else tlInnerLoop N b st traj n0s F (tlTail s)

theorem tlTail_eq (n r : Nat) (sn : List Nat) (out : List Ev) :
    tlTail ⟨n, r, sn, out⟩ = ⟨n + 1, r + 1, sn,
      out ++ [⟨.forward n (n + 1) false true .work, n + 1, r⟩, ⟨.reverse (n + 1) n true, n + 1, r + 1⟩]⟩ := by
  simp [tlTail, TLIter.yield]

/-- an iteration of the inner loop that takes the `if` branch (lines 94-100) -/
theorem innerLoop_pop (n0s F n r lo : Nat) (bot : List Nat) (out : List Ev)
    (hr : r < N - n0s) (hlo : lo = N - r - 1) :
    tlInnerLoop N b st traj n0s (F + 1) ⟨n, r, bot ++ [lo], out⟩
      = tlInnerLoop N b st traj n0s F (tlTail ⟨lo, r, bot,
          out ++ [⟨if lo = n0s then .copy lo .disk .work else .move lo st .work, lo, r⟩]⟩) := by
  by_cases h : lo = n0s <;>
    simp [tlInnerLoop, tlBody, hr, ← hlo, h, TLIter.yield]

/-- `iterRest` as an iteration of the inner loop reaches it: the end of `tlBody` (the write loop and
the check of line 134), then the tail of the iteration -/
theorem iterRest_eq (n0s g F : Nat) (s : TLIter) :
    iterRest N b st traj n0s g F s =
      match (match tlWriteLoop N b st traj g s with
          | .error e => .error e
          | .ok s => if s.n ≠ N - s.r - 1 then .error tlInvalid else .ok s : Except Err TLIter) with
      | .error e => .error e
      | .ok s => tlInnerLoop N b st traj n0s F (tlTail s) := by
  unfold iterRest
  rcases tlWriteLoop N b st traj g s with e | s'
  · rfl
  · by_cases hc : s'.n = N - s'.r - 1 <;> simp [hc]

/-- an iteration of the inner loop that takes the `else` branch (lines 101-116), up to the write loop -/
theorem innerLoop_copy (n0s F n r lo a : Nat) (bot : List Nat) (out : List Ev)
    (hr : r < N - n0s) (hlo : lo ≠ N - r - 1)
    (hadv : nAdvance (N - r - lo) (b + 1 - bot.length) traj = some a) (ha : 1 ≤ a) :
    tlInnerLoop N b st traj n0s (F + 1) ⟨n, r, bot ++ [lo], out⟩
      = iterRest N b st traj n0s F F ⟨lo + a, r, bot ++ [lo],
          out ++ [⟨if lo = n0s then .copy lo .disk .work else .copy lo st .work, lo, r⟩,
                  ⟨.forward lo (lo + a) false false .work, lo + a, r⟩]⟩ := by
  have hu : ((b : Int) - (bot.length : Int) + 1).toNat = b + 1 - bot.length := by omega
  have ha0 : a ≠ 0 := by omega
  rw [iterRest_eq]
  by_cases h : lo = n0s
  · subst h
    simp [tlInnerLoop, tlBody, hr, hlo, TLIter.yield, hu, hadv, ha0]
    rfl
  · simp [tlInnerLoop, tlBody, hr, hlo, h, TLIter.yield, hu, hadv, ha0]
    rfl

/-- an iteration of the write loop (lines 118-132) -/
theorem iterRest_write (n0s g F n r a : Nat) (sn : List Nat) (out : List Ev)
    (hn : n < N - r - 1) (hadv : nAdvance (N - r - n) (b + 1 - sn.length) traj = some a) (ha : 1 ≤ a)
    (hlen : sn.length < b + 1) :
    iterRest N b st traj n0s (g + 1) F ⟨n, r, sn, out⟩
      = iterRest N b st traj n0s g F ⟨n + a, r, sn ++ [n],
          out ++ [⟨.forward n (n + a) true false st, n + a, r⟩]⟩ := by
  have hu : ((b : Int) + 1 - (sn.length : Int)).toNat = b + 1 - sn.length := by omega
  have ha0 : a ≠ 0 := by omega
  have hl : ¬ b + 1 ≤ sn.length := by omega
  simp only [iterRest, tlWriteLoop, hn, if_true]
  simp [TLIter.yield, hu, hadv, ha0, hl]

/-- the write loop is left (line 118), the check of line 134 passes -/
theorem iterRest_exit (n0s g F n r : Nat) (sn : List Nat) (out : List Ev) (hn : n = N - r - 1) :
    iterRest N b st traj n0s (g + 1) F ⟨n, r, sn, out⟩
      = tlInnerLoop N b st traj n0s F (tlTail ⟨n, r, sn, out⟩) := by
  simp [iterRest, tlWriteLoop, ← hn]

/-- the inner loop is left (line 90) -/
theorem innerLoop_exit (n0s F : Nat) (s : TLIter) (h : ¬ s.r < N - n0s) :
    tlInnerLoop N b st traj n0s (F + 1) s = .ok s := by
  simp [tlInnerLoop, h]

/-- where the machine stands when the segment `segWith … stored false lo hi (len bot)` begins: at
the top of the inner loop with `lo` on top of the stack (`stored`), or inside an iteration, at the top
of the write loop with `_n = lo`; `g` is the fuel of the write loop, `F` that of the inner loop -/
def tlEntry (n0s : Nat) (stored : Bool) (g F n lo r : Nat) (bot : List Nat) (out : List Ev) :
    Except Err TLIter :=
  if stored then tlInnerLoop N b st traj n0s (F + 1) ⟨n, r, bot ++ [lo], out⟩
  else iterRest N b st traj n0s g F ⟨lo, r, bot, out⟩

/-- a segment of one step: the checkpoint for `lo` is popped (lines 94-100) or the write loop is
left (line 118); then the turn-around (lines 137-141) -/
theorem tlEntry_unit (n0s : Nat) (σ : Nat → Nat → Option Nat) (f : Nat) (stored : Bool)
    (g F n lo : Nat) (bot : List Nat) (out evs : List Ev)
    (h : segWith N σ (b + 1) (fun d => if d = 0 then .disk else st) true (f + 1) stored false lo (lo + 1)
      bot.length = some evs)
    (hlo : lo < N) (hn0 : n0s ≤ lo) (hd : bot.length = 0 ↔ lo = n0s) (hg : stored = false → 1 ≤ g) :
    tlEntry N b st traj n0s stored g F n lo (N - (lo + 1)) bot out
      = tlInnerLoop N b st traj n0s F ⟨lo + 1, N - lo, bot, out ++ evs⟩ := by
  rw [segWith_unit] at h
  cases h
  have e2 : N - (lo + 1) + 1 = N - lo := by omega
  cases stored with
  | true =>
    rw [tlEntry, if_pos rfl,
      innerLoop_pop N b st traj n0s F n (N - (lo + 1)) lo bot out (by omega) (by omega), tlTail_eq, e2]
    by_cases h0 : bot.length = 0
    · simp [h0, hd.1 h0]
    · simp [h0, mt hd.2 h0]
  | false =>
    obtain ⟨g', rfl⟩ : ∃ g', g = g' + 1 := ⟨g - 1, by have := hg rfl; omega⟩
    rw [tlEntry, if_neg Bool.false_ne_true,
      iterRest_exit N b st traj n0s g' F lo (N - (lo + 1)) bot out (by omega), tlTail_eq, e2]
    simp

/-- a longer segment: `Copy` and advance (lines 101-116) if stored, advance and write (lines 118-132)
otherwise; the right part begins at the top of the write loop with `lo` pushed -/
theorem tlEntry_split (n0s : Nat) (stored : Bool) (g F n lo hi a : Nat) (bot : List Nat) (out : List Ev)
    (ha : nAdvance (hi - lo) (b + 1 - bot.length) traj = some a) (hlt : lo + 2 ≤ hi) (hN : hi ≤ N)
    (hn0 : n0s ≤ lo) (hd : bot.length = 0 ↔ lo = n0s) (hg : stored = false → 1 ≤ bot.length ∧ 1 ≤ g) :
    tlEntry N b st traj n0s stored g F n lo (N - hi) bot out
      = tlEntry N b st traj n0s false (if stored then F else g - 1) F n (lo + a) (N - hi) (bot ++ [lo])
          (out ++ if stored then
              [⟨.copy lo (if bot.length = 0 then .disk else st) .work, lo, N - hi⟩,
               ⟨.forward lo (lo + a) false false .work, lo + a, N - hi⟩]
            else [⟨.forward lo (lo + a) true false (if bot.length = 0 then .disk else st), lo + a, N - hi⟩]) := by
  obtain ⟨hk, ha1, ha2⟩ := nAdvance_some_bounds ha hlt
  have hadv : nAdvance (N - (N - hi) - lo) (b + 1 - bot.length) traj = some a := by
    rw [show N - (N - hi) - lo = hi - lo by omega]; exact ha
  cases stored with
  | true =>
    rw [tlEntry, if_pos rfl,
      innerLoop_copy N b st traj n0s F n (N - hi) lo a bot out (by omega) (by omega) hadv ha1]
    by_cases h0 : bot.length = 0
    · simp [tlEntry, h0, hd.1 h0]
    · simp [tlEntry, h0, mt hd.2 h0]
  | false =>
    obtain ⟨hd1, hg1⟩ := hg rfl
    obtain ⟨g', rfl⟩ : ∃ g', g = g' + 1 := ⟨g - 1, by omega⟩
    rw [tlEntry, if_neg Bool.false_ne_true,
      iterRest_write N b st traj n0s g' F lo (N - hi) a bot out (by omega) hadv ha1 (by omega)]
    have h0 : ¬ bot.length = 0 := by omega
    simp [tlEntry, h0]

/-- **The loops of lines 90-141 emit the binomial segment.**  From its entry point (`tlEntry`) with the
adjoint at `hi = N - r`, the machine yields exactly `segWith … stored false lo hi (len bot)` and is
back at the top of the inner loop with the stack `bot` and the adjoint at `lo`.  That the segment
exists rules out every `ValueError` of `n_advance` and, through `nAdvance_some_bounds`, the `assert`
and the check of lines 129-131. -/
theorem seg_refine (n0s : Nat) :
    ∀ (fuel' : Nat) (stored : Bool) (lo hi : Nat) (evs : List Ev) (bot : List Nat) (n : Nat)
      (out : List Ev) (g F : Nat),
      segWith N (fun m k => nAdvance m k traj) (b + 1) (fun d => if d = 0 then .disk else st) true
        fuel' stored false lo hi bot.length = some evs →
      lo < hi → hi ≤ N → n0s ≤ lo → (bot.length = 0 ↔ lo = n0s) →
      (stored = false → 1 ≤ bot.length ∧ hi - lo ≤ g) →
      tlEntry N b st traj n0s stored g (F + (hi - lo - 1)) n lo (N - hi) bot out
        = tlInnerLoop N b st traj n0s F ⟨lo + 1, N - lo, bot, out ++ evs⟩ := by
  intro fuel'
  induction fuel' with
  | zero => intro stored lo hi evs bot n out g F h; cases h
  | succ fuel' ih =>
    intro stored lo hi evs bot n out g F h hlt hN hn0 hd hst
    by_cases hbase : hi = lo + 1
    · subst hbase
      rw [show F + (lo + 1 - lo - 1) = F by omega]
      exact tlEntry_unit N b st traj n0s _ fuel' stored g F n lo bot out evs h (by omega) hn0 hd
        (fun hs => by have := (hst hs).2; omega)
    · obtain ⟨a, right, left, ha, hright, hleft, rfl⟩ := segWith_succ_some _ _ _ _ _ h hbase
      obtain ⟨_, ha1, ha2⟩ := nAdvance_some_bounds ha (by omega)
      rw [tlEntry_split N b st traj n0s stored g _ n lo hi a bot out ha (by omega) hN hn0 hd
          (fun hs => ⟨(hst hs).1, by have := (hst hs).2; omega⟩),
        show F + (hi - lo - 1) = (F + a) + (hi - (lo + a) - 1) by omega,
        ih false (lo + a) hi right (bot ++ [lo]) n _ _ (F + a) (by rw [List.length_append]; exact hright)
          (by omega) hN (by omega) (by rw [List.length_append]; constructor <;> intro h <;> [cases h; omega])
          (fun _ => ⟨by rw [List.length_append]; exact Nat.le_add_left _ _, by
            cases stored with
            | true => show hi - (lo + a) ≤ F + a + (hi - (lo + a) - 1); omega
            | false => have := (hst rfl).2; show hi - (lo + a) ≤ g - 1; omega⟩)]
      have ihl := fun out' => ih true lo (lo + a) left bot (lo + a + 1) out' 0 F hleft (by omega)
        (by omega) hn0 hd (fun h => by cases h)
      simp only [tlEntry, if_true, show F + (lo + a - lo - 1) + 1 = F + a by omega] at ihl
      rw [ihl, List.append_assoc, List.append_assoc, ← List.append_assoc _ right left]

variable (p : Nat)

/-- one iteration of the outer loop (lines 81-146) yields one period block -/
theorem outerLoop_block (hp : 1 ≤ p) (blk : Nat) (hlo : blk * p < N) (G n : Nat) (sn : List Nat) (out : List Ev)
    (hG : min (blk * p + p) N - blk * p + 1 ≤ G) :
    ∃ evs, segWith N (fun m k => nAdvance m k traj) (b + 1) (fun d => if d = 0 then .disk else st) true
        (min (blk * p + p) N - blk * p + 1) true false (blk * p) (min (blk * p + p) N) 0 = some evs ∧
      tlOuterLoop N p b st traj (G + 1) ⟨n, N - min (blk * p + p) N, sn, out⟩
        = tlOuterLoop N p b st traj G ⟨blk * p + 1, N - blk * p, [], out ++ evs⟩ := by
  have hhi : blk * p < min (blk * p + p) N := by omega
  have hdiv : (N - (N - min (blk * p + p) N) - 1) / p = blk := by
    apply Nat.div_eq_of_lt_le
    · omega
    · rw [Nat.succ_mul]; omega
  obtain ⟨F, hF⟩ : ∃ F, G = (F + 1) + (min (blk * p + p) N - blk * p) := ⟨G - (min (blk * p + p) N - blk * p) - 1, by omega⟩
  obtain ⟨evs, hevs⟩ := segWith_nAdvance_some N (b + 1) (fun d => if d = 0 then .disk else st) true traj
    (min (blk * p + p) N - blk * p + 1) true false (blk * p) (min (blk * p + p) N) 0 (by omega) hhi
    (by omega)
  have hrun := seg_refine N b st traj (blk * p) _ true (blk * p) (min (blk * p + p) N) evs [] n out 0
    (F + 1) hevs hhi (Nat.min_le_right _ _) (le_refl _) (by simp) (fun h => by cases h)
  rw [tlEntry, if_pos rfl, show F + 1 + (min (blk * p + p) N - blk * p - 1) + 1 = G by omega] at hrun
  refine ⟨evs, hevs, ?_⟩
  have hexit := innerLoop_exit N b st traj (blk * p) F ⟨blk * p + 1, N - blk * p, [], out ++ evs⟩ (by simp)
  have hr : N - min (blk * p + p) N < N := by omega
  simp only [List.nil_append] at hrun
  simp only [tlOuterLoop, hr, if_true, hdiv, ne_eq, not_true_eq_false, if_false, hrun, hexit, List.length_nil]

/-- the outer loop (lines 81-146) yields the blocks `blk-1, …, 0` and is left with `_r = max_n` -/
theorem outerLoop_blocks (hp : 1 ≤ p) (hN : 1 ≤ N) :
    ∀ (blk : Nat), blk ≤ ceilDiv N p → ∀ (G n : Nat) (sn : List Nat) (out : List Ev),
      blk + min p N + 1 ≤ G →
      ∃ evs s', twoLevelBlocks N p b st traj blk = some evs ∧
        tlOuterLoop N p b st traj G ⟨n, N - min (blk * p) N, sn, out⟩ = .ok s' ∧
        s'.out = out ++ evs ∧ s'.r = N ∧ (s'.n = if blk = 0 then n else 1) ∧
        (s'.snapshots = if blk = 0 then sn else []) := by
  intro blk
  induction blk with
  | zero =>
    intro _ G n sn out hG
    obtain ⟨G', rfl⟩ : ∃ G', G = G' + 1 := ⟨G - 1, by omega⟩
    refine ⟨[], ⟨n, N, sn, out⟩, rfl, ?_, by simp, rfl, by simp, by simp⟩
    simp [tlOuterLoop]
  | succ blk ih =>
    intro hblk G n sn out hG
    obtain ⟨G', rfl⟩ : ∃ G', G = G' + 1 := ⟨G - 1, by omega⟩
    have hlo : blk * p < N := ceilDiv_lt N p blk hN hblk
    obtain ⟨evs, hevs, hstep⟩ := outerLoop_block N b st traj p hp blk hlo G' n sn out (by omega)
    obtain ⟨rest, s', hrest, hrun, hout, hr, hn, hsn⟩ := ih (by omega) G' (blk * p + 1) [] (out ++ evs) (by omega)
    have e : N - min (blk * p) N = N - blk * p := by omega
    rw [e] at hrun
    refine ⟨evs ++ rest, s', ?_, ?_, ?_, hr, ?_, ?_⟩
    · simp only [twoLevelBlocks, hevs, hrest]
    · rw [Nat.succ_mul, hstep, hrun]
    · rw [hout, List.append_assoc]
    · rw [hn]
      by_cases h0 : blk = 0
      · subst h0; simp
      · simp [h0]
    · rw [hsn]; simp

end

/-- One pass through the body of `while True:` from whatever value `_n` has when the calculation
starts (`N` for the first one, `1` for the later ones) yields the recursive stream `twoLevelPass` and
never raises; the generator is left with `_n = 1`, `_r = 0`, ready for the next calculation. -/
theorem twoLevelIterFrom_eq (N p b : Nat) (st : Storage) (traj : Traj) (n fuel : Nat) (hp : 1 ≤ p) (hN : 1 ≤ N)
    (hfuel : ceilDiv N p + min p N + 1 ≤ fuel) :
    ∃ s, twoLevelIterFrom N p b st traj n fuel = .ok s ∧ s.out = twoLevelPass N p b st traj ∧
      s.n = 1 ∧ s.r = 0 ∧ s.snapshots = [] := by
  have hge := ceilDiv_ge N p hp
  have hq := ceilDiv_pos N p hp hN
  obtain ⟨evs, s', hevs, hrun, hout, hr, hn, hsn⟩ := outerLoop_blocks N b st traj p hp hN (ceilDiv N p) (le_refl _)
    fuel n [] [] hfuel
  rw [show N - min (ceilDiv N p * p) N = 0 by omega] at hrun
  have hq0 : ¬ ceilDiv N p = 0 := by omega
  rw [if_neg hq0] at hn hsn
  have hevs' : twoLevelBlocks N p b st traj ((N + p - 1) / p) = some evs := hevs
  refine ⟨_, by simp only [twoLevelIterFrom, hrun, hr, ne_eq, not_true_eq_false, if_false]; rfl, ?_, ?_, rfl, ?_⟩
  · simp only [twoLevelPass, hevs', TLIter.yield, hout, hn, List.nil_append]
  · exact hn
  · exact hsn

/-- **Refinement**: the literal twin of `TwoLevelCheckpointSchedule._iterator` yields, in one adjoint
calculation, exactly the recursive stream `twoLevelPass`; it never raises. -/
theorem twoLevelIterPass_eq (N p b : Nat) (st : Storage) (traj : Traj) (fuel : Nat) (hp : 1 ≤ p) (hN : 1 ≤ N)
    (hfuel : ceilDiv N p + min p N + 1 ≤ fuel) :
    twoLevelIterPass N p b st traj fuel = .ok (twoLevelPass N p b st traj) := by
  obtain ⟨s, hs, hout, _⟩ := twoLevelIterFrom_eq N p b st traj N fuel hp hN hfuel
  rw [twoLevelIterPass, hs, ← hout]

/-- the default fuel of the twin suffices -/
theorem twoLevelIterPass_eq_default (N p b : Nat) (st : Storage) (traj : Traj) (hp : 1 ≤ p) (hN : 1 ≤ N) :
    twoLevelIterPass N p b st traj (twoLevelIterFuel N) = .ok (twoLevelPass N p b st traj) := by
  apply twoLevelIterPass_eq N p b st traj _ hp hN
  have h1 : ceilDiv N p ≤ N := by
    by_contra hc
    have := ceilDiv_lt N p N hN (by omega)
    have : N * 1 ≤ N * p := Nat.mul_le_mul_left N hp
    omega
  unfold twoLevelIterFuel
  omega

example : twoLevelIterPass 10 3 2 .ram .maximum 9 = .ok (twoLevelPass 10 3 2 .ram .maximum) :=
  twoLevelIterPass_eq 10 3 2 .ram .maximum 9 (by omega) (by omega) (by decide)

end Ckpt.On
