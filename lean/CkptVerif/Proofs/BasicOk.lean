import CkptVerif.Model.Online
import CkptVerif.Spec.Configs
import CkptVerif.Proofs.ExecLemmas
/-!
# The schedules of basic_schedules.py are accepted by the specification executor

For every number `N` of steps and every number `k` of requested adjoint calculations (`N ≥ 1`,
`k ≥ 1` where a theorem needs it) the observation lists
`singleMemoryObs`, `singleDiskObs` (both `move_data`) and `noneObs`, written out here, run through
the executor from `XS.init` without a violation of any tag; SingleMemory and None, whose single
Forward asks for `sys.maxsize` steps, need `N ≤ maxsize`.  That these lists are what the canonical
client records of `SingleMemoryStorageSchedule`, `SingleDiskStorageSchedule` and
`NoneCheckpointSchedule` (`Sched.canon`) is proved in `CanonObs.lean` and checked on instances at
the end of this file.
-/
namespace Ckpt.On

def XF (fin : Bool) (fwd : Option Nat) (r : Nat) (wIcs wDeps : Option (Nat × Nat)) (cps : List Cp)
    (ended : Bool) (done : Nat) (snap : List Cp) : XS :=
  { fwd := fwd, r := r, wIcs := wIcs, wDeps := wDeps, cps := cps, ended := ended, fin := fin,
    done := done, snap := snap }

theorem XF_true (fwd : Option Nat) (r : Nat) (wIcs wDeps : Option (Nat × Nat)) (cps : List Cp)
    (ended : Bool) (done : Nat) (snap : List Cp) :
    XF true fwd r wIcs wDeps cps ended done snap = X fwd r wIcs wDeps cps ended done snap := rfl

theorem sameCps_refl (l : List Cp) : sameCps l l = true := by
  unfold sameCps
  simp only [beq_self_eq_true, Bool.true_and, Bool.and_self, List.all_eq_true]
  intro c hc
  simpa using hc

def singleMemoryPass (N : Nat) : List Obs :=
  [⟨.reverse N 0 false, N, N, some N, false, true⟩, ⟨.endReverse, N, 0, some N, false, true⟩]

def singleMemoryObs (N k : Nat) : List Obs :=
  [⟨.forward 0 maxsize false true .work, N, 0, some N, false, true⟩,
   ⟨.endForward, N, 0, some N, false, true⟩] ++ (List.replicate k (singleMemoryPass N)).flatten

theorem singleMemory_forward (N : Nat) (hmax : N ≤ maxsize) :
    step (cfgSingleMemory N) (XS.init (cfgSingleMemory N))
        ⟨.forward 0 maxsize false true .work, N, 0, some N, false, true⟩
      = (X (some N) 0 none (some (0, N)) [] false 0 [], []) := by
  have hm := maxsize_pos
  have hmin : min maxsize N = N := Nat.min_eq_right hmax
  simp [step, stepViols, actViols, nextState, obsViols, chk, X, XS.init, finished, cfgSingleMemory,
    clip, Storage.isStore, hm, hmin]

theorem singleMemory_passes (N : Nat) (hN : 1 ≤ N) (k dn : Nat) :
    Clean (cfgSingleMemory N) (X (some N) 0 none (some (0, N)) [] true dn [])
      (List.replicate k (singleMemoryPass N)).flatten
      (X (some N) 0 none (some (0, N)) [] true (dn + k) []) := by
  induction k generalizing dn with
  | zero => exact Clean.nil _ _
  | succ k ih =>
    rw [List.replicate_succ, List.flatten_cons]
    have hal := alive_of_passes_none (cfg := cfgSingleMemory N) rfl dn
    have h1 := step_reverse_gen (cfgSingleMemory N) N (some N) N 0 N 0 false none (some (0, N)) [] dn []
      rfl hal (by omega) (by omega) (Or.inl rfl) (by simp [covers])
    have h2 := step_endReverse_again (cfgSingleMemory N) N (some N) N none (some (0, N)) [] dn []
      rfl rfl (Or.inl rfl) (sameCps_refl [])
    simp only [Nat.zero_add, Nat.sub_zero, Bool.false_eq_true, if_false] at h1
    have h3 := ih (dn + 1)
    have e : dn + 1 + k = dn + (k + 1) := by omega
    rw [e] at h3
    exact Clean.append (Clean.cons h1 (Clean.single h2)) h3

/-- SingleMemory: the observation list with `k` adjoint calculations is accepted -/
theorem singleMemory_clean (N k : Nat) (hN : 1 ≤ N) (hmax : N ≤ maxsize) :
    Clean (cfgSingleMemory N) (XS.init (cfgSingleMemory N)) (singleMemoryObs N k)
      (X (some N) 0 none (some (0, N)) [] true k []) := by
  unfold singleMemoryObs
  have hal := alive_of_passes_none (cfg := cfgSingleMemory N) rfl 0
  have h2 := step_endForward (cfgSingleMemory N) N none (some (0, N)) [] 0 [] rfl hal
  have h3 := singleMemory_passes N hN k 0
  rw [Nat.zero_add] at h3
  exact Clean.cons (singleMemory_forward N hmax) (Clean.cons h2 h3)

example : Clean (cfgSingleMemory 7) (XS.init (cfgSingleMemory 7)) (singleMemoryObs 7 3)
    (X (some 7) 0 none (some (0, 7)) [] true 3 []) :=
  singleMemory_clean 7 3 (by omega) (by unfold maxsize; norm_num)

def noneObs (N : Nat) : List Obs :=
  [⟨.forward 0 maxsize false false .none, N, 0, some N, false, true⟩,
   ⟨.endForward, N, 0, some N, true, true⟩]

/-- None: the observation list is accepted, and the stream has ended -/
theorem none_clean (N : Nat) (hmax : N ≤ maxsize) :
    Clean (cfgNone N) (XS.init (cfgNone N)) (noneObs N) (X (some N) 0 none none [] true 0 []) := by
  have hm := maxsize_pos
  have hmin : min maxsize N = N := Nat.min_eq_right hmax
  have h1 : step (cfgNone N) (XS.init (cfgNone N))
      ⟨.forward 0 maxsize false false .none, N, 0, some N, false, true⟩
      = (X (some N) 0 none none [] false 0 [], []) := by
    simp [step, stepViols, actViols, nextState, obsViols, chk, X, XS.init, finished, cfgNone,
      clip, Storage.isStore, hm, hmin]
  have h2 : step (cfgNone N) (X (some N) 0 none none [] false 0 [])
      ⟨.endForward, N, 0, some N, true, true⟩
      = (X (some N) 0 none none [] true 0 [], []) := by
    simp [step, stepViols, actViols, nextState, obsViols, chk, X, finished, cfgNone]
  exact Clean.cons h1 (Clean.single h2)

theorem none_finished (N : Nat) : finished (cfgNone N) (X (some N) 0 none none [] true 0 []) = true := rfl

example : Clean (cfgNone 5) (XS.init (cfgNone 5)) (noneObs 5) (X (some 5) 0 none none [] true 0 []) :=
  none_clean 5 (by unfold maxsize; norm_num)

/-- storage after `i` forward steps: one adjoint-dependency checkpoint per step, most recent first -/
def diskCps : Nat → List Cp
  | 0 => []
  | i+1 => ⟨i, .disk, 0, 1⟩ :: diskCps i

theorem diskCps_mem {i : Nat} {c : Cp} (h : c ∈ diskCps i) : c.n < i ∧ c = ⟨c.n, .disk, 0, 1⟩ := by
  induction i with
  | zero => simp [diskCps] at h
  | succ i ih =>
    rcases List.mem_cons.mp h with rfl | h'
    · exact ⟨by simp, rfl⟩
    · have := ih h'; exact ⟨by omega, this.2⟩

theorem countSt_diskCps (i : Nat) (s : Storage) : countSt (diskCps i) s = if .disk = s then i else 0 := by
  induction i with
  | zero => simp [diskCps, countSt]
  | succ i ih => rw [diskCps, countSt_cons, ih]; split <;> simp [Nat.add_comm]

theorem findCp_diskCps_none (i n : Nat) (st : Storage) (h : i ≤ n) : findCp (diskCps i) n st = none := by
  unfold findCp
  rw [List.find?_eq_none]
  intro c hc
  have := (diskCps_mem hc).1
  simp; omega

theorem findCp_diskCps (M k : Nat) (h : k < M) : findCp (diskCps M) k .disk = some ⟨k, .disk, 0, 1⟩ := by
  induction M with
  | zero => omega
  | succ M ih =>
    by_cases hk : k = M
    · subst hk; simp [diskCps, findCp]
    · have := ih (by omega)
      unfold findCp at this ⊢
      rw [diskCps, List.find?_cons_of_neg]
      · exact this
      · simp; omega

theorem eraseCp_diskCps (k : Nat) : eraseCp (diskCps (k+1)) k .disk = diskCps k := by
  have h : eraseCp (diskCps k) k .disk = diskCps k := by
    unfold eraseCp
    rw [List.filter_eq_self]
    intro c hc
    have := (diskCps_mem hc).1
    simp; omega
  unfold eraseCp at h ⊢
  rw [diskCps, List.filter_cons, h]
  simp

section steps
variable (cfg : Cfg) (N : Nat)

/-- a Forward of an online schedule that has not been finalised, writing a checkpoint to `st`:
the executor clips its end at `N` and finalises once `N` is reached -/
theorem step_write_online (n0 n1 r : Nat) (wi wa : Bool) (st : Storage) (wi0 wd0 : Option (Nat × Nat))
    (cps : List Cp) (dn : Nat) (sn : List Cp) (hN : cfg.N = N) (hal : Alive cfg dn)
    (hst : st.isStore = true) (hlt : n0 < n1) (hw : wi = !wa) (ha : wa = true → min n1 N = n0 + 1)
    (hfind : findCp cps n0 st = none)
    (hB : withinBudget cfg (⟨n0, st, 0, 0⟩ :: cps) = true) :
    step cfg (XF false (some n0) r wi0 wd0 cps false dn sn)
        ⟨.forward n0 n1 wi wa st, min n1 N, r, if N ≤ n1 then some N else none, false, true⟩
      = (XF (decide (N ≤ n1)) (some (min n1 N)) r none none
          (⟨n0, st, if wi then min n1 N - n0 else 0, if wa then min n1 N - n0 else 0⟩ :: cps) false dn sn, []) := by
  have hnw : st ≠ .work := by rintro rfl; cases hst
  have hnn : st ≠ .none := by rintro rfl; cases hst
  subst hw hN
  -- the run is finalised exactly when the clipped end reaches `N`
  have hfin : (cfg.N ≤ min n1 cfg.N) = (cfg.N ≤ n1) := by rw [Nat.le_min]; simp
  cases wa
  · simp [step, stepViols, actViols, nextState, clip, XF, obsViols, chk, finished_mk hal, hst, hfind, hB,
      hlt, hnw, hnn, hfin]
  · have h1 : (cfg.N ≤ n0 + 1) = (cfg.N ≤ n1) := by rw [← ha rfl]; exact hfin
    simp [step, stepViols, actViols, nextState, clip, XF, obsViols, chk, finished_mk hal, hst, hfind, hB,
      hlt, hnw, hnn, ha rfl, h1]

end steps

/-- the observations of the online forward sweep of SingleDisk under the canonical client -/
def singleDiskFwdObs (N : Nat) : List Obs :=
  (List.range N).map (fun i =>
    ⟨.forward i (i + 1) false true .disk, i + 1, 0, if i + 1 = N then some N else none, false, true⟩)

/-- decoration of the events after finalisation: exhausted exactly at the `EndReverse` of the
single permitted calculation (`move_data = True`) -/
def sdObs (move : Bool) (N : Nat) (e : Ev) : Obs :=
  ⟨e.act, e.n, e.r, some N, move && decide (e.act = .endReverse), true⟩

def singleDiskPassObs (move : Bool) (N : Nat) : List Obs := (singleDiskPass move N N).map (sdObs move N)

def singleDiskObs (move : Bool) (N k : Nat) : List Obs :=
  singleDiskFwdObs N ++ [sdObs move N ⟨.endForward, N, 0⟩] ++
    (List.replicate (if move then 1 else k) (singleDiskPassObs move N)).flatten

theorem alive_singleDisk (move : Bool) (N : Nat) : Alive (cfgSingleDisk move N) 0 := by
  cases move <;> simp [Alive, cfgSingleDisk]

theorem withinBudget_singleDisk (move : Bool) (N i : Nat) (h : i + 1 ≤ N) :
    withinBudget (cfgSingleDisk move N) (⟨i, .disk, 0, 0⟩ :: diskCps i) = true := by
  simp [withinBudget, withinOpt, cfgSingleDisk, countSt_cons, countSt_diskCps]
  omega

theorem singleDisk_forward (move : Bool) (N : Nat) (hN : 1 ≤ N) (j : Nat) (hj : j ≤ N) :
    Clean (cfgSingleDisk move N) (XS.init (cfgSingleDisk move N))
      ((List.range j).map (fun i =>
        (⟨.forward i (i + 1) false true .disk, i + 1, 0, if i + 1 = N then some N else none, false, true⟩ : Obs)))
      (XF (decide (N ≤ j)) (some j) 0 none none (diskCps j) false 0 []) := by
  induction j with
  | zero =>
    have : decide (N ≤ 0) = false := by simp; omega
    rw [this]
    exact Clean.nil _ _
  | succ j ih =>
    rw [List.range_succ, List.map_append]
    refine Clean.append (ih (by omega)) ?_
    have hd : decide (N ≤ j) = false := by simp; omega
    rw [hd]
    have hmin : min (j + 1) N = j + 1 := Nat.min_eq_left hj
    have h := step_write_online (cfgSingleDisk move N) N j (j + 1) 0 false true .disk none none (diskCps j) 0 []
      rfl (alive_singleDisk move N) rfl (by omega) rfl (fun _ => hmin)
      (findCp_diskCps_none j j .disk (le_refl _)) (withinBudget_singleDisk move N j hj)
    rw [hmin] at h
    have he : (if N ≤ j + 1 then some N else none) = (if j + 1 = N then some N else none) := by
      by_cases h' : j + 1 = N
      · simp [h']
      · have : ¬ N ≤ j + 1 := by omega
        simp [h', this]
    rw [he] at h
    simp only [Bool.false_eq_true, if_false, if_true, Nat.add_sub_cancel_left] at h
    exact Clean.single h

/-- one adjoint calculation of SingleDisk: for `k = j-1, …, 0` the dependencies of step `k` come back
from DISK (by `Move`, which empties the storage step by step, or by `Copy`) and the step is
reversed; then `EndReverse`, whose effect `hend` depends on whether further calculations are
permitted -/
theorem singleDisk_pass (move : Bool) (N dn : Nat) (sn : List Cp) (xend : XS)
    (hal : Alive (cfgSingleDisk move N) dn)
    (hend : Clean (cfgSingleDisk move N) (X none N none none (if move then [] else diskCps N) true dn sn)
      [sdObs move N ⟨.endReverse, 0, if move then N else 0⟩] xend)
    (j : Nat) (hj : j ≤ N) (f : Option Nat) (hf : j = 0 → f = none) :
    Clean (cfgSingleDisk move N) (X f (N - j) none none (diskCps (if move then j else N)) true dn sn)
      ((singleDiskPass move N j).map (sdObs move N)) xend := by
  induction j generalizing f with
  | zero =>
    obtain rfl := hf rfl
    cases move <;> exact hend
  | succ j ih =>
    have h1 := step_load_deps (cfgSingleDisk move N) N move f j 1 j (N - (j + 1)) .disk
      (diskCps (if move then j + 1 else N)) dn sn rfl hal rfl Nat.one_pos (by omega)
      (findCp_diskCps _ j (by split <;> omega))
    have hcps : (if move then eraseCp (diskCps (if move then j + 1 else N)) j .disk
        else diskCps (if move then j + 1 else N)) = diskCps (if move then j else N) := by
      cases move
      · rfl
      · exact eraseCp_diskCps j
    have h2 := step_reverse_gen (cfgSingleDisk move N) N none j j (j + 1) (N - (j + 1)) true none
      (some (j, j + 1)) (diskCps (if move then j else N)) dn sn rfl hal (by omega) (by omega) (Or.inr rfl)
      (by simp [covers])
    have e : N - (j + 1) + (j + 1 - j) = N - j := by omega
    rw [hcps] at h1
    rw [e, if_pos rfl] at h2
    -- neither action of the loop is the `EndReverse` at which the stream may end
    have e1 : (move && decide ((if move then Action.move j .disk .work else Action.copy j .disk .work)
        = Action.endReverse)) = false := by cases move <;> rfl
    have e2 : (move && decide (Action.reverse (j + 1) j true = Action.endReverse)) = false := by
      cases move <;> rfl
    simp only [singleDiskPass, List.map_cons, sdObs, e1, e2]
    exact Clean.cons h1 (Clean.cons h2 (ih (by omega) none (fun _ => rfl)))

theorem singleDisk_passes_copy (N : Nat) (hN : 1 ≤ N) (k dn : Nat) (f : Option Nat) :
    Clean (cfgSingleDisk false N) (X f 0 none none (diskCps N) true dn (diskCps N))
      (List.replicate k (singleDiskPassObs false N)).flatten
      (X (if k = 0 then f else none) 0 none none (diskCps N) true (dn + k) (diskCps N)) := by
  induction k generalizing dn f with
  | zero => exact Clean.nil _ _
  | succ k ih =>
    rw [List.replicate_succ, List.flatten_cons]
    have h1 := singleDisk_pass false N dn (diskCps N) _ (alive_of_passes_none rfl dn)
      (Clean.single (step_endReverse_again (cfgSingleDisk false N) N none 0 none none (diskCps N) dn
        (diskCps N) rfl rfl (Or.inr rfl) (sameCps_refl _))) N (le_refl _) f (by omega)
    rw [Nat.sub_self] at h1
    have h2 := ih (dn + 1) none
    have e : dn + 1 + k = dn + (k + 1) := by omega
    rw [e] at h2
    have e2 : (if k = 0 then (none : Option Nat) else none) = none := by split <;> rfl
    rw [e2] at h2
    simp only [Nat.add_one_ne_zero, if_false]
    exact Clean.append h1 h2

/-- the state in which the forward sweep of SingleDisk ends is the finalised one -/
theorem singleDisk_prefix (move : Bool) (N : Nat) (hN : 1 ≤ N) :
    Clean (cfgSingleDisk move N) (XS.init (cfgSingleDisk move N))
      (singleDiskFwdObs N ++ [sdObs move N ⟨.endForward, N, 0⟩])
      (X (some N) 0 none none (diskCps N) true 0 (diskCps N)) := by
  have h1 := singleDisk_forward move N hN N (le_refl _)
  have hd : decide (N ≤ N) = true := by simp
  rw [hd, XF_true] at h1
  have h2 := step_endForward (cfgSingleDisk move N) N none none (diskCps N) 0 [] rfl (alive_singleDisk move N)
  have e : sdObs move N ⟨.endForward, N, 0⟩ = Ev.obs ⟨.endForward, N, 0⟩ N := by
    simp [sdObs, Ev.obs]
  rw [e]
  exact Clean.append h1 (Clean.single h2)

/-- SingleDisk, `move_data = False`: the observation list with `k` adjoint calculations is
accepted; storage is the same after every calculation -/
theorem singleDisk_copy_clean (N k : Nat) (hN : 1 ≤ N) (hk : 1 ≤ k) :
    Clean (cfgSingleDisk false N) (XS.init (cfgSingleDisk false N)) (singleDiskObs false N k)
      (X none 0 none none (diskCps N) true k (diskCps N)) := by
  unfold singleDiskObs
  have h := singleDisk_passes_copy N hN k 0 (some N)
  have hk0 : ¬ k = 0 := by omega
  simp only [hk0, if_false, Nat.zero_add] at h
  simp only [Bool.false_eq_true, if_false]
  exact Clean.append (singleDisk_prefix false N hN) h

/-- SingleDisk, `move_data = True`: the observation list (one adjoint calculation, whatever
number was asked for) is accepted, ends with empty storage, and the stream has ended -/
theorem singleDisk_move_clean (N k : Nat) (hN : 1 ≤ N) :
    Clean (cfgSingleDisk true N) (XS.init (cfgSingleDisk true N)) (singleDiskObs true N k)
      (X none N none none [] true 1 (diskCps N)) := by
  unfold singleDiskObs
  have h := singleDisk_pass true N 0 (diskCps N) _ (alive_singleDisk true N)
    (Clean.single (step_endReverse_final' (cfgSingleDisk true N) N 0 none (diskCps N) rfl rfl (Or.inl rfl)))
    N (le_refl _) (some N) (by omega)
  rw [Nat.sub_self] at h
  simp only [if_true, List.replicate_one, List.flatten_cons, List.flatten_nil, List.append_nil]
  exact Clean.append (singleDisk_prefix true N hN) h

theorem singleDisk_move_finished (N : Nat) :
    finished (cfgSingleDisk true N) (X none N none none [] true 1 (diskCps N)) = true := rfl

example : Clean (cfgSingleDisk false 4) (XS.init (cfgSingleDisk false 4)) (singleDiskObs false 4 3)
    (X none 0 none none (diskCps 4) true 3 (diskCps 4)) :=
  singleDisk_copy_clean 4 3 (by omega) (by omega)

example : Clean (cfgSingleDisk true 4) (XS.init (cfgSingleDisk true 4)) (singleDiskObs true 4 2)
    (X none 4 none none [] true 1 (diskCps 4)) :=
  singleDisk_move_clean 4 2 (by omega)

/-! ## the observation lists are what the canonical client records (checked on instances) -/

def actLines (ls : List Line) : List Obs :=
  ls.filterMap (fun l => match l with | .act o => some o | _ => none)

example : actLines (singleMemorySched.canon 7 3 100) = singleMemoryObs 7 3 := by decide +kernel
example : actLines (noneSched.canon 7 3 100) = noneObs 7 := by decide +kernel
example : actLines ((singleDiskSched false).canon 4 3 100) = singleDiskObs false 4 3 := by decide +kernel
example : actLines ((singleDiskSched true).canon 4 3 100) = singleDiskObs true 4 3 := by decide +kernel

end Ckpt.On
