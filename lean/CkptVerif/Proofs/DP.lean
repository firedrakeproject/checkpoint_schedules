import CkptVerif.Model.DP
import CkptVerif.Model.Mixed
/-!
# The bottom-up table agrees with the recursive specification

`Local F`: the body only inspects cells `(i, j)` with `i < n` and `j ≤ s`.  For local bodies,
`fixDP F` satisfies the unguarded unfolding equation (`fixDP_eq`) and the executable table
`dpTable F` agrees with `fixDP F` on every cell (`dpGet_dpTable`).  The three bodies of
`Model/Mixed.lean` are local.
-/
namespace Ckpt

/-- `F n s` only looks at cells with strictly smaller `n` and `s` not larger. -/
def Local {α : Type} (F : Nat → Nat → (Nat → Nat → α) → α) : Prop :=
  ∀ n s g g', (∀ i j, i < n → j ≤ s → g i j = g' i j) → F n s g = F n s g'

/-- one unfolding of `fixDP`; by locality the guard of the accessor can be dropped -/
theorem fixDP_eq {α : Type} [Inhabited α] (F : Nat → Nat → (Nat → Nat → α) → α)
    (hF : Local F) (n s : Nat) : fixDP F n s = F n s (fun i j => fixDP F i j) := by
  rw [fixDP]
  apply hF
  intro i j hi hj
  have h : j < s ∨ (j = s ∧ i < n) := by omega
  simp only [h, dite_true]

/-! ## building an array by `push` -/

theorem getD_push {α : Type} (a : Array α) (x d : α) (i : Nat) :
    (a.push x).getD i d = if i = a.size then x else a.getD i d := by
  rw [Array.getD_eq_getD_getElem?, Array.getD_eq_getD_getElem?, Array.getElem?_push]
  split <;> rfl

/-- one step of filling an array from the left: the first `k` entries satisfy `Q`, the entry pushed
satisfies `Q k` -/
theorem push_spec {α : Type} (Q : Nat → α → Prop) (a : Array α) (x d : α) (k : Nat)
    (hsz : a.size = k) (hcell : ∀ i, i < k → Q i (a.getD i d)) (hx : Q k x) :
    (a.push x).size = k + 1 ∧ ∀ i, i < k + 1 → Q i ((a.push x).getD i d) := by
  refine ⟨by rw [Array.size_push, hsz], fun i hi => ?_⟩
  rw [getD_push, hsz]
  by_cases hik : i = k
  · rw [if_pos hik, hik]; exact hx
  · rw [if_neg hik]; exact hcell i (by omega)

/-! ## one row -/

theorem dpRow_spec {α : Type} [Inhabited α] (F : Nat → Nat → (Nat → Nat → α) → α)
    (hF : Local F) (prev : Array (Array α)) (s nmax : Nat)
    (hprev : ∀ j, j < s → ∀ i, i ≤ nmax → (prev.getD j #[]).getD i default = fixDP F i j)
    (k : Nat) (hk : k ≤ nmax + 1) :
    (dpRow F prev s k).size = k ∧
      ∀ i, i < k → (dpRow F prev s k).getD i default = fixDP F i s := by
  induction k with
  | zero => exact ⟨rfl, fun i hi => absurd hi (Nat.not_lt_zero i)⟩
  | succ k ih =>
    obtain ⟨hsz, hcell⟩ := ih (by omega)
    refine push_spec (fun i y => y = fixDP F i s) _ _ default k hsz hcell ?_
    -- the new cell: its body reads the row so far and the rows before
    rw [fixDP_eq F hF k s]
    apply hF
    intro i j hi hj
    by_cases hjs : j = s
    · subst hjs
      rw [if_pos rfl]
      exact hcell i hi
    · rw [if_neg hjs]
      exact hprev j (by omega) i (by omega)

/-! ## the table -/

theorem dpTable_spec {α : Type} [Inhabited α] (F : Nat → Nat → (Nat → Nat → α) → α)
    (hF : Local F) (nmax rows : Nat) :
    (dpTable F nmax rows).size = rows ∧
      ∀ s, s < rows → ∀ n, n ≤ nmax →
        ((dpTable F nmax rows).getD s #[]).getD n default = fixDP F n s := by
  induction rows with
  | zero => exact ⟨rfl, fun s hs => absurd hs (Nat.not_lt_zero s)⟩
  | succ k ih =>
    obtain ⟨hsz, hcell⟩ := ih
    exact push_spec (fun s row => ∀ n, n ≤ nmax → row.getD n default = fixDP F n s) _ _ #[] k
      hsz hcell
      (fun n hn => (dpRow_spec F hF _ k nmax hcell (nmax + 1) (Nat.le_refl _)).2 n (by omega))

/-- Main theorem: the executable table agrees with the recursive specification on every cell. -/
theorem dpGet_dpTable {α : Type} [Inhabited α] (F : Nat → Nat → (Nat → Nat → α) → α)
    (hF : Local F) (nmax rows n s : Nat) (hn : n ≤ nmax) (hs : s < rows) :
    dpGet (dpTable F nmax rows) n s = fixDP F n s :=
  (dpTable_spec F hF nmax rows).2 s hs n hn

/-! ## Locality of the three bodies of `Model/Mixed.lean` -/

/-- congruence of `List.foldl` when the step functions agree on the members of the list -/
theorem foldl_congr_mem {β γ : Type} (l : List γ) (f g : β → γ → β)
    (h : ∀ a x, x ∈ l → f a x = g a x) (b : β) : l.foldl f b = l.foldl g b := by
  induction l generalizing b with
  | nil => rfl
  | cons x xs ih =>
    rw [List.foldl_cons, List.foldl_cons, h b x (List.mem_cons_self ..)]
    exact ih (fun a y hy => h a y (List.mem_cons_of_mem _ hy)) _

theorem clampS_clampS (a m k : Nat) (h : a ≤ m - 1) : clampS a (clampS m k) = clampS a k := by
  unfold clampS
  rw [Nat.min_assoc, Nat.min_eq_right (show a - 1 ≤ m - 1 by omega)]

theorem clampS_clampS_pred (a m k : Nat) (h : a ≤ m - 1) :
    clampS a (clampS m k - 1) = clampS a (k - 1) := by
  unfold clampS
  rw [← Nat.sub_min_sub_right, Nat.min_assoc, Nat.min_eq_right (show a - 1 ≤ m - 1 - 1 by omega)]

theorem clampS_le (n s : Nat) : clampS n s ≤ s := by unfold clampS; omega

theorem clampS_of_le {n s : Nat} (h : s ≤ n - 1) : clampS n s = s := Nat.min_eq_left h

theorem clampS_of_ge {n s : Nat} (h : n - 1 ≤ s) : clampS n s = n - 1 := Nat.min_eq_right h

theorem clampS_one {n : Nat} (hn : 2 ≤ n) : clampS n 1 = 1 := clampS_of_le (by omega)

theorem clampS_zero (n : Nat) : clampS n 0 = 0 := Nat.zero_min _

/-- the candidate cost of splitting at `i`: `i + cost(i, s) + cost(n - i, s - 1)` (clamped keys) -/
def splitCand (n s : Nat) (cost : Nat → Nat → Nat) (i : Nat) : Nat :=
  i + cost i (clampS i s) + cost (n - i) (clampS (n - i) (s - 1))

theorem splitCand_congr (n s : Nat) (c c' : Nat → Nat → Nat) (i : Nat)
    (h : ∀ i j, i < n → j ≤ s → c i j = c' i j) (h1 : 1 ≤ i) (h2 : i < n) :
    splitCand n s c i = splitCand n s c' i := by
  unfold splitCand
  rw [h i _ h2 (clampS_le _ _),
    h (n - i) _ (by omega) (Nat.le_trans (clampS_le _ _) (Nat.sub_le _ _))]

/-- loop body of `mixed_step_memoization`: keep the last minimiser -/
def memoStep (cand : Nat → Nat) (m : Option Cell) (i : Nat) : Option Cell :=
  match m with
  | none => some ⟨stWriteIcs, i, cand i⟩
  | some c => if cand i ≤ c.cost then some ⟨stWriteIcs, i, cand i⟩ else some c

theorem memoStep_some (cand : Nat → Nat) (c : Cell) (i : Nat) :
    memoStep cand (some c) i =
      some (if cand i ≤ c.cost then ⟨stWriteIcs, i, cand i⟩ else c) := by
  show (if cand i ≤ c.cost then _ else _) = _
  split <;> rfl

/-- the final `WRITE_ADJ_DEPS` comparison of `mixed_step_memoization` -/
def memoFinish (m1 : Nat) (m : Option Cell) : Cell :=
  match m with
  | none => default
  | some c => if m1 < c.cost then ⟨stWriteAdjDeps, 1, m1⟩ else c

theorem memoFinish_some (m1 : Nat) (c : Cell) :
    memoFinish m1 (some c) = if m1 < c.cost then ⟨stWriteAdjDeps, 1, m1⟩ else c := rfl

/-- `memoF` written with the named loop body -/
theorem memoF_def (n s : Nat) (get : Nat → Nat → Cell) :
    memoF n s get =
      if n ≤ 1 then ⟨stForwardReverse, 1, 1⟩
      else if n ≤ s + 1 then ⟨stWriteAdjDeps, 1, n⟩
      else if s = 1 then ⟨stWriteIcs, n - 1, n * (n + 1) / 2 - 1⟩
      else memoFinish (1 + (get (n - 1) (clampS (n - 1) (s - 1))).cost)
        ((List.range' 2 (n - 2)).foldl
          (memoStep (splitCand n s (fun i j => (get i j).cost))) none) := rfl

/-- loop body of `optimal_extra_steps`: keep the first minimiser -/
def extraStep (cand : Nat → Nat) (m : Option Nat) (i : Nat) : Option Nat :=
  match m with
  | none => some (cand i)
  | some c => if cand i < c then some (cand i) else some c

theorem extraF_def (n s : Nat) (get : Nat → Nat → Nat) :
    extraF n s get =
      if n ≤ 1 then 0
      else if s = 1 then n * (n - 1) / 2
      else ((List.range' 1 (n - 1)).foldl (extraStep (splitCand n s get)) none).getD 0 := rfl

theorem optMixedF_def (n s : Nat) (get : Nat → Nat → Nat) :
    optMixedF n s get =
      if n ≤ s + 1 then n
      else if s = 1 then n * (n + 1) / 2 - 1
      else (List.range' 2 (n - 2)).foldl (fun m i => min m (splitCand n s get i))
        (1 + get (n - 1) (clampS (n - 1) (s - 1))) := rfl

theorem memoF_local : Local memoF := by
  intro n s g g' h
  by_cases h1 : n ≤ 1
  · rw [memoF_def, memoF_def, if_pos h1, if_pos h1]
  · have hlast : g (n - 1) (clampS (n - 1) (s - 1)) = g' (n - 1) (clampS (n - 1) (s - 1)) :=
      h _ _ (by omega) (Nat.le_trans (clampS_le _ _) (Nat.sub_le _ _))
    have hfold : (List.range' 2 (n - 2)).foldl
          (memoStep (splitCand n s (fun i j => (g i j).cost))) none =
        (List.range' 2 (n - 2)).foldl
          (memoStep (splitCand n s (fun i j => (g' i j).cost))) none := by
      apply foldl_congr_mem
      intro a i hi
      rw [List.mem_range'_1] at hi
      have : splitCand n s (fun i j => (g i j).cost) i =
          splitCand n s (fun i j => (g' i j).cost) i :=
        splitCand_congr n s _ _ i (fun i j hi hj => by rw [h i j hi hj]) (by omega) (by omega)
      unfold memoStep
      rw [this]
    rw [memoF_def, memoF_def, hlast, hfold]

theorem extraF_local : Local extraF := by
  intro n s g g' h
  have hfold : (List.range' 1 (n - 1)).foldl (extraStep (splitCand n s g)) none =
      (List.range' 1 (n - 1)).foldl (extraStep (splitCand n s g')) none := by
    apply foldl_congr_mem
    intro a i hi
    rw [List.mem_range'_1] at hi
    have : splitCand n s g i = splitCand n s g' i :=
      splitCand_congr n s _ _ i h (by omega) (by omega)
    unfold extraStep
    rw [this]
  rw [extraF_def, extraF_def, hfold]

theorem optMixedF_local : Local optMixedF := by
  intro n s g g' h
  by_cases h1 : n ≤ s + 1
  · rw [optMixedF_def, optMixedF_def, if_pos h1, if_pos h1]
  · have hlast : g (n - 1) (clampS (n - 1) (s - 1)) = g' (n - 1) (clampS (n - 1) (s - 1)) :=
      h _ _ (by omega) (Nat.le_trans (clampS_le _ _) (Nat.sub_le _ _))
    have hfold : ∀ b, (List.range' 2 (n - 2)).foldl (fun m i => min m (splitCand n s g i)) b =
        (List.range' 2 (n - 2)).foldl (fun m i => min m (splitCand n s g' i)) b := by
      apply foldl_congr_mem
      intro a i hi
      rw [List.mem_range'_1] at hi
      show min a (splitCand n s g i) = min a (splitCand n s g' i)
      rw [splitCand_congr n s _ _ i h (by omega) (by omega)]
    rw [optMixedF_def, optMixedF_def, hlast, hfold]

/-! ## Unfolding equations of the three cells -/

theorem memoCell_eq (n s : Nat) : memoCell n s = memoF n s memoCell :=
  fixDP_eq memoF memoF_local n s

theorem extraCell_eq (n s : Nat) : extraCell n s = extraF n s extraCell :=
  fixDP_eq extraF extraF_local n s

theorem optMixedCell_eq (n s : Nat) : optMixedCell n s = optMixedF n s optMixedCell :=
  fixDP_eq optMixedF optMixedF_local n s

/-- the tables of the three kernels agree with the recursive functions -/
theorem dpGet_memoTable (nmax rows n s : Nat) (hn : n ≤ nmax) (hs : s < rows) :
    dpGet (dpTable memoF nmax rows) n s = memoCell n s :=
  dpGet_dpTable memoF memoF_local nmax rows n s hn hs

theorem dpGet_extraTable (nmax rows n s : Nat) (hn : n ≤ nmax) (hs : s < rows) :
    dpGet (dpTable extraF nmax rows) n s = extraCell n s :=
  dpGet_dpTable extraF extraF_local nmax rows n s hn hs

theorem dpGet_optMixedTable (nmax rows n s : Nat) (hn : n ≤ nmax) (hs : s < rows) :
    dpGet (dpTable optMixedF nmax rows) n s = optMixedCell n s :=
  dpGet_dpTable optMixedF optMixedF_local nmax rows n s hn hs

end Ckpt
