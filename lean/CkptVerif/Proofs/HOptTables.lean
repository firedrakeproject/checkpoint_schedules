import CkptVerif.Proofs.HOptBase
/-!
# The two-level cost table `hoptTable` satisfies its recurrences

`hoptTable lmax c0 c1 w0 w1 r0 r1 ub uf` (rows `l = 0 … lmax`; columns `m = 0 … c0` at level 0 and
`m = 0 … c1` at level 1; `none = +∞`).  The construction is decomposed into its loops; each loop is a
fold of cell writes handled by `writes_spec`.
-/
namespace Ckpt.RC
open List

/-- row `l = 0` of both tables -/
def hB1 (ub c : Nat) (σ : T2 × T2) : T2 × T2 :=
  (List.range (c + 1)).foldl (fun (p : T2 × T2) m => (s2 p.1 0 m (some ub), s2 p.2 0 m (some ub))) σ

/-- row `l = 1` of both tables -/
def hB2 (lmax w0 r0 ub uf k c : Nat) (σ : T2 × T2) : T2 × T2 :=
  (List.range (c + 1)).foldl (fun (p : T2 × T2) m =>
    if (m = 0 ∧ k = 0) ∨ lmax < 1 then p else
      (s2 p.1 1 m (some (uf + 2 * ub + r0)), s2 p.2 1 m (some (w0 + (uf + 2 * ub + r0))))) σ

/-- the closed form of column `m = 1` at level 0 -/
def hCF (ub uf r0 l : Nat) : Nat := (l + 1) * ub + l * (l + 1) / 2 * uf + l * r0

/-- level 0, column `m = 1` -/
def hM1 (lmax w0 r0 ub uf : Nat) (σ : T2 × T2) : T2 × T2 :=
  (List.range' 2 (lmax - 1)).foldl (fun (p : T2 × T2) l =>
    (s2 p.1 l 1 (some (hCF ub uf r0 l)), s2 p.2 l 1 (some (w0 + hCF ub uf r0 l)))) σ

/-- the candidates "advance `j` steps, checkpoint there" of cell `k = (l, m)`, read from the state
`σ = (optp, opt)`; `r` is the read cost of the level -/
def hFc (uf r : Nat) (σ : T2 × T2) (k : Nat × Nat) : List (Option Nat) :=
  (List.range' 1 (k.1 - 1)).map (fun j =>
    oadd (oadd (oadd (some (j * uf)) (g2 σ.2 (k.1 - j) (k.2 - 1))) (some r)) (g2 σ.1 (j - 1) k.2))

/-- the value of `optp[0][l][m]`, `m ≥ 2`, computed from the state `σ = (optp0, opt0)` -/
def hF0 (uf r0 : Nat) (σ : T2 × T2) (k : Nat × Nat) : Option Nat :=
  ominList (hFc uf r0 σ k ++ [g2 σ.1 k.1 1])

/-- level 0, columns `m ≥ 2` -/
def hL0 (lmax c0 w0 r0 uf : Nat) (σ : T2 × T2) : T2 × T2 :=
  (List.range' 2 (c0 - 1)).foldl (fun (p : T2 × T2) m =>
    (List.range' 2 (lmax - 1)).foldl (fun (p : T2 × T2) l =>
      (s2 p.1 l m (hF0 uf r0 p (l, m)), s2 p.2 l m (oadd (some w0) (hF0 uf r0 p (l, m))))) p) σ

/-- level 1, column `m = 0` of `opt` -/
def hI1 (lmax c0 : Nat) (o0 o1 : T2) : T2 :=
  (List.range' 2 (lmax - 1)).foldl (fun o l => s2 o l 0 (g2 o0 l c0)) o1

/-- the value of `optp[1][l][m]`, `m ≥ 1`, computed from the state `σ = (optp1, opt1)` -/
def hF1 (uf r1 c0 : Nat) (o0 : T2) (σ : T2 × T2) (k : Nat × Nat) : Option Nat :=
  ominList ([g2 o0 k.1 c0] ++ hFc uf r1 σ k)

/-- level 1, columns `m ≥ 1` -/
def hL1 (lmax c1 w1 r1 uf c0 : Nat) (o0 : T2) (σ : T2 × T2) : T2 × T2 :=
  (List.range' 1 c1).foldl (fun (p : T2 × T2) m =>
    (List.range' 1 lmax).foldl (fun (p : T2 × T2) l =>
      (s2 p.1 l m (hF1 uf r1 c0 o0 p (l, m)),
       s2 p.2 l m (omin (g2 o0 l c0) (oadd (some w1) (hF1 uf r1 c0 o0 p (l, m)))))) p) σ

/-- the final level-0 pair `(optp0, opt0)` -/
def hLevel0 (lmax c0 w0 r0 ub uf : Nat) : T2 × T2 :=
  hL0 lmax c0 w0 r0 uf (hM1 lmax w0 r0 ub uf (hB2 lmax w0 r0 ub uf 0 c0 (hB1 ub c0 (hBlank lmax c0, hBlank lmax c0))))

/-- the level-1 pair after the borders -/
def hBorder1 (lmax c1 w0 r0 ub uf : Nat) : T2 × T2 :=
  hB2 lmax w0 r0 ub uf 1 c1 (hB1 ub c1 (hBlank lmax c1, hBlank lmax c1))

/-- the final level-1 pair `(optp1, opt1)` -/
def hLevel1 (lmax c0 c1 w0 w1 r0 r1 ub uf : Nat) : T2 × T2 :=
  hL1 lmax c1 w1 r1 uf c0 (hLevel0 lmax c0 w0 r0 ub uf).2
    ((hBorder1 lmax c1 w0 r0 ub uf).1,
      hI1 lmax c0 (hLevel0 lmax c0 w0 r0 ub uf).2 (hBorder1 lmax c1 w0 r0 ub uf).2)

theorem hoptTable_eq (lmax c0 c1 w0 w1 r0 r1 ub uf : Nat) :
    hoptTable lmax c0 c1 w0 w1 r0 r1 ub uf =
      { optp0 := (hLevel0 lmax c0 w0 r0 ub uf).1, opt0 := (hLevel0 lmax c0 w0 r0 ub uf).2,
        optp1 := (hLevel1 lmax c0 c1 w0 w1 r0 r1 ub uf).1,
        opt1 := (hLevel1 lmax c0 c1 w0 w1 r0 r1 ub uf).2 } := rfl

def keysB1 (c : Nat) : List (Nat × Nat) := (List.range (c + 1)).map (fun m => (0, m))

def keysB2 (lmax k c : Nat) : List (Nat × Nat) :=
  ((List.range (c + 1)).filter (fun m => !decide ((m = 0 ∧ k = 0) ∨ lmax < 1))).map (fun m => (1, m))

def keysM1 (lmax : Nat) : List (Nat × Nat) := (List.range' 2 (lmax - 1)).map (fun l => (l, 1))

theorem mem_keysB1 {c l m : Nat} : (l, m) ∈ keysB1 c ↔ l = 0 ∧ m ≤ c := by
  simp only [keysB1, mem_map, mem_range, Prod.mk.injEq]
  constructor
  · rintro ⟨a, ha, rfl, rfl⟩; exact ⟨rfl, by omega⟩
  · rintro ⟨rfl, h⟩; exact ⟨m, by omega, rfl, rfl⟩

theorem mem_keysB2 {lmax k c l m : Nat} :
    (l, m) ∈ keysB2 lmax k c ↔ l = 1 ∧ m ≤ c ∧ ¬ ((m = 0 ∧ k = 0) ∨ lmax < 1) := by
  simp only [keysB2, mem_map, mem_filter, mem_range, Prod.mk.injEq, Bool.not_eq_true',
    decide_eq_false_iff_not]
  constructor
  · rintro ⟨a, ⟨ha, hc⟩, rfl, rfl⟩; exact ⟨rfl, by omega, hc⟩
  · rintro ⟨rfl, h, hc⟩; exact ⟨m, ⟨by omega, hc⟩, rfl, rfl⟩

theorem mem_keysM1 {lmax l m : Nat} : (l, m) ∈ keysM1 lmax ↔ m = 1 ∧ 2 ≤ l ∧ l ≤ lmax := by
  simp only [keysM1, mem_map, mem_range'_1, Prod.mk.injEq]
  constructor
  · rintro ⟨a, ha, rfl, rfl⟩; exact ⟨rfl, by omega, by omega⟩
  · rintro ⟨rfl, h1, h2⟩; exact ⟨l, by omega, rfl, rfl⟩

theorem keysB1_pairwise (c : Nat) : (keysB1 c).Pairwise lt2 := by
  rw [keysB1, pairwise_map]
  exact pairwise_lt_range.imp (fun h => Or.inl h)

theorem keysB2_pairwise (lmax k c : Nat) : (keysB2 lmax k c).Pairwise lt2 := by
  rw [keysB2, pairwise_map]
  exact (pairwise_lt_range.filter _).imp (fun h => Or.inl h)

theorem keysM1_pairwise (lmax : Nat) : (keysM1 lmax).Pairwise lt2 := by
  rw [keysM1, pairwise_map]
  exact (pairwise_lt_range' (s := 2) (n := lmax - 1)).imp (fun h => Or.inr ⟨rfl, h⟩)

theorem hB1_eq (ub c : Nat) (σ : T2 × T2) :
    hB1 ub c σ = (keysB1 c).foldl (writeStep (fun _ _ => some ub) (fun _ _ => some ub)) σ := by
  rw [keysB1, foldl_map]; rfl

theorem hB2_eq (lmax w0 r0 ub uf k c : Nat) (σ : T2 × T2) :
    hB2 lmax w0 r0 ub uf k c σ = (keysB2 lmax k c).foldl
      (writeStep (fun _ _ => some (uf + 2 * ub + r0)) (fun _ _ => some (w0 + (uf + 2 * ub + r0)))) σ := by
  rw [keysB2, foldl_map, foldl_filter, hB2]
  congr 1
  funext p m
  by_cases hc : (m = 0 ∧ k = 0) ∨ lmax < 1
  · rw [if_pos hc, if_neg (by rw [decide_eq_true hc]; decide)]
  · rw [if_neg hc, if_pos (by rw [decide_eq_false hc]; decide)]
    rfl

theorem hM1_eq (lmax w0 r0 ub uf : Nat) (σ : T2 × T2) :
    hM1 lmax w0 r0 ub uf σ = (keysM1 lmax).foldl
      (writeStep (fun _ k => some (hCF ub uf r0 k.1)) (fun _ k => some (w0 + hCF ub uf r0 k.1))) σ := by
  rw [keysM1, foldl_map]; rfl

theorem hL0_eq (lmax c0 w0 r0 uf : Nat) (σ : T2 × T2) :
    hL0 lmax c0 w0 r0 uf σ = (cells 2 (c0 - 1) 2 (lmax - 1)).foldl
      (writeStep (hF0 uf r0) (fun σ k => oadd (some w0) (hF0 uf r0 σ k))) σ :=
  nested_fold_eq (writeStep (hF0 uf r0) (fun σ k => oadd (some w0) (hF0 uf r0 σ k))) _ _ σ

theorem hL1_eq (lmax c1 w1 r1 uf c0 : Nat) (o0 : T2) (σ : T2 × T2) :
    hL1 lmax c1 w1 r1 uf c0 o0 σ = (cells 1 c1 1 lmax).foldl
      (writeStep (hF1 uf r1 c0 o0)
        (fun σ k => omin (g2 o0 k.1 c0) (oadd (some w1) (hF1 uf r1 c0 o0 σ k)))) σ :=
  nested_fold_eq (writeStep (hF1 uf r1 c0 o0)
    (fun σ k => omin (g2 o0 k.1 c0) (oadd (some w1) (hF1 uf r1 c0 o0 σ k)))) _ _ σ

/-- the values written do not depend on the state -/
theorem const_stage {lmax c c' : Nat} (A B : Nat × Nat → Option Nat) (ks : List (Nat × Nat))
    (σ : T2 × T2) (hpw : ks.Pairwise lt2) (hin : ∀ k ∈ ks, k.1 ≤ lmax ∧ k.2 ≤ c ∧ k.2 ≤ c')
    (h1 : Shape lmax c σ.1) (h2 : Shape lmax c' σ.2) :
    Shape lmax c (ks.foldl (writeStep (fun _ k => A k) (fun _ k => B k)) σ).1 ∧
    Shape lmax c' (ks.foldl (writeStep (fun _ k => A k) (fun _ k => B k)) σ).2 ∧
    (∀ l m, (l, m) ∉ ks →
      g2 (ks.foldl (writeStep (fun _ k => A k) (fun _ k => B k)) σ).1 l m = g2 σ.1 l m ∧
      g2 (ks.foldl (writeStep (fun _ k => A k) (fun _ k => B k)) σ).2 l m = g2 σ.2 l m) ∧
    ∀ l m, (l, m) ∈ ks →
      g2 (ks.foldl (writeStep (fun _ k => A k) (fun _ k => B k)) σ).1 l m = A (l, m) ∧
      g2 (ks.foldl (writeStep (fun _ k => A k) (fun _ k => B k)) σ).2 l m = B (l, m) := by
  obtain ⟨a, b, c1, d⟩ := writes_spec (lmax := lmax) (c := c) (c' := c') (fun _ k => A k) (fun _ k => B k) ks σ
    (fun _ _ _ _ _ => ⟨rfl, rfl⟩) hpw hin h1 h2
  exact ⟨a, b, fun l m h => c1 (l, m) h, fun l m h => d (l, m) h⟩

/-- locality of the recurrences: the candidates read only earlier cells -/
theorem hFc_local (uf r : Nat) (σ σ' : T2 × T2) (k : Nat × Nat) (hk : 1 ≤ k.2)
    (h : AgreeBefore σ σ' k) : hFc uf r σ k = hFc uf r σ' k := by
  apply map_congr_left
  intro j hj
  have hjr := mem_range'_1.1 hj
  have a := (h (k.1 - j, k.2 - 1) (Or.inl (by show k.2 - 1 < k.2; omega))).2
  have b := (h (j - 1, k.2) (Or.inr ⟨rfl, by show j - 1 < k.1; omega⟩)).1
  simp only at a b
  rw [a, b]

theorem hF0_local (uf r0 : Nat) (σ σ' : T2 × T2) (k : Nat × Nat) (hk : 2 ≤ k.2)
    (h : AgreeBefore σ σ' k) : hF0 uf r0 σ k = hF0 uf r0 σ' k := by
  have e1 : g2 σ.1 k.1 1 = g2 σ'.1 k.1 1 := (h (k.1, 1) (Or.inl (by show 1 < k.2; omega))).1
  rw [hF0, hF0, e1, hFc_local uf r0 σ σ' k (by omega) h]

theorem hF1_local (uf r1 c0 : Nat) (o0 : T2) (σ σ' : T2 × T2) (k : Nat × Nat) (hk : 1 ≤ k.2)
    (h : AgreeBefore σ σ' k) : hF1 uf r1 c0 o0 σ k = hF1 uf r1 c0 o0 σ' k := by
  rw [hF1, hF1, hFc_local uf r1 σ σ' k hk h]

/-- after the border loops of a level: rows 0 and 1 are set (for `k = 0` not the cell `(1, 0)`), every
other cell is still blank -/
structure Border (lmax w0 r0 ub uf k c : Nat) (σ : T2 × T2) : Prop where
  shape1 : Shape lmax c σ.1
  shape2 : Shape lmax c σ.2
  row0 : ∀ m, m ≤ c → g2 σ.1 0 m = some ub ∧ g2 σ.2 0 m = some ub
  row1 : 1 ≤ lmax → ∀ m, m ≤ c → ¬ (m = 0 ∧ k = 0) →
    g2 σ.1 1 m = some (uf + 2 * ub + r0) ∧ g2 σ.2 1 m = some (w0 + (uf + 2 * ub + r0))
  blank : ∀ l m, 2 ≤ l ∨ (l = 1 ∧ m = 0 ∧ k = 0) → g2 σ.1 l m = none ∧ g2 σ.2 l m = none

theorem border_facts (lmax w0 r0 ub uf k c : Nat) :
    Border lmax w0 r0 ub uf k c
      (hB2 lmax w0 r0 ub uf k c (hB1 ub c (hBlank lmax c, hBlank lmax c))) := by
  obtain ⟨a1, a2, a3, a4⟩ := const_stage (lmax := lmax) (c := c) (c' := c)
    (fun _ => some ub) (fun _ => some ub) (keysB1 c)
    (hBlank lmax c, hBlank lmax c) (keysB1_pairwise c)
    (by rintro ⟨l, m⟩ h; obtain ⟨rfl, h'⟩ := mem_keysB1.1 h; exact ⟨Nat.zero_le _, h', h'⟩)
    (hBlank_shape lmax c) (hBlank_shape lmax c)
  rw [← hB1_eq] at a1 a2 a3 a4
  generalize hB1 ub c (hBlank lmax c, hBlank lmax c) = σ1 at a1 a2 a3 a4 ⊢
  obtain ⟨b1, b2, b3, b4⟩ := const_stage (lmax := lmax) (c := c) (c' := c)
    (fun _ => some (uf + 2 * ub + r0)) (fun _ => some (w0 + (uf + 2 * ub + r0))) (keysB2 lmax k c)
    σ1 (keysB2_pairwise lmax k c)
    (by rintro ⟨l, m⟩ h; obtain ⟨rfl, h', hc⟩ := mem_keysB2.1 h; exact ⟨by omega, h', h'⟩) a1 a2
  rw [← hB2_eq] at b1 b2 b3 b4
  generalize hB2 lmax w0 r0 ub uf k c σ1 = σ2 at b1 b2 b3 b4 ⊢
  refine ⟨b1, b2, ?_, ?_, ?_⟩
  · intro m hm
    have n2 : (0, m) ∉ keysB2 lmax k c := fun h => by have := mem_keysB2.1 h; omega
    have y1 := a4 0 m (mem_keysB1.2 ⟨rfl, hm⟩)
    have y2 := b3 0 m n2
    exact ⟨by rw [y2.1, y1.1], by rw [y2.2, y1.2]⟩
  · intro hl m hm hk
    exact b4 1 m (mem_keysB2.2 ⟨rfl, hm, by omega⟩)
  · intro l m h
    have n2 : (l, m) ∉ keysB2 lmax k c := fun h' => by have := mem_keysB2.1 h'; omega
    have n1 : (l, m) ∉ keysB1 c := fun h' => by have := mem_keysB1.1 h'; omega
    have y1 := a3 l m n1
    have y2 := b3 l m n2
    simp only [hBlank_g2] at y1
    exact ⟨by rw [y2.1, y1.1], by rw [y2.2, y1.2]⟩

/-- what the finished level-0 pair `σ = (optp0, opt0)` satisfies, cell by cell -/
structure Level0 (lmax c0 w0 r0 ub uf : Nat) (σ : T2 × T2) : Prop where
  row0 : ∀ m, m ≤ c0 → g2 σ.1 0 m = some ub ∧ g2 σ.2 0 m = some ub
  row1 : 1 ≤ lmax → ∀ m, 1 ≤ m → m ≤ c0 →
    g2 σ.1 1 m = some (uf + 2 * ub + r0) ∧ g2 σ.2 1 m = some (w0 + (uf + 2 * ub + r0))
  col1 : ∀ l, 2 ≤ l → l ≤ lmax →
    g2 σ.1 l 1 = some (hCF ub uf r0 l) ∧ g2 σ.2 l 1 = some (w0 + hCF ub uf r0 l)
  cell : ∀ l m, 2 ≤ l → l ≤ lmax → 2 ≤ m → m ≤ c0 →
    g2 σ.1 l m = hF0 uf r0 σ (l, m) ∧ g2 σ.2 l m = oadd (some w0) (hF0 uf r0 σ (l, m))
  col0 : ∀ l, 1 ≤ l → g2 σ.1 l 0 = none ∧ g2 σ.2 l 0 = none

theorem level0_facts (lmax c0 w0 r0 ub uf : Nat) (hc0 : 1 ≤ c0) :
    Level0 lmax c0 w0 r0 ub uf (hLevel0 lmax c0 w0 r0 ub uf) := by
  unfold hLevel0
  obtain ⟨b1, b2, r0', r1', bl⟩ := border_facts lmax w0 r0 ub uf 0 c0
  generalize hB2 lmax w0 r0 ub uf 0 c0 (hB1 ub c0 (hBlank lmax c0, hBlank lmax c0)) = σ2
    at b1 b2 r0' r1' bl ⊢
  -- stage 3: column 1
  obtain ⟨c1, c2, c3, c4⟩ := const_stage (lmax := lmax) (c := c0) (c' := c0)
    (fun k => some (hCF ub uf r0 k.1)) (fun k => some (w0 + hCF ub uf r0 k.1)) (keysM1 lmax)
    σ2 (keysM1_pairwise lmax)
    (by rintro ⟨l, m⟩ h; obtain ⟨rfl, h1, h2⟩ := mem_keysM1.1 h; exact ⟨h2, hc0, hc0⟩) b1 b2
  rw [← hM1_eq] at c1 c2 c3 c4
  generalize hM1 lmax w0 r0 ub uf σ2 = σ3 at c1 c2 c3 c4 ⊢
  -- stage 4: columns ≥ 2
  obtain ⟨-, -, d3, d4⟩ := writes_spec (lmax := lmax) (c := c0) (c' := c0)
    (hF0 uf r0) (fun σ k => oadd (some w0) (hF0 uf r0 σ k)) (cells 2 (c0 - 1) 2 (lmax - 1)) σ3
    (by
      rintro σ σ' ⟨l, m⟩ hk hag
      have := (mem_cells.1 hk).1.1
      have e := hF0_local uf r0 σ σ' (l, m) this hag
      exact ⟨e, by simp only [e]⟩)
    (cells_pairwise _ _ _ _)
    (by rintro ⟨l, m⟩ h; obtain ⟨h1, h2⟩ := mem_cells.1 h; exact ⟨by omega, by omega, by omega⟩)
    c1 c2
  rw [← hL0_eq] at d3 d4
  generalize hL0 lmax c0 w0 r0 uf σ3 = σ4 at d3 d4 ⊢
  refine ⟨?_, ?_, ?_, ?_, ?_⟩
  · intro m hm
    have n4 : (0, m) ∉ cells 2 (c0 - 1) 2 (lmax - 1) := fun h => by have := (mem_cells.1 h).2; omega
    have n3 : (0, m) ∉ keysM1 lmax := fun h => by have := mem_keysM1.1 h; omega
    have y2 := r0' m hm
    have y3 := c3 0 m n3
    have y4 := d3 (0, m) n4
    simp only at y4
    exact ⟨by rw [y4.1, y3.1, y2.1], by rw [y4.2, y3.2, y2.2]⟩
  · intro hl m hm1 hm
    have n4 : (1, m) ∉ cells 2 (c0 - 1) 2 (lmax - 1) := fun h => by have := (mem_cells.1 h).2; omega
    have n3 : (1, m) ∉ keysM1 lmax := fun h => by have := mem_keysM1.1 h; omega
    have y2 := r1' hl m hm (by omega)
    have y3 := c3 1 m n3
    have y4 := d3 (1, m) n4
    simp only at y4
    exact ⟨by rw [y4.1, y3.1, y2.1], by rw [y4.2, y3.2, y2.2]⟩
  · intro l hl2 hl
    have n4 : (l, 1) ∉ cells 2 (c0 - 1) 2 (lmax - 1) := fun h => by have := (mem_cells.1 h).1; omega
    have y3 := c4 l 1 (mem_keysM1.2 ⟨rfl, hl2, hl⟩)
    have y4 := d3 (l, 1) n4
    simp only at y4
    exact ⟨by rw [y4.1, y3.1], by rw [y4.2, y3.2]⟩
  · intro l m hl2 hl hm2 hm
    exact d4 (l, m) (mem_cells.2 ⟨⟨hm2, by omega⟩, ⟨hl2, by omega⟩⟩)
  · intro l hl
    have n4 : (l, 0) ∉ cells 2 (c0 - 1) 2 (lmax - 1) := fun h => by have := (mem_cells.1 h).1; omega
    have n3 : (l, 0) ∉ keysM1 lmax := fun h => by have := mem_keysM1.1 h; omega
    have y2 := bl l 0 (by omega)
    have y3 := c3 l 0 n3
    have y4 := d3 (l, 0) n4
    simp only at y4
    exact ⟨by rw [y4.1, y3.1, y2.1], by rw [y4.2, y3.2, y2.2]⟩

/-- a fold of writes into one column of a single table, the values not depending on the state -/
theorem col_fold_spec {lmax c : Nat} (m0 : Nat) (val : Nat → Option Nat) (hm0 : m0 ≤ c) :
    ∀ (ls : List Nat) (o : T2), (∀ l ∈ ls, l ≤ lmax) → Shape lmax c o →
      Shape lmax c (ls.foldl (fun o l => s2 o l m0 (val l)) o) ∧
      ∀ l m, g2 (ls.foldl (fun o l => s2 o l m0 (val l)) o) l m =
        if l ∈ ls ∧ m = m0 then val l else g2 o l m := by
  intro ls
  induction ls with
  | nil => intro o _ hs; exact ⟨hs, fun l m => by simp⟩
  | cons a ls ih =>
    intro o hin hs
    rw [foldl_cons]
    obtain ⟨i1, i2⟩ := ih (s2 o a m0 (val a)) (fun l hl => hin l (mem_cons_of_mem _ hl)) (hs.s2 _ _ _)
    refine ⟨i1, ?_⟩
    intro l m
    rw [i2 l m]
    by_cases h1 : l ∈ ls ∧ m = m0
    · rw [if_pos h1, if_pos ⟨mem_cons_of_mem _ h1.1, h1.2⟩]
    · rw [if_neg h1]
      by_cases h2 : a = l ∧ m0 = m
      · obtain ⟨rfl, rfl⟩ := h2
        rw [if_pos ⟨mem_cons_self, rfl⟩]
        exact g2_s2_eq hs _ _ _ (hin a mem_cons_self) hm0
      · rw [g2_s2_ne _ _ _ _ _ _ h2]
        have : ¬ (l ∈ a :: ls ∧ m = m0) := by
          rintro ⟨hmem, rfl⟩
          rcases mem_cons.1 hmem with rfl | hmem
          · exact h2 ⟨rfl, rfl⟩
          · exact h1 ⟨hmem, rfl⟩
        rw [if_neg this]

/-- what the finished level-1 pair `σ = (optp1, opt1)` satisfies; `o0` is the finished `opt0` -/
structure Level1 (lmax c0 c1 w0 w1 r0 r1 ub uf : Nat) (o0 : T2) (σ : T2 × T2) : Prop where
  shape1 : Shape lmax c1 σ.1
  row0 : ∀ m, m ≤ c1 → g2 σ.1 0 m = some ub ∧ g2 σ.2 0 m = some ub
  row1 : 1 ≤ lmax →
    g2 σ.1 1 0 = some (uf + 2 * ub + r0) ∧ g2 σ.2 1 0 = some (w0 + (uf + 2 * ub + r0))
  col0 : ∀ l, 2 ≤ l → l ≤ lmax → g2 σ.1 l 0 = none ∧ g2 σ.2 l 0 = g2 o0 l c0
  cell : ∀ l m, 1 ≤ l → l ≤ lmax → 1 ≤ m → m ≤ c1 →
    g2 σ.1 l m = hF1 uf r1 c0 o0 σ (l, m) ∧
    g2 σ.2 l m = omin (g2 o0 l c0) (oadd (some w1) (hF1 uf r1 c0 o0 σ (l, m)))

theorem level1_facts (lmax c0 c1 w0 w1 r0 r1 ub uf : Nat) :
    Level1 lmax c0 c1 w0 w1 r0 r1 ub uf (hLevel0 lmax c0 w0 r0 ub uf).2
      (hLevel1 lmax c0 c1 w0 w1 r0 r1 ub uf) := by
  unfold hLevel1 hBorder1
  generalize (hLevel0 lmax c0 w0 r0 ub uf).2 = o0
  obtain ⟨b1, b2, r0', r1', bl⟩ := border_facts lmax w0 r0 ub uf 1 c1
  generalize hB2 lmax w0 r0 ub uf 1 c1 (hB1 ub c1 (hBlank lmax c1, hBlank lmax c1)) = σ2
    at b1 b2 r0' r1' bl ⊢
  -- column 0 of `opt1`
  obtain ⟨c2, c3⟩ := col_fold_spec (lmax := lmax) (c := c1) 0 (fun l => g2 o0 l c0) (Nat.zero_le _)
    (List.range' 2 (lmax - 1)) σ2.2 (fun l hl => by have := mem_range'_1.1 hl; omega) b2
  change Shape lmax c1 (hI1 lmax c0 o0 σ2.2) at c2
  change ∀ l m, g2 (hI1 lmax c0 o0 σ2.2) l m = _ at c3
  generalize hI1 lmax c0 o0 σ2.2 = o1 at c2 c3 ⊢
  -- columns ≥ 1
  obtain ⟨d1, -, d3, d4⟩ := writes_spec (lmax := lmax) (c := c1) (c' := c1)
    (hF1 uf r1 c0 o0) (fun σ k => omin (g2 o0 k.1 c0) (oadd (some w1) (hF1 uf r1 c0 o0 σ k)))
    (cells 1 c1 1 lmax) (σ2.1, o1)
    (by
      rintro σ σ' ⟨l, m⟩ hk hag
      have := (mem_cells.1 hk).1.1
      have e := hF1_local uf r1 c0 o0 σ σ' (l, m) this hag
      exact ⟨e, by simp only [e]⟩)
    (cells_pairwise _ _ _ _)
    (by rintro ⟨l, m⟩ h; obtain ⟨h1, h2⟩ := mem_cells.1 h; exact ⟨by omega, by omega, by omega⟩)
    b1 c2
  rw [← hL1_eq] at d1 d3 d4
  generalize hL1 lmax c1 w1 r1 uf c0 o0 (σ2.1, o1) = σ4 at d1 d3 d4 ⊢
  refine ⟨d1, ?_, ?_, ?_, ?_⟩
  · intro m hm
    have n4 : (0, m) ∉ cells 1 c1 1 lmax := fun h => by have := (mem_cells.1 h).2; omega
    have y2 := r0' m hm
    have y3 := c3 0 m
    rw [if_neg (by rintro ⟨h, _⟩; have := mem_range'_1.1 h; omega)] at y3
    have y4 := d3 (0, m) n4
    simp only at y4
    exact ⟨by rw [y4.1, y2.1], by rw [y4.2, y3, y2.2]⟩
  · intro hl
    have n4 : (1, 0) ∉ cells 1 c1 1 lmax := fun h => by have := (mem_cells.1 h).1; omega
    have y2 := r1' hl 0 (Nat.zero_le _) (by omega)
    have y3 := c3 1 0
    rw [if_neg (by rintro ⟨h, _⟩; have := mem_range'_1.1 h; omega)] at y3
    have y4 := d3 (1, 0) n4
    simp only at y4
    exact ⟨by rw [y4.1, y2.1], by rw [y4.2, y3, y2.2]⟩
  · intro l hl2 hl
    have n4 : (l, 0) ∉ cells 1 c1 1 lmax := fun h => by have := (mem_cells.1 h).1; omega
    have y2 := bl l 0 (Or.inl hl2)
    have y3 := c3 l 0
    rw [if_pos ⟨mem_range'_1.2 ⟨hl2, by omega⟩, rfl⟩] at y3
    have y4 := d3 (l, 0) n4
    simp only at y4
    exact ⟨by rw [y4.1, y2.1], by rw [y4.2, y3]⟩
  · intro l m hl1 hl hm1 hm
    exact d4 (l, m) (mem_cells.2 ⟨⟨hm1, by omega⟩, ⟨hl1, by omega⟩⟩)

section final
variable (lmax c0 c1 w0 w1 r0 r1 ub uf : Nat)

theorem hopt_optp0 (l m : Nat) : (hoptTable lmax c0 c1 w0 w1 r0 r1 ub uf).optp 0 l m =
    g2 (hLevel0 lmax c0 w0 r0 ub uf).1 l m := by rw [hoptTable_eq]; rfl
theorem hopt_opt0 (l m : Nat) : (hoptTable lmax c0 c1 w0 w1 r0 r1 ub uf).opt 0 l m =
    g2 (hLevel0 lmax c0 w0 r0 ub uf).2 l m := by rw [hoptTable_eq]; rfl
theorem hopt_optp1 (l m : Nat) : (hoptTable lmax c0 c1 w0 w1 r0 r1 ub uf).optp 1 l m =
    g2 (hLevel1 lmax c0 c1 w0 w1 r0 r1 ub uf).1 l m := by rw [hoptTable_eq]; rfl
theorem hopt_opt1 (l m : Nat) : (hoptTable lmax c0 c1 w0 w1 r0 r1 ub uf).opt 1 l m =
    g2 (hLevel1 lmax c0 c1 w0 w1 r0 r1 ub uf).2 l m := by rw [hoptTable_eq]; rfl

theorem hopt0_row0 (hc0 : 1 ≤ c0) (m : Nat) (hm : m ≤ c0) :
    (hoptTable lmax c0 c1 w0 w1 r0 r1 ub uf).optp 0 0 m = some ub ∧
    (hoptTable lmax c0 c1 w0 w1 r0 r1 ub uf).opt 0 0 m = some ub := by
  rw [hopt_optp0, hopt_opt0]
  exact (level0_facts lmax c0 w0 r0 ub uf hc0).row0 m hm

theorem hopt0_row1 (hl : 1 ≤ lmax) (m : Nat) (hm1 : 1 ≤ m) (hm : m ≤ c0) :
    (hoptTable lmax c0 c1 w0 w1 r0 r1 ub uf).optp 0 1 m = some (uf + 2 * ub + r0) ∧
    (hoptTable lmax c0 c1 w0 w1 r0 r1 ub uf).opt 0 1 m = some (w0 + uf + 2 * ub + r0) := by
  rw [hopt_optp0, hopt_opt0]
  obtain ⟨a, b⟩ := (level0_facts lmax c0 w0 r0 ub uf (hm1.trans hm)).row1 hl m hm1 hm
  refine ⟨a, ?_⟩
  rw [b, ← Nat.add_assoc, ← Nat.add_assoc]

theorem hopt0_col1 (hc0 : 1 ≤ c0) (l : Nat) (hl2 : 2 ≤ l) (hl : l ≤ lmax) :
    (hoptTable lmax c0 c1 w0 w1 r0 r1 ub uf).optp 0 l 1 =
      some ((l + 1) * ub + l * (l + 1) / 2 * uf + l * r0) ∧
    (hoptTable lmax c0 c1 w0 w1 r0 r1 ub uf).opt 0 l 1 =
      some (w0 + ((l + 1) * ub + l * (l + 1) / 2 * uf + l * r0)) := by
  rw [hopt_optp0, hopt_opt0]
  exact (level0_facts lmax c0 w0 r0 ub uf hc0).col1 l hl2 hl

theorem hopt0_rec (hc0 : 1 ≤ c0) (l m : Nat) (hl2 : 2 ≤ l) (hl : l ≤ lmax) (hm2 : 2 ≤ m) (hm : m ≤ c0) :
    let h := hoptTable lmax c0 c1 w0 w1 r0 r1 ub uf
    let cands := (List.range' 1 (l - 1)).map (fun j =>
      oadd (oadd (oadd (some (j * uf)) (h.opt 0 (l - j) (m - 1))) (some r0)) (h.optp 0 (j - 1) m))
    h.optp 0 l m = ominList (cands ++ [h.optp 0 l 1]) ∧
    h.opt 0 l m = oadd (some w0) (h.optp 0 l m) := by
  intro h cands
  obtain ⟨a, b⟩ := (level0_facts lmax c0 w0 r0 ub uf hc0).cell l m hl2 hl hm2 hm
  have e : ominList (cands ++ [h.optp 0 l 1]) =
      hF0 uf r0 (hLevel0 lmax c0 w0 r0 ub uf) (l, m) := by
    simp only [cands, h, hopt_optp0, hopt_opt0]
    rfl
  rw [e]
  simp only [h, hopt_optp0, hopt_opt0]
  exact ⟨a, by rw [b, a]⟩

theorem hopt0_col0 (hc0 : 1 ≤ c0) (l : Nat) (hl1 : 1 ≤ l) :
    (hoptTable lmax c0 c1 w0 w1 r0 r1 ub uf).optp 0 l 0 = none ∧
    (hoptTable lmax c0 c1 w0 w1 r0 r1 ub uf).opt 0 l 0 = none := by
  rw [hopt_optp0, hopt_opt0]
  exact (level0_facts lmax c0 w0 r0 ub uf hc0).col0 l hl1

/-- all level-0 entries with at least one RAM unit are finite -/
theorem hopt0_isSome (l m : Nat) (hl : l ≤ lmax) (hm1 : 1 ≤ m) (hm : m ≤ c0) :
    ((hoptTable lmax c0 c1 w0 w1 r0 r1 ub uf).optp 0 l m).isSome = true ∧
    ((hoptTable lmax c0 c1 w0 w1 r0 r1 ub uf).opt 0 l m).isSome = true := by
  have hc0 : 1 ≤ c0 := hm1.trans hm
  rcases Nat.lt_or_ge l 2 with hl2 | hl2
  · rcases Nat.eq_zero_or_pos l with rfl | hl1
    · obtain ⟨a, b⟩ := hopt0_row0 lmax c0 c1 w0 w1 r0 r1 ub uf hc0 m hm
      rw [a, b]; exact ⟨rfl, rfl⟩
    · have : l = 1 := by omega
      subst this
      obtain ⟨a, b⟩ := hopt0_row1 lmax c0 c1 w0 w1 r0 r1 ub uf hl m hm1 hm
      rw [a, b]; exact ⟨rfl, rfl⟩
  · rcases Nat.lt_or_ge m 2 with hm2 | hm2
    · have : m = 1 := by omega
      subst this
      obtain ⟨a, b⟩ := hopt0_col1 lmax c0 c1 w0 w1 r0 r1 ub uf hc0 l hl2 hl
      rw [a, b]; exact ⟨rfl, rfl⟩
    · obtain ⟨a, b⟩ := hopt0_rec lmax c0 c1 w0 w1 r0 r1 ub uf hc0 l m hl2 hl hm2 hm
      obtain ⟨c, _⟩ := hopt0_col1 lmax c0 c1 w0 w1 r0 r1 ub uf hc0 l hl2 hl
      have hs : ((hoptTable lmax c0 c1 w0 w1 r0 r1 ub uf).optp 0 l m).isSome = true := by
        rw [a]
        apply ominList_isSome_of_mem _ ((l + 1) * ub + l * (l + 1) / 2 * uf + l * r0)
        rw [← c]; simp
      refine ⟨hs, ?_⟩
      rw [b]
      obtain ⟨v, hv⟩ := Option.isSome_iff_exists.1 hs
      rw [hv]; rfl

theorem hopt1_row0 (m : Nat) (hm : m ≤ c1) :
    (hoptTable lmax c0 c1 w0 w1 r0 r1 ub uf).optp 1 0 m = some ub ∧
    (hoptTable lmax c0 c1 w0 w1 r0 r1 ub uf).opt 1 0 m = some ub := by
  rw [hopt_optp1, hopt_opt1]
  exact (level1_facts lmax c0 c1 w0 w1 r0 r1 ub uf).row0 m hm

theorem hopt1_row1_col0 (hl : 1 ≤ lmax) :
    (hoptTable lmax c0 c1 w0 w1 r0 r1 ub uf).optp 1 1 0 = some (uf + 2 * ub + r0) ∧
    (hoptTable lmax c0 c1 w0 w1 r0 r1 ub uf).opt 1 1 0 = some (w0 + uf + 2 * ub + r0) := by
  rw [hopt_optp1, hopt_opt1]
  obtain ⟨a, b⟩ := (level1_facts lmax c0 c1 w0 w1 r0 r1 ub uf).row1 hl
  refine ⟨a, ?_⟩
  rw [b, ← Nat.add_assoc, ← Nat.add_assoc]

theorem hopt1_col0 (l : Nat) (hl2 : 2 ≤ l) (hl : l ≤ lmax) :
    (hoptTable lmax c0 c1 w0 w1 r0 r1 ub uf).optp 1 l 0 = none ∧
    (hoptTable lmax c0 c1 w0 w1 r0 r1 ub uf).opt 1 l 0 =
      (hoptTable lmax c0 c1 w0 w1 r0 r1 ub uf).opt 0 l c0 := by
  rw [hopt_optp1, hopt_opt1, hopt_opt0]
  exact (level1_facts lmax c0 c1 w0 w1 r0 r1 ub uf).col0 l hl2 hl

theorem hopt1_outside (l m : Nat) (h : lmax < l ∨ c1 < m) :
    (hoptTable lmax c0 c1 w0 w1 r0 r1 ub uf).optp 1 l m = none := by
  rw [hopt_optp1]
  exact (level1_facts lmax c0 c1 w0 w1 r0 r1 ub uf).shape1.g2_out l m h

/-- with no disk unit the level-1 cost is the level-0 cost with all RAM units (`l ≥ 1`) -/
theorem hopt1_col0_eq (hc0 : 1 ≤ c0) (l : Nat) (hl1 : 1 ≤ l) (hl : l ≤ lmax) :
    (hoptTable lmax c0 c1 w0 w1 r0 r1 ub uf).opt 1 l 0 =
      (hoptTable lmax c0 c1 w0 w1 r0 r1 ub uf).opt 0 l c0 := by
  rcases Nat.lt_or_ge l 2 with hl2 | hl2
  · have : l = 1 := by omega
    subst this
    rw [(hopt1_row1_col0 lmax c0 c1 w0 w1 r0 r1 ub uf hl).2,
      (hopt0_row1 lmax c0 c1 w0 w1 r0 r1 ub uf hl c0 hc0 (le_refl _)).2]
  · exact (hopt1_col0 lmax c0 c1 w0 w1 r0 r1 ub uf l hl2 hl).2

theorem hopt1_rec (l m : Nat) (hl1 : 1 ≤ l) (hl : l ≤ lmax) (hm1 : 1 ≤ m) (hm : m ≤ c1) :
    let h := hoptTable lmax c0 c1 w0 w1 r0 r1 ub uf
    let cands1 := (List.range' 1 (l - 1)).map (fun j =>
      oadd (oadd (oadd (some (j * uf)) (h.opt 1 (l - j) (m - 1))) (some r1)) (h.optp 1 (j - 1) m))
    h.optp 1 l m = ominList (h.opt 0 l c0 :: cands1) ∧
    h.opt 1 l m = omin (h.opt 0 l c0) (oadd (some w1) (h.optp 1 l m)) := by
  intro h cands1
  obtain ⟨a, b⟩ := (level1_facts lmax c0 c1 w0 w1 r0 r1 ub uf).cell l m hl1 hl hm1 hm
  have e : ominList (h.opt 0 l c0 :: cands1) =
      hF1 uf r1 c0 (hLevel0 lmax c0 w0 r0 ub uf).2 (hLevel1 lmax c0 c1 w0 w1 r0 r1 ub uf) (l, m) := by
    simp only [cands1, h, hopt_optp1, hopt_opt1, hopt_opt0]
    rfl
  rw [e]
  simp only [h, hopt_optp1, hopt_opt1, hopt_opt0]
  exact ⟨a, by rw [b, a]⟩

/-- level 1 is never worse than level 0 with all RAM units -/
theorem hopt1_le_level0 (hc0 : 1 ≤ c0) (l m : Nat) (hl : l ≤ lmax) (hm : m ≤ c1) :
    ole ((hoptTable lmax c0 c1 w0 w1 r0 r1 ub uf).opt 1 l m)
      ((hoptTable lmax c0 c1 w0 w1 r0 r1 ub uf).opt 0 l c0) = true := by
  rcases Nat.eq_zero_or_pos l with rfl | hl1
  · rw [(hopt1_row0 lmax c0 c1 w0 w1 r0 r1 ub uf m hm).2,
      (hopt0_row0 lmax c0 c1 w0 w1 r0 r1 ub uf hc0 c0 (le_refl _)).2]
    exact ole_refl _
  · rcases Nat.eq_zero_or_pos m with rfl | hm1
    · rw [hopt1_col0_eq lmax c0 c1 w0 w1 r0 r1 ub uf hc0 l hl1 hl]; exact ole_refl _
    · rw [(hopt1_rec lmax c0 c1 w0 w1 r0 r1 ub uf l m hl1 hl hm1 hm).2]
      exact omin_le_left _ _

/-- Monotonicity in the number of disk units (C07: more disk never hurts), together with the
same fact for `optp` that the induction needs. -/
theorem hopt1_mono_aux (hc0 : 1 ≤ c0) : ∀ (l : Nat), l ≤ lmax → ∀ m, m + 1 ≤ c1 →
    ole ((hoptTable lmax c0 c1 w0 w1 r0 r1 ub uf).opt 1 l (m + 1))
      ((hoptTable lmax c0 c1 w0 w1 r0 r1 ub uf).opt 1 l m) = true ∧
    (1 ≤ m → ole ((hoptTable lmax c0 c1 w0 w1 r0 r1 ub uf).optp 1 l (m + 1))
      ((hoptTable lmax c0 c1 w0 w1 r0 r1 ub uf).optp 1 l m) = true) := by
  intro l
  induction l using Nat.strong_induction_on with
  | _ l ih =>
    intro hl m hm
    rcases Nat.eq_zero_or_pos l with rfl | hl1
    · obtain ⟨a, b⟩ := hopt1_row0 lmax c0 c1 w0 w1 r0 r1 ub uf (m + 1) hm
      obtain ⟨a', b'⟩ := hopt1_row0 lmax c0 c1 w0 w1 r0 r1 ub uf m (by omega)
      rw [a, b, a', b']
      exact ⟨ole_refl _, fun _ => ole_refl _⟩
    · rcases Nat.eq_zero_or_pos m with rfl | hm1
      · refine ⟨?_, fun h => by omega⟩
        rw [hopt1_col0_eq lmax c0 c1 w0 w1 r0 r1 ub uf hc0 l hl1 hl]
        exact hopt1_le_level0 lmax c0 c1 w0 w1 r0 r1 ub uf hc0 l (0 + 1) hl hm
      · obtain ⟨p1, o1⟩ := hopt1_rec lmax c0 c1 w0 w1 r0 r1 ub uf l (m + 1) hl1 hl (by omega) hm
        obtain ⟨p2, o2⟩ := hopt1_rec lmax c0 c1 w0 w1 r0 r1 ub uf l m hl1 hl hm1 (by omega)
        have hP : ole ((hoptTable lmax c0 c1 w0 w1 r0 r1 ub uf).optp 1 l (m + 1))
            ((hoptTable lmax c0 c1 w0 w1 r0 r1 ub uf).optp 1 l m) = true := by
          rw [p1, p2]
          apply ominList_mono
          intro y hy
          rcases mem_cons.1 hy with rfl | hy
          · exact ⟨_, mem_cons_self, ole_refl _⟩
          · obtain ⟨j, hj, rfl⟩ := mem_map.1 hy
            have hjr := mem_range'_1.1 hj
            refine ⟨_, mem_cons_of_mem _ (mem_map.2 ⟨j, hj, rfl⟩), ?_⟩
            have i1 := (ih (l - j) (by omega) (by omega) (m - 1) (by omega)).1
            have i2 := (ih (j - 1) (by omega) (by omega) m hm).2 hm1
            have e1 : m - 1 + 1 = m := by omega
            rw [e1] at i1
            rw [Nat.add_sub_cancel]
            exact oadd_mono (oadd_mono (oadd_mono (ole_refl _) i1) (ole_refl _)) i2
        refine ⟨?_, fun _ => hP⟩
        rw [o1, o2]
        exact omin_mono (ole_refl _) (oadd_mono (ole_refl _) hP)

/-- C07: the cost with `m + 1` disk units is at most the cost with `m` -/
theorem hopt1_mono (hc0 : 1 ≤ c0) (l m : Nat) (hl : l ≤ lmax) (hm : m + 1 ≤ c1) :
    ole ((hoptTable lmax c0 c1 w0 w1 r0 r1 ub uf).opt 1 l (m + 1))
      ((hoptTable lmax c0 c1 w0 w1 r0 r1 ub uf).opt 1 l m) = true :=
  (hopt1_mono_aux lmax c0 c1 w0 w1 r0 r1 ub uf hc0 l hl m hm).1

/-- … hence at most the cost with any smaller number of disk units -/
theorem hopt1_antitone (hc0 : 1 ≤ c0) (l m m' : Nat) (hl : l ≤ lmax) (hmm : m ≤ m') (hm : m' ≤ c1) :
    ole ((hoptTable lmax c0 c1 w0 w1 r0 r1 ub uf).opt 1 l m')
      ((hoptTable lmax c0 c1 w0 w1 r0 r1 ub uf).opt 1 l m) = true := by
  induction m' with
  | zero => have : m = 0 := by omega
            subst this; exact ole_refl _
  | succ n ih =>
    rcases Nat.eq_or_lt_of_le hmm with rfl | hlt
    · exact ole_refl _
    · exact ole_trans (hopt1_mono lmax c0 c1 w0 w1 r0 r1 ub uf hc0 l n hl hm) (ih (by omega) (by omega))

end final

section indep
variable (lmax c0 c1 c1' w0 w1 r0 r1 ub uf : Nat)

/-- the columns `m ≤ c1` of level 1 do not depend on how many more disk units the table was built for -/
theorem hopt1_indep (hcc : c1 ≤ c1') : ∀ m, m ≤ c1 → ∀ l, l ≤ lmax →
    (hoptTable lmax c0 c1 w0 w1 r0 r1 ub uf).opt 1 l m =
      (hoptTable lmax c0 c1' w0 w1 r0 r1 ub uf).opt 1 l m ∧
    (hoptTable lmax c0 c1 w0 w1 r0 r1 ub uf).optp 1 l m =
      (hoptTable lmax c0 c1' w0 w1 r0 r1 ub uf).optp 1 l m := by
  have e0 : ∀ l m, (hoptTable lmax c0 c1 w0 w1 r0 r1 ub uf).opt 0 l m =
      (hoptTable lmax c0 c1' w0 w1 r0 r1 ub uf).opt 0 l m := by
    intro l m; rw [hopt_opt0, hopt_opt0]
  intro m
  induction m with
  | zero =>
    intro _ l hl
    rcases Nat.lt_or_ge l 2 with hl2 | hl2
    · rcases Nat.eq_zero_or_pos l with rfl | hl1
      · obtain ⟨a, b⟩ := hopt1_row0 lmax c0 c1 w0 w1 r0 r1 ub uf 0 (Nat.zero_le _)
        obtain ⟨a', b'⟩ := hopt1_row0 lmax c0 c1' w0 w1 r0 r1 ub uf 0 (Nat.zero_le _)
        rw [a, b, a', b']; exact ⟨rfl, rfl⟩
      · have : l = 1 := by omega
        subst this
        obtain ⟨a, b⟩ := hopt1_row1_col0 lmax c0 c1 w0 w1 r0 r1 ub uf hl
        obtain ⟨a', b'⟩ := hopt1_row1_col0 lmax c0 c1' w0 w1 r0 r1 ub uf hl
        rw [a, b, a', b']; exact ⟨rfl, rfl⟩
    · obtain ⟨a, b⟩ := hopt1_col0 lmax c0 c1 w0 w1 r0 r1 ub uf l hl2 hl
      obtain ⟨a', b'⟩ := hopt1_col0 lmax c0 c1' w0 w1 r0 r1 ub uf l hl2 hl
      rw [a, b, a', b', e0]; exact ⟨rfl, rfl⟩
  | succ m ihm =>
    intro hm l
    induction l using Nat.strong_induction_on with
    | _ l ihl =>
      intro hl
      rcases Nat.eq_zero_or_pos l with rfl | hl1
      · obtain ⟨a, b⟩ := hopt1_row0 lmax c0 c1 w0 w1 r0 r1 ub uf (m + 1) hm
        obtain ⟨a', b'⟩ := hopt1_row0 lmax c0 c1' w0 w1 r0 r1 ub uf (m + 1) (by omega)
        rw [a, b, a', b']; exact ⟨rfl, rfl⟩
      · obtain ⟨p1, o1⟩ := hopt1_rec lmax c0 c1 w0 w1 r0 r1 ub uf l (m + 1) hl1 hl (by omega) hm
        obtain ⟨p2, o2⟩ := hopt1_rec lmax c0 c1' w0 w1 r0 r1 ub uf l (m + 1) hl1 hl (by omega) (by omega)
        have hp : (hoptTable lmax c0 c1 w0 w1 r0 r1 ub uf).optp 1 l (m + 1) =
            (hoptTable lmax c0 c1' w0 w1 r0 r1 ub uf).optp 1 l (m + 1) := by
          rw [p1, p2, e0]
          refine congrArg (fun L => ominList (_ :: L)) (map_congr_left fun j hj => ?_)
          have hjr := mem_range'_1.1 hj
          rw [Nat.add_sub_cancel, (ihm (by omega) (l - j) (by omega)).1,
            (ihl (j - 1) (by omega) (by omega)).2]
        exact ⟨by rw [o1, o2, e0, hp], hp⟩

end indep

-- a concrete table: lmax = 9, 1 RAM unit, up to 2 disk units, wd = 2, rd = 1, ub = uf = 1
example : (hoptTable 9 1 2 0 2 0 1 1 1).opt 1 9 0 = some 55 ∧
    (hoptTable 9 1 2 0 2 0 1 1 1).opt 1 9 1 = some 35 ∧
    (hoptTable 9 1 2 0 2 0 1 1 1).opt 1 9 2 = some 34 := by decide +kernel

end Ckpt.RC
