import CkptVerif.Spec.Exec
import CkptVerif.Proofs.ExecLemmas
import Mathlib.Tactic
/-!
# What the executor's verdicts mean

`CkptVerif/Spec/Exec.lean` records a tagged violation whenever a check fails.  This file proves,
for an arbitrary `cfg : Cfg` and an arbitrary observation list `os : List Obs`, that the verdict
"no violation tagged `P`" implies the declarative statement of property `P` about the stream.

In the order of the file:
* lifting: `mem_runFrom`, `noTag_step`, `inv_of_run`; `runFrom_induction`, the backward induction
  over an accepted finished run
* M1 (C03) budgets, at most one kind of data per checkpoint
* M2 (C04) clean storage at `EndReverse`
* M4 (C01) executability
* M3 (C02) phases and order
* M5 (C12) working storage
-/
namespace Ckpt.Mean

def NoTag (t : Tag) (vs : List (Nat × Viol)) : Prop := ∀ v ∈ vs, v.2.tag ≠ t

instance (t : Tag) (vs : List (Nat × Viol)) : Decidable (NoTag t vs) :=
  inferInstanceAs (Decidable (∀ v ∈ vs, v.2.tag ≠ t))

def Free (t : Tag) (L : List Viol) : Prop := ∀ v ∈ L, v.tag ≠ t

def StepNo (t : Tag) (cfg : Cfg) (x : XS) (o : Obs) : Prop := Free t (stepViols cfg x o)

def finalSt (cfg : Cfg) (x : XS) (os : List Obs) : XS :=
  os.foldl (fun x o => nextState cfg x o.act) x

/-- the state after the first `k` actions of `os` (i.e. *before* action number `k`) -/
def stateAt (cfg : Cfg) (x : XS) (os : List Obs) (k : Nat) : XS := finalSt cfg x (os.take k)

def statesFrom (cfg : Cfg) (x : XS) : List Obs → List XS
  | [] => [x]
  | o :: os => x :: statesFrom cfg (nextState cfg x o.act) os

abbrev stAt (cfg : Cfg) (os : List Obs) (k : Nat) : XS := stateAt cfg (XS.init cfg) os k

theorem runFrom_fst_eq (cfg : Cfg) (os : List Obs) : ∀ (i : Nat) (x : XS),
    (runFrom cfg i x os).1 = finalSt cfg x os := by
  induction os with
  | nil => intro i x; rfl
  | cons o os ih => intro i x; simp only [runFrom, step, finalSt, List.foldl_cons]; exact ih _ _

theorem run_fst_eq (cfg : Cfg) (os : List Obs) : (run cfg os).1 = finalSt cfg (XS.init cfg) os :=
  runFrom_fst_eq cfg os 0 _

theorem runFrom_snd_cons (cfg : Cfg) (i : Nat) (x : XS) (o : Obs) (os : List Obs) :
    (runFrom cfg i x (o :: os)).2 =
      (stepViols cfg x o).map (fun v => (i, v)) ++ (runFrom cfg (i+1) (nextState cfg x o.act) os).2 := by
  simp only [runFrom, step]

/-- Backward induction along a run without violation that ends finished: what holds of every finished
state with nothing left to do, and is carried from the state after an accepted step to the state
before it, holds of the start. -/
theorem runFrom_induction {cfg : Cfg} {motive : XS → List Obs → Prop}
    (nil : ∀ x, finished cfg x = true → motive x [])
    (cons : ∀ x o os, stepViols cfg x o = [] → motive (nextState cfg x o.act) os → motive x (o :: os)) :
    ∀ (os : List Obs) (i : Nat) (x : XS), (runFrom cfg i x os).2 = [] →
      finished cfg (runFrom cfg i x os).1 = true → motive x os := by
  intro os
  induction os with
  | nil => intro i x _ hfin; exact nil x hfin
  | cons o os ih =>
    intro i x hclean hfin
    rw [runFrom_snd_cons, List.append_eq_nil_iff, List.map_eq_nil_iff] at hclean
    refine cons x o os hclean.1 (ih (i + 1) _ hclean.2 ?_)
    rw [runFrom_fst_eq] at hfin ⊢
    exact hfin

@[simp] theorem stateAt_zero (cfg : Cfg) (x : XS) (os : List Obs) : stateAt cfg x os 0 = x := rfl

@[simp] theorem stateAt_nil (cfg : Cfg) (x : XS) (k : Nat) : stateAt cfg x [] k = x := by
  simp [stateAt, finalSt]

@[simp] theorem stateAt_cons_succ (cfg : Cfg) (x : XS) (o : Obs) (os : List Obs) (k : Nat) :
    stateAt cfg x (o :: os) (k+1) = stateAt cfg (nextState cfg x o.act) os k := by
  simp [stateAt, finalSt]

theorem stateAt_succ (cfg : Cfg) {os : List Obs} : ∀ {x : XS} {k : Nat} {o : Obs}, os[k]? = some o →
    stateAt cfg x os (k+1) = nextState cfg (stateAt cfg x os k) o.act := by
  induction os with
  | nil => intro x k o h; simp at h
  | cons a os ih =>
    intro x k o h
    cases k with
    | zero =>
      simp only [List.getElem?_cons_zero, Option.some.injEq] at h
      subst h; simp
    | succ k =>
      rw [List.getElem?_cons_succ] at h
      rw [stateAt_cons_succ, stateAt_cons_succ]; exact ih h

theorem stateAt_of_le (cfg : Cfg) (x : XS) {os : List Obs} {k : Nat} (h : os.length ≤ k) :
    stateAt cfg x os k = finalSt cfg x os := by
  rw [stateAt, List.take_of_length_le h]

theorem stateAt_length (cfg : Cfg) (x : XS) (os : List Obs) :
    stateAt cfg x os os.length = finalSt cfg x os := stateAt_of_le cfg x (Nat.le_refl _)

theorem stateAt_eq_run (cfg : Cfg) (os : List Obs) (k : Nat) :
    stAt cfg os k = (run cfg (os.take k)).1 := (run_fst_eq cfg _).symm

theorem statesFrom_length (cfg : Cfg) (os : List Obs) : ∀ x, (statesFrom cfg x os).length = os.length + 1 := by
  induction os with
  | nil => intro x; rfl
  | cons o os ih => intro x; simp [statesFrom, ih]

theorem statesFrom_getElem? (cfg : Cfg) {os : List Obs} : ∀ {x : XS} {k : Nat}, k ≤ os.length →
    (statesFrom cfg x os)[k]? = some (stateAt cfg x os k) := by
  induction os with
  | nil => intro x k h; simp at h; subst h; simp [statesFrom]
  | cons o os ih =>
    intro x k h
    cases k with
    | zero => simp [statesFrom]
    | succ k =>
      simp only [statesFrom, List.getElem?_cons_succ, stateAt_cons_succ]
      exact ih (by simpa using h)

theorem mem_statesFrom (cfg : Cfg) {os : List Obs} {x y : XS} :
    y ∈ statesFrom cfg x os ↔ ∃ p, p <+: os ∧ y = finalSt cfg x p := by
  constructor
  · intro h
    obtain ⟨k, hk⟩ := List.getElem?_of_mem h
    have hk' : k ≤ os.length := by
      have := (List.getElem?_eq_some_iff.mp hk).1
      rw [statesFrom_length] at this; omega
    rw [statesFrom_getElem? cfg hk'] at hk
    exact ⟨os.take k, List.take_prefix _ _, (Option.some.inj hk).symm⟩
  · rintro ⟨p, hp, rfl⟩
    have hk : p.length ≤ os.length := hp.length_le
    have : os.take p.length = p := (List.prefix_iff_eq_take.mp hp).symm
    have h2 := statesFrom_getElem? cfg (x := x) hk
    rw [stateAt, this] at h2
    exact List.mem_of_getElem? h2

/-- **Lifting lemma.**  The violations of a run are exactly the violations of its steps, each
step taken in the state reached by the prefix before it, indexed by position. -/
theorem mem_runFrom (cfg : Cfg) {os : List Obs} : ∀ {j : Nat} {x : XS} {i : Nat} {v : Viol},
    (i, v) ∈ (runFrom cfg j x os).2 ↔
      ∃ k o, os[k]? = some o ∧ v ∈ stepViols cfg (stateAt cfg x os k) o ∧ i = j + k := by
  induction os with
  | nil => intro j x i v; simp [runFrom]
  | cons a os ih =>
    intro j x i v
    rw [runFrom_snd_cons, List.mem_append, ih]
    constructor
    · rintro (h | ⟨k, o, hk, hv, rfl⟩)
      · obtain ⟨w, hw, he⟩ := List.mem_map.mp h
        simp only [Prod.mk.injEq] at he
        obtain ⟨rfl, rfl⟩ := he
        exact ⟨0, a, by simp, by simpa using hw, by simp⟩
      · exact ⟨k+1, o, by simpa using hk, by simpa using hv, by omega⟩
    · rintro ⟨k, o, hk, hv, rfl⟩
      cases k with
      | zero =>
        simp only [List.getElem?_cons_zero, Option.some.injEq] at hk
        subst hk
        left; exact List.mem_map.mpr ⟨v, by simpa using hv, rfl⟩
      | succ k =>
        right
        exact ⟨k, o, by simpa using hk, by simpa using hv, by omega⟩

theorem run_all_iff (cfg : Cfg) (Q : Viol → Prop) (j : Nat) (x : XS) (os : List Obs) :
    (∀ iv ∈ (runFrom cfg j x os).2, Q iv.2) ↔
      ∀ k o, os[k]? = some o → ∀ v ∈ stepViols cfg (stateAt cfg x os k) o, Q v := by
  constructor
  · intro h k o hk v hv
    exact h (j + k, v) (mem_runFrom cfg |>.mpr ⟨k, o, hk, hv, rfl⟩)
  · rintro h ⟨i, v⟩ hiv
    obtain ⟨k, o, hk, hv, -⟩ := (mem_runFrom cfg).mp hiv
    exact h k o hk v hv

theorem noTag_step {cfg : Cfg} {t : Tag} {os : List Obs} (h : NoTag t (run cfg os).2)
    {k : Nat} {o : Obs} (hk : os[k]? = some o) : StepNo t cfg (stAt cfg os k) o :=
  (run_all_iff cfg (fun v => v.tag ≠ t) 0 _ os).mp h k o hk

theorem noTag_of_steps {cfg : Cfg} {t : Tag} {os : List Obs}
    (h : ∀ k o, os[k]? = some o → StepNo t cfg (stAt cfg os k) o) : NoTag t (run cfg os).2 :=
  (run_all_iff cfg (fun v => v.tag ≠ t) 0 _ os).mpr h

/-- **Invariant principle.**  A predicate that holds initially and is preserved by every step that
records only violations in `Q` holds after every prefix of a run whose violations are all in `Q`. -/
theorem inv_of_run {cfg : Cfg} (I : XS → Prop) (Q : Viol → Prop) {x : XS} {os : List Obs} {j : Nat}
    (h0 : I x)
    (hstep : ∀ y o, I y → (∀ v ∈ stepViols cfg y o, Q v) → I (nextState cfg y o.act))
    (hQ : ∀ iv ∈ (runFrom cfg j x os).2, Q iv.2) : ∀ k, I (stateAt cfg x os k) := by
  have hs := (run_all_iff cfg Q j x os).mp hQ
  intro k
  induction k with
  | zero => simpa using h0
  | succ k ih =>
    rcases ho : os[k]? with _ | o
    · have hle : os.length ≤ k := by simpa using ho
      rw [stateAt_of_le cfg x (Nat.le_succ_of_le hle), ← stateAt_of_le cfg x hle]; exact ih
    · rw [stateAt_succ cfg ho]; exact hstep _ _ ih (hs k o ho)

theorem prefix_state {cfg : Cfg} {os p : List Obs} (hp : p <+: os) :
    (run cfg p).1 = stAt cfg os p.length := by
  rw [run_fst_eq, stAt, stateAt, ← List.prefix_iff_eq_take.mp hp]

theorem inv_of_noTag {cfg : Cfg} {t : Tag} (I : XS → Prop) {os : List Obs}
    (h0 : I (XS.init cfg))
    (hstep : ∀ y o, I y → StepNo t cfg y o → I (nextState cfg y o.act))
    (h : NoTag t (run cfg os).2) : ∀ k, I (stAt cfg os k) :=
  inv_of_run I (fun v => v.tag ≠ t) h0 hstep h

theorem inv_of_noTag₂ {cfg : Cfg} {t t' : Tag} (I : XS → Prop) {os : List Obs}
    (h0 : I (XS.init cfg))
    (hstep : ∀ y o, I y → StepNo t cfg y o → StepNo t' cfg y o → I (nextState cfg y o.act))
    (h : NoTag t (run cfg os).2) (h' : NoTag t' (run cfg os).2) : ∀ k, I (stAt cfg os k) :=
  inv_of_run I (fun v => v.tag ≠ t ∧ v.tag ≠ t') h0
    (fun y o hy hv => hstep y o hy (fun v m => (hv v m).1) (fun v m => (hv v m).2))
    (fun iv m => ⟨h iv m, h' iv m⟩)

theorem free_append {t : Tag} {a b : List Viol} : Free t (a ++ b) ↔ Free t a ∧ Free t b :=
  List.forall_mem_append

theorem free_chk {c : Bool} {t' t : Tag} {n : Nat} : Free t (chk c t' n) ↔ (t' = t → c = true) := by
  cases c <;> simp [chk, Free]

theorem free_nil {t : Tag} : Free t [] ↔ True := by simp [Free]

theorem free_single {t : Tag} {v : Viol} : Free t [v] ↔ v.tag ≠ t := by simp [Free]

theorem free_ite {t : Tag} {c : Prop} [Decidable c] {l l' : List Viol} :
    Free t (if c then l else l') ↔ (c → Free t l) ∧ (¬ c → Free t l') := by
  by_cases h : c <;> simp [h]

theorem StepNo.act {t : Tag} {cfg : Cfg} {x : XS} {o : Obs} (h : StepNo t cfg x o) :
    Free t (actViols cfg x o.act) := by
  unfold StepNo stepViols at h
  exact (free_append.mp (free_append.mp h).1).2

/-! ## What each kind of action is checked for

One lemma per kind of action: its violation list is free of tag `t` iff every check that carries
the tag passes (in the order of `actViols`).  The tag-specific lemmas below are projections. -/

theorem free_forward {t : Tag} {cfg : Cfg} {x : XS} {n0 n1 : Nat} {wi wa : Bool} {st : Storage} :
    Free t (actViols cfg x (.forward n0 n1 wi wa st)) ↔
      (Tag.C18 = t → n0 < n1) ∧
      (Tag.C18 = t → (st.isStore = false ∨ wi = true) ∨ wa = true) ∧
      (Tag.C18 = t → ¬ st = Storage.none ∨ wi = false ∧ wa = false) ∧
      (Tag.C01 = t → x.fwd = some n0) ∧
      (Tag.C12 = t → x.fin = false ∨ n1 ≤ cfg.N - x.r) ∧
      (st.isStore = true →
        (Tag.C03 = t → wi = false ∨ wa = false) ∧
        (Tag.C03 = t → wa = false ∨ clip cfg x n1 = n0 + 1) ∧
        (Tag.C01 = t → findCp x.cps n0 st = none) ∧
        (Tag.C03 = t → withinBudget cfg (⟨n0, st, 0, 0⟩ :: x.cps) = true)) ∧
      (st = Storage.work → Tag.C12 = t →
        (wa = false ∨ cfg.keepsAllDeps = true) ∨
          clip cfg x n1 = n0 + 1 ∧ clip cfg x n1 = cfg.N - x.r) := by
  simp [actViols, free_append, free_chk, free_ite, free_nil]

theorem free_reverse {t : Tag} {cfg : Cfg} {x : XS} {n1 n0 : Nat} {cl : Bool} :
    Free t (actViols cfg x (.reverse n1 n0 cl)) ↔
      (Tag.C18 = t → n0 < n1) ∧ (Tag.C02 = t → x.ended = true) ∧
      (Tag.C02 = t → n1 = cfg.N - x.r) ∧ (Tag.C01 = t → covers x.wDeps n0 n1 = true) := by
  simp [actViols, free_append, free_chk]

/-- `Copy` and `Move` are checked alike (`actViols` of either is `actViols.loadViols`); a load that
finds no checkpoint is a C01 violation -/
theorem free_load_none {t : Tag} {cfg : Cfg} {x : XS} {n : Nat} {src dst : Storage}
    (hf : findCp x.cps n src = none) :
    Free t (actViols.loadViols cfg x n src dst) ↔
      (Tag.C18 = t → src.isStore = true) ∧ (Tag.C02 = t → x.ended = true) ∧ ¬ Tag.C01 = t := by
  simp [actViols.loadViols, hf, free_append, free_chk, free_single]

theorem free_load_some {t : Tag} {cfg : Cfg} {x : XS} {n : Nat} {src dst : Storage} {c : Cp}
    (hf : findCp x.cps n src = some c) :
    Free t (actViols.loadViols cfg x n src dst) ↔
      (Tag.C18 = t → src.isStore = true) ∧
      (Tag.C02 = t → x.ended = true) ∧
      (Tag.C01 = t → 0 < c.ics ∨ 0 < c.deps) ∧
      (Tag.C01 = t → n < cfg.N - x.r) ∧
      ((0 < c.ics → Tag.C01 = t → cfg.N ≤ n + c.ics + x.r) ∧
        (c.ics = 0 → Tag.C12 = t → n + 1 = cfg.N - x.r)) ∧
      (dst = Storage.work → Tag.C12 = t → x.wIcs = none ∧ x.wDeps = none) ∧
      (dst.isStore = true →
        (Tag.C01 = t → findCp x.cps n dst = none) ∧
        (Tag.C03 = t → withinBudget cfg ({ c with st := dst } :: x.cps) = true)) := by
  simp [actViols.loadViols, hf, free_append, free_chk, free_ite, free_nil]

theorem free_load_ended {cfg : Cfg} {x : XS} {n : Nat} {src dst : Storage}
    (h : Free .C02 (actViols.loadViols cfg x n src dst)) : x.ended = true := by
  rcases hf : findCp x.cps n src with _ | c
  · exact ((free_load_none hf).mp h).2.1 rfl
  · exact ((free_load_some hf).mp h).2.1 rfl

theorem free_endForward {t : Tag} {cfg : Cfg} {x : XS} :
    Free t (actViols cfg x .endForward) ↔
      (Tag.C02 = t → x.ended = false) ∧ (Tag.C02 = t → x.fwd = some cfg.N) ∧
      (Tag.C02 = t → x.r = 0) := by
  simp [actViols, free_append, free_chk]

theorem free_endReverse {t : Tag} {cfg : Cfg} {x : XS} :
    Free t (actViols cfg x .endReverse) ↔
      (Tag.C02 = t → x.ended = true) ∧ (Tag.C02 = t → x.r = cfg.N) ∧
      (Tag.C04 = t →
        (cfg.passes = none → sameCps x.cps x.snap = true) ∧
        (∀ m, cfg.passes = some m → x.cps = [])) := by
  rcases hp : cfg.passes with _ | m <;> simp [actViols, hp, free_append, free_chk]

theorem nextState_load_frame (cfg : Cfg) (x : XS) (n : Nat) (src dst : Storage) {a : Action}
    (ha : a = .copy n src dst ∨ a = .move n src dst) :
    (nextState cfg x a).ended = x.ended ∧ (nextState cfg x a).r = x.r ∧
    (nextState cfg x a).done = x.done ∧ (nextState cfg x a).snap = x.snap := by
  rcases ha with rfl | rfl <;>
  · simp only [nextState]
    rcases findCp x.cps n src with _ | c
    · exact ⟨rfl, rfl, rfl, rfl⟩
    · by_cases hd : dst = .work <;> simp [hd]

theorem nextState_cps_forward (cfg : Cfg) (x : XS) (n0 n1 : Nat) (wi wa : Bool) (st : Storage) :
    (nextState cfg x (.forward n0 n1 wi wa st)).cps =
      if st.isStore then
        { n := n0, st := st, ics := if wi then clip cfg x n1 - n0 else 0,
          deps := if wa then clip cfg x n1 - n0 else 0 } :: x.cps
      else x.cps := rfl

theorem nextState_cps_copy (cfg : Cfg) (x : XS) (n : Nat) (src dst : Storage) :
    (nextState cfg x (.copy n src dst)).cps =
      match findCp x.cps n src with
      | none => x.cps
      | some c => if dst.isStore then { c with st := dst } :: x.cps else x.cps := by
  simp only [nextState]
  rcases findCp x.cps n src with _ | c
  · rfl
  · by_cases hd : dst = .work <;> simp [hd]

theorem nextState_cps_move (cfg : Cfg) (x : XS) (n : Nat) (src dst : Storage) :
    (nextState cfg x (.move n src dst)).cps =
      match findCp x.cps n src with
      | none => x.cps
      | some c => if dst.isStore then { c with st := dst } :: eraseCp x.cps n src
                  else eraseCp x.cps n src := by
  simp only [nextState]
  rcases findCp x.cps n src with _ | c
  · rfl
  · by_cases hd : dst = .work <;> simp [hd]

/-- a stored checkpoint does not hold both kinds of data, and adjoint dependencies of at most one
step (an empty checkpoint passes: only C18.2 rules that out) -/
def CpWf (c : Cp) : Prop := ¬ (c.ics > 0 ∧ c.deps > 0) ∧ c.deps ≤ 1

theorem withinOpt_iff {b : Option Nat} {k : Nat} : withinOpt b k = true ↔ ∀ m, b = some m → k ≤ m := by
  cases b <;> simp [withinOpt]

theorem withinBudget_iff {cfg : Cfg} {cps : List Cp} : withinBudget cfg cps = true ↔
    (∀ m, cfg.ram = some m → countSt cps .ram ≤ m) ∧ (∀ m, cfg.disk = some m → countSt cps .disk ≤ m) := by
  simp [withinBudget, withinOpt_iff]

theorem withinBudget_mono {cfg : Cfg} {a b : List Cp} (h : ∀ s, countSt a s ≤ countSt b s)
    (hb : withinBudget cfg b = true) : withinBudget cfg a = true := by
  rw [withinBudget_iff] at hb ⊢
  exact ⟨fun m hm => le_trans (h _) (hb.1 m hm), fun m hm => le_trans (h _) (hb.2 m hm)⟩

theorem countSt_eraseCp_le (cps : List Cp) (n : Nat) (s s' : Storage) :
    countSt (eraseCp cps n s) s' ≤ countSt cps s' := by
  unfold countSt eraseCp
  rw [List.filter_comm]  
  exact List.length_filter_le _ _

theorem withinBudget_nil (cfg : Cfg) : withinBudget cfg [] = true := by
  rw [withinBudget_iff]; simp [countSt]

theorem mem_eraseCp {cps : List Cp} {n : Nat} {s : Storage} {c : Cp} (h : c ∈ eraseCp cps n s) : c ∈ cps :=
  (List.mem_filter.mp h).1

theorem step_C03 {cfg : Cfg} {x : XS} {o : Obs} (h : StepNo .C03 cfg x o)
    (hI : withinBudget cfg x.cps = true ∧ ∀ c ∈ x.cps, CpWf c) :
    withinBudget cfg (nextState cfg x o.act).cps = true ∧ ∀ c ∈ (nextState cfg x o.act).cps, CpWf c := by
  have ha := h.act
  obtain ⟨hb, hw⟩ := hI
  rcases hact : o.act with ⟨n0, n1, wi, wa, st⟩ | ⟨n1, n0, cl⟩ | ⟨n, src, dst⟩ | ⟨n, src, dst⟩ | _ | _
  · rw [hact] at ha
    rw [nextState_cps_forward]
    by_cases hs : st.isStore = true
    · obtain ⟨h1, h2, -, h3⟩ := (free_forward.mp ha).2.2.2.2.2.1 hs
      replace h1 := h1 rfl
      replace h2 := h2 rfl
      replace h3 := h3 rfl
      simp only [hs, if_true]
      refine ⟨withinBudget_mono (fun s => ?_) h3, ?_⟩
      · simp [countSt_cons]
      · intro c hc
        rcases List.mem_cons.mp hc with rfl | hc
        · unfold CpWf
          have hd : (if wa = true then clip cfg x n1 - n0 else 0) ≤ 1 := by
            rcases h2 with rfl | h2
            · simp
            · split <;> omega
          rcases h1 with rfl | rfl
          · simpa using hd
          · simp
        · exact hw c hc
    · simp only [hs]; exact ⟨hb, hw⟩
  · exact ⟨hb, hw⟩
  · rw [hact] at ha
    rw [nextState_cps_copy]
    rcases hf : findCp x.cps n src with _ | c
    · exact ⟨hb, hw⟩
    · have hc : c ∈ x.cps := List.mem_of_find?_eq_some hf
      by_cases hs : dst.isStore = true
      · replace ha := (((free_load_some hf).mp ha).2.2.2.2.2.2 hs).2 rfl
        simp only [hs, if_true]
        refine ⟨ha, ?_⟩
        intro c' hc'
        rcases List.mem_cons.mp hc' with rfl | hc'
        · exact hw c hc
        · exact hw c' hc'
      · simp only [hs]; exact ⟨hb, hw⟩
  · rw [hact] at ha
    rw [nextState_cps_move]
    rcases hf : findCp x.cps n src with _ | c
    · exact ⟨hb, hw⟩
    · have hc : c ∈ x.cps := List.mem_of_find?_eq_some hf
      by_cases hs : dst.isStore = true
      · replace ha := (((free_load_some hf).mp ha).2.2.2.2.2.2 hs).2 rfl
        simp only [hs, if_true]
        refine ⟨withinBudget_mono (fun s => ?_) ha, ?_⟩
        · rw [countSt_cons, countSt_cons]
          have := countSt_eraseCp_le x.cps n src s
          omega
        · intro c' hc'
          rcases List.mem_cons.mp hc' with rfl | hc'
          · exact hw c hc
          · exact hw c' (mem_eraseCp hc')
      · simp only [hs]
        exact ⟨withinBudget_mono (fun s => countSt_eraseCp_le _ _ _ _) hb, fun c' hc' => hw c' (mem_eraseCp hc')⟩
  · exact ⟨hb, hw⟩
  · exact ⟨hb, hw⟩

/-- **M1 (C03).**  If the run records no C03 violation then after every prefix the stored
checkpoints are within the budgets, and no stored checkpoint holds both restart data and adjoint
dependencies, nor the dependencies of more than one step (`CpWf`).  (No hypothesis besides `NoTag .C03` is
needed: Copy/Move re-label an existing checkpoint and so preserve the second part.) -/
theorem M1_C03 {cfg : Cfg} {os : List Obs} (h : NoTag .C03 (run cfg os).2) (k : Nat) :
    withinBudget cfg (stAt cfg os k).cps = true ∧ ∀ c ∈ (stAt cfg os k).cps, CpWf c :=
  inv_of_noTag (fun x => withinBudget cfg x.cps = true ∧ ∀ c ∈ x.cps, CpWf c)
    ⟨withinBudget_nil cfg, by simp [XS.init]⟩ (fun _ _ hI hs => step_C03 hs hI) h k

/-- M1 in the prefix formulation, with the budgets spelt out -/
theorem M1_C03_prefix {cfg : Cfg} {os : List Obs} (h : NoTag .C03 (run cfg os).2)
    {p : List Obs} (hp : p <+: os) :
    let x := (run cfg p).1
    (∀ m, cfg.ram = some m → countSt x.cps .ram ≤ m) ∧
    (∀ m, cfg.disk = some m → countSt x.cps .disk ≤ m) ∧
    ∀ c ∈ x.cps, ¬ (c.ics > 0 ∧ c.deps > 0) ∧ c.deps ≤ 1 := by
  intro x
  have := M1_C03 h p.length
  rw [← prefix_state hp] at this
  exact ⟨(withinBudget_iff.mp this.1).1, (withinBudget_iff.mp this.1).2, this.2⟩

theorem sameCps_iff {a b : List Cp} :
    sameCps a b = true ↔ a.length = b.length ∧ ∀ c, c ∈ a ↔ c ∈ b := by
  simp only [sameCps, Bool.and_eq_true, beq_iff_eq, List.all_eq_true, List.contains_iff_mem]
  constructor
  · rintro ⟨⟨h1, h2⟩, h3⟩; exact ⟨h1, fun c => ⟨h2 c, h3 c⟩⟩
  · rintro ⟨h1, h2⟩; exact ⟨⟨h1, fun c => (h2 c).mp⟩, fun c => (h2 c).mpr⟩

theorem sameCps_mem {a b : List Cp} (h : sameCps a b = true) : ∀ c, c ∈ a ↔ c ∈ b :=
  (sameCps_iff.mp h).2

/-- on a duplicate-free list (which is what the executor keeps when no C01 violation occurs, see
`M4_keys_nodup`) `sameCps` is equality up to order -/
theorem sameCps_perm {a b : List Cp} (ha : a.Nodup) (h : sameCps a b = true) : a.Perm b := by
  obtain ⟨hl, hm⟩ := sameCps_iff.mp h
  exact (List.subperm_of_subset ha (fun c hc => (hm c).mp hc)).perm_of_length_le (by omega)

theorem nextState_snap (cfg : Cfg) (x : XS) (a : Action) :
    (nextState cfg x a).snap = if a = .endForward then x.cps else x.snap := by
  rcases a with ⟨n0, n1, wi, wa, st⟩ | ⟨n1, n0, cl⟩ | ⟨n, src, dst⟩ | ⟨n, src, dst⟩ | _ | _
  · rfl
  · rfl
  · exact (nextState_load_frame cfg x n src dst (.inl rfl)).2.2.2
  · exact (nextState_load_frame cfg x n src dst (.inr rfl)).2.2.2
  · rfl
  · rfl

theorem stateAt_succ_of_none (cfg : Cfg) (x : XS) {os : List Obs} {k : Nat} (h : os[k]? = none) :
    stateAt cfg x os (k+1) = stateAt cfg x os k := by
  have hle : os.length ≤ k := by simpa using h
  rw [stateAt_of_le cfg x (Nat.le_succ_of_le hle), stateAt_of_le cfg x hle]

/-- `snap` is the storage at the last `EndForward`: if action `j` is an `EndForward` and no
`EndForward` occurs at positions `j < i < k`, then in the state before action `k` the field `snap`
is the stored-checkpoint list of the state in which that `EndForward` was issued. -/
theorem snap_eq_cps_at_endForward (cfg : Cfg) (x : XS) (os : List Obs) {j k : Nat} {o : Obs}
    (hj : os[j]? = some o) (ho : o.act = .endForward) (hjk : j < k)
    (hno : ∀ i o', j < i → i < k → os[i]? = some o' → o'.act ≠ .endForward) :
    (stateAt cfg x os k).snap = (stateAt cfg x os j).cps := by
  obtain ⟨d, rfl⟩ : ∃ d, k = j + 1 + d := ⟨k - (j + 1), by omega⟩
  clear hjk
  induction d with
  | zero => rw [Nat.add_zero, stateAt_succ cfg hj, nextState_snap, ho]; simp
  | succ d ih =>
    have ih' := ih (fun i o' h1 h2 => hno i o' h1 (by omega))
    rw [← Nat.add_assoc]
    rcases hk : os[j + 1 + d]? with _ | o'
    · rw [stateAt_succ_of_none cfg x hk]; exact ih'
    · rw [stateAt_succ cfg hk, nextState_snap, if_neg (hno _ o' (by omega) (by omega) hk)]; exact ih'

theorem snap_eq_nil (cfg : Cfg) (os : List Obs) {k : Nat}
    (hno : ∀ i o', i < k → os[i]? = some o' → o'.act ≠ .endForward) : (stAt cfg os k).snap = [] := by
  induction k with
  | zero => rfl
  | succ k ih =>
    have ih' := ih (fun i o' h1 => hno i o' (by omega))
    rcases hk : os[k]? with _ | o'
    · rw [stAt, stateAt_succ_of_none cfg _ hk]; exact ih'
    · rw [stAt, stateAt_succ cfg hk, nextState_snap, if_neg (hno _ o' (by omega) hk)]; exact ih'

theorem step_C04 {cfg : Cfg} {x : XS} {o : Obs} (h : StepNo .C04 cfg x o) (ho : o.act = .endReverse) :
    (∀ m, cfg.passes = some m → x.cps = []) ∧ (cfg.passes = none → sameCps x.cps x.snap = true) := by
  have ha := h.act
  rw [ho] at ha
  exact ((free_endReverse.mp ha).2.2 rfl).symm

/-- **M2 (C04).**  If the run records no C04 violation then at every `EndReverse` the state before
it has empty storage (schedules with a bounded number of adjoint calculations) or the same storage
as at `EndForward` (repeatable schedules). -/
theorem M2_C04 {cfg : Cfg} {os : List Obs} (h : NoTag .C04 (run cfg os).2) {i : Nat} {o : Obs}
    (hi : os[i]? = some o) (ho : o.act = .endReverse) :
    (∀ m, cfg.passes = some m → (stAt cfg os i).cps = []) ∧
    (cfg.passes = none → sameCps (stAt cfg os i).cps (stAt cfg os i).snap = true) :=
  step_C04 (noTag_step h hi) ho

/-- M2 for repeatable schedules, with `snap` resolved: the storage before an `EndReverse` has the
same length and the same members as the storage at the last `EndForward` before it. -/
theorem M2_C04_restored {cfg : Cfg} {os : List Obs} (h : NoTag .C04 (run cfg os).2)
    (hp : cfg.passes = none) {i j : Nat} {o o' : Obs}
    (hi : os[i]? = some o) (ho : o.act = .endReverse)
    (hj : os[j]? = some o') (ho' : o'.act = .endForward) (hji : j < i)
    (hno : ∀ l o'', j < l → l < i → os[l]? = some o'' → o''.act ≠ .endForward) :
    (stAt cfg os i).cps.length = (stAt cfg os j).cps.length ∧
    ∀ c, c ∈ (stAt cfg os i).cps ↔ c ∈ (stAt cfg os j).cps := by
  have h1 := (M2_C04 h hi ho).2 hp
  rw [snap_eq_cps_at_endForward cfg _ os hj ho' hji hno] at h1
  exact sameCps_iff.mp h1

theorem findCp_eq_none_iff {cps : List Cp} {n : Nat} {s : Storage} :
    findCp cps n s = none ↔ ∀ c ∈ cps, ¬ (c.n = n ∧ c.st = s) := by
  simp [findCp, List.find?_eq_none]

theorem findCp_some {cps : List Cp} {n : Nat} {s : Storage} {c : Cp} (h : findCp cps n s = some c) :
    c ∈ cps ∧ c.n = n ∧ c.st = s := by
  have h1 := List.mem_of_find?_eq_some h
  have h2 := List.find?_some h
  simp at h2
  exact ⟨h1, h2⟩

theorem covers_iff {w : Option (Nat × Nat)} {lo hi : Nat} :
    covers w lo hi = true ↔ ∃ a b, w = some (a, b) ∧ a ≤ lo ∧ hi ≤ b := by
  rcases w with _ | ⟨a, b⟩ <;> simp [covers]

/-- a `Forward` without C01 violation starts where the forward state in WORK stands, and does not
overwrite a stored checkpoint -/
theorem step_C01_forward {cfg : Cfg} {x : XS} {o : Obs} {n0 n1 : Nat} {wi wa : Bool} {st : Storage}
    (h : StepNo .C01 cfg x o) (ho : o.act = .forward n0 n1 wi wa st) :
    x.fwd = some n0 ∧ (st.isStore = true → ∀ c ∈ x.cps, ¬ (c.n = n0 ∧ c.st = st)) := by
  have ha := h.act
  rw [ho] at ha
  obtain ⟨-, -, -, h1, -, h2, -⟩ := free_forward.mp ha
  exact ⟨h1 rfl, fun hs => findCp_eq_none_iff.mp ((h2 hs).2.2.1 rfl)⟩

/-- a `Copy`/`Move` without C01 violation finds a non-empty checkpoint with that key in the source
storage, lying before the adjoint; restart data covers the steps still to be recomputed; nothing
is overwritten in the destination -/
theorem step_C01_load {cfg : Cfg} {x : XS} {o : Obs} {n : Nat} {src dst : Storage}
    (h : StepNo .C01 cfg x o) (ho : o.act = .copy n src dst ∨ o.act = .move n src dst) :
    ∃ c, findCp x.cps n src = some c ∧ c ∈ x.cps ∧ c.n = n ∧ c.st = src ∧
      (c.ics > 0 ∨ c.deps > 0) ∧ n < cfg.N - x.r ∧ (c.ics > 0 → cfg.N - x.r ≤ n + c.ics) ∧
      (dst.isStore = true → ∀ c' ∈ x.cps, ¬ (c'.n = n ∧ c'.st = dst)) := by
  have ha := h.act
  have ha' : Free .C01 (actViols.loadViols cfg x n src dst) := by
    rcases ho with ho | ho <;> (rw [ho] at ha; exact ha)
  rcases hf : findCp x.cps n src with _ | c
  · exact absurd rfl ((free_load_none hf).mp ha').2.2
  · obtain ⟨-, -, h1, h2, ⟨h3, -⟩, -, h4⟩ := (free_load_some hf).mp ha'
    obtain ⟨m1, m2, m3⟩ := findCp_some hf
    exact ⟨c, rfl, m1, m2, m3, h1 rfl, h2 rfl, fun hc => by have := h3 hc rfl; omega,
      fun hs => findCp_eq_none_iff.mp ((h4 hs).1 rfl)⟩

/-- a `Reverse` without C01 violation finds the adjoint dependencies of all its steps in WORK -/
theorem step_C01_reverse {cfg : Cfg} {x : XS} {o : Obs} {n1 n0 : Nat} {cl : Bool}
    (h : StepNo .C01 cfg x o) (ho : o.act = .reverse n1 n0 cl) :
    covers x.wDeps n0 n1 = true ∧ ∃ a b, x.wDeps = some (a, b) ∧ a ≤ n0 ∧ n1 ≤ b := by
  have ha := h.act
  rw [ho] at ha
  have hc := (free_reverse.mp ha).2.2.2 rfl
  exact ⟨hc, covers_iff.mp hc⟩

/-- **M4 (C01)**, lifted to every position of a run. -/
theorem M4_C01_forward {cfg : Cfg} {os : List Obs} (h : NoTag .C01 (run cfg os).2) {i : Nat} {o : Obs}
    {n0 n1 : Nat} {wi wa : Bool} {st : Storage} (hi : os[i]? = some o)
    (ho : o.act = .forward n0 n1 wi wa st) :
    (stAt cfg os i).fwd = some n0 ∧
    (st.isStore = true → ∀ c ∈ (stAt cfg os i).cps, ¬ (c.n = n0 ∧ c.st = st)) :=
  step_C01_forward (noTag_step h hi) ho

theorem M4_C01_load {cfg : Cfg} {os : List Obs} (h : NoTag .C01 (run cfg os).2) {i : Nat} {o : Obs}
    {n : Nat} {src dst : Storage} (hi : os[i]? = some o)
    (ho : o.act = .copy n src dst ∨ o.act = .move n src dst) :
    ∃ c, findCp (stAt cfg os i).cps n src = some c ∧ c ∈ (stAt cfg os i).cps ∧ c.n = n ∧ c.st = src ∧
      (c.ics > 0 ∨ c.deps > 0) ∧ n < cfg.N - (stAt cfg os i).r ∧
      (c.ics > 0 → cfg.N - (stAt cfg os i).r ≤ n + c.ics) ∧
      (dst.isStore = true → ∀ c' ∈ (stAt cfg os i).cps, ¬ (c'.n = n ∧ c'.st = dst)) :=
  step_C01_load (noTag_step h hi) ho

theorem M4_C01_reverse {cfg : Cfg} {os : List Obs} (h : NoTag .C01 (run cfg os).2) {i : Nat} {o : Obs}
    {n1 n0 : Nat} {cl : Bool} (hi : os[i]? = some o) (ho : o.act = .reverse n1 n0 cl) :
    covers (stAt cfg os i).wDeps n0 n1 = true ∧
    ∃ a b, (stAt cfg os i).wDeps = some (a, b) ∧ a ≤ n0 ∧ n1 ≤ b :=
  step_C01_reverse (noTag_step h hi) ho

def keys (cps : List Cp) : List (Nat × Storage) := cps.map (fun c => (c.n, c.st))

theorem mem_keys {cps : List Cp} {n : Nat} {s : Storage} :
    (n, s) ∈ keys cps ↔ ∃ c ∈ cps, c.n = n ∧ c.st = s := by
  simp [keys]

theorem keys_findCp_none {cps : List Cp} {n : Nat} {s : Storage} (h : findCp cps n s = none) :
    (n, s) ∉ keys cps := fun hm => by
  obtain ⟨c, hc, hk⟩ := mem_keys.mp hm
  exact findCp_eq_none_iff.mp h c hc hk

theorem keys_eraseCp_sublist (cps : List Cp) (n : Nat) (s : Storage) :
    (keys (eraseCp cps n s)).Sublist (keys cps) :=
  List.Sublist.map _ List.filter_sublist

theorem step_keys_nodup {cfg : Cfg} {x : XS} {o : Obs} (h : StepNo .C01 cfg x o)
    (hI : (keys x.cps).Nodup) : (keys (nextState cfg x o.act).cps).Nodup := by
  rcases hact : o.act with ⟨n0, n1, wi, wa, st⟩ | ⟨n1, n0, cl⟩ | ⟨n, src, dst⟩ | ⟨n, src, dst⟩ | _ | _
  · rw [nextState_cps_forward]
    by_cases hs : st.isStore = true
    · simp only [hs, if_true, keys, List.map_cons]
      refine List.nodup_cons.mpr ⟨?_, hI⟩
      intro hm
      obtain ⟨c, hc, hk⟩ := mem_keys.mp hm
      exact (step_C01_forward h hact).2 hs c hc hk
    · simp only [hs]; exact hI
  · exact hI
  · obtain ⟨c, hf, -, hn, -, -, -, -, hd⟩ := step_C01_load h (Or.inl hact)
    rw [nextState_cps_copy, hf]
    by_cases hs : dst.isStore = true
    · simp only [hs, if_true, keys, List.map_cons]
      refine List.nodup_cons.mpr ⟨?_, hI⟩
      intro hm
      rw [hn] at hm
      obtain ⟨c', hc', hk⟩ := mem_keys.mp hm
      exact hd hs c' hc' hk
    · simp only [hs]; exact hI
  · obtain ⟨c, hf, -, hn, -, -, -, -, hd⟩ := step_C01_load h (Or.inr hact)
    rw [nextState_cps_move, hf]
    have hE := hI.sublist (keys_eraseCp_sublist x.cps n src)
    by_cases hs : dst.isStore = true
    · simp only [hs, if_true, keys, List.map_cons]
      refine List.nodup_cons.mpr ⟨?_, hE⟩
      intro hm
      rw [hn] at hm
      obtain ⟨c', hc', hk⟩ := mem_keys.mp hm
      exact hd hs c' (mem_eraseCp hc') hk
    · simp only [hs]; exact hE
  · exact hI
  · exact hI

/-- If the run records no C01 violation, then after every prefix no two stored checkpoints have the
same key in the same storage; in particular the checkpoint list is duplicate-free. -/
theorem M4_keys_nodup {cfg : Cfg} {os : List Obs} (h : NoTag .C01 (run cfg os).2) (k : Nat) :
    (keys (stAt cfg os k).cps).Nodup ∧ (stAt cfg os k).cps.Nodup := by
  have := inv_of_noTag (fun x => (keys x.cps).Nodup) (by simp [XS.init, keys])
    (fun _ _ hI hs => step_keys_nodup hs hI) h k
  exact ⟨this, List.Nodup.of_map _ this⟩

/-- with no C01 and no C04 violation, a repeatable schedule's storage before an `EndReverse` is,
up to order, the storage recorded at `EndForward` -/
theorem M2_C04_perm {cfg : Cfg} {os : List Obs} (h1 : NoTag .C01 (run cfg os).2)
    (h4 : NoTag .C04 (run cfg os).2) (hp : cfg.passes = none) {i : Nat} {o : Obs}
    (hi : os[i]? = some o) (ho : o.act = .endReverse) :
    (stAt cfg os i).cps.Perm (stAt cfg os i).snap :=
  sameCps_perm (M4_keys_nodup h1 i).2 ((M2_C04 h4 hi ho).2 hp)

/-- after `done` completed adjoint calculations another one is permitted -/
def permitsMore (cfg : Cfg) (done : Nat) : Bool :=
  match cfg.passes with | none => true | some k => decide (done < k)

theorem nextState_ended (cfg : Cfg) (x : XS) (a : Action) :
    (nextState cfg x a).ended = (x.ended || decide (a = .endForward)) := by
  rcases a with ⟨n0, n1, wi, wa, st⟩ | ⟨n1, n0, cl⟩ | ⟨n, src, dst⟩ | ⟨n, src, dst⟩ | _ | _
  · exact (Bool.or_false _).symm
  · exact (Bool.or_false _).symm
  · exact (nextState_load_frame cfg x n src dst (.inl rfl)).1.trans (Bool.or_false _).symm
  · exact (nextState_load_frame cfg x n src dst (.inr rfl)).1.trans (Bool.or_false _).symm
  · exact (Bool.or_true _).symm
  · exact (Bool.or_false _).symm

theorem nextState_r (cfg : Cfg) (x : XS) (a : Action) :
    (nextState cfg x a).r =
      match a with
      | .reverse n1 n0 _ => x.r + (n1 - n0)
      | .endReverse => if permitsMore cfg (x.done + 1) then 0 else x.r
      | _ => x.r := by
  rcases a with ⟨n0, n1, wi, wa, st⟩ | ⟨n1, n0, cl⟩ | ⟨n, src, dst⟩ | ⟨n, src, dst⟩ | _ | _
  · rfl
  · rfl
  · exact (nextState_load_frame cfg x n src dst (.inl rfl)).2.1
  · exact (nextState_load_frame cfg x n src dst (.inr rfl)).2.1
  · rfl
  · rfl

theorem nextState_done (cfg : Cfg) (x : XS) (a : Action) :
    (nextState cfg x a).done = if a = .endReverse then x.done + 1 else x.done := by
  rcases a with ⟨n0, n1, wi, wa, st⟩ | ⟨n1, n0, cl⟩ | ⟨n, src, dst⟩ | ⟨n, src, dst⟩ | _ | _
  · rfl
  · rfl
  · exact (nextState_load_frame cfg x n src dst (.inl rfl)).2.2.1
  · exact (nextState_load_frame cfg x n src dst (.inr rfl)).2.2.1
  · rfl
  · rfl

/-- (e) **no action is accepted after the end**: in a finished state every further action records
C02.9.  This is about the state alone; the reported `exhausted` flag of the observation plays no
part (it is checked against `finished` separately, C09.1). -/
theorem M3e_finished_flags {cfg : Cfg} {x : XS} (o : Obs) (hf : finished cfg x = true) :
    (⟨.C02, 9⟩ : Viol) ∈ stepViols cfg x o := by
  simp [stepViols, chk, hf]

theorem StepNo.not_finished {cfg : Cfg} {x : XS} {o : Obs} (h : StepNo .C02 cfg x o) :
    finished cfg x = false := by
  unfold StepNo stepViols at h
  have := (free_append.mp (free_append.mp h).1).1
  simpa [free_chk] using this

/-- (e), lifted: in a run without C02 violation no action is issued in a finished state -/
theorem M3e_C02 {cfg : Cfg} {os : List Obs} (h : NoTag .C02 (run cfg os).2) {i : Nat} {o : Obs}
    (hi : os[i]? = some o) : finished cfg (stAt cfg os i) = false :=
  (noTag_step h hi).not_finished

theorem ended_iff (cfg : Cfg) (os : List Obs) (k : Nat) :
    (stAt cfg os k).ended = true ↔ ∃ j o, j < k ∧ os[j]? = some o ∧ o.act = .endForward := by
  induction k with
  | zero => simp [XS.init]
  | succ k ih =>
    rcases hk : os[k]? with _ | o
    · rw [stAt, stateAt_succ_of_none cfg _ hk, ← stAt, ih]
      constructor
      · rintro ⟨j, o, h1, h2⟩; exact ⟨j, o, by omega, h2⟩
      · rintro ⟨j, o, h1, h2, h3⟩
        have : j ≠ k := by rintro rfl; rw [hk] at h2; cases h2
        exact ⟨j, o, by omega, h2, h3⟩
    · rw [stAt, stateAt_succ cfg hk, nextState_ended, Bool.or_eq_true, ← stAt, ih]
      constructor
      · rintro (⟨j, o', h1, h2⟩ | h)
        · exact ⟨j, o', by omega, h2⟩
        · exact ⟨k, o, by omega, hk, by simpa using h⟩
      · rintro ⟨j, o', h1, h2, h3⟩
        by_cases hjk : j = k
        · subst hjk; rw [hk] at h2; cases h2; right; simpa using h3
        · left; exact ⟨j, o', by omega, h2, h3⟩

theorem step_C02_forward_phase {cfg : Cfg} {x : XS} {o : Obs} (h : StepNo .C02 cfg x o)
    (he : x.ended = false) :
    o.act = .endForward ∨ ∃ n0 n1 wi wa st, o.act = .forward n0 n1 wi wa st := by
  have ha := h.act
  rcases hact : o.act with ⟨n0, n1, wi, wa, st⟩ | ⟨n1, n0, cl⟩ | ⟨n, src, dst⟩ | ⟨n, src, dst⟩ | _ | _
  · exact Or.inr ⟨_, _, _, _, _, rfl⟩
  · rw [hact] at ha; exact absurd ((free_reverse.mp ha).2.1 rfl) (by rw [he]; decide)
  · rw [hact] at ha; exact absurd (free_load_ended ha) (by rw [he]; decide)
  · rw [hact] at ha; exact absurd (free_load_ended ha) (by rw [he]; decide)
  · exact Or.inl rfl
  · rw [hact] at ha; exact absurd ((free_endReverse.mp ha).1 rfl) (by rw [he]; decide)

/-- (a) **forward phase**: every action before the first `EndForward` is a `Forward` -/
theorem M3a_C02 {cfg : Cfg} {os : List Obs} (h : NoTag .C02 (run cfg os).2) {i : Nat} {o : Obs}
    (hi : os[i]? = some o) (hno : ∀ j o', j < i → os[j]? = some o' → o'.act ≠ .endForward) :
    o.act = .endForward ∨ ∃ n0 n1 wi wa st, o.act = .forward n0 n1 wi wa st := by
  apply step_C02_forward_phase (noTag_step h hi)
  rcases he : (stAt cfg os i).ended with _ | _
  · rfl
  · obtain ⟨j, o', h1, h2, h3⟩ := (ended_iff cfg os i).mp he
    exact absurd h3 (hno j o' h1 h2)

theorem step_C02_endForward {cfg : Cfg} {x : XS} {o : Obs} (h : StepNo .C02 cfg x o)
    (ho : o.act = .endForward) : x.ended = false ∧ x.fwd = some cfg.N ∧ x.r = 0 := by
  have ha := h.act
  rw [ho] at ha
  obtain ⟨h1, h2, h3⟩ := free_endForward.mp ha
  exact ⟨h1 rfl, h2 rfl, h3 rfl⟩

/-- (b) at an `EndForward` no `EndForward` has occurred before, the forward calculation stands at
`cfg.N`, and nothing has been reversed -/
theorem M3b_C02 {cfg : Cfg} {os : List Obs} (h : NoTag .C02 (run cfg os).2) {i : Nat} {o : Obs}
    (hi : os[i]? = some o) (ho : o.act = .endForward) :
    (stAt cfg os i).ended = false ∧ (stAt cfg os i).fwd = some cfg.N ∧ (stAt cfg os i).r = 0 :=
  step_C02_endForward (noTag_step h hi) ho

/-- (b) there is at most one `EndForward` -/
theorem M3b_C02_unique {cfg : Cfg} {os : List Obs} (h : NoTag .C02 (run cfg os).2) {i j : Nat}
    {o o' : Obs} (hi : os[i]? = some o) (ho : o.act = .endForward)
    (hj : os[j]? = some o') (ho' : o'.act = .endForward) : i = j := by
  by_contra hne
  rcases Nat.lt_or_gt_of_ne hne with hlt | hlt
  · have := (M3b_C02 h hj ho').1
    rw [(ended_iff cfg os j).mpr ⟨i, o, hlt, hi, ho⟩] at this; cases this
  · have := (M3b_C02 h hi ho).1
    rw [(ended_iff cfg os i).mpr ⟨j, o', hlt, hj, ho'⟩] at this; cases this

theorem step_C02_reverse {cfg : Cfg} {x : XS} {o : Obs} {n1 n0 : Nat} {cl : Bool}
    (h : StepNo .C02 cfg x o) (ho : o.act = .reverse n1 n0 cl) :
    x.ended = true ∧ n1 = cfg.N - x.r := by
  have ha := h.act
  rw [ho] at ha
  obtain ⟨-, h1, h2, -⟩ := free_reverse.mp ha
  exact ⟨h1 rfl, h2 rfl⟩

theorem step_C18_reverse {cfg : Cfg} {x : XS} {o : Obs} {n1 n0 : Nat} {cl : Bool}
    (h : StepNo .C18 cfg x o) (ho : o.act = .reverse n1 n0 cl) : n0 < n1 := by
  have ha := h.act
  rw [ho] at ha
  exact (free_reverse.mp ha).1 rfl

/-- (c) every `Reverse` occurs after the `EndForward` and starts where the adjoint stands -/
theorem M3c_C02 {cfg : Cfg} {os : List Obs} (h : NoTag .C02 (run cfg os).2) {i : Nat} {o : Obs}
    {n1 n0 : Nat} {cl : Bool} (hi : os[i]? = some o) (ho : o.act = .reverse n1 n0 cl) :
    (∃ j o', j < i ∧ os[j]? = some o' ∧ o'.act = .endForward) ∧ n1 = cfg.N - (stAt cfg os i).r := by
  obtain ⟨h1, h2⟩ := step_C02_reverse (noTag_step h hi) ho
  exact ⟨(ended_iff cfg os i).mp h1, h2⟩

/-- (c) ... and reverses at least one step (this is check C18.4, not a C02 check) -/
theorem M3c_C18 {cfg : Cfg} {os : List Obs} (h : NoTag .C18 (run cfg os).2) {i : Nat} {o : Obs}
    {n1 n0 : Nat} {cl : Bool} (hi : os[i]? = some o) (ho : o.act = .reverse n1 n0 cl) : n0 < n1 :=
  step_C18_reverse (noTag_step h hi) ho

theorem step_C02_endReverse {cfg : Cfg} {x : XS} {o : Obs} (h : StepNo .C02 cfg x o)
    (ho : o.act = .endReverse) : x.ended = true ∧ x.r = cfg.N := by
  have ha := h.act
  rw [ho] at ha
  obtain ⟨h1, h2, -⟩ := free_endReverse.mp ha
  exact ⟨h1 rfl, h2 rfl⟩

theorem finished_after_endReverse (cfg : Cfg) (x : XS) (he : x.ended = true) :
    finished cfg (nextState cfg x .endReverse) = !permitsMore cfg (x.done + 1) := by
  unfold finished permitsMore
  rcases hp : cfg.passes with _ | k
  · rfl
  · rcases k with _ | k
    · simp [nextState, he]
    · simp only [nextState, hp]
      by_cases h : k + 1 ≤ x.done + 1
      · simp [h]; omega
      · simp [h]; omega

/-- (d) at every `EndReverse` all `cfg.N` steps have been reversed; afterwards `r` is reset iff
another adjoint calculation is permitted, and otherwise the stream has ended -/
theorem M3d_C02 {cfg : Cfg} {os : List Obs} (h : NoTag .C02 (run cfg os).2) {i : Nat} {o : Obs}
    (hi : os[i]? = some o) (ho : o.act = .endReverse) :
    (stAt cfg os i).r = cfg.N ∧
    (stAt cfg os (i+1)).r = (if permitsMore cfg ((stAt cfg os i).done + 1) then 0 else cfg.N) ∧
    finished cfg (stAt cfg os (i+1)) = !permitsMore cfg ((stAt cfg os i).done + 1) := by
  obtain ⟨h1, h2⟩ := step_C02_endReverse (noTag_step h hi) ho
  refine ⟨h2, ?_, ?_⟩
  · rw [stAt, stateAt_succ cfg hi, ho, nextState_r, ← stAt, h2]
  · rw [stAt, stateAt_succ cfg hi, ho]; exact finished_after_endReverse cfg _ h1

/-- bookkeeping of the intervals reversed in the current adjoint calculation, most recent first -/
def revAcc (l : List (Nat × Nat)) : Action → List (Nat × Nat)
  | .reverse n1 n0 _ => (n0, n1) :: l
  | .endReverse => []
  | _ => l

/-- the intervals `(n0, n1)` of the `Reverse` actions since the last `EndReverse`, most recent
first: a function of the stream alone -/
def revsSince (os : List Obs) : List (Nat × Nat) := os.foldl (fun l o => revAcc l o.act) []

def revsAt (os : List Obs) (k : Nat) : List (Nat × Nat) := revsSince (os.take k)

theorem revsAt_succ {os : List Obs} {k : Nat} {o : Obs} (h : os[k]? = some o) :
    revsAt os (k+1) = revAcc (revsAt os k) o.act := by
  simp [revsAt, revsSince, List.take_add_one, h]

/-- `l` (lowest interval first) tiles `[lo, hi)` with non-empty intervals, contiguously and in
order: `l = [(lo, b₁), (b₁, b₂), …, (bₘ, hi)]` -/
def Tiles : List (Nat × Nat) → Nat → Nat → Prop
  | [], lo, hi => lo = hi
  | (a, b) :: l, lo, hi => a = lo ∧ a < b ∧ Tiles l b hi

theorem Tiles.le : ∀ {l : List (Nat × Nat)} {lo hi : Nat}, Tiles l lo hi → lo ≤ hi
  | [], _, _, h => by simp [Tiles] at h; omega
  | (a, b) :: l, lo, hi, h => by
    obtain ⟨h1, h2, h3⟩ := h
    have := Tiles.le h3; omega

theorem Tiles.sum : ∀ {l : List (Nat × Nat)} {lo hi : Nat}, Tiles l lo hi →
    (l.map (fun p => p.2 - p.1)).sum = hi - lo
  | [], _, _, h => by simp [Tiles] at h; simp [h]
  | (a, b) :: l, lo, hi, h => by
    obtain ⟨h1, h2, h3⟩ := h
    have := Tiles.le h3
    simp only [List.map_cons, List.sum_cons, Tiles.sum h3]; omega

theorem Tiles.mem_iff : ∀ {l : List (Nat × Nat)} {lo hi : Nat}, Tiles l lo hi → ∀ s,
    (lo ≤ s ∧ s < hi) ↔ ∃ p ∈ l, p.1 ≤ s ∧ s < p.2
  | [], _, _, h, s => by simp [Tiles] at h; simp; omega
  | (a, b) :: l, lo, hi, h, s => by
    obtain ⟨h1, h2, h3⟩ := h
    have hle := Tiles.le h3
    have ih := Tiles.mem_iff h3 s
    simp only [List.mem_cons, exists_eq_or_imp]
    rw [← ih]; omega

/-- the tiles are pairwise disjoint and ascending along the list (so: descending in time) -/
theorem Tiles.pairwise : ∀ {l : List (Nat × Nat)} {lo hi : Nat}, Tiles l lo hi →
    l.Pairwise (fun p q => p.2 ≤ q.1) ∧ ∀ q ∈ l, lo ≤ q.1 ∧ q.1 < q.2
  | [], _, _, _ => by simp
  | (a, b) :: l, lo, hi, h => by
    obtain ⟨h1, h2, h3⟩ := h
    obtain ⟨ih1, ih2⟩ := Tiles.pairwise h3
    refine ⟨List.pairwise_cons.mpr ⟨fun q hq => (ih2 q hq).1, ih1⟩, ?_⟩
    intro q hq
    rcases List.mem_cons.mp hq with rfl | hq
    · simp; omega
    · have := ih2 q hq; omega

def RevInv (cfg : Cfg) (x : XS) (l : List (Nat × Nat)) : Prop :=
  x.r ≤ cfg.N ∧ Tiles l (cfg.N - x.r) cfg.N

theorem step_RevInv {cfg : Cfg} {x : XS} {o : Obs} {l : List (Nat × Nat)}
    (h2 : StepNo .C02 cfg x o) (h18 : StepNo .C18 cfg x o) (hI : RevInv cfg x l)
    (hnf : finished cfg (nextState cfg x o.act) = false) :
    RevInv cfg (nextState cfg x o.act) (revAcc l o.act) := by
  obtain ⟨hr, ht⟩ := hI
  unfold RevInv
  rw [nextState_r]
  rcases hact : o.act with ⟨n0, n1, wi, wa, st⟩ | ⟨n1, n0, cl⟩ | ⟨n, src, dst⟩ | ⟨n, src, dst⟩ | _ | _
  · exact ⟨hr, ht⟩
  · obtain ⟨-, e1⟩ := step_C02_reverse h2 hact
    have e2 := step_C18_reverse h18 hact
    simp only [revAcc]
    refine ⟨by omega, by omega, e2, ?_⟩
    rw [e1]; exact ht
  · exact ⟨hr, ht⟩
  · exact ⟨hr, ht⟩
  · exact ⟨hr, ht⟩
  · obtain ⟨e1, e2⟩ := step_C02_endReverse h2 hact
    rw [hact, finished_after_endReverse cfg x e1] at hnf
    have hpm : permitsMore cfg (x.done + 1) = true := by simpa using hnf
    simp [hpm, revAcc, Tiles]

/-- (c), the invariant.  In a run without C02 and C18 violations, before every action (and at the
end, unless the stream has ended) `r ≤ N` and the `Reverse` intervals issued since the last
`EndReverse` tile `[N - r, N)` contiguously, each non-empty, in descending order of time. -/
theorem M3c_tiles_gen {cfg : Cfg} {os : List Obs} (h2 : NoTag .C02 (run cfg os).2)
    (h18 : NoTag .C18 (run cfg os).2) : ∀ k, k ≤ os.length → finished cfg (stAt cfg os k) = false →
    RevInv cfg (stAt cfg os k) (revsAt os k) := by
  intro k
  induction k with
  | zero => intro _ _; simp [RevInv, XS.init, revsAt, revsSince, Tiles]
  | succ k ih =>
    intro hk hnf
    obtain ⟨o, ho⟩ : ∃ o, os[k]? = some o := ⟨os[k], List.getElem?_eq_getElem (by omega)⟩
    have s2 := noTag_step h2 ho
    have s18 := noTag_step h18 ho
    have hI := ih (by omega) s2.not_finished
    rw [stAt, stateAt_succ cfg ho] at hnf ⊢
    rw [revsAt_succ ho]
    exact step_RevInv s2 s18 hI hnf

theorem M3c_tiles {cfg : Cfg} {os : List Obs} (h2 : NoTag .C02 (run cfg os).2)
    (h18 : NoTag .C18 (run cfg os).2) {i : Nat} {o : Obs} (hi : os[i]? = some o) :
    (stAt cfg os i).r ≤ cfg.N ∧ Tiles (revsAt os i) (cfg.N - (stAt cfg os i).r) cfg.N :=
  M3c_tiles_gen h2 h18 i (le_of_lt (List.getElem?_eq_some_iff.mp hi).1) (M3e_C02 h2 hi)

/-- (c) `r` is the total number of steps reversed in the current adjoint calculation -/
theorem M3c_r_eq_sum {cfg : Cfg} {os : List Obs} (h2 : NoTag .C02 (run cfg os).2)
    (h18 : NoTag .C18 (run cfg os).2) {i : Nat} {o : Obs} (hi : os[i]? = some o) :
    (stAt cfg os i).r = ((revsAt os i).map (fun p => p.2 - p.1)).sum := by
  obtain ⟨h1, ht⟩ := M3c_tiles h2 h18 hi
  rw [ht.sum]; omega

/-- (d) at every `EndReverse` the intervals reversed since the previous delimiter tile `[0, N)`:
every step has been reversed exactly once -/
theorem M3d_tiles {cfg : Cfg} {os : List Obs} (h2 : NoTag .C02 (run cfg os).2)
    (h18 : NoTag .C18 (run cfg os).2) {i : Nat} {o : Obs} (hi : os[i]? = some o)
    (ho : o.act = .endReverse) : Tiles (revsAt os i) 0 cfg.N := by
  have := (M3c_tiles h2 h18 hi).2
  rwa [(M3d_C02 h2 hi ho).1, Nat.sub_self] at this

theorem nextState_wDeps_forward (cfg : Cfg) (x : XS) (n0 n1 : Nat) (wi wa : Bool) (st : Storage) :
    (nextState cfg x (.forward n0 n1 wi wa st)).wDeps =
      if st = .work ∧ wa then some (n0, clip cfg x n1) else none := rfl

theorem nextState_wDeps_load (cfg : Cfg) (x : XS) (n : Nat) (src dst : Storage) {a : Action}
    (ha : a = .copy n src dst ∨ a = .move n src dst) :
    (nextState cfg x a).wDeps =
      match findCp x.cps n src with
      | none => x.wDeps
      | some c => if dst = .work then (if c.deps > 0 then some (n, n + c.deps) else none) else x.wDeps := by
  rcases ha with rfl | rfl <;>
  · simp only [nextState]
    rcases findCp x.cps n src with _ | c
    · rfl
    · by_cases hd : dst = .work <;> simp [hd]

/-- WORK holds adjoint data of at most one step -/
def OneStepDeps (x : XS) : Prop := ∀ a b, x.wDeps = some (a, b) → b = a + 1

/-- a `Forward` without C12 violation: once `max_n` is known it does not run into the part already
reversed; and (unless the schedule keeps all adjoint data in WORK) if it records adjoint data in
WORK, it is the single step next to be reversed -/
theorem step_C12_forward {cfg : Cfg} {x : XS} {o : Obs} {n0 n1 : Nat} {wi wa : Bool} {st : Storage}
    (h : StepNo .C12 cfg x o) (ho : o.act = .forward n0 n1 wi wa st) :
    (x.fin = true → n1 ≤ cfg.N - x.r) ∧
    (st = .work → wa = true → cfg.keepsAllDeps = false →
      clip cfg x n1 = n0 + 1 ∧ clip cfg x n1 = cfg.N - x.r) := by
  have ha := h.act
  rw [ho] at ha
  obtain ⟨-, -, -, -, h1, -, h2⟩ := free_forward.mp ha
  refine ⟨fun hf => ?_, fun hs hw hk => ?_⟩
  · rcases h1 rfl with h | h
    · rw [hf] at h; cases h
    · exact h
  · rcases h2 hs rfl with (h | h) | h
    · rw [hw] at h; cases h
    · rw [hk] at h; cases h
    · exact h

/-- a `Copy`/`Move` without C12 violation that finds its checkpoint: a load into WORK happens when
WORK holds neither restart nor adjoint data; a checkpoint without restart data is that of the step
next to be reversed -/
theorem step_C12_load {cfg : Cfg} {x : XS} {o : Obs} {n : Nat} {src dst : Storage} {c : Cp}
    (h : StepNo .C12 cfg x o) (ho : o.act = .copy n src dst ∨ o.act = .move n src dst)
    (hf : findCp x.cps n src = some c) :
    (dst = .work → x.wIcs = none ∧ x.wDeps = none) ∧ (c.ics = 0 → n + 1 = cfg.N - x.r) := by
  have ha := h.act
  have ha' : Free .C12 (actViols.loadViols cfg x n src dst) := by
    rcases ho with ho | ho <;> (rw [ho] at ha; exact ha)
  obtain ⟨-, -, -, -, ⟨-, h1⟩, h2, -⟩ := (free_load_some hf).mp ha'
  exact ⟨fun hd => h2 hd rfl, fun hc => h1 hc rfl⟩

/-- one step preserves "WORK holds adjoint data of at most one step", given that stored
checkpoints hold at most one step of adjoint data (which is what C03 guarantees) -/
theorem step_C12_wDeps {cfg : Cfg} {x : XS} {o : Obs} (hk : cfg.keepsAllDeps = false)
    (h : StepNo .C12 cfg x o) (hw : ∀ c ∈ x.cps, c.deps ≤ 1) (hI : OneStepDeps x) :
    OneStepDeps (nextState cfg x o.act) := by
  intro a b
  rcases hact : o.act with ⟨n0, n1, wi, wa, st⟩ | ⟨n1, n0, cl⟩ | ⟨n, src, dst⟩ | ⟨n, src, dst⟩ | _ | _
  · rw [nextState_wDeps_forward]
    by_cases hc : st = .work ∧ wa = true
    · rw [if_pos hc]
      intro he
      simp only [Option.some.injEq, Prod.mk.injEq] at he
      have := ((step_C12_forward h hact).2 hc.1 hc.2 hk).1
      omega
    · rw [if_neg hc]; intro he; cases he
  · simp only [nextState]
    cases cl
    · exact hI a b
    · intro he; simp at he
  · rw [nextState_wDeps_load cfg x n src dst (Or.inl rfl)]
    rcases hf : findCp x.cps n src with _ | c
    · exact hI a b
    · have := hw c (findCp_some hf).1
      by_cases hd : dst = .work
      · simp only [hd, if_true]
        split
        · intro he; simp only [Option.some.injEq, Prod.mk.injEq] at he; omega
        · intro he; cases he
      · simp only [hd, if_false]; exact hI a b
  · rw [nextState_wDeps_load cfg x n src dst (Or.inr rfl)]
    rcases hf : findCp x.cps n src with _ | c
    · exact hI a b
    · have := hw c (findCp_some hf).1
      by_cases hd : dst = .work
      · simp only [hd, if_true]
        split
        · intro he; simp only [Option.some.injEq, Prod.mk.injEq] at he; omega
        · intro he; cases he
      · simp only [hd, if_false]; exact hI a b
  · exact hI a b
  · exact hI a b

/-- **M5 (C12).**  If the run records no C12 and no C03 violation and the schedule does not keep
all adjoint data in WORK, then after every prefix WORK holds adjoint data of at most one step.
`NoTag .C03` is needed: the C12 checks do not look at the size of a loaded checkpoint (see
`M5_needs_C03`). -/
theorem M5_C12 {cfg : Cfg} {os : List Obs} (h12 : NoTag .C12 (run cfg os).2)
    (h3 : NoTag .C03 (run cfg os).2) (hk : cfg.keepsAllDeps = false) (k : Nat) :
    ∀ a b, (stAt cfg os k).wDeps = some (a, b) → b = a + 1 := by
  have := inv_of_noTag₂
    (fun x => (withinBudget cfg x.cps = true ∧ ∀ c ∈ x.cps, CpWf c) ∧ OneStepDeps x)
    ⟨⟨withinBudget_nil cfg, by simp [XS.init]⟩, by simp [OneStepDeps, XS.init]⟩
    (fun y o hI s3 s12 => ⟨step_C03 s3 hI.1, step_C12_wDeps hk s12 (fun c hc => (hI.1.2 c hc).2) hI.2⟩)
    h3 h12 k
  exact this.2

/-- M5, loads: every checkpoint load into WORK happens when WORK holds no restart and no adjoint
data -/
theorem M5_C12_load {cfg : Cfg} {os : List Obs} (h12 : NoTag .C12 (run cfg os).2) {i : Nat} {o : Obs}
    {n : Nat} {src : Storage} {c : Cp} (hi : os[i]? = some o)
    (ho : o.act = .copy n src .work ∨ o.act = .move n src .work)
    (hf : findCp (stAt cfg os i).cps n src = some c) :
    (stAt cfg os i).wIcs = none ∧ (stAt cfg os i).wDeps = none :=
  (step_C12_load (noTag_step h12 hi) ho hf).1 rfl

/-- M5, forwards: once `max_n` is known no `Forward` ends beyond the part not yet reversed -/
theorem M5_C12_forward {cfg : Cfg} {os : List Obs} (h12 : NoTag .C12 (run cfg os).2) {i : Nat} {o : Obs}
    {n0 n1 : Nat} {wi wa : Bool} {st : Storage} (hi : os[i]? = some o)
    (ho : o.act = .forward n0 n1 wi wa st) (hfin : (stAt cfg os i).fin = true) :
    n1 ≤ cfg.N - (stAt cfg os i).r :=
  (step_C12_forward (noTag_step h12 hi) ho).1 hfin


/-- M1 over `statesFrom`: every state of the run -/
theorem M1_C03_states {cfg : Cfg} {os : List Obs} (h : NoTag .C03 (run cfg os).2) :
    ∀ x ∈ statesFrom cfg (XS.init cfg) os,
      withinBudget cfg x.cps = true ∧ ∀ c ∈ x.cps, ¬ (c.ics > 0 ∧ c.deps > 0) ∧ c.deps ≤ 1 := by
  intro x hx
  obtain ⟨p, hp, rfl⟩ := mem_statesFrom cfg |>.mp hx
  have := M1_C03 h p.length
  rwa [← prefix_state hp, run_fst_eq] at this

/-- M5, loads, with "the checkpoint is found" discharged by `NoTag .C01` -/
theorem M5_C12_load' {cfg : Cfg} {os : List Obs} (h12 : NoTag .C12 (run cfg os).2)
    (h1 : NoTag .C01 (run cfg os).2) {i : Nat} {o : Obs} {n : Nat} {src : Storage}
    (hi : os[i]? = some o) (ho : o.act = .copy n src .work ∨ o.act = .move n src .work) :
    (stAt cfg os i).wIcs = none ∧ (stAt cfg os i).wDeps = none := by
  obtain ⟨c, hf, -⟩ := M4_C01_load h1 hi ho
  exact M5_C12_load h12 hi ho hf

/-! ## Concrete instances

A complete, violation-free stream for `N = 2` with one RAM checkpoint: store restart data of step 0
in RAM, advance, turn, reverse step 1, move the checkpoint back, recompute step 0, reverse it. -/

def mExCfg : Cfg :=
  { N := 2, ram := some 1, disk := some 0, passes := some 1, keepsAllDeps := false, online := false }

def mExObs (a : Action) (n r : Nat) (exh : Bool := false) : Obs := ⟨a, n, r, some 2, exh, true⟩

def mExStream : List Obs :=
  [ mExObs (.forward 0 1 true false .ram) 1 0,
    mExObs (.forward 1 2 false true .work) 2 0,
    mExObs .endForward 2 0,
    mExObs (.reverse 2 1 true) 2 1,
    mExObs (.move 0 .ram .work) 0 1,
    mExObs (.forward 0 1 false true .work) 1 1,
    mExObs (.reverse 1 0 true) 1 2,
    mExObs .endReverse 1 2 true ]

theorem mExStream_clean : (run mExCfg mExStream).2 = [] := by decide

example : (run mExCfg mExStream).2 = [] := mExStream_clean

theorem mEx_noTag (t : Tag) : NoTag t (run mExCfg mExStream).2 := by
  rw [mExStream_clean]; intro v hv; cases hv

/-- lifting lemma: a violation injected at position 3 is found there (Reverse of the wrong step) -/
example : (3, (⟨.C02, 2⟩ : Viol)) ∈
    (run mExCfg (mExStream.set 3 (mExObs (.reverse 1 0 true) 2 1))).2 := by
  refine (mem_runFrom mExCfg).mpr ⟨3, mExObs (.reverse 1 0 true) 2 1, by decide, by decide, rfl⟩

/-- M1 on the stream: before action 4 (the Move) RAM holds one restart checkpoint, within budget -/
example : withinBudget mExCfg (stAt mExCfg mExStream 4).cps = true ∧
    ∀ c ∈ (stAt mExCfg mExStream 4).cps, CpWf c := M1_C03 (mEx_noTag _) 4
example : (stAt mExCfg mExStream 4).cps = [⟨0, .ram, 1, 0⟩] := by decide
example : countSt (run mExCfg (mExStream.take 4)).1.cps .ram ≤ 1 :=
  (M1_C03_prefix (cfg := mExCfg) (os := mExStream) (mEx_noTag _) (List.take_prefix 4 _)).1 1 rfl

/-- M2 on the stream: storage is empty at the `EndReverse` (position 7) -/
example : (stAt mExCfg mExStream 7).cps = [] :=
  (M2_C04 (cfg := mExCfg) (os := mExStream) (mEx_noTag _) (i := 7) rfl rfl).1 1 rfl
/-- ... and `snap` is the storage at the `EndForward` (position 2) -/
example : (stAt mExCfg mExStream 7).snap = (stAt mExCfg mExStream 2).cps :=
  snap_eq_cps_at_endForward mExCfg _ mExStream (j := 2) (k := 7) rfl rfl (by decide)
    (by intro i o' h1 h2 h3; interval_cases i <;> (cases h3; decide))

/-- M4 on the stream: the Move at position 4 finds restart data for `[0, 1)` covering what is left -/
example : ∃ c, findCp (stAt mExCfg mExStream 4).cps 0 .ram = some c ∧ c ∈ (stAt mExCfg mExStream 4).cps ∧
    c.n = 0 ∧ c.st = .ram ∧ (c.ics > 0 ∨ c.deps > 0) ∧ 0 < mExCfg.N - (stAt mExCfg mExStream 4).r ∧
    (c.ics > 0 → mExCfg.N - (stAt mExCfg mExStream 4).r ≤ 0 + c.ics) ∧
    (Storage.work.isStore = true → ∀ c' ∈ (stAt mExCfg mExStream 4).cps, ¬ (c'.n = 0 ∧ c'.st = .work)) :=
  M4_C01_load (cfg := mExCfg) (os := mExStream) (mEx_noTag _) (i := 4) rfl (Or.inr rfl)
example : (stAt mExCfg mExStream 5).fwd = some 0 ∧
    (Storage.work.isStore = true → ∀ c ∈ (stAt mExCfg mExStream 5).cps, ¬ (c.n = 0 ∧ c.st = .work)) :=
  M4_C01_forward (cfg := mExCfg) (os := mExStream) (mEx_noTag _) (i := 5) rfl rfl
example : covers (stAt mExCfg mExStream 6).wDeps 0 1 = true ∧
    ∃ a b, (stAt mExCfg mExStream 6).wDeps = some (a, b) ∧ a ≤ 0 ∧ 1 ≤ b :=
  M4_C01_reverse (cfg := mExCfg) (os := mExStream) (mEx_noTag _) (i := 6) rfl rfl
example : (keys (stAt mExCfg mExStream 4).cps).Nodup ∧ (stAt mExCfg mExStream 4).cps.Nodup :=
  M4_keys_nodup (cfg := mExCfg) (os := mExStream) (mEx_noTag _) 4

example : (stAt mExCfg mExStream 2).ended = false ∧ (stAt mExCfg mExStream 2).fwd = some 2 ∧
    (stAt mExCfg mExStream 2).r = 0 :=
  M3b_C02 (cfg := mExCfg) (os := mExStream) (mEx_noTag _) (i := 2) rfl rfl
example : (∃ j o', j < 6 ∧ mExStream[j]? = some o' ∧ o'.act = .endForward) ∧
    1 = mExCfg.N - (stAt mExCfg mExStream 6).r :=
  M3c_C02 (cfg := mExCfg) (os := mExStream) (mEx_noTag _) (i := 6) rfl rfl
example : Tiles (revsAt mExStream 7) 0 mExCfg.N :=
  M3d_tiles (cfg := mExCfg) (os := mExStream) (mEx_noTag _) (mEx_noTag _) (i := 7) rfl rfl
example : revsAt mExStream 7 = [(0, 1), (1, 2)] := by decide
example : (stAt mExCfg mExStream 7).r = mExCfg.N ∧
    (stAt mExCfg mExStream 8).r = (if permitsMore mExCfg ((stAt mExCfg mExStream 7).done + 1) then 0 else mExCfg.N) ∧
    finished mExCfg (stAt mExCfg mExStream 8) = !permitsMore mExCfg ((stAt mExCfg mExStream 7).done + 1) :=
  M3d_C02 (cfg := mExCfg) (os := mExStream) (mEx_noTag _) (i := 7) rfl rfl
/-- (e): one more action after the end is flagged C02.9 -/
example : (⟨.C02, 9⟩ : Viol) ∈ stepViols mExCfg (run mExCfg mExStream).1 (mExObs .endReverse 1 2 true) :=
  M3e_finished_flags _ (by decide)
example : ¬ NoTag .C02 (run mExCfg (mExStream ++ [mExObs .endReverse 1 2 true])).2 := by decide

example : ∀ a b, (stAt mExCfg mExStream 6).wDeps = some (a, b) → b = a + 1 :=
  M5_C12 (cfg := mExCfg) (os := mExStream) (mEx_noTag _) (mEx_noTag _) rfl 6
example : (stAt mExCfg mExStream 6).wDeps = some (0, 1) := by decide
example : (stAt mExCfg mExStream 4).wIcs = none ∧ (stAt mExCfg mExStream 4).wDeps = none :=
  M5_C12_load' (cfg := mExCfg) (os := mExStream) (mEx_noTag _) (mEx_noTag _) (i := 4) rfl (Or.inr rfl)
example : 1 ≤ mExCfg.N - (stAt mExCfg mExStream 5).r :=
  M5_C12_forward (cfg := mExCfg) (os := mExStream) (mEx_noTag _) (i := 5) rfl rfl (by decide)

/-! ### `NoTag .C03` is necessary in M5

A stream whose only violations are C03.1 and C03.2 (a RAM checkpoint holding restart data *and*
two steps of adjoint data), which records no C12 violation, and after which WORK holds adjoint data
of two steps: the C12 checks never look at the size of the adjoint data a Copy/Move loads. -/

def mCexCfg : Cfg :=
  { N := 2, ram := none, disk := none, passes := some 1, keepsAllDeps := false, online := false }

def mCexStream : List Obs :=
  [ mExObs (.forward 0 2 true true .ram) 2 0,
    mExObs .endForward 2 0,
    mExObs (.copy 0 .ram .work) 0 0 ]

theorem M5_needs_C03 :
    NoTag .C12 (run mCexCfg mCexStream).2 ∧
    (run mCexCfg mCexStream).2 = [(0, ⟨.C03, 1⟩), (0, ⟨.C03, 2⟩)] ∧
    (run mCexCfg mCexStream).1.wDeps = some (0, 2) := by decide

#print axioms mem_runFrom
#print axioms noTag_step
#print axioms inv_of_run
#print axioms mem_statesFrom
#print axioms M1_C03
#print axioms M1_C03_prefix
#print axioms M1_C03_states
#print axioms sameCps_iff
#print axioms sameCps_perm
#print axioms snap_eq_cps_at_endForward
#print axioms M2_C04
#print axioms M2_C04_restored
#print axioms M2_C04_perm
#print axioms step_C01_forward
#print axioms step_C01_load
#print axioms step_C01_reverse
#print axioms M4_C01_forward
#print axioms M4_C01_load
#print axioms M4_C01_reverse
#print axioms M4_keys_nodup
#print axioms M3a_C02
#print axioms M3b_C02
#print axioms M3b_C02_unique
#print axioms M3c_C02
#print axioms M3c_C18
#print axioms M3c_tiles
#print axioms M3c_r_eq_sum
#print axioms M3d_C02
#print axioms M3d_tiles
#print axioms M3e_finished_flags
#print axioms M3e_C02
#print axioms Tiles.sum
#print axioms Tiles.mem_iff
#print axioms Tiles.pairwise
#print axioms step_C12_forward
#print axioms step_C12_load
#print axioms M5_C12
#print axioms M5_C12_load
#print axioms M5_C12_load'
#print axioms M5_C12_forward
#print axioms M5_needs_C03

end Ckpt.Mean
