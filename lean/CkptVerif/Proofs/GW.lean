import CkptVerif.Proofs.ExtraRec
import Mathlib.Data.Nat.Choose.Basic
import Mathlib.Tactic.Ring
import Mathlib.Order.Basic
/-!
# The closed form of `optimal_extra_steps` (Griewank & Walther 2000)

With `β(s,t) = C(s+t, t)` the total number of forward steps `gwT m k = m + E(m, min(k, m-1))` is the
upper envelope of the lines `L_j(m,k) = (j+1)·m − β(k+1, j−1)`:

* `gwT_ge_line`: `(j+1)·m ≤ gwT m k + C(k+j, k+1)` for every `j`;
* `gwT_eq_line`: equality when `β(k, j−1) ≤ m ≤ β(k, j)`;
* `gwT_split_eq`: a split `i` with `β(k,j−2) ≤ i ≤ β(k,j−1)` and `β(k−1,j−1) ≤ m−i ≤ β(k−1,j)` attains the
  minimum of the recurrence (the "optimal region");
* `extraCell_closed`: the closed form of `extraCell`.

All binomials are written through `gwP c j = C(c+j, c+1)` (`= β(c+1, j−1)`, and `0` for `j = 0`):
`β(k, j) = gwP (k-1) (j+1)`.
-/
namespace Ckpt.GW
open Nat

/-- `gwP c j = C(c+j, c+1)`; `gwP c (j+1) = β(c+1, j)` and `gwP c 0 = 0` -/
def gwP (c j : Nat) : Nat := choose (c + j) (c + 1)

theorem gwP_zero (c : Nat) : gwP c 0 = 0 := by
  unfold gwP; exact Nat.choose_eq_zero_of_lt (by omega)

theorem gwP_one (c : Nat) : gwP c 1 = 1 := by
  unfold gwP; exact Nat.choose_self _

theorem gwP_two (c : Nat) : gwP c 2 = c + 2 := by
  unfold gwP
  have e : c + 2 = (c + 1) + 1 := by omega
  rw [e, Nat.choose_succ_self_right]

theorem gwP_zero_left (j : Nat) : gwP 0 j = j := by
  unfold gwP; simp

/-- Pascal's rule -/
theorem gwP_pascal (c j : Nat) : gwP (c + 1) (j + 1) = gwP (c + 1) j + gwP c (j + 1) := by
  unfold gwP
  have e : c + 1 + (j + 1) = (c + j + 1) + 1 := by omega
  have e1 : c + 1 + j = c + j + 1 := by omega
  have e2 : c + (j + 1) = c + j + 1 := by omega
  rw [e, Nat.choose_succ_succ', e1, e2]; exact Nat.add_comm _ _

theorem gwP_pos (c j : Nat) : 1 ≤ gwP c (j + 1) := by
  unfold gwP; exact Nat.choose_pos (by omega)

theorem gwP_ge (c j : Nat) : j ≤ gwP c j := by
  induction c generalizing j with
  | zero => rw [gwP_zero_left]
  | succ c ih =>
    induction j with
    | zero => omega
    | succ j ihj =>
      have := gwP_pascal c j
      have := gwP_pos c j
      omega

theorem gwP_mono (c j : Nat) : gwP c j ≤ gwP c (j + 1) := by
  unfold gwP; exact Nat.choose_le_succ _ _

/-- `β(c+1, t) = C(c+1+t, t)` in terms of `gwP` -/
theorem choose_eq_gwP (c t : Nat) : choose (c + 1 + t) t = gwP c (t + 1) := by
  unfold gwP
  have e : c + (t + 1) = c + 1 + t := by omega
  rw [e]
  exact Nat.choose_symm_of_eq_add (n := c + 1 + t) (a := t) (b := c + 1) (by omega)

/-! ## one unit: triangular numbers -/

theorem two_choose_two (n : Nat) : 2 * choose (n + 1) 2 = (n + 1) * n := by
  induction n with
  | zero => rfl
  | succ n ih =>
    rw [Nat.choose_succ_succ' (n + 1) 1, Nat.choose_one_right, Nat.mul_add, ih]
    ring

/-- with one unit the total is the `m`-th triangular number -/
theorem gwT_k1' (m : Nat) (hm : 1 ≤ m) : gwT m 1 = choose (m + 1) 2 := by
  rw [Nat.choose_succ_succ' m 1, Nat.choose_one_right]
  by_cases h : m = 1
  · subst h; rw [gwT_one]; rfl
  · rw [gwT_k1 m (by omega), Nat.choose_two_right]

/-- For the triangular numbers `T n = C(n+1, 2)`: `(j+1)·m ≤ T m + T j`, and twice the difference is
`d·(d+1)`, where `d` is the distance of `m` from `{j, j+1}`. -/
theorem tri_line (m j : Nat) :
    ∃ d, 2 * (choose (m + 1) 2 + choose (j + 1) 2) = 2 * ((j + 1) * m) + d * (d + 1) ∧
      (j ≤ m → m ≤ j + 1 → d = 0) := by
  rw [Nat.mul_add, two_choose_two, two_choose_two]
  by_cases h : m ≤ j
  · obtain ⟨d, rfl⟩ := Nat.exists_eq_add_of_le h
    exact ⟨d, by ring, fun _ _ => by omega⟩
  · obtain ⟨d, rfl⟩ := Nat.exists_eq_add_of_lt (Nat.lt_of_not_le h)
    exact ⟨d, by ring, fun _ _ => by omega⟩

/-! ## the envelope -/

/-- the claim for `m` steps and `c + 1` units -/
structure GWClaim (m c : Nat) : Prop where
  lb : ∀ j, (j + 1) * m ≤ gwT m (c + 1) + gwP (c + 1) j
  eq : ∀ j, gwP c j ≤ m → m ≤ gwP c (j + 1) → gwT m (c + 1) + gwP (c + 1) j = (j + 1) * m

theorem gwClaim_one_unit (m : Nat) (hm : 1 ≤ m) : GWClaim m 0 := by
  have hT : gwT m (0 + 1) = choose (m + 1) 2 := gwT_k1' m hm
  have hP : ∀ j, gwP (0 + 1) j = choose (j + 1) 2 := fun j => by
    unfold gwP; rw [Nat.add_comm (0 + 1) j]
  constructor
  · intro j
    obtain ⟨d, hd, _⟩ := tri_line m j
    rw [hT, hP]
    omega
  · intro j hlo hhi
    rw [gwP_zero_left] at hlo hhi
    obtain ⟨d, hd, h0⟩ := tri_line m j
    rw [h0 hlo hhi] at hd
    rw [hT, hP]
    omega

/-- the optimal region is non-empty -/
theorem exists_split (c j m : Nat) (hm : 2 ≤ m) (hlo : gwP (c + 1) (j + 1) ≤ m)
    (hhi : m ≤ gwP (c + 1) (j + 2)) :
    ∃ i, 1 ≤ i ∧ i < m ∧ gwP (c + 1) j ≤ i ∧ i ≤ gwP (c + 1) (j + 1) ∧
      gwP c (j + 1) ≤ m - i ∧ m - i ≤ gwP c (j + 2) := by
  have p1 := gwP_pascal c j
  have p2 : gwP (c + 1) (j + 2) = gwP (c + 1) (j + 1) + gwP c (j + 2) := gwP_pascal c (j + 1)
  have q4 : gwP c (j + 1) ≤ gwP c (j + 2) := gwP_mono c (j + 1)
  cases j with
  | zero =>
    have e0 : gwP (c + 1) 0 = 0 := gwP_zero _
    have e1 : gwP c (0 + 1) = 1 := gwP_one c
    exact ⟨1, by omega⟩
  | succ j =>
    have q1 := gwP_pos c (j + 1)
    have q2 := gwP_pos (c + 1) j
    -- as far down as the right part allows
    by_cases h : m ≤ gwP (c + 1) (j + 1) + gwP c (j + 1 + 2)
    · exact ⟨gwP (c + 1) (j + 1), by omega⟩
    · exact ⟨m - gwP c (j + 1 + 2), by omega⟩

theorem gwClaim (c : Nat) : ∀ m, 1 ≤ m → GWClaim m c := by
  induction c with
  | zero => exact gwClaim_one_unit
  | succ c ihc =>
    intro m
    induction m using Nat.strongRecOn with
    | _ m ihm =>
      intro hm
      by_cases hm1 : m = 1
      · subst hm1
        constructor
        · intro j
          rw [gwT_one]
          have := gwP_ge (c + 1 + 1) j
          omega
        · intro j hlo hhi
          rw [gwT_one]
          have hj := gwP_ge (c + 1) j
          have hj1 : j = 0 ∨ j = 1 := by omega
          rcases hj1 with h | h
          · subst h; rw [gwP_zero]
          · subst h; rw [gwP_one]
      · have hm2 : 2 ≤ m := by omega
        have hlb : ∀ j, (j + 1) * m ≤ gwT m (c + 1 + 1) + gwP (c + 1 + 1) j := by
          intro j
          cases j with
          | zero => have := gwT_ge m (c + 1 + 1); omega
          | succ j =>
            obtain ⟨i, h1, h2, hG⟩ := gwT_rec_attained m (c + 1 + 1) hm2 (by omega)
            rw [Nat.add_sub_cancel] at hG
            have A := (ihm i h2 h1).lb j
            have B := (ihc (m - i) (by omega)).lb (j + 1)
            have p := gwP_pascal (c + 1) j
            obtain ⟨r, rfl⟩ := Nat.exists_eq_add_of_le (Nat.le_of_lt h2)
            rw [Nat.add_sub_cancel_left] at hG B
            have e : (j + 1 + 1) * (i + r) = (j + 1) * i + i + (j + 1 + 1) * r := by ring
            omega
        refine ⟨hlb, ?_⟩
        intro j hlo hhi
        cases j with
        | zero => rw [gwP_one] at hhi; omega
        | succ j =>
          obtain ⟨i, h1, h2, hi1, hi2, hr1, hr2⟩ := exists_split c j m hm2 hlo hhi
          have hle := gwT_rec_le m (c + 1 + 1) i (by omega) h1 h2
          rw [Nat.add_sub_cancel] at hle
          have A := (ihm i h2 h1).eq j hi1 hi2
          have B := (ihc (m - i) (by omega)).eq (j + 1) hr1 hr2
          have L := hlb (j + 1)
          have p := gwP_pascal (c + 1) j
          obtain ⟨r, rfl⟩ := Nat.exists_eq_add_of_le (Nat.le_of_lt h2)
          rw [Nat.add_sub_cancel_left] at hle B
          have e : (j + 1 + 1) * (i + r) = (j + 1) * i + i + (j + 1 + 1) * r := by ring
          omega

/-! ## the statements in terms of `k` units -/

/-- the total is above every line `L_j` -/
theorem gwT_ge_line (m k j : Nat) (hm : 1 ≤ m) (hk : 1 ≤ k) :
    (j + 1) * m ≤ gwT m k + gwP k j := by
  obtain ⟨c, rfl⟩ : ∃ c, k = c + 1 := ⟨k - 1, by omega⟩
  exact (gwClaim c m hm).lb j

/-- the total lies on the line `L_j` for `β(k, j−1) ≤ m ≤ β(k, j)` -/
theorem gwT_eq_line (m c j : Nat) (hm : 1 ≤ m) (hlo : gwP c j ≤ m) (hhi : m ≤ gwP c (j + 1)) :
    gwT m (c + 1) + gwP (c + 1) j = (j + 1) * m :=
  (gwClaim c m hm).eq j hlo hhi

/-- maximal storage: `E(m, m-1) = m - 1` (one forward sweep and one turn-around per step) -/
theorem gwT_full (m k : Nat) (hm : 1 ≤ m) (hk : m ≤ k + 1) (hk1 : 1 ≤ k) : gwT m k = 2 * m - 1 := by
  obtain ⟨c, rfl⟩ : ∃ c, k = c + 1 := ⟨k - 1, by omega⟩
  have := gwT_eq_line m c 1 hm (by rw [gwP_one]; exact hm) (by rw [gwP_two]; omega)
  rw [gwP_one] at this
  omega

theorem extraCell_full (m : Nat) (hm : 2 ≤ m) : extraCell m (m - 1) = m - 1 := by
  have h := gwT_full m (m - 1) (by omega) (by omega) (by omega)
  unfold gwT at h
  have : clampS m (m - 1) = m - 1 := clampS_of_le (Nat.le_refl _)
  rw [this] at h
  omega

/-- Equality case of the recurrence (the optimal region of GW2000): with `k = c + 2` units and
`m` on the line `j + 1`, every split `i` on the line `j` (for `k` units) whose complement is on the line
`j + 1` (for `k - 1` units) attains the minimum. -/
theorem gwT_split_eq (c j m i : Nat) (h1 : 1 ≤ i) (h2 : i < m)
    (hi1 : gwP (c + 1) j ≤ i) (hi2 : i ≤ gwP (c + 1) (j + 1))
    (hr1 : gwP c (j + 1) ≤ m - i) (hr2 : m - i ≤ gwP c (j + 2)) :
    i + gwT i (c + 2) + gwT (m - i) (c + 1) = gwT m (c + 2) := by
  have A : gwT i (c + 2) + gwP (c + 2) j = (j + 1) * i := gwT_eq_line i (c + 1) j h1 hi1 hi2
  have B : gwT (m - i) (c + 1) + gwP (c + 1) (j + 1) = (j + 2) * (m - i) :=
    gwT_eq_line (m - i) c (j + 1) (by omega) hr1 hr2
  have p1 := gwP_pascal c j
  have p2 : gwP (c + 1) (j + 2) = gwP (c + 1) (j + 1) + gwP c (j + 2) := gwP_pascal c (j + 1)
  have hC1 : gwP (c + 1) (j + 1) ≤ m := by omega
  have hC2 : m ≤ gwP (c + 1) (j + 2) := by omega
  have C : gwT m (c + 2) + gwP (c + 2) (j + 1) = (j + 2) * m :=
    gwT_eq_line m (c + 1) (j + 1) (by omega) hC1 hC2
  have p : gwP (c + 2) (j + 1) = gwP (c + 2) j + gwP (c + 1) (j + 1) := gwP_pascal (c + 1) j
  obtain ⟨r, rfl⟩ := Nat.exists_eq_add_of_le (Nat.le_of_lt h2)
  rw [Nat.add_sub_cancel_left] at B ⊢
  have e : (j + 2) * (i + r) = (j + 1) * i + i + (j + 2) * r := by ring
  omega

/-- the same in terms of `extraCell`, for an arbitrary (unclamped) number of units `k = c + 2` -/
theorem extraCell_split_eq (c j m i : Nat) (h1 : 1 ≤ i) (h2 : i < m)
    (hi1 : gwP (c + 1) j ≤ i) (hi2 : i ≤ gwP (c + 1) (j + 1))
    (hr1 : gwP c (j + 1) ≤ m - i) (hr2 : m - i ≤ gwP c (j + 2)) :
    i + extraCell i (clampS i (c + 2)) + extraCell (m - i) (clampS (m - i) (c + 1)) =
      extraCell m (clampS m (c + 2)) := by
  have := gwT_split_eq c j m i h1 h2 hi1 hi2 hr1 hr2
  unfold gwT at this
  omega

/-- **Closed form** (Griewank & Walther 2000, Prop. 1): for `β(k,t-1) < m ≤ β(k,t)`,
`m + E(m,k) = (t+1)·m − β(k+1, t-1)`. -/
theorem extraCell_closed (m k t : Nat) (hk : 1 ≤ k) (hkm : k ≤ m - 1)
    (hlo : Nat.choose (k + t - 1) (t - 1) < m) (hhi : m ≤ Nat.choose (k + t) t) (ht : 1 ≤ t) :
    m + extraCell m k + Nat.choose (k + t) (t - 1) = (t + 1) * m := by
  obtain ⟨c, rfl⟩ : ∃ c, k = c + 1 := ⟨k - 1, by omega⟩
  have e1 : choose (c + 1 + t - 1) (t - 1) = gwP c t := by
    unfold gwP
    have : c + 1 + t - 1 = c + t := by omega
    rw [this]
    exact Nat.choose_symm_of_eq_add (by omega)
  have e2 : choose (c + 1 + t) t = gwP c (t + 1) := choose_eq_gwP c t
  have e3 : choose (c + 1 + t) (t - 1) = gwP (c + 1) t := by
    unfold gwP
    exact Nat.choose_symm_of_eq_add (by omega)
  rw [e1] at hlo
  rw [e2] at hhi
  rw [e3]
  have h := gwT_eq_line m c t (by omega) (by omega) hhi
  unfold gwT at h
  have hc : clampS m (c + 1) = c + 1 := clampS_of_le hkm
  rw [hc] at h
  exact h

/-- the lower-envelope half in the same notation: every line is a lower bound -/
theorem extraCell_lower (m k t : Nat) (hk : 1 ≤ k) (hkm : k ≤ m - 1) (hm : 2 ≤ m) :
    (t + 1) * m ≤ m + extraCell m k + Nat.choose (k + t) (k + 1) := by
  have h := gwT_ge_line m k t (by omega) hk
  unfold gwT gwP at h
  have hc : clampS m k = k := clampS_of_le hkm
  rw [hc] at h
  exact h

/-- `n = 10` steps with `s = 3` units: `β(3,1) = 4 < 10 ≤ β(3,2) = 10`, so `t = 2` and
`10 + E(10,3) = 3·10 − β(4,1) = 25`, i.e. `E(10,3) = 15`. -/
example : 10 + extraCell 10 3 + Nat.choose (3 + 2) (2 - 1) = (2 + 1) * 10 :=
  extraCell_closed 10 3 2 (by decide) (by decide) (by decide) (by decide) (by decide)

example : extraCell 10 3 = 15 := by
  have := extraCell_closed 10 3 2 (by decide) (by decide) (by decide) (by decide) (by decide)
  have e : Nat.choose (3 + 2) (2 - 1) = 5 := by decide
  omega

/-- `n = 1000` steps with `s = 10` units: `β(10,3) = 286 < 1000 ≤ β(10,4) = 1001`, `t = 4`. -/
example : 1000 + extraCell 1000 10 + Nat.choose 14 3 = 5 * 1000 :=
  extraCell_closed 1000 10 4 (by decide) (by decide) (by decide) (by decide) (by decide)

example : extraCell 7 6 = 6 := extraCell_full 7 (by decide)

end Ckpt.GW
