import CkptVerif.Proofs.DiskCounterexamples
import CkptVerif.Proofs.HRevolveLBLink
import CkptVerif.Proofs.HRevolveLBPlans
/-!
# C07 for HRevolve with DISK units: accepted streams as plays of a pebble game

`Ckpt.LB7.HRevolveOptimalT` (stated in `Proofs/DiskCounterexamples.lean`) says that the value of the
two-level H-Revolve table is a lower bound for the transfer-aware cost of EVERY accepted stream of
`cfgHRevolve c0 c1 N`.  It is proved for the accepted streams that obey the **LIFO discipline** (`Lifo`,
`Proofs/Disciplines.lean`; `hrevolveOptimalT_partial` in `Proofs/HRevolveLBFullLifo.lean`) and, more
generally, the relaxed discipline `Lifo'` (`Proofs/HRevolveLBFull.lean`).  The HRevolve stream itself is
proved to be LIFO (`hrevolve_cleanL`, `Proofs/HRevolveOk.lean`); for the other schedules of the Revolve
family this is not proved.

Everything that concerns the checking executor (violations, flags, the `ics` ranges, …) is removed here
once and for all: an executor state stands for the state `(a, toks, W)` of a pebble game (`gst`): steps
`[0, a)` are still to be reversed; `toks` are the stored checkpoints (`HLB.Src` = position and level,
`true` = DISK; `HLB.nR`, `HLB.nD` count those in RAM and on DISK: `Proofs/HRevolveLBPlans.lean`); `W` is
the position of the forward state in working storage.  Moves:

* `adv`   : the forward state advances (`uf` per step), not beyond `a`;
* `store` : the forward state is stored in a free unit (`wd` on DISK);
* `turn`  : the forward state stands at `a - 1`: one forward step, one reversed step (`uf`);
* `load`  : a stored checkpoint below `a` is copied into working storage (`rd` from DISK);
* `drop`  : stored checkpoints are deleted;
* `xfer`  : a stored checkpoint is copied into a free unit of the other level (`rd` out of DISK, `wd`
            into DISK).

An accepted `Forward` is `store`+`adv`, `turn` or `adv`; a `Reverse`, `EndForward`, `EndReverse` leaves the
game state alone.  These steps are proved once, for every potential `P` on game states that holds at the
end of the game (`BasicMoves.fin`: nothing left to reverse, cost `0`; like `Game.fin`, and not the flag
`fin` "`max_n` is known" of `GW.Inv`), may overestimate the cost (`weaken`), and is closed under `adv`,
`store`, `turn` and `drop`; what a potential does with `Copy`/`Move` is its own affair.  `run_pot` is the
backward induction along the stream; `lb_of_achievable` is the link to the table, through the achievable
hierarchical costs `HLB.A` (`Proofs/HRevolveLBTab.lean`).

OPEN: the statement `HRevolveOptimalT` itself (streams that restart from an older checkpoint while newer
ones are stored, or that copy/move checkpoints directly between RAM and DISK).  An exhaustive search over
an abstract machine with these moves (all `(c0, c1) ∈ {(1,1),(2,1),(1,2)}`, `N ≤ 13`, `(2,2),(3,1),(1,3)`,
`N ≤ 12`, `(2,3),(3,2)`, `N ≤ 11`, 12 cost vectors) found no counterexample.
-/
namespace Ckpt.LB7
open Ckpt.RC Ckpt.GW Ckpt.Mean Ckpt.HLB

/-! ## the cost without the reversed steps -/

def actCostF (c : Costs) : Action → Nat
  | .reverse _ _ _ => 0
  | a => actCostT c a

def obsCostF (c : Costs) (os : List Obs) : Nat := (os.map (fun o => actCostF c o.act)).sum

theorem obsCostF_cons (c : Costs) (o : Obs) (os : List Obs) :
    obsCostF c (o :: os) = actCostF c o.act + obsCostF c os := by
  unfold obsCostF; rw [List.map_cons, List.sum_cons]

theorem actCostT_split (c : Costs) (a : Action) : actCostT c a = actCostF c a + c.ub * actRev a := by
  cases a <;> simp [actCostT, actCostF, actCost, actRev, transfersToDisk, Nat.mul_comm]

theorem obsCostT_split (c : Costs) (os : List Obs) :
    obsCostT c os = obsCostF c os + c.ub * obsRevSteps os := by
  induction os with
  | nil => rfl
  | cons o os ih =>
    rw [obsCostT_cons, obsCostF_cons, obsRevSteps_cons, ih, actCostT_split, Nat.mul_add]
    omega

theorem actCostF_forward (c : Costs) (n0 n1 : Nat) (wi wa : Bool) (st : Storage) :
    actCostF c (.forward n0 n1 wi wa st) = (n1 - n0) * c.uf + (if st = .disk then c.wd else 0) := by
  simp [actCostF, actCostT, actCost, transfersToDisk]

theorem actCostF_copy (c : Costs) (n : Nat) (src dst : Storage) : actCostF c (.copy n src dst) =
    (if src = .disk then c.rd else 0) + (if dst = .disk then c.wd else 0) := by
  simp [actCostF, actCostT, actCost, transfersToDisk]

theorem actCostF_move (c : Costs) (n : Nat) (src dst : Storage) : actCostF c (.move n src dst) =
    (if src = .disk then c.rd else 0) + (if dst = .disk then c.wd else 0) := by
  simp [actCostF, actCostT, actCost, transfersToDisk]

/-- position and level of the stored checkpoints, most recent first -/
def stk (x : XS) : List Src := x.cps.map (fun cp => (cp.n, decide (cp.st = .disk)))

theorem stk_counts (x : XS) (h : ∀ cp ∈ x.cps, cp.st.isStore = true) :
    nR (stk x) = countSt x.cps .ram ∧ nD (stk x) = countSt x.cps .disk := by
  unfold stk
  generalize x.cps = l at h ⊢
  induction l with
  | nil => exact ⟨rfl, rfl⟩
  | cons cp l ih =>
    have hcp := h cp (List.mem_cons_self ..)
    obtain ⟨ihR, ihD⟩ := ih (fun c' hc' => h c' (List.mem_cons_of_mem _ hc'))
    rw [List.map_cons, Ckpt.countSt_cons, Ckpt.countSt_cons]
    cases hs : cp.st <;> simp [hs, Storage.isStore] at hcp ⊢
    · rw [nR_cons_ram, nD_cons_ram, ihR, ihD]; omega
    · rw [nR_cons_disk, nD_cons_disk, ihR, ihD]; omega

theorem cfgHyp_h (c0 c1 N : Nat) : CfgHyp (cfgHRevolve c0 c1 N) (c0 + c1) :=
  ⟨⟨c0, c1, rfl, rfl, rfl⟩, rfl, rfl, rfl⟩

theorem eraseCp_sublist (cps : List Cp) (n : Nat) (s : Storage) : (eraseCp cps n s).Sublist cps := by
  unfold eraseCp; exact List.filter_sublist

/-- the stored checkpoints that a `Copy` (`keep = true`) or a `Move` of `(n, src)` leaves in place -/
def keptCps (x : XS) (keep : Bool) (n : Nat) (src : Storage) : List Cp :=
  if keep then x.cps else eraseCp x.cps n src

theorem keptCps_sublist (x : XS) (keep : Bool) (n : Nat) (src : Storage) :
    (keptCps x keep n src).Sublist x.cps := by
  cases keep
  · exact eraseCp_sublist _ _ _
  · exact List.Sublist.refl _

theorem nextState_cm {cfg : Cfg} {x : XS} {n : Nat} {src dst : Storage} {cp : Cp}
    (hf : findCp x.cps n src = some cp) (keep : Bool) :
    nextState cfg x (bif keep then .copy n src dst else .move n src dst) =
      loadState x n cp dst (keptCps x keep n src) := by
  cases keep
  · exact nextState_move hf
  · exact nextState_copy hf

/-- what is needed besides `GW.Inv`: restart data in every checkpoint, distinct keys -/
structure Inv2 (x : XS) : Prop where
  ics : ∀ cp ∈ x.cps, 0 < cp.ics
  keys : (x.cps.map (fun cp => (cp.n, cp.st))).Nodup

theorem inv2_init (cfg : Cfg) : Inv2 (XS.init cfg) :=
  ⟨fun _ h => absurd h List.not_mem_nil, List.nodup_nil⟩

theorem inv2_of_sublist {x x' : XS} (h : x'.cps.Sublist x.cps) (hinv2 : Inv2 x) : Inv2 x' :=
  ⟨fun cp hcp => hinv2.ics cp (h.subset hcp), (h.map _).nodup hinv2.keys⟩

theorem inv2_cons {x x' : XS} {cp : Cp} {cps0 : List Cp} (hinv2 : Inv2 x)
    (h : x'.cps = cp :: cps0) (hsub : cps0.Sublist x.cps) (hics : 0 < cp.ics)
    (hkey : (cp.n, cp.st) ∉ x.cps.map (fun cp => (cp.n, cp.st))) : Inv2 x' := by
  refine ⟨?_, ?_⟩
  · intro c' hc'
    rw [h] at hc'
    rcases List.mem_cons.mp hc' with rfl | hc'
    · exact hics
    · exact hinv2.ics c' (hsub.subset hc')
  · rw [h, List.map_cons, List.nodup_cons]
    exact ⟨fun hm => hkey ((hsub.map _).subset hm), (hsub.map _).nodup hinv2.keys⟩

theorem inv2_forward {cfg : Cfg} {x : XS} (hfin : x.fin = true) (hinv2 : Inv2 x)
    {n0 n1 : Nat} {wi wa : Bool} {st : Storage}
    (h : actViols cfg x (.forward n0 n1 wi wa st) = [])
    (hnd : storesDeps (.forward n0 n1 wi wa st) = false) :
    Inv2 (nextState cfg x (.forward n0 n1 wi wa st)) := by
  obtain ⟨hlt, _, _, hstore, _⟩ := forward_clean hfin h
  have e_cps : (nextState cfg x (.forward n0 n1 wi wa st)).cps = if st.isStore = true
      then { n := n0, st := st, ics := if wi = true then n1 - n0 else 0,
             deps := if wa = true then n1 - n0 else 0 } :: x.cps else x.cps := by
    rw [nextState_forward hfin]
  by_cases hs : st.isStore = true
  · rw [if_pos hs] at e_cps
    obtain ⟨hwiwa, _, _, hnone, _⟩ := hstore hs
    have hwa : wa = false := by simpa only [storesDeps, hs, Bool.and_true] using hnd
    have hwi : wi = true := by rcases hwiwa with h1 | h1; exact h1; rw [hwa] at h1; cases h1
    refine inv2_cons hinv2 e_cps (List.Sublist.refl _) ?_ (keys_findCp_none hnone)
    simp only [hwi, if_true]; omega
  · rw [if_neg hs] at e_cps
    exact inv2_of_sublist (by rw [e_cps]) hinv2

theorem inv2_cm {cfg : Cfg} {x : XS} (hinv2 : Inv2 x) {n : Nat} {src dst : Storage}
    (keep : Bool) (h : actViols.loadViols cfg x n src dst = []) :
    Inv2 (nextState cfg x (bif keep then .copy n src dst else .move n src dst)) := by
  obtain ⟨_, cp, hf, _, _, _, _, _, hst⟩ := load_checks h
  obtain ⟨hmem, hn, hs⟩ := findCp_some hf
  have hsub0 := keptCps_sublist x keep n src
  have hcps : (nextState cfg x (bif keep then .copy n src dst else .move n src dst)).cps =
      loadCps cp dst (keptCps x keep n src) := by
    rw [nextState_cm hf keep, loadState_cps]
  unfold loadCps at hcps
  by_cases hds : dst.isStore = true
  · rw [if_pos hds] at hcps
    exact inv2_cons hinv2 hcps hsub0 (hinv2.ics cp hmem) (by rw [hn]; exact keys_findCp_none (hst hds).1)
  · rw [if_neg hds] at hcps
    exact inv2_of_sublist (by rw [hcps]; exact hsub0) hinv2

theorem inv2_step {cfg : Cfg} {x : XS} (hfin : x.fin = true) (hinv2 : Inv2 x) (o : Obs) (hclean : stepViols cfg x o = [])
    (hnd : storesDeps o.act = false) : Inv2 (nextState cfg x o.act) := by
  unfold stepViols at hclean
  simp only [List.append_eq_nil_iff] at hclean
  obtain ⟨⟨_, hact⟩, _⟩ := hclean
  cases ho : o.act with
  | forward n0 n1 wi wa st =>
    rw [ho] at hact hnd
    exact inv2_forward hfin hinv2 hact hnd
  | copy n src dst =>
    rw [ho] at hact
    exact inv2_cm hinv2 true hact
  | move n src dst =>
    rw [ho] at hact
    exact inv2_cm hinv2 false hact
  | reverse n1 n0 cl => exact inv2_of_sublist (List.Sublist.refl x.cps) hinv2
  | endForward => exact inv2_of_sublist (List.Sublist.refl x.cps) hinv2
  | endReverse => exact inv2_of_sublist (List.Sublist.refl x.cps) hinv2

structure GState where
  a : Nat
  toks : List Src
  W : Option Nat

inductive GStep (c : Costs) (c0 c1 : Nat) : GState → GState → Nat → Prop
  | adv (a : Nat) (toks : List Src) (f f' : Nat) (h1 : f ≤ f') (h2 : f' ≤ a) :
      GStep c c0 c1 ⟨a, toks, some f⟩ ⟨a, toks, some f'⟩ ((f' - f) * c.uf)
  | store (a : Nat) (toks : List Src) (f : Nat) (d : Bool)
      (hcap : if d then nD toks + 1 ≤ c1 else nR toks + 1 ≤ c0) :
      GStep c c0 c1 ⟨a, toks, some f⟩ ⟨a, (f, d) :: toks, some f⟩ (if d then c.wd else 0)
  | turn (a : Nat) (toks : List Src) :
      GStep c c0 c1 ⟨a + 1, toks, some a⟩ ⟨a, toks, some (a + 1)⟩ c.uf
  | load (a : Nat) (toks : List Src) (W : Option Nat) (e : Nat) (d : Bool) (hm : (e, d) ∈ toks)
      (he : e < a) : GStep c c0 c1 ⟨a, toks, W⟩ ⟨a, toks, some e⟩ (if d then c.rd else 0)
  | drop (a : Nat) (toks toks' : List Src) (W : Option Nat) (hs : toks'.Sublist toks) :
      GStep c c0 c1 ⟨a, toks, W⟩ ⟨a, toks', W⟩ 0
  | xfer (a : Nat) (toks : List Src) (W : Option Nat) (e : Nat) (d : Bool) (hm : (e, d) ∈ toks)
      (hcap : if d then nR toks + 1 ≤ c0 else nD toks + 1 ≤ c1) :
      GStep c c0 c1 ⟨a, toks, W⟩ ⟨a, (e, !d) :: toks, W⟩ (if d then c.rd else c.wd)

/-- some play from `x` reverses all remaining steps at cost at most `n` -/
inductive Game (c : Costs) (c0 c1 : Nat) : GState → Nat → Prop
  | fin (toks : List Src) (W : Option Nat) (n : Nat) : Game c c0 c1 ⟨0, toks, W⟩ n
  | step (x y : GState) (w n : Nat) (h : GStep c c0 c1 x y w) (hy : Game c c0 c1 y n) :
      Game c c0 c1 x (n + w)

/-- **the open core**: every play from the initial state costs at least an achievable hierarchical
cost -/
def GameLB (c : Costs) (c0 c1 : Nat) : Prop :=
  ∀ N n, 1 ≤ N → Game c c0 c1 ⟨N, [], some 0⟩ n → ∃ v, v ≤ n ∧ A c false c0 N c1 v

/-- a potential on game states that is closed (backwards) under the moves every discipline allows -/
structure BasicMoves (c : Costs) (c0 c1 : Nat) (P : GState → Nat → Prop) : Prop where
  fin : ∀ toks W, P ⟨0, toks, W⟩ 0
  weaken : ∀ {x n} (w : Nat), P x n → P x (n + w)
  adv : ∀ {a toks f f' n}, f ≤ f' → f' ≤ a → P ⟨a, toks, some f'⟩ n →
    P ⟨a, toks, some f⟩ (n + (f' - f) * c.uf)
  store : ∀ {a toks f d n}, (if d then nD toks + 1 ≤ c1 else nR toks + 1 ≤ c0) →
    P ⟨a, (f, d) :: toks, some f⟩ n → P ⟨a, toks, some f⟩ (n + (if d then c.wd else 0))
  turn : ∀ {a toks n}, P ⟨a, toks, some (a + 1)⟩ n → P ⟨a + 1, toks, some a⟩ (n + c.uf)
  drop : ∀ {a toks toks' W n}, toks'.Sublist toks → P ⟨a, toks', W⟩ n → P ⟨a, toks, W⟩ n

/-- the state of the game an executor state stands for; `GW.adjPos` counts the step whose adjoint data
are in working storage as reversed already (`turn` pays for it) -/
def gst (cfg : Cfg) (x : XS) : GState := ⟨adjPos cfg x, stk x, x.fwd⟩

theorem adjPos_none {cfg : Cfg} {x : XS} (h : x.wDeps = none) : adjPos cfg x = cfg.N - x.r :=
  adjPos_not_flagged (fun hf => by have := hf.2; rw [h] at this; cases this)

/-- what the potential `P` does with an accepted `Copy` (`keep = true`) or `Move` from the state `x`,
under the side condition `ok`: it pays for the transfers out of and into DISK -/
def LoadMoves (cfg : Cfg) (c : Costs) (P : GState → Nat → Prop) (ok : XS → Action → Prop) (x : XS) : Prop :=
  ∀ (keep : Bool) (n : Nat) (src dst : Storage),
    actViols.loadViols cfg x n src dst = [] →
    ok x (bif keep then .copy n src dst else .move n src dst) →
    ∀ m, P (gst cfg (nextState cfg x (bif keep then .copy n src dst else .move n src dst))) m →
      P (gst cfg x) (m + ((if src = .disk then c.rd else 0) + (if dst = .disk then c.wd else 0)))

section steps
variable {cfg : Cfg} {c : Costs} {c0 c1 : Nat} {P : GState → Nat → Prop} {x : XS}

/-- an accepted `Forward` is `store` + `adv`, `turn`, or `adv` -/
theorem step_forward (hP : BasicMoves c c0 c1 P) (H : CfgHyp cfg (c0 + c1)) (hram : cfg.ram = some c0)
    (hdisk : cfg.disk = some c1) (hinv : GW.Inv cfg (c0 + c1) x) {n0 n1 : Nat} {wi wa : Bool} {st : Storage}
    (h : actViols cfg x (.forward n0 n1 wi wa st) = []) :
    ∀ m, P (gst cfg (nextState cfg x (.forward n0 n1 wi wa st))) m →
      P (gst cfg x) (m + actCostF c (.forward n0 n1 wi wa st)) := by
  obtain ⟨hlt, hfwd, hle, hstore, hwork⟩ := forward_clean hinv.fin h
  obtain ⟨_, ha, hturn, hadv⟩ := frame_forward (F := fun f q => f = some q) (fun n q h => Option.some.inj h)
    (fun q => rfl) H.keeps hinv.frame hlt hfwd hle hwork
  have e_fwd : (nextState cfg x (.forward n0 n1 wi wa st)).fwd = some n1 := by
    rw [nextState_forward hinv.fin]
  have e_stk : stk (nextState cfg x (.forward n0 n1 wi wa st)) =
      if st.isStore = true then (n0, decide (st = .disk)) :: stk x else stk x := by
    unfold stk
    rw [nextState_forward hinv.fin]
    show List.map _ (if st.isStore = true then _ :: x.cps else x.cps) = _
    by_cases hs : st.isStore = true
    · rw [if_pos hs, if_pos hs]; rfl
    · rw [if_neg hs, if_neg hs]
  intro m hp
  unfold gst at hp ⊢
  rw [e_fwd, e_stk] at hp
  rw [ha, hfwd, actCostF_forward]
  by_cases hw : st = .work ∧ wa = true
  · -- the turn-around
    obtain ⟨h1, h2, ha'⟩ := hturn hw
    rw [ha', h1, hw.1, if_neg (by decide)] at hp
    rw [← h2, h1, hw.1, if_neg (by decide), Nat.add_sub_cancel_left, Nat.one_mul, Nat.add_zero]
    exact hP.turn hp
  rw [hadv hw] at hp
  by_cases hs : st.isStore = true
  · -- a checkpoint is written at `n0`
    rw [if_pos hs] at hp
    have hbud := Ckpt.Mean.withinBudget_iff.mp (hstore hs).2.2.2.2
    have hcR := hbud.1 c0 hram
    have hcD := hbud.2 c1 hdisk
    rw [Ckpt.countSt_cons] at hcR hcD
    have hcap : if decide (st = .disk) then nD (stk x) + 1 ≤ c1 else nR (stk x) + 1 ≤ c0 := by
      obtain ⟨hR, hD⟩ := stk_counts x (fun cp hcp => (hinv.cps cp hcp).2)
      cases hst : st <;> simp [hst, Storage.isStore] at hs hcR hcD ⊢
      · rw [hR]; omega
      · rw [hD]; omega
    have := hP.store hcap (hP.adv (le_of_lt hlt) hle hp)
    simp only [decide_eq_true_eq] at this
    rwa [Nat.add_assoc] at this
  · rw [if_neg hs] at hp
    have hnd : st ≠ .disk := by intro hd; rw [hd] at hs; exact hs rfl
    rw [if_neg hnd, Nat.add_zero]
    exact hP.adv (le_of_lt hlt) hle hp

/-- an accepted `Reverse` leaves the game state alone: its step was paid for by the `turn` -/
theorem gst_reverse (hinv : GW.Inv cfg (c0 + c1) x) {n1 n0 : Nat} {cl : Bool}
    (h : actViols cfg x (.reverse n1 n0 cl) = []) :
    gst cfg (nextState cfg x (.reverse n1 n0 cl)) =
      gst cfg x := by
  unfold gst
  rw [(frame_reverse hinv.frame h).2]
  rfl

/-- a step that only removes stored checkpoints and leaves everything else alone -/
theorem step_drop (hP : BasicMoves c c0 c1 P) {cfg : Cfg} {x x' : XS} (hc : x'.cps.Sublist x.cps)
    (hf : x'.fwd = x.fwd) (hr : x'.r = x.r) (hd : x'.wDeps = x.wDeps) (k : Nat) :
    ∀ m, P (gst cfg x') m → P (gst cfg x) (m + k) := by
  intro m hp
  unfold gst at hp ⊢
  rw [hf, adjPos_congr hr hd] at hp
  exact hP.weaken k (hP.drop (by unfold stk; exact hc.map _) hp)

/-- **one accepted step**, given what the potential does with `Copy` (`keep = true`) and `Move` under
the side condition `ok` -/
theorem step_pot (hP : BasicMoves c c0 c1 P) (H : CfgHyp cfg (c0 + c1)) (hram : cfg.ram = some c0)
    (hdisk : cfg.disk = some c1) {ok : XS → Action → Prop} (hinv : GW.Inv cfg (c0 + c1) x)
    (hcm : LoadMoves cfg c P ok x) (o : Obs) (hclean : stepViols cfg x o = []) (hok : ok x o.act) :
    ∀ m, P (gst cfg (nextState cfg x o.act)) m →
      P (gst cfg x) (m + actCostF c o.act) := by
  unfold stepViols at hclean
  simp only [List.append_eq_nil_iff] at hclean
  obtain ⟨⟨_, hact⟩, _⟩ := hclean
  cases ho : o.act with
  | forward n0 n1 wi wa st =>
    rw [ho] at hact
    exact step_forward hP H hram hdisk hinv hact
  | reverse n1 n0 cl =>
    rw [ho] at hact
    rw [gst_reverse hinv hact]
    exact fun m hp => hp
  | copy n src dst =>
    rw [ho] at hact hok
    rw [actCostF_copy]
    exact hcm true n src dst hact hok
  | move n src dst =>
    rw [ho] at hact hok
    rw [actCostF_move]
    exact hcm false n src dst hact hok
  | endForward => exact fun m hp => hp
  | endReverse =>
    rw [ho] at hact
    rw [(frame_endReverse H.passes hinv.frame hact).1]
    exact fun m hp => hp

end steps

/-- **backward induction along an accepted complete stream**: a potential `P` that is closed under the
basic moves and, under the side condition `ok`, under `Copy`/`Move` holds of the first state at the cost
of the stream (without its reversed steps).  `L` says that the side condition holds along the stream. -/
theorem run_pot {cfg : Cfg} {c : Costs} {c0 c1 : Nat} {P : GState → Nat → Prop} (hP : BasicMoves c c0 c1 P)
    (H : CfgHyp cfg (c0 + c1)) (hram : cfg.ram = some c0) (hdisk : cfg.disk = some c1)
    {ok : XS → Action → Prop} {L : XS → List Obs → Prop}
    (hL : ∀ x o os, L x (o :: os) → ok x o.act ∧ L (nextState cfg x o.act) os)
    (hcm : ∀ (x : XS), GW.Inv cfg (c0 + c1) x → Inv2 x → LoadMoves cfg c P ok x)
    (os : List Obs) (i : Nat) (x : XS) (hinv : GW.Inv cfg (c0 + c1) x)
    (hinv2 : Inv2 x) (hclean : (runFrom cfg i x os).2 = [])
    (hfin : finished cfg (runFrom cfg i x os).1 = true)
    (hnd : ∀ o ∈ os, storesDeps o.act = false) (hl : L x os) :
    P (gst cfg x) (obsCostF c os) := by
  refine Mean.runFrom_induction (cfg := cfg)
    (motive := fun x os => GW.Inv cfg (c0 + c1) x → Inv2 x →
      (∀ o ∈ os, storesDeps o.act = false) → L x os → P (gst cfg x) (obsCostF c os))
    ?_ ?_ os i x hclean hfin hinv hinv2 hnd hl
  · intro x hfin hinv _ _ _
    unfold gst
    rw [frame_finished hinv.frame H.passes hfin]
    exact hP.fin _ _
  · intro x o os hclean ih hinv hinv2 hnd hl
    have hnd0 := hnd o (List.mem_cons_self ..)
    obtain ⟨hok, hl'⟩ := hL x o os hl
    obtain ⟨hinv', _⟩ := GW.step_pot H hinv o hclean hnd0
    have := ih hinv' (inv2_step hinv.fin hinv2 o hclean hnd0)
      (fun o' ho' => hnd o' (List.mem_cons_of_mem _ ho')) hl'
    have := step_pot hP H hram hdisk hinv (hcm x hinv hinv2) o hclean hok _ this
    rw [obsCostF_cons, Nat.add_comm]
    exact this

theorem gst_init (c0 c1 N : Nat) :
    gst (cfgHRevolve c0 c1 N) (XS.init (cfgHRevolve c0 c1 N)) = ⟨N, [], some 0⟩ := by
  unfold gst
  rw [adjPos_init]
  rfl

/-- an accepted complete stream that costs (without its reversed steps) at least an achievable
hierarchical cost costs at least the table value -/
theorem lb_of_achievable {N c0 c1 v w : Nat} {c : Costs} {os : List Obs} (hN : 1 ≤ N) (hc0 : 1 ≤ c0)
    (hv : (hoptTable (N - 1) c0 c1 0 c.wd 0 c.rd c.ub c.uf).opt 1 (N - 1) c1 = some v)
    (hacc : Accepted (cfgHRevolve c0 c1 N) os) (hw : w ≤ obsCostF c os) (hA : A c false c0 N c1 w) :
    v + N * c.uf ≤ obsCostT c os := by
  have htab := HLB.table_le N c0 c1 v w c hN hc0 hv hA
  obtain ⟨hclean, hfin, hnd⟩ := hacc
  have hrev := revSteps_eq (cfgHyp_h c0 c1 N) os hclean hfin hnd
  have e4 : (cfgHRevolve c0 c1 N).N = N := rfl
  rw [e4] at hrev
  rw [obsCostT_split, hrev, Nat.mul_comm c.ub N]
  omega

end Ckpt.LB7
