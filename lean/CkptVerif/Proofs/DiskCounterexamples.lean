import CkptVerif.Proofs.RevolveOptimal
import CkptVerif.Proofs.DiskCost
import CkptVerif.Proofs.HRevolveCost
import CkptVerif.Proofs.PeriodicOps
/-!
# C07 for DiskRevolve / HRevolve: the notions, the counterexamples, the statements

`Proofs/RevolveOptimal.lean` proves that the value of the memory-only table `opt0` is a lower bound
for the cost of EVERY complete stream the executor accepts (restart data only).  The same statement for
the Disk-Revolve table `optInf` (the variant `one_read_disk = True` the library uses) and for the
H-Revolve table `hopt` is **false**.  This file has three parts.

The notions the lower-bound files for the two-level classes share: `Accepted cfg os` (no violation,
adjoint completed, restart data only), the transfer-aware cost `obsCostT` (charges `wd` for every
transfer into DISK, not only for a `Forward` that writes there), the class `OneRead` ("each disk
checkpoint is written by a `Forward` and read once, by the `Move` that removes it"), and the table
value `optInfVal`.

The kernel-checked counterexamples:
* `cexCopyToDisk` (N = 4, one RAM unit, `uf,ub,wd,rd = 1,1,2,0`): the cost model of
  `Proofs/Cost.lean` charges `wd` only for checkpoints a `Forward` writes to DISK; a `Copy RAM → DISK`
  is free.  A stream that uses it costs 13 < 14 = `optInf + N·uf` = cost of the DiskRevolve stream; the
  same stream beats the H-Revolve table for one disk unit.  This is a gap of the cost model, closed by
  `obsCostT`.
* `cexMultiRead` (N = 6, one RAM unit): the disk checkpoint at step 0 is read twice (a `Copy` out of
  DISK, later the `Move`).  With `uf,ub,wd,rd = 1,1,2,0` it costs 22 < 23, with `3,1,5,1` (all costs
  positive) 55 < 57 — also for `obsCostT`: `optInf` (one read per disk checkpoint) is NOT a lower bound
  over all accepted streams, in any reasonable cost model.  N = 6 is the smallest such N.
* `diskRevolve_oneRead`, `diskRevolve_attains`: the DiskRevolve stream never copies out of DISK and
  never transfers into DISK: it is an accepted member of `OneRead` whose cost is the table value.

The two statements that an exhaustive search (Dijkstra over the executor's rules) suggested, as `Prop`s
that are never used as hypotheses:
* `DiskOneReadOptimal`: in the class `OneRead` the table `optInf` IS a lower bound (search: `cm = 1`:
  `N ≤ 8`, `cm = 2`: `N ≤ 7`, 20 cost vectors with `uf ≠ ub`, `wd ≠ rd`, zero and large disk costs).
  PROVED: `diskOneReadOptimal` in `Proofs/DiskOneReadLB.lean`; with `diskRevolve_attains`: DiskRevolve
  attains the optimum of the class `OneRead`.
* `HRevolveOptimalT`: `hopt[1][N-1][c1] + N·uf` is a lower bound for `obsCostT` over all accepted
  streams of `cfgHRevolve c0 c1 N` (search: `(c0, c1) ∈ {(1,1), (1,2), (1,3), (2,1), (2,2)}`, `N ≤ 10`,
  same cost vectors).  OPEN in general; proved for `c1 = 0` (`Proofs/HRevolveNoDisk.lean`), for the
  streams that obey the LIFO discipline (`hrevolveOptimalT_partial`, `Proofs/HRevolveLBFullLifo.lean`)
  and for the relaxed discipline `Lifo'` (`hrevolveOptimalT_partial2`, `Proofs/HRevolveLBFull.lean`).
The search also found (not stated here): over ALL accepted streams the minimum of `obsCostT` for the
DiskRevolve configuration is the library's multi-read table (`get_opt_inf_table(…,
one_read_disk=False)`), same range; the two tables differ from `N = 6` on (`cm = 1`) and only when
`wd > uf`.
-/
namespace Ckpt.LB7
open Ckpt.RC Ckpt.GW

/-- the action puts a stored checkpoint into DISK by a `Copy`/`Move` (not by a `Forward`) -/
def transfersToDisk : Action → Bool
  | .copy _ _ dst => decide (dst = .disk)
  | .move _ _ dst => decide (dst = .disk)
  | _ => false

/-- the action reads a DISK checkpoint and leaves it on DISK -/
def copiesFromDisk : Action → Bool
  | .copy _ src _ => decide (src = .disk)
  | _ => false

def actCostT (c : Costs) (a : Action) : Nat := actCost c a + (if transfersToDisk a then c.wd else 0)

/-- transfer-aware cost of a stream: `uf`/`ub` per forward/reversed step, `wd` per checkpoint that
arrives on DISK (by `Forward`, `Copy` or `Move`), `rd` per `Copy`/`Move` out of DISK -/
def obsCostT (c : Costs) (os : List Obs) : Nat := (os.map (fun o => actCostT c o.act)).sum

theorem obsCostT_cons (c : Costs) (o : Obs) (os : List Obs) :
    obsCostT c (o :: os) = actCostT c o.act + obsCostT c os := by
  unfold obsCostT; rw [List.map_cons, List.sum_cons]

theorem obsCost_le_obsCostT (c : Costs) (os : List Obs) : obsCost c os ≤ obsCostT c os := by
  induction os with
  | nil => exact le_refl _
  | cons o os ih =>
    rw [obsCost_cons, obsCostT_cons]
    unfold actCostT
    omega

theorem obsCostT_eq_obsCost (c : Costs) (os : List Obs)
    (h : ∀ o ∈ os, transfersToDisk o.act = false) : obsCostT c os = obsCost c os := by
  induction os with
  | nil => rfl
  | cons o os ih =>
    rw [obsCost_cons, obsCostT_cons, ih (fun o' ho' => h o' (List.mem_cons_of_mem _ ho'))]
    unfold actCostT
    rw [h o (List.mem_cons_self ..)]
    simp

/-- each disk checkpoint is written by a `Forward` and read once, by the `Move` that removes it -/
def OneRead (os : List Obs) : Prop :=
  ∀ o ∈ os, copiesFromDisk o.act = false ∧ transfersToDisk o.act = false

/-- the executor accepts the stream, the adjoint calculation is complete, restart data only -/
def Accepted (cfg : Cfg) (os : List Obs) : Prop :=
  (run cfg os).2 = [] ∧ finished cfg (run cfg os).1 = true ∧ ∀ o ∈ os, storesDeps o.act = false

instance (cfg : Cfg) (os : List Obs) : Decidable (Accepted cfg os) := by
  unfold Accepted; infer_instance

instance (os : List Obs) : Decidable (OneRead os) := by
  unfold OneRead; infer_instance

theorem noDisk_oneRead {a : Action} (h : touches .disk a = false) :
    copiesFromDisk a = false ∧ transfersToDisk a = false := by
  cases a with
  | copy n src dst =>
    simp only [touches, Bool.or_eq_false_iff, decide_eq_false_iff_not] at h
    simp [copiesFromDisk, transfersToDisk, h.1, h.2]
  | move n src dst =>
    simp only [touches, Bool.or_eq_false_iff, decide_eq_false_iff_not] at h
    simp [copiesFromDisk, transfersToDisk, h.2]
  | _ => exact ⟨rfl, rfl⟩

/-- what holds of the two disk transfers of a DiskRevolve segment and of every action of its
memory-only parts holds of all its actions -/
theorem diskSeg_forall {P : Action → Prop} (N : Nat) (t0 : Array (Array Nat)) (tinf : Array Nat)
    (cm uf wr : Nat) (hw : ∀ lo hi, P (.forward lo hi true false .disk))
    (hr : ∀ lo, P (.move lo .disk .work))
    (hrev : ∀ spine lo hi evs, revSeg N t0 uf cm spine lo hi = some evs → ∀ e ∈ evs, P e.act) :
    ∀ (fuel : Nat) (spine : Bool) (lo hi : Nat) (evs : List Ev),
      diskSeg N t0 tinf cm uf wr fuel spine lo hi = some evs → ∀ e ∈ evs, P e.act := by
  intro fuel
  induction fuel with
  | zero => intro _ _ _ evs h; simp [diskSeg] at h
  | succ fuel ih =>
    intro spine lo hi evs h
    unfold diskSeg at h
    dsimp only at h
    split at h
    · split at h
      · cases h
      · rename_i right hright
        split at h
        · cases h
        · rename_i left hleft
          injection h with h
          subst h
          intro e he
          simp only [List.mem_append, List.mem_singleton] at he
          rcases he with ((he | he) | he) | he
          · subst he; exact hw _ _
          · exact ih _ _ _ _ hright e he
          · subst he; exact hr _
          · exact hrev _ _ _ _ hleft e he
    · exact hrev _ _ _ _ h

theorem diskSeg_oneRead (N : Nat) (t0 : Array (Array Nat)) (tinf : Array Nat) (cm uf wr : Nat) :
    ∀ (fuel : Nat) (spine : Bool) (lo hi : Nat) (evs : List Ev),
      diskSeg N t0 tinf cm uf wr fuel spine lo hi = some evs →
      ∀ e ∈ evs, copiesFromDisk e.act = false ∧ transfersToDisk e.act = false :=
  diskSeg_forall (P := fun a => copiesFromDisk a = false ∧ transfersToDisk a = false) N t0 tinf cm uf wr
    (fun _ _ => ⟨rfl, rfl⟩) (fun _ => ⟨rfl, rfl⟩)
    (fun _ _ _ _ h e he => noDisk_oneRead (Bool.eq_false_iff.2 fun ht =>
      revSeg_noDisk h e he _ ((mem_storages_iff _ _).2 ht) rfl))

/-- **the DiskRevolve stream reads each disk checkpoint once**: no `Copy` out of DISK, no transfer
into DISK -/
theorem diskRevolve_oneRead (N cm : Nat) (c : Costs) (evs : List Ev)
    (h : diskRevolveEvs N cm c = .ok evs) :
    ∀ e ∈ evs, copiesFromDisk e.act = false ∧ transfersToDisk e.act = false := by
  unfold diskRevolveEvs at h
  dsimp only at h
  split at h
  · cases h
  · rename_i seg hseg
    injection h with h
    subst h
    intro e he
    rcases List.mem_append.mp he with he | he
    · exact diskSeg_oneRead _ _ _ _ _ _ _ _ _ _ _ hseg e he
    · rw [List.mem_singleton] at he; subst he; exact ⟨rfl, rfl⟩

theorem diskRevolve_obs_oneRead (N cm : Nat) (c : Costs) (evs : List Ev)
    (h : diskRevolveEvs N cm c = .ok evs) (os : List Obs) (hos : os.map (·.act) = evs.map (·.act)) :
    OneRead os := by
  intro o ho
  have : o.act ∈ evs.map (·.act) := by rw [← hos]; exact List.mem_map.mpr ⟨o, ho, rfl⟩
  obtain ⟨e, he, hea⟩ := List.mem_map.mp this
  rw [← hea]
  exact diskRevolve_oneRead N cm c evs h e he

theorem diskSeg_noStoresDeps (N : Nat) (t0 : Array (Array Nat)) (tinf : Array Nat) (cm uf wr : Nat) :
    ∀ (fuel : Nat) (spine : Bool) (lo hi : Nat) (evs : List Ev),
      diskSeg N t0 tinf cm uf wr fuel spine lo hi = some evs → ∀ e ∈ evs, storesDeps e.act = false :=
  diskSeg_forall (P := fun a => storesDeps a = false) N t0 tinf cm uf wr (fun _ _ => rfl) (fun _ => rfl)
    (fun _ _ _ _ h => segWith_noStoresDeps _ _ _ _ _ _ _ _ _ _ _ _ h)

/-- **attainment**: the observations of the DiskRevolve stream are accepted for `cfgDiskRevolve cm N`,
complete, restart data only, in the class `OneRead`, and cost exactly the table value -/
theorem diskRevolve_attains (N cm : Nat) (c : Costs) (hN : 1 ≤ N) (hcm : 1 ≤ cm) :
    ∃ evs os, diskRevolveEvs N cm c = .ok evs ∧ os.map (·.act) = evs.map (·.act) ∧
      Accepted (cfgDiskRevolve cm N) os ∧ OneRead os ∧
      obsCost c os = (optInfTable (N - 1) cm c.uf c.ub (c.wd + c.rd)
        (opt0Table (N - 1) cm c.uf c.ub)).getD (N - 1) 0 + N * c.uf := by
  obtain ⟨evs, sn, hevs, hclean⟩ := diskRevolve_clean N cm c hN hcm
  have hseg : diskSeg N (opt0Table (N - 1) cm c.uf c.ub)
      (optInfTable (N - 1) cm c.uf c.ub (c.wd + c.rd) (opt0Table (N - 1) cm c.uf c.ub)) cm c.uf
      (c.wd + c.rd) (N + 1) true 0 N = some evs := by
    unfold diskRevolveEvs at hevs
    dsimp only at hevs
    split at hevs
    · cases hevs
    · rename_i seg hseg
      injection hevs with hevs
      rw [hseg, List.append_cancel_right hevs]
  have hacts : (evs.map (Ev.obs · N) ++ [(⟨.endReverse, 1, N, some N, true, true⟩ : Obs)]).map (·.act)
      = (evs ++ [(⟨.endReverse, 1, N⟩ : Ev)]).map (·.act) := by
    rw [List.map_append, List.map_append, List.map_map]
    rfl
  refine ⟨_, _, hevs, hacts, ⟨hclean.run_viols, ?_, ?_⟩,
    diskRevolve_obs_oneRead N cm c _ hevs _ hacts, ?_⟩
  · rw [hclean.run_state]; rfl
  · intro o ho
    rcases List.mem_append.mp ho with ho | ho
    · obtain ⟨e, he, rfl⟩ := List.mem_map.mp ho
      exact diskSeg_noStoresDeps _ _ _ _ _ _ _ _ _ _ _ hseg e he
    · rw [List.mem_singleton] at ho; subst ho; rfl
  · rw [obsCost_eq_cost c _ _ hacts]
    exact diskRevolve_cost N cm c hN hcm _ hevs

/-- N = 4, one RAM unit: the RAM checkpoint of step 0 is copied to DISK (free in `obsCost`), the RAM
unit is reused for step 1, and step 0 comes back from DISK by a `Move` -/
def cexCopyToDisk : List Obs :=
  [⟨.forward 0 3 true false .ram, 3, 0, some 4, false, true⟩,
   ⟨.forward 3 4 false true .work, 4, 0, some 4, false, true⟩,
   ⟨.endForward, 4, 0, some 4, false, true⟩,
   ⟨.reverse 4 3 true, 4, 1, some 4, false, true⟩,
   ⟨.copy 0 .ram .disk, 4, 1, some 4, false, true⟩,
   ⟨.move 0 .ram .work, 0, 1, some 4, false, true⟩,
   ⟨.forward 0 1 false false .none, 1, 1, some 4, false, true⟩,
   ⟨.forward 1 2 true false .ram, 2, 1, some 4, false, true⟩,
   ⟨.forward 2 3 false true .work, 3, 1, some 4, false, true⟩,
   ⟨.reverse 3 2 true, 3, 2, some 4, false, true⟩,
   ⟨.move 1 .ram .work, 1, 2, some 4, false, true⟩,
   ⟨.forward 1 2 false true .work, 2, 2, some 4, false, true⟩,
   ⟨.reverse 2 1 true, 2, 3, some 4, false, true⟩,
   ⟨.move 0 .disk .work, 0, 3, some 4, false, true⟩,
   ⟨.forward 0 1 false true .work, 1, 3, some 4, false, true⟩,
   ⟨.reverse 1 0 true, 1, 4, some 4, false, true⟩,
   ⟨.endReverse, 1, 4, some 4, true, true⟩]

def c1120 : Costs := ⟨1, 1, 2, 0⟩
def c3151 : Costs := ⟨3, 1, 5, 1⟩

theorem cexCopyToDisk_accepted : Accepted (cfgDiskRevolve 1 4) cexCopyToDisk := by decide +kernel

theorem cexCopyToDisk_accepted_h : Accepted (cfgHRevolve 1 1 4) cexCopyToDisk := by decide +kernel

theorem cexCopyToDisk_cost : obsCost c1120 cexCopyToDisk = 13 ∧ obsCostT c1120 cexCopyToDisk = 15 ∧
    (∀ o ∈ cexCopyToDisk, copiesFromDisk o.act = false) := by decide +kernel

theorem optInf_4 : (optInfTable 3 1 1 1 (2 + 0) (opt0Table 3 1 1 1)).getD 3 0 + 4 * 1 = 14 := by
  decide +kernel

theorem hopt_4 : (hoptTable 3 1 1 0 2 0 0 1 1).opt 1 3 1 = some 10 := by decide +kernel

/-- the `obsCost` of `cexCopyToDisk` (accepted for `cfgDiskRevolve 1 4`, complete, restart data only:
`cexCopyToDisk_accepted`; reads its disk checkpoint once: `cexCopyToDisk_cost`) is below the cost of the
DiskRevolve stream -/
theorem cexCopyToDisk_beats_diskRevolve (evs : List Ev) (h : diskRevolveEvs 4 1 c1120 = .ok evs) :
    obsCost c1120 cexCopyToDisk < cost c1120 evs := by
  rw [diskRevolve_cost 4 1 c1120 (by decide) (by decide) evs h, cexCopyToDisk_cost.1]
  show 13 < (optInfTable 3 1 1 1 (2 + 0) (opt0Table 3 1 1 1)).getD 3 0 + 4 * 1
  rw [optInf_4]
  decide

/-- … and below the cost of the HRevolve stream with one disk unit -/
theorem cexCopyToDisk_beats_hrevolve (evs : List Ev) (h : hrevolveEvs 4 1 1 c1120 = .ok evs) :
    obsCost c1120 cexCopyToDisk < cost c1120 evs := by
  obtain ⟨v, hv, hc⟩ := hrevolve_cost 4 1 1 c1120 (by decide) (by decide) evs h
  have : v = 10 := by
    have h4 := hopt_4
    change (hoptTable 3 1 1 0 2 0 0 1 1).opt 1 3 1 = some v at hv
    rw [h4] at hv
    exact (Option.some.inj hv).symm
  rw [hc, cexCopyToDisk_cost.1, this]
  decide

/-- N = 6, one RAM unit: disk checkpoint at 0, RAM checkpoint at 3; after `[3, 6)` is reversed the disk
checkpoint is read by a `Copy` (it stays on DISK), the RAM unit takes step 1, and the disk checkpoint is
read a second time (the `Move`) for the last step -/
def cexMultiRead : List Obs :=
  [⟨.forward 0 3 true false .disk, 3, 0, some 6, false, true⟩,
   ⟨.forward 3 5 true false .ram, 5, 0, some 6, false, true⟩,
   ⟨.forward 5 6 false true .work, 6, 0, some 6, false, true⟩,
   ⟨.endForward, 6, 0, some 6, false, true⟩,
   ⟨.reverse 6 5 true, 6, 1, some 6, false, true⟩,
   ⟨.copy 3 .ram .work, 3, 1, some 6, false, true⟩,
   ⟨.forward 3 4 false false .none, 4, 1, some 6, false, true⟩,
   ⟨.forward 4 5 false true .work, 5, 1, some 6, false, true⟩,
   ⟨.reverse 5 4 true, 5, 2, some 6, false, true⟩,
   ⟨.move 3 .ram .work, 3, 2, some 6, false, true⟩,
   ⟨.forward 3 4 false true .work, 4, 2, some 6, false, true⟩,
   ⟨.reverse 4 3 true, 4, 3, some 6, false, true⟩,
   ⟨.copy 0 .disk .work, 0, 3, some 6, false, true⟩,
   ⟨.forward 0 1 false false .none, 1, 3, some 6, false, true⟩,
   ⟨.forward 1 2 true false .ram, 2, 3, some 6, false, true⟩,
   ⟨.forward 2 3 false true .work, 3, 3, some 6, false, true⟩,
   ⟨.reverse 3 2 true, 3, 4, some 6, false, true⟩,
   ⟨.move 1 .ram .work, 1, 4, some 6, false, true⟩,
   ⟨.forward 1 2 false true .work, 2, 4, some 6, false, true⟩,
   ⟨.reverse 2 1 true, 2, 5, some 6, false, true⟩,
   ⟨.move 0 .disk .work, 0, 5, some 6, false, true⟩,
   ⟨.forward 0 1 false true .work, 1, 5, some 6, false, true⟩,
   ⟨.reverse 1 0 true, 1, 6, some 6, false, true⟩,
   ⟨.endReverse, 1, 6, some 6, true, true⟩]

theorem cexMultiRead_accepted : Accepted (cfgDiskRevolve 1 6) cexMultiRead := by decide +kernel

theorem cexMultiRead_cost :
    obsCost c1120 cexMultiRead = 22 ∧ obsCostT c1120 cexMultiRead = 22 ∧
    obsCost c3151 cexMultiRead = 55 ∧ obsCostT c3151 cexMultiRead = 55 ∧
    (∀ o ∈ cexMultiRead, transfersToDisk o.act = false) ∧ ¬ OneRead cexMultiRead := by
  decide +kernel

theorem optInf_6_c1120 :
    (optInfTable 5 1 1 1 (2 + 0) (opt0Table 5 1 1 1)).getD 5 0 + 6 * 1 = 23 := by decide +kernel

theorem optInf_6_c3151 :
    (optInfTable 5 1 3 1 (5 + 1) (opt0Table 5 1 3 1)).getD 5 0 + 6 * 3 = 57 := by decide +kernel

/-- `cexMultiRead` (accepted for `cfgDiskRevolve 1 6`, complete, restart data only:
`cexMultiRead_accepted`; without any transfer into DISK: `cexMultiRead_cost`) is cheaper than the
DiskRevolve stream (22 < 23) -/
theorem cexMultiRead_beats_diskRevolve (evs : List Ev) (h : diskRevolveEvs 6 1 c1120 = .ok evs) :
    obsCostT c1120 cexMultiRead < cost c1120 evs := by
  rw [diskRevolve_cost 6 1 c1120 (by decide) (by decide) evs h, cexMultiRead_cost.2.1]
  show 22 < (optInfTable 5 1 1 1 (2 + 0) (opt0Table 5 1 1 1)).getD 5 0 + 6 * 1
  rw [optInf_6_c1120]
  decide

/-- the same with all four costs positive (55 < 57) -/
theorem cexMultiRead_beats_diskRevolve_pos (evs : List Ev) (h : diskRevolveEvs 6 1 c3151 = .ok evs) :
    obsCostT c3151 cexMultiRead < cost c3151 evs := by
  rw [diskRevolve_cost 6 1 c3151 (by decide) (by decide) evs h, cexMultiRead_cost.2.2.2.1]
  show 55 < (optInfTable 5 1 3 1 (5 + 1) (opt0Table 5 1 3 1)).getD 5 0 + 6 * 3
  rw [optInf_6_c3151]
  decide

/-- the Disk-Revolve table value, plus the first sweep -/
def optInfVal (N cm : Nat) (c : Costs) : Nat :=
  (optInfTable (N - 1) cm c.uf c.ub (c.wd + c.rd) (opt0Table (N - 1) cm c.uf c.ub)).getD (N - 1) 0
    + N * c.uf

/-- **`optInf` is not a lower bound over all accepted streams**, not even for the transfer-aware cost and
positive costs -/
theorem optInf_not_lowerBound :
    ¬ ∀ (N cm : Nat) (c : Costs) (os : List Obs), 1 ≤ N → 1 ≤ cm → 0 < c.uf → 0 < c.ub → 0 < c.wd →
        0 < c.rd → Accepted (cfgDiskRevolve cm N) os → optInfVal N cm c ≤ obsCostT c os := by
  intro h
  have := h 6 1 c3151 cexMultiRead (by decide) (by decide) (by decide) (by decide) (by decide)
    (by decide) cexMultiRead_accepted
  rw [cexMultiRead_cost.2.2.2.1] at this
  have e : optInfVal 6 1 c3151 = 57 := optInf_6_c3151
  rw [e] at this
  exact absurd this (by decide)

/-- **the DiskRevolve stream is not cost-optimal among all accepted streams** -/
theorem diskRevolve_not_optimal :
    ¬ ∀ (N cm : Nat) (c : Costs) (evs : List Ev) (os : List Obs), 1 ≤ N → 1 ≤ cm → 0 < c.uf →
        diskRevolveEvs N cm c = .ok evs → Accepted (cfgDiskRevolve cm N) os →
        cost c evs ≤ obsCostT c os := by
  intro h
  cases hd : diskRevolveEvs 6 1 c3151 with
  | error e =>
    have : (diskRevolveEvs 6 1 c3151).isOk = true := by decide +kernel
    rw [hd] at this
    cases this
  | ok evs =>
    have h1 := h 6 1 c3151 evs cexMultiRead (by decide) (by decide) (by decide) hd cexMultiRead_accepted
    have h2 := cexMultiRead_beats_diskRevolve_pos evs hd
    omega

/-- **with the cost model of `Proofs/Cost.lean` the H-Revolve table is not a lower bound** (the free
`Copy RAM → DISK`) -/
theorem hopt_not_lowerBound_obsCost :
    ¬ ∀ (N c0 c1 v : Nat) (c : Costs) (os : List Obs), 1 ≤ N → 1 ≤ c0 → 0 < c.uf →
        (hoptTable (N - 1) c0 c1 0 c.wd 0 c.rd c.ub c.uf).opt 1 (N - 1) c1 = some v →
        Accepted (cfgHRevolve c0 c1 N) os → v + N * c.uf ≤ obsCost c os := by
  intro h
  have := h 4 1 1 10 c1120 cexCopyToDisk (by decide) (by decide) (by decide) hopt_4
    cexCopyToDisk_accepted_h
  rw [cexCopyToDisk_cost.1] at this
  exact absurd this (by decide)

/-! ## the two lower-bound statements for the two-level classes (never used as hypotheses) -/

/-- in the class `OneRead` the Disk-Revolve table is a lower bound: DiskRevolve attains the optimum of
that class.  Exhaustive search: `cm = 1`, `N ≤ 8`; `cm = 2`, `N ≤ 7`; 20 cost vectors.  Proved as
`diskOneReadOptimal` in `Proofs/DiskOneReadLB.lean`. -/
def DiskOneReadOptimal : Prop :=
  ∀ (N cm : Nat) (c : Costs) (os : List Obs), 1 ≤ N → 1 ≤ cm → 0 < c.uf →
    Accepted (cfgDiskRevolve cm N) os → OneRead os → optInfVal N cm c ≤ obsCost c os

/-- the H-Revolve table is a lower bound for the transfer-aware cost of every accepted stream.
Exhaustive search: `(c0, c1) ∈ {(1,1), (1,2), (1,3), (2,1), (2,2)}`, `N ≤ 10`; 20 cost vectors.  Open;
proved under the hypotheses `Lifo` and `Lifo'` (`Proofs/HRevolveLBFullLifo.lean`, `Proofs/HRevolveLBFull.lean`). -/
def HRevolveOptimalT : Prop :=
  ∀ (N c0 c1 v : Nat) (c : Costs) (os : List Obs), 1 ≤ N → 1 ≤ c0 → 0 < c.uf →
    (hoptTable (N - 1) c0 c1 0 c.wd 0 c.rd c.ub c.uf).opt 1 (N - 1) c1 = some v →
    Accepted (cfgHRevolve c0 c1 N) os → v + N * c.uf ≤ obsCostT c os

/-! ## a lower bound for all accepted streams of the two-level configuration (not tight) -/

/-- every complete accepted stream of `cfgHRevolve c0 c1 N` costs at least what the binomial optimum
with `c0 + c1` free units costs -/
theorem hrevolve_cost_ge (N c0 c1 : Nat) (c : Costs) (hN : 1 ≤ N) (os : List Obs)
    (h : Accepted (cfgHRevolve c0 c1 N) os) :
    c.uf * (N + extraCell N (clampS N (c0 + c1))) + c.ub * N ≤ obsCost c os :=
  cost_lowerBound (cfg := cfgHRevolve c0 c1 N) (s := c0 + c1) ⟨⟨c0, c1, rfl, rfl, rfl⟩, rfl, rfl, rfl⟩
    hN c os h.1 h.2.1 h.2.2

end Ckpt.LB7

#print axioms Ckpt.LB7.diskRevolve_oneRead
#print axioms Ckpt.LB7.diskRevolve_attains
#print axioms Ckpt.LB7.cexCopyToDisk_beats_diskRevolve
#print axioms Ckpt.LB7.cexCopyToDisk_beats_hrevolve
#print axioms Ckpt.LB7.cexMultiRead_beats_diskRevolve
#print axioms Ckpt.LB7.cexMultiRead_beats_diskRevolve_pos
#print axioms Ckpt.LB7.optInf_not_lowerBound
#print axioms Ckpt.LB7.diskRevolve_not_optimal
#print axioms Ckpt.LB7.hopt_not_lowerBound_obsCost
#print axioms Ckpt.LB7.hrevolve_cost_ge
