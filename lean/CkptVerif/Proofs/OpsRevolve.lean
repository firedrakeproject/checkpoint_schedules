import CkptVerif.Proofs.OpsRefine
import CkptVerif.Proofs.Argmin
import CkptVerif.Proofs.SegWith
/-!
# Refinement for Revolve: the twin's stream is the recursive stream model `revSeg`

`revOpsAt`: the operations of `revolve(l, cm)` shifted to offset `lo`, in block form
(`shiftOps_revolveOps`).  `revolve_block`: converting them yields the events of `segWith`
(`stored = false`), and converting `Read_memory lo` followed by them without the leading
`Write_memory` yields the events of `segWith` with `stored = true`.
-/
namespace Ckpt.Ops

theorem shiftOp_fwd (s a b : Nat) : shiftOp s (Op.fwd a b) = Op.fwd (s + a) (s + b) := by
  simp [shiftOp, Op.fwd, Nat.add_comm]
theorem shiftOp_bwd (s a b : Nat) : shiftOp s (Op.bwd a b) = Op.bwd (s + a) (s + b) := by
  simp [shiftOp, Op.bwd, Nat.add_comm]
theorem shiftOp_wm (s n : Nat) : shiftOp s (Op.wm n) = Op.wm (s + n) := by
  simp [shiftOp, Op.wm, Nat.add_comm]
theorem shiftOp_rm (s n : Nat) : shiftOp s (Op.rm n) = Op.rm (s + n) := by
  simp [shiftOp, Op.rm, Nat.add_comm]
theorem shiftOp_dm (s n : Nat) : shiftOp s (Op.dm n) = Op.dm (s + n) := by
  simp [shiftOp, Op.dm, Nat.add_comm]
theorem shiftOp_wfm (s n : Nat) : shiftOp s (Op.wfm n) = Op.wfm (s + n) := by
  simp [shiftOp, Op.wfm, Nat.add_comm]
theorem shiftOp_dfm (s n : Nat) : shiftOp s (Op.dfm n) = Op.dfm (s + n) := by
  simp [shiftOp, Op.dfm, Nat.add_comm]
theorem shiftOp_wd (s n : Nat) : shiftOp s (Op.wd n) = Op.wd (s + n) := by
  simp [shiftOp, Op.wd, Nat.add_comm]
theorem shiftOp_rd (s n : Nat) : shiftOp s (Op.rd n) = Op.rd (s + n) := by
  simp [shiftOp, Op.rd, Nat.add_comm]

theorem shiftOp_shiftOp (s j : Nat) (o : Op) : shiftOp s (shiftOp j o) = shiftOp (s + j) o := by
  obtain ⟨k, lv, a, b⟩ := o
  cases k <;> simp only [shiftOp, Nat.add_assoc, Nat.add_comm j s]

theorem shiftOps_shiftOps (s j : Nat) (ops : List Op) :
    shiftOps s (shiftOps j ops) = shiftOps (s + j) ops := by
  unfold shiftOps
  rw [List.map_map]
  apply List.map_congr_left
  intro o _
  exact shiftOp_shiftOp s j o

theorem shiftOps_nil (s : Nat) : shiftOps s [] = [] := rfl

theorem shiftOps_cons (s : Nat) (o : Op) (xs : List Op) :
    shiftOps s (o :: xs) = shiftOp s o :: shiftOps s xs := rfl

theorem shiftOps_append (s : Nat) (a b : List Op) :
    shiftOps s (a ++ b) = shiftOps s a ++ shiftOps s b := by
  unfold shiftOps; rw [List.map_append]

theorem shiftOps_zero (x : List Op) : shiftOps 0 x = x := by
  unfold shiftOps
  rw [← List.map_id x]
  simp only [List.map_map]
  apply List.map_congr_left
  intro o _
  obtain ⟨k, lv, a, b⟩ := o
  cases k <;> simp [shiftOp]

theorem shiftOp_kind (s : Nat) (o : Op) : (shiftOp s o).kind = o.kind := by
  obtain ⟨k, lv, a, b⟩ := o
  cases k <;> rfl

theorem removeUselessWm_shift (s : Nat) (ops : List Op) :
    removeUselessWm (shiftOps s ops) = shiftOps s (removeUselessWm ops) := by
  cases ops with
  | nil => rfl
  | cons o rest =>
    show (if (shiftOp s o).kind = .writeMemory then shiftOps s rest else shiftOp s o :: shiftOps s rest) = _
    rw [shiftOp_kind]
    by_cases h : o.kind = .writeMemory
    · rw [if_pos h]; simp [removeUselessWm, h]
    · rw [if_neg h]; simp [removeUselessWm, h, shiftOps]

theorem shiftOps_turn (s lo : Nat) : shiftOps s (turnOps lo) = turnOps (s + lo) := by
  simp [shiftOps, turnOps, shiftOp_wfm, shiftOp_fwd, shiftOp_bwd, shiftOp_dfm, Nat.add_assoc]

/-- the stored segment `[lo, lo+n+1)` with one slot: re-load, advance, one step back, … -/
def qLoop (lo : Nat) : Nat → List Op
  | 0 => [Op.rm lo] ++ turnOps lo ++ [Op.dm lo]
  | n+1 => [Op.rm lo, Op.fwd lo (lo + n + 1)] ++ turnOps (lo + n + 1) ++ qLoop lo n

def revOpsAt (t0 : Array (Array Nat)) (uf : Nat) : (fuel lo l cm : Nat) → Option (List Op)
  | 0, _, _, _ => none
  | fuel+1, lo, l, cm =>
    if l = 0 then some (turnOps lo ++ [Op.dm lo])
    else if cm = 0 then none
    else if l = 1 ∨ cm = 1 then
      some ([Op.wm lo, Op.fwd lo (lo + l)] ++ turnOps (lo + l) ++ qLoop lo (l - 1))
    else
      let listMem := (List.range' 1 (l - 1)).map (fun j =>
        some (j * uf + opt0Get t0 (cm - 1) (l - j) + opt0Get t0 cm (j - 1)))
      let jmin := argminO listMem
      match revOpsAt t0 uf fuel (lo + jmin) (l - jmin) (cm - 1) with
      | none => none
      | some right =>
        match revOpsAt t0 uf fuel lo (jmin - 1) cm with
        | none => none
        | some left =>
          some ([Op.wm lo, Op.fwd lo (lo + jmin)] ++ right ++ [Op.rm lo] ++ removeUselessWm left)

theorem shiftOps_qLoop (s lo : Nat) : ∀ n, shiftOps s (qLoop lo n) = qLoop (s + lo) n := by
  intro n
  induction n with
  | zero =>
    rw [qLoop, qLoop, shiftOps_append, shiftOps_append, shiftOps_turn]
    simp [shiftOps, shiftOp_rm, shiftOp_dm]
  | succ n ih =>
    rw [qLoop, qLoop, shiftOps_append, shiftOps_append, ih, shiftOps_turn]
    simp [shiftOps, shiftOp_rm, shiftOp_fwd, Nat.add_assoc]

theorem shift_revOpsAt (t0 : Array (Array Nat)) (uf : Nat) :
    ∀ (fuel s lo l cm : Nat),
      (revOpsAt t0 uf fuel lo l cm).map (shiftOps s) = revOpsAt t0 uf fuel (s + lo) l cm := by
  intro fuel
  induction fuel with
  | zero => intro s lo l cm; rfl
  | succ fuel ih =>
    intro s lo l cm
    rw [revOpsAt, revOpsAt]
    by_cases h0 : l = 0
    · rw [if_pos h0, if_pos h0, Option.map_some, shiftOps_append, shiftOps_turn]
      rw [shiftOps_cons, shiftOps_nil, shiftOp_dm]
    rw [if_neg h0, if_neg h0]
    by_cases hc : cm = 0
    · rw [if_pos hc, if_pos hc]; rfl
    rw [if_neg hc, if_neg hc]
    by_cases h1 : l = 1 ∨ cm = 1
    · rw [if_pos h1, if_pos h1, Option.map_some, shiftOps_append, shiftOps_append, shiftOps_turn,
        shiftOps_qLoop]
      rw [shiftOps_cons, shiftOps_cons, shiftOps_nil, shiftOp_wm, shiftOp_fwd, Nat.add_assoc]
    rw [if_neg h1, if_neg h1]
    dsimp only
    generalize argminO ((List.range' 1 (l - 1)).map (fun j =>
        some (j * uf + opt0Get t0 (cm - 1) (l - j) + opt0Get t0 cm (j - 1)))) = j
    rw [Nat.add_assoc s lo j, ← ih s (lo + j) _ _, ← ih s lo _ _]
    cases revOpsAt t0 uf fuel (lo + j) (l - j) (cm - 1) with
    | none => rfl
    | some right =>
      cases revOpsAt t0 uf fuel lo (j - 1) cm with
      | none => rfl
      | some left =>
        simp only [Option.map_some]
        rw [shiftOps_append, shiftOps_append, shiftOps_append, removeUselessWm_shift]
        simp [shiftOps, shiftOp_wm, shiftOp_fwd, shiftOp_rm]

/-- the `cm == 1` loop of `revolve`, iterations `n-1, …, 0`, followed by the final block -/
theorem revolve_loop_eq (l : Nat) : ∀ n, n + 1 ≤ l →
    (List.range n).reverse.flatMap (revolveLoopBody l) ++
      [Op.rm 0, Op.wfm 1, Op.fwd 0 1, Op.bwd 1 0, Op.dfm 1, Op.dm 0] = qLoop 0 n := by
  intro n
  induction n with
  | zero => intro _; simp [qLoop, turnOps]
  | succ n ih =>
    intro hn
    have hr : (List.range (n + 1)).reverse = n :: (List.range n).reverse := by
      rw [List.range_succ, List.reverse_append]; rfl
    rw [hr, List.flatMap_cons, List.append_assoc, ih (by omega)]
    have h1 : n ≠ l - 1 := by omega
    simp [revolveLoopBody, qLoop, turnOps, h1]

theorem revolveOps_eq_at (t0 : Array (Array Nat)) (uf : Nat) :
    ∀ (fuel l cm : Nat), revolveOps t0 uf fuel l cm = revOpsAt t0 uf fuel 0 l cm := by
  intro fuel
  induction fuel with
  | zero => intro l cm; rfl
  | succ fuel ih =>
    intro l cm
    rw [revolveOps, revOpsAt]
    by_cases h0 : l = 0
    · simp [h0, turnOps]
    rw [if_neg h0, if_neg h0]
    by_cases hc : cm = 0
    · simp [hc]
    rw [if_neg hc, if_neg hc]
    by_cases h1 : l = 1
    · subst h1
      simp [qLoop, turnOps]
    rw [if_neg h1]
    by_cases hc1 : cm = 1
    · rw [if_pos hc1, if_pos (Or.inr hc1)]
      obtain ⟨l', rfl⟩ := Nat.exists_eq_add_one_of_ne_zero h0
      have hr : (List.range (l' + 1)).reverse = l' :: (List.range l').reverse := by
        rw [List.range_succ, List.reverse_append]; rfl
      rw [hr, List.flatMap_cons]
      have := revolve_loop_eq (l' + 1) l' (le_refl _)
      simp only [List.append_assoc] at this ⊢
      rw [this]
      simp [revolveLoopBody, turnOps]
    rw [if_neg hc1, if_neg (not_or.2 ⟨h1, hc1⟩)]
    dsimp only
    generalize argminO ((List.range' 1 (l - 1)).map (fun j =>
        some (j * uf + opt0Get t0 (cm - 1) (l - j) + opt0Get t0 cm (j - 1)))) = j
    rw [ih, ih, Nat.zero_add, ← Nat.add_zero j, ← shift_revOpsAt t0 uf fuel j 0, Nat.add_zero]
    cases revOpsAt t0 uf fuel 0 (l - j) (cm - 1) with
    | none => rfl
    | some right => simp; rfl

theorem shiftOps_revolveOps (t0 : Array (Array Nat)) (uf fuel lo l cm : Nat) :
    (revolveOps t0 uf fuel l cm).map (shiftOps lo) = revOpsAt t0 uf fuel lo l cm := by
  rw [revolveOps_eq_at, shift_revOpsAt, Nat.add_zero]

def opTouches (o : Op) : Bool := opIsRead o || opIsWrite o

/-- everything after the block concerns checkpoints of earlier steps -/
def TailOk (lo : Nat) (tail : List Op) : Prop :=
  ∀ o ∈ tail, opTouches o = true → (opKeyOf o).2 < lo

def KeysOps (lo hi : Nat) (ops : List Op) : Prop :=
  ∀ o ∈ ops, opTouches o = true → lo ≤ (opKeyOf o).2 ∧ (opKeyOf o).2 < hi

def SnapOk (lo : Nat) (S : List (Option Storage × Nat)) : Prop := ∀ k ∈ S, k.2 < lo

theorem lastRd_skip (k : Option Storage × Nat) (a b : List Op)
    (h : ∀ o ∈ a, opTouches o = true → opKeyOf o ≠ k) : lastRd k (a ++ b) = lastRd k b := by
  induction a with
  | nil => rfl
  | cons o rest ih =>
    rw [List.cons_append, lastRd]
    have ho := h o (List.mem_cons_self ..)
    have h1 : ¬ (opIsRead o = true ∧ opKeyOf o = k) := by
      rintro ⟨h1, h2⟩; exact ho (by simp [opTouches, h1]) h2
    have h2 : ¬ (opIsWrite o = true ∧ opKeyOf o = k) := by
      rintro ⟨h1, h2⟩; exact ho (by simp [opTouches, h1]) h2
    rw [if_neg h1, if_neg h2]
    exact ih (fun o' ho' => h o' (List.mem_cons_of_mem _ ho'))

theorem lastRd_none (k : Option Storage × Nat) (a : List Op)
    (h : ∀ o ∈ a, opTouches o = true → opKeyOf o ≠ k) : lastRd k a = true := by
  have := lastRd_skip k a [] h
  rw [List.append_nil] at this
  rw [this]; rfl

theorem lastRd_tail (lo : Nat) (tail : List Op) (h : TailOk lo tail) (st : Option Storage) (m : Nat)
    (hm : lo ≤ m) : lastRd (st, m) tail = true := by
  apply lastRd_none
  intro o ho ht he
  have := h o ho ht
  rw [he] at this
  simp at this
  omega

theorem lastRd_noTouch_tail (lo : Nat) (k : Option Storage) (a y : List Op)
    (ha : ∀ o ∈ a, opTouches o = true → opKeyOf o ≠ (k, lo)) (hy : TailOk lo y) :
    lastRd (k, lo) (a ++ y) = true := by
  rw [lastRd_skip _ _ _ ha]
  exact lastRd_tail lo y hy _ lo (le_refl _)

theorem opTouches_turn (lo : Nat) : ∀ o ∈ turnOps lo, opTouches o = false := by
  intro o ho
  simp [turnOps] at ho
  rcases ho with rfl | rfl | rfl | rfl <;> rfl

theorem opTouches_turn_dm (lo : Nat) : ∀ o ∈ turnOps lo ++ [Op.dm lo], opTouches o = false := by
  intro o ho
  rcases List.mem_append.1 ho with ho | ho
  · exact opTouches_turn lo o ho
  · rw [List.mem_singleton] at ho; subst ho; rfl

theorem opTouches_fwd (a b : Nat) : opTouches (Op.fwd a b) = false := rfl
theorem opTouches_dm (n : Nat) : opTouches (Op.dm n) = false := rfl
theorem opKeyOf_rm (n : Nat) : opKeyOf (Op.rm n) = (some .ram, n) := rfl
theorem opKeyOf_wm (n : Nat) : opKeyOf (Op.wm n) = (some .ram, n) := rfl

theorem lastRd_rm (n : Nat) (rest : List Op) : lastRd (some .ram, n) (Op.rm n :: rest) = false := by
  rw [lastRd, if_pos ⟨rfl, opKeyOf_rm n⟩]

theorem wf_turn (lo : Nat) : OpsWf (turnOps lo) := by
  intro o ho
  simp [turnOps] at ho
  rcases ho with rfl | rfl | rfl | rfl
  · exact ⟨_, convAct_wfm _⟩
  · exact ⟨_, convAct_fwd _ _ (by omega)⟩
  · exact ⟨_, convAct_bwd _ _ (by omega)⟩
  · exact ⟨_, convAct_dfm _⟩

theorem OpsWf.append {a b : List Op} (ha : OpsWf a) (hb : OpsWf b) : OpsWf (a ++ b) := by
  intro o ho
  rcases List.mem_append.1 ho with h | h
  · exact ha o h
  · exact hb o h

theorem KeysOps.append {lo hi : Nat} {a b : List Op} (ha : KeysOps lo hi a) (hb : KeysOps lo hi b) :
    KeysOps lo hi (a ++ b) := by
  intro o ho
  rcases List.mem_append.1 ho with h | h
  · exact ha o h
  · exact hb o h

theorem KeysOps.mono {lo hi lo' hi' : Nat} {a : List Op} (ha : KeysOps lo hi a) (h1 : lo' ≤ lo)
    (h2 : hi ≤ hi') : KeysOps lo' hi' a := by
  intro o ho ht
  have := ha o ho ht
  omega

theorem KeysOps.of_noTouch {lo hi : Nat} {a : List Op} (h : ∀ o ∈ a, opTouches o = false) :
    KeysOps lo hi a := by
  intro o ho ht
  rw [h o ho] at ht; cases ht

theorem TailOk.nil (lo : Nat) : TailOk lo [] := by intro o ho; cases ho

theorem TailOk.of_noTouch {lo : Nat} {a : List Op} (h : ∀ o ∈ a, opTouches o = false) :
    TailOk lo a := by
  intro o ho ht; rw [h o ho] at ht; cases ht

theorem TailOk.append {lo : Nat} {a b : List Op} (ha : TailOk lo a) (hb : TailOk lo b) :
    TailOk lo (a ++ b) := by
  intro o ho ht
  rcases List.mem_append.1 ho with h | h
  · exact ha o h ht
  · exact hb o h ht

theorem TailOk.mono {lo lo' : Nat} {a : List Op} (ha : TailOk lo a) (h : lo ≤ lo') :
    TailOk lo' a := by
  intro o ho ht; have := ha o ho ht; omega

theorem TailOk.of_keys {lo hi lo' : Nat} {a : List Op} (ha : KeysOps lo hi a) (h : hi ≤ lo') :
    TailOk lo' a := by
  intro o ho ht; have := (ha o ho ht).2; omega

theorem snap_key (lo : Nat) (S : List (Option Storage × Nat)) (hS : SnapOk lo S)
    (st : Option Storage) : (st, lo) ∉ S := by
  intro h; have := hS _ h; simp at this

theorem SnapOk.cons {lo lo' : Nat} {S : List (Option Storage × Nat)} (h : SnapOk lo S)
    (hl : lo < lo') (st : Option Storage) : SnapOk lo' ((st, lo) :: S) := by
  intro k hk
  rcases List.mem_cons.1 hk with rfl | hk
  · exact hl
  · have := h k hk; omega

/-- facts about a block of operations for the segment `[lo, hi)`: well-formed, reads and writes
concern steps in `[lo, hi)`, RAM only if `ramOnly` -/
structure OpsFacts (lo hi : Nat) (ramOnly : Prop) (ops : List Op) : Prop where
  wf : OpsWf ops
  keys : KeysOps lo hi ops
  ram : ramOnly → ∀ o ∈ ops, opTouches o = true → (opKeyOf o).1 = some Storage.ram

theorem OpsFacts.append {lo hi : Nat} {p : Prop} {a b : List Op} (ha : OpsFacts lo hi p a)
    (hb : OpsFacts lo hi p b) : OpsFacts lo hi p (a ++ b) where
  wf := ha.wf.append hb.wf
  keys := ha.keys.append hb.keys
  ram := by
    intro hp o ho ht
    rcases List.mem_append.1 ho with h | h
    · exact ha.ram hp o h ht
    · exact hb.ram hp o h ht

theorem OpsFacts.mono {lo hi lo' hi' : Nat} {p p' : Prop} {a : List Op} (ha : OpsFacts lo hi p a)
    (h1 : lo' ≤ lo) (h2 : hi ≤ hi') (h3 : p' → p) : OpsFacts lo' hi' p' a where
  wf := ha.wf
  keys := ha.keys.mono h1 h2
  ram := fun hp => ha.ram (h3 hp)

theorem OpsFacts.subset {lo hi : Nat} {p : Prop} {a b : List Op} (hb : OpsFacts lo hi p b)
    (h : ∀ o ∈ a, o ∈ b) : OpsFacts lo hi p a where
  wf := fun o ho => hb.wf o (h o ho)
  keys := fun o ho => hb.keys o (h o ho)
  ram := fun hp o ho => hb.ram hp o (h o ho)

theorem OpsFacts.of_noTouch {lo hi : Nat} {p : Prop} {a : List Op} (hwf : OpsWf a)
    (h : ∀ o ∈ a, opTouches o = false) : OpsFacts lo hi p a where
  wf := hwf
  keys := KeysOps.of_noTouch h
  ram := by intro _ o ho ht; rw [h o ho] at ht; cases ht

theorem OpsFacts.single {lo hi : Nat} {p : Prop} (o : Op) (hwf : ∃ a, convAct o = .ok a)
    (h : opTouches o = true → lo ≤ (opKeyOf o).2 ∧ (opKeyOf o).2 < hi ∧
      (p → (opKeyOf o).1 = some Storage.ram)) : OpsFacts lo hi p [o] where
  wf := by intro o' ho'; rw [List.mem_singleton] at ho'; subst ho'; exact hwf
  keys := by
    intro o' ho' ht; rw [List.mem_singleton] at ho'; subst ho'
    exact ⟨(h ht).1, (h ht).2.1⟩
  ram := by
    intro hp o' ho' ht; rw [List.mem_singleton] at ho'; subst ho'
    exact (h ht).2.2 hp

theorem facts_fwd (lo hi a b : Nat) (p : Prop) (h : a < b) : OpsFacts lo hi p [Op.fwd a b] :=
  OpsFacts.single _ ⟨_, convAct_fwd a b h⟩ (fun ht => by cases ht)

theorem facts_turn (lo hi lo' : Nat) (p : Prop) : OpsFacts lo hi p (turnOps lo') :=
  OpsFacts.of_noTouch (wf_turn lo') (opTouches_turn lo')

theorem facts_dm (lo hi n : Nat) (p : Prop) : OpsFacts lo hi p [Op.dm n] :=
  OpsFacts.single _ ⟨_, convAct_dm n⟩ (fun ht => by cases ht)

theorem facts_rm (lo hi : Nat) (p : Prop) (hlt : lo < hi) : OpsFacts lo hi p [Op.rm lo] :=
  OpsFacts.single _ ⟨_, convAct_rm lo⟩ (fun _ => ⟨le_refl _, hlt, fun _ => rfl⟩)

theorem facts_wm (lo hi : Nat) (p : Prop) (hlt : lo < hi) : OpsFacts lo hi p [Op.wm lo] :=
  OpsFacts.single _ ⟨_, convAct_wm lo⟩ (fun _ => ⟨le_refl _, hlt, fun _ => rfl⟩)

theorem facts_qLoop (lo hi : Nat) (p : Prop) (hlt : lo < hi) : ∀ n, OpsFacts lo hi p (qLoop lo n)
  | 0 => ((facts_rm lo hi p hlt).append (facts_turn lo hi lo p)).append (facts_dm lo hi lo p)
  | n + 1 => by
    have : qLoop lo (n + 1) = [Op.rm lo] ++ [Op.fwd lo (lo + n + 1)] ++ turnOps (lo + n + 1) ++
        qLoop lo n := by simp [qLoop]
    rw [this]
    exact (((facts_rm lo hi p hlt).append (facts_fwd lo hi _ _ p (by omega))).append
      (facts_turn lo hi _ p)).append (facts_qLoop lo hi p hlt n)

theorem segWith_turn (N : Nat) (σ : Nat → Nat → Option Nat) (S : Nat) (alloc : Nat → Storage)
    (persist : Bool) (fuel : Nat) (spine : Bool) (lo d : Nat) (h : spine = true ↔ lo + 1 = N) :
    segWith N σ S alloc persist (fuel + 1) false spine lo (lo + 1) d = some (turnEvs N lo) := by
  rw [segWith_unit, ← turnEvs_spine N lo spine h]
  rfl

theorem turn_dm_block (N : Nat) (wrap : Option Op) (tail : List Op) (lo : Nat)
    (S : List (Option Storage × Nat)) (hlo : lo + 1 ≤ N) (pos : Nat) (prev : Option Op) :
    Conv N wrap pos prev (turnOps lo ++ [Op.dm lo]) tail lo (N - (lo + 1)) S (turnEvs N lo) (lo + 1)
      (N - lo) S :=
  Conv.discard_suffix (Op.dm lo) _ (convAct_dm lo) (Or.inr rfl) (by simp [turnOps])
    (turn_block N wrap pos prev _ lo S hlo)

theorem lastRd_qLoop (lo n : Nat) (y : List Op) : lastRd (some .ram, lo) (qLoop lo n ++ y) = false := by
  cases n <;> exact lastRd_rm lo _

theorem lastRd_turn_qLoop (lo m n : Nat) (y : List Op) :
    lastRd (some .ram, lo) ((turnOps m ++ qLoop lo n) ++ y) = false := by
  rw [List.append_assoc, lastRd_skip _ _ _ (fun o ho ht => by
    rw [opTouches_turn _ o ho] at ht; cases ht)]
  exact lastRd_qLoop lo n y

theorem exists_add_one_of_le {k n : Nat} (h : k + 1 ≤ n) : ∃ f, n = f + 1 :=
  Nat.exists_eq_add_one_of_ne_zero (Nat.ne_of_gt ((Nat.succ_pos k).trans_le h))

/-- the stored segment `[lo, lo+n+1)` reversed with a single slot (or `n ≤ 1`) -/
theorem qLoop_block (N : Nat) (t : Array (Array Nat)) (uf S0 d : Nat) (wrap : Option Op)
    (tail : List Op) (lo : Nat) (S : List (Option Storage × Nat)) (htail : TailOk lo tail)
    (hS : SnapOk lo S) :
    ∀ (n fuelS : Nat), lo + n + 1 < N → n + 1 ≤ fuelS →
      (∀ m, 2 ≤ m → m ≤ n + 1 → revolveSplit t uf m (S0 - d) = some (m - 1)) →
      ∃ evs, segWith N (revolveSplit t uf) S0 (fun _ => Storage.ram) false fuelS true false lo
          (lo + n + 1) d = some evs ∧
        ∀ pos prev n0, Conv N wrap pos prev (qLoop lo n) tail n0 (N - (lo + n + 1))
          ((some .ram, lo) :: S) evs (lo + 1) (N - lo) S := by
  intro n
  induction n with
  | zero =>
    intro fuelS hN hf _
    obtain ⟨f, rfl⟩ := exists_add_one_of_le hf
    refine ⟨_, segWith_unit N _ S0 _ false f true false lo d, fun pos prev n0 => ?_⟩
    have hlast : lastRd (some Storage.ram, lo) ((turnOps lo ++ [Op.dm lo]) ++ tail) = true :=
      lastRd_noTouch_tail lo _ _ tail (fun o ho ht => by
        rw [opTouches_turn_dm lo o ho] at ht; cases ht) htail
    refine Conv.evs (Conv.move_prefix (Op.rm lo) _ .ram lo _ (convAct_rm lo) rfl rfl rfl
      (snap_key lo S hS _) hlast (turn_dm_block N wrap tail lo S hN.le) pos prev n0) ?_
    have : ¬ lo + 1 = N := Nat.ne_of_lt hN
    simp [turnEvs, fwdEvs, this]
  | succ n ih =>
    intro fuelS hN hf hσ
    obtain ⟨f, rfl⟩ := exists_add_one_of_le hf
    have hf' : n + 1 ≤ f := Nat.le_of_succ_le_succ hf
    have hN' : lo + (n + 1) < N := Nat.lt_of_succ_lt hN
    obtain ⟨evsL, hL, hconvL⟩ := ih f hN' hf' (fun m h1 h2 => hσ m h1 (Nat.le_succ_of_le h2))
    have hσ' : revolveSplit t uf (lo + (n + 1) + 1 - lo) (S0 - d) = some (n + 1) := by
      rw [Nat.add_assoc, Nat.add_sub_cancel_left]
      exact hσ (n + 2) (Nat.le_add_left 2 n) (le_refl _)
    obtain ⟨f', rfl⟩ := exists_add_one_of_le hf'
    have hR := segWith_turn N (revolveSplit t uf) S0 (fun _ => Storage.ram) false f' false
      (lo + (n + 1)) (d + 1) ⟨fun h => (by cases h), fun h => absurd h (Nat.ne_of_lt hN)⟩
    refine ⟨_, segWith_split N _ S0 _ false (f' + 1) true false lo (lo + (n + 1) + 1) d (n + 1) _ evsL
      (by omega) hσ' hR hL, fun pos prev n0 => ?_⟩
    refine Conv.evs (Conv.copy_prefix (evsY := turnEvs N (lo + (n + 1)) ++ evsL) (Op.rm lo) _ .ram lo
      (n + 1) _ (convAct_rm lo) rfl rfl rfl (Nat.succ_pos n) (Nat.ne_of_lt hN')
      (lastRd_turn_qLoop lo _ n tail) (fun pos prev => ?_) pos prev n0) (by simp)
    refine Conv.append (n1 := lo + n + 1 + 1) (r1 := N - (lo + n + 1))
      (S1 := (some .ram, lo) :: S) (by simp [turnOps]) ?_ ?_
    · exact turn_block N wrap _ _ _ (lo + n + 1) _ hN.le
    · exact Conv.congr (hconvL _ _ (lo + n + 1 + 1)) rfl rfl rfl rfl rfl

theorem revolveSplit_last (t : Array (Array Nat)) (uf m k : Nat) (hk : k ≠ 0)
    (h : m - 1 = 1 ∨ k = 1) : revolveSplit t uf m k = some (m - 1) := by
  unfold revolveSplit
  dsimp only
  rw [if_neg hk, if_pos h]

theorem revolveSplit_argmin (t : Array (Array Nat)) (uf m k : Nat) (hk : k ≠ 0)
    (h : ¬ (m - 1 = 1 ∨ k = 1)) :
    revolveSplit t uf m k = some (argminO ((List.range' 1 (m - 1 - 1)).map (fun j =>
      some (j * uf + opt0Get t (k - 1) (m - 1 - j) + opt0Get t k (j - 1))))) := by
  unfold revolveSplit
  dsimp only
  rw [if_neg hk, if_neg h]

theorem removeUselessWm_wm (lo : Nat) (x : List Op) : removeUselessWm (Op.wm lo :: x) = x := by
  simp [removeUselessWm, Op.wm]

/-- what is proved about a block `revolve(hi - lo - 1, cm)` at offset `lo` -/
def RevBlock (N : Nat) (t : Array (Array Nat)) (uf lo hi cm : Nat) (ops : List Op) : Prop :=
  ∀ (S0 d fuelS : Nat) (spine : Bool) (tail : List Op) (wrap : Option Op)
    (S : List (Option Storage × Nat)),
    hi ≤ N → S0 - d = cm → hi - lo ≤ fuelS → (spine = true ↔ hi = N) →
    TailOk lo tail → SnapOk lo S →
    (∃ evsP, segWith N (revolveSplit t uf) S0 (fun _ => Storage.ram) false fuelS false spine lo
        hi d = some evsP ∧
      ∀ pos prev, Conv N wrap pos prev ops tail lo (N - hi) S evsP (lo + 1) (N - lo) S) ∧
    (hi < N →
      ∃ evsQ, segWith N (revolveSplit t uf) S0 (fun _ => Storage.ram) false fuelS true false lo
          hi d = some evsQ ∧
        ∀ pos prev n0, Conv N wrap pos prev (Op.rm lo :: removeUselessWm ops) tail n0
          (N - hi) ((some .ram, lo) :: S) evsQ (lo + 1) (N - lo) S)

/-- the common part of `ops` (after `Write_memory lo; Forward`) and of `Read_memory lo; ops`
without its `Write_memory` (after `Read_memory lo; Forward`): the first action differs, the rest
is converted from the same state -/
theorem revBlock_of_rest (N : Nat) (t : Array (Array Nat)) (uf lo hi cm a : Nat) (Y : List Op)
    (ha1 : 1 ≤ a) (hal : lo + a < hi)
    (hσ : revolveSplit t uf (hi - lo) cm = some a)
    (hlastY : ∀ y, lastRd (some .ram, lo) (Y ++ y) = false)
    (hY : ∀ (S0 d f : Nat) (spine : Bool) (tail : List Op) (wrap : Option Op)
      (S : List (Option Storage × Nat)),
      hi ≤ N → S0 - d = cm → hi - lo ≤ f + 1 → (spine = true ↔ hi = N) →
      TailOk lo tail → SnapOk lo S →
      ∃ right left,
        segWith N (revolveSplit t uf) S0 (fun _ => Storage.ram) false f false spine (lo + a)
          hi (d + 1) = some right ∧
        segWith N (revolveSplit t uf) S0 (fun _ => Storage.ram) false f true false lo (lo + a) d
          = some left ∧
        ∀ pos prev, Conv N wrap pos prev Y tail (lo + a) (N - hi) ((some .ram, lo) :: S)
          (right ++ left) (lo + 1) (N - lo) S) :
    RevBlock N t uf lo hi cm (Op.wm lo :: Op.fwd lo (lo + a) :: Y) := by
  have hne : hi ≠ lo + 1 := by omega
  have hlo : lo < hi := (Nat.lt_add_of_pos_right ha1).trans hal
  intro S0 d fuelS spine tail wrap S hN hcm hf hsp htail hS
  obtain ⟨f, rfl⟩ := exists_add_one_of_le ((Nat.sub_pos_of_lt hlo).trans_le hf)
  obtain ⟨right, left, hr, hl, hconv⟩ := hY S0 d f spine tail wrap S hN hcm hf hsp htail hS
  have hσ' : revolveSplit t uf (hi - lo) (S0 - d) = some a := by rw [hcm]; exact hσ
  have hneN : ¬ lo + a = N := Nat.ne_of_lt (hal.trans_le hN)
  constructor
  · refine ⟨_, segWith_split N _ S0 _ false f false spine lo hi d a right left hne
      hσ' hr hl, fun pos prev => ?_⟩
    exact Conv.evs (Conv.write_prefix (Op.wm lo) _ .ram lo a _ (convAct_wm lo) rfl rfl rfl ha1 hneN
      (snap_key lo S hS _) hconv pos prev) (by simp)
  · intro hlt
    obtain rfl : spine = false := by
      cases spine with
      | false => rfl
      | true => exact absurd (hsp.1 rfl) (Nat.ne_of_lt hlt)
    refine ⟨_, segWith_split N _ S0 _ false f true false lo hi d a right left hne
      hσ' hr hl, fun pos prev n0 => ?_⟩
    rw [removeUselessWm_wm]
    exact Conv.evs (Conv.copy_prefix (Op.rm lo) _ .ram lo a _ (convAct_rm lo) rfl rfl rfl ha1 hneN
      (hlastY tail) hconv pos prev n0) (by simp)

theorem mem_removeUselessWm (o : Op) (L : List Op) (h : o ∈ removeUselessWm L) : o ∈ L := by
  cases L with
  | nil => exact h
  | cons x xs =>
    simp only [removeUselessWm] at h
    split_ifs at h
    · exact List.mem_cons_of_mem _ h
    · exact h

theorem revBlock_unit (N : Nat) (t : Array (Array Nat)) (uf lo cm : Nat) :
    RevBlock N t uf lo (lo + 1) cm (turnOps lo ++ [Op.dm lo]) := by
  intro S0 d fuelS spine tail wrap S hN _ hf hsp htail hS
  rw [Nat.add_sub_cancel_left] at hf
  obtain ⟨f, rfl⟩ := exists_add_one_of_le hf
  exact ⟨⟨_, segWith_turn N _ S0 _ false f spine lo d hsp, turn_dm_block N wrap tail lo S hN⟩,
    fun hlt => qLoop_block N t uf S0 d wrap tail lo S htail hS 0 (f + 1) hlt (Nat.le_add_left 1 f)
      (fun m h1 h2 => absurd (h1.trans h2) (Nat.not_succ_le_self 1))⟩

/-- the right part is a single step, the left part `[lo, lo+n+1)` is re-loaded again and again -/
theorem revBlock_single (N : Nat) (t : Array (Array Nat)) (uf lo n cm : Nat)
    (hσ : ∀ m, 2 ≤ m → m ≤ n + 2 → revolveSplit t uf m cm = some (m - 1)) :
    RevBlock N t uf lo (lo + (n + 1) + 1) cm
      (Op.wm lo :: Op.fwd lo (lo + (n + 1)) :: (turnOps (lo + (n + 1)) ++ qLoop lo n)) := by
  apply revBlock_of_rest N t uf lo (lo + (n + 1) + 1) cm (n + 1) _ (Nat.le_add_left 1 n)
    (Nat.lt_succ_self _)
    (by rw [Nat.add_assoc, Nat.add_sub_cancel_left]
        exact hσ (n + 2) (Nat.le_add_left 2 n) (le_refl _))
    (lastRd_turn_qLoop lo _ _)
  intro S0 d f spine tail wrap S hN hcm hf hsp htail hS
  rw [Nat.add_assoc, Nat.add_sub_cancel_left] at hf
  have hf' : n + 1 ≤ f := Nat.le_of_succ_le_succ hf
  obtain ⟨f', rfl⟩ := exists_add_one_of_le hf'
  have hR := segWith_turn N (revolveSplit t uf) S0 (fun _ => Storage.ram) false f' spine
    (lo + (n + 1)) (d + 1) hsp
  obtain ⟨evsL, hL, hconvL⟩ := qLoop_block N t uf S0 d wrap tail lo S htail hS n (f' + 1) hN
    hf' (fun m hm1 hm2 => by rw [hcm]; exact hσ m hm1 (Nat.le_succ_of_le hm2))
  refine ⟨_, evsL, hR, hL, fun pos prev => ?_⟩
  refine Conv.append (n1 := lo + (n + 1) + 1) (r1 := N - (lo + (n + 1)))
    (S1 := (some .ram, lo) :: S) (by simp [turnOps]) ?_ (hconvL _ _ (lo + (n + 1) + 1))
  exact turn_block N wrap _ _ _ (lo + (n + 1)) _ hN

/-- fuel for `[lo, hi)` less one suffices for both halves of a split at `lo + a` -/
theorem split_fuel {lo hi a f : Nat} (ha1 : 1 ≤ a) (hal : lo + a < hi) (hf : hi - lo ≤ f + 1) :
    hi - (lo + a) ≤ f ∧ lo + a - lo ≤ f := by
  rw [Nat.sub_add_eq, Nat.add_sub_cancel_left]
  exact ⟨Nat.sub_le_of_le_add (hf.trans (Nat.add_le_add_left ha1 f)),
    Nat.le_of_lt_succ ((Nat.lt_sub_iff_add_lt'.2 hal).trans_le hf)⟩

/-- a proper split at `lo + a`: the right part is reversed with one slot less while `lo` stays
stored, then the left part is reversed from the stored `lo` -/
theorem revBlock_split (N : Nat) (t : Array (Array Nat)) (uf lo hi cm a : Nat) (R L : List Op)
    (ha1 : 1 ≤ a) (hal : lo + a < hi) (hσ : revolveSplit t uf (hi - lo) cm = some a)
    (hRf : OpsFacts (lo + a) hi True R) (hRne : R ≠ [])
    (hRb : RevBlock N t uf (lo + a) hi (cm - 1) R)
    (hLf : OpsFacts lo (lo + a) True (Op.rm lo :: removeUselessWm L))
    (hLb : RevBlock N t uf lo (lo + a) cm L) :
    RevBlock N t uf lo hi cm
      (Op.wm lo :: Op.fwd lo (lo + a) :: (R ++ (Op.rm lo :: removeUselessWm L))) := by
  apply revBlock_of_rest N t uf lo hi cm a _ ha1 hal hσ
  · intro y
    rw [List.append_assoc, lastRd_skip _ _ _ (fun o ho ht he => by
      have := (hRf.keys o ho ht).1
      rw [he] at this
      simp at this
      omega)]
    rw [List.cons_append, lastRd_rm]
  · intro S0 d f spine tail wrap S hN hcm hf hsp htail hS
    obtain ⟨hfR, hfL⟩ := split_fuel ha1 hal hf
    obtain ⟨⟨evsR, hsegR, hconvR⟩, _⟩ := hRb S0 (d + 1) f spine
      ((Op.rm lo :: removeUselessWm L) ++ tail) wrap ((some .ram, lo) :: S) hN
      (by rw [Nat.sub_add_eq, hcm]) hfR hsp
      ((TailOk.of_keys hLf.keys (le_refl _)).append (htail.mono (Nat.le_add_right lo a)))
      (hS.cons (Nat.lt_add_of_pos_right ha1) _)
    have haN : lo + a < N := hal.trans_le hN
    obtain ⟨evsL, hsegL, hconvL⟩ := (hLb S0 d f false tail wrap S haN.le hcm hfL
      ⟨fun h => (by cases h), fun h => absurd h (Nat.ne_of_lt haN)⟩ htail hS).2 haN
    exact ⟨evsR, evsL, hsegR, hsegL, fun pos prev =>
      Conv.append hRne (hconvR _ _) (hconvL _ _ (lo + a + 1))⟩

theorem facts_single (lo n : Nat) : OpsFacts lo (lo + (n + 1) + 1) True
    (Op.wm lo :: Op.fwd lo (lo + (n + 1)) :: (turnOps (lo + (n + 1)) ++ qLoop lo n)) := by
  have hlt : lo < lo + (n + 1) + 1 := by omega
  show OpsFacts _ _ _
    ([Op.wm lo] ++ [Op.fwd lo (lo + (n + 1))] ++ turnOps (lo + (n + 1)) ++ qLoop lo n)
  exact (((facts_wm lo _ _ hlt).append (facts_fwd _ _ _ _ _ (by omega))).append
    (facts_turn _ _ _ _)).append (facts_qLoop lo _ _ hlt _)

theorem facts_split (lo hi a : Nat) (R L : List Op) (ha1 : 1 ≤ a) (hal : lo + a < hi)
    (hRf : OpsFacts (lo + a) hi True R) (hLf : OpsFacts lo (lo + a) True L) :
    OpsFacts lo hi True (Op.wm lo :: Op.fwd lo (lo + a) :: (R ++ L)) := by
  have hlo : lo < lo + a := Nat.lt_add_of_pos_right ha1
  show OpsFacts _ _ _ ([Op.wm lo] ++ [Op.fwd lo (lo + a)] ++ (R ++ L))
  exact ((facts_wm lo _ _ (hlo.trans hal)).append (facts_fwd _ _ _ _ _ hlo)).append
    ((hRf.mono hlo.le (le_refl _) id).append (hLf.mono (le_refl _) hal.le id))

theorem revolve_block (N : Nat) (t : Array (Array Nat)) (uf : Nat) :
    ∀ (fuelO lo l cm : Nat), 1 ≤ cm → l < fuelO →
      ∃ ops, revOpsAt t uf fuelO lo l cm = some ops ∧ OpsFacts lo (lo + l + 1) True ops ∧ ops ≠ [] ∧
        RevBlock N t uf lo (lo + l + 1) cm ops := by
  intro fuelO
  induction fuelO with
  | zero => intro lo l cm _ h; cases h
  | succ fuelO ih =>
    intro lo l cm hcm hfuel
    rw [revOpsAt]
    by_cases h0 : l = 0
    · subst h0
      rw [if_pos rfl]
      exact ⟨_, rfl, (facts_turn _ _ lo _).append (facts_dm _ _ lo _),
        List.append_ne_nil_of_right_ne_nil _ (List.cons_ne_nil _ _), revBlock_unit N t uf lo cm⟩
    rw [if_neg h0, if_neg (Nat.ne_of_gt hcm)]
    by_cases h1 : l = 1 ∨ cm = 1
    · rw [if_pos h1]
      obtain ⟨n, rfl⟩ := Nat.exists_eq_add_one_of_ne_zero h0
      have hσ : ∀ m, 2 ≤ m → m ≤ n + 2 → revolveSplit t uf m cm = some (m - 1) := by
        intro m hm1 hm2
        refine revolveSplit_last t uf m cm (Nat.ne_of_gt hcm) (h1.imp (fun h => ?_) id)
        obtain rfl : n = 0 := Nat.succ.inj h
        rw [Nat.le_antisymm hm2 hm1]
      exact ⟨_, rfl, facts_single lo n, List.cons_ne_nil _ _, revBlock_single N t uf lo n cm hσ⟩
    · -- a proper split
      rw [if_neg h1]
      dsimp only
      obtain ⟨hl1, hc1⟩ := not_or.1 h1
      have hl2 : 2 ≤ l := Nat.lt_of_le_of_ne (Nat.pos_of_ne_zero h0) (Ne.symm hl1)
      have hc2 : 2 ≤ cm := Nat.lt_of_le_of_ne hcm (Ne.symm hc1)
      obtain ⟨hj1, hj2, _⟩ := argminO_range'_map (fun j =>
        some (j * uf + opt0Get t (cm - 1) (l - j) + opt0Get t cm (j - 1))) (l - 1)
        (Nat.le_sub_one_of_lt hl2)
      have hσ : revolveSplit t uf (lo + l + 1 - lo) cm = some (argminO ((List.range' 1 (l - 1)).map
          (fun j => some (j * uf + opt0Get t (cm - 1) (l - j) + opt0Get t cm (j - 1))))) := by
        rw [Nat.add_assoc, Nat.add_sub_cancel_left]
        exact revolveSplit_argmin t uf (l + 1) cm (Nat.ne_of_gt hcm) h1
      generalize argminO ((List.range' 1 (l - 1)).map (fun j =>
          some (j * uf + opt0Get t (cm - 1) (l - j) + opt0Get t cm (j - 1)))) = j at hj1 hj2 hσ ⊢
      replace hj2 : j + 1 ≤ l := Nat.add_le_of_le_sub (Nat.le_of_succ_le hl2) hj2
      have hlf : l ≤ fuelO := Nat.le_of_lt_succ hfuel
      obtain ⟨R, hR, hRf, hRne, hRb⟩ := ih (lo + j) (l - j) (cm - 1) (Nat.le_sub_one_of_lt hc2)
        ((Nat.sub_lt (Nat.zero_lt_of_lt hj2) hj1).trans_le hlf)
      obtain ⟨L, hL, hLf, _, hLb⟩ := ih lo (j - 1) cm hcm
        (((Nat.sub_lt hj1 Nat.one_pos).trans hj2).trans_le hlf)
      rw [hR, hL]
      dsimp only
      rw [Nat.add_assoc lo, Nat.add_sub_cancel' (Nat.le_of_succ_le hj2)] at hRf hRb
      rw [Nat.add_assoc, Nat.sub_add_cancel hj1] at hLf hLb
      have hLf' : OpsFacts lo (lo + j) True (Op.rm lo :: removeUselessWm L) :=
        (facts_rm lo _ _ (Nat.lt_add_of_pos_right hj1)).append
          (hLf.subset (fun o => mem_removeUselessWm o L))
      have hlist : [Op.wm lo, Op.fwd lo (lo + j)] ++ R ++ [Op.rm lo] ++ removeUselessWm L =
          Op.wm lo :: Op.fwd lo (lo + j) :: (R ++ (Op.rm lo :: removeUselessWm L)) := by
        simp only [List.append_assoc, List.cons_append, List.nil_append]
      rw [hlist]
      have hjl : lo + j < lo + l + 1 :=
        Nat.lt_succ_of_le (Nat.add_le_add_left (Nat.le_of_succ_le hj2) lo)
      exact ⟨_, rfl, facts_split lo _ j R _ hj1 hjl hRf hLf', List.cons_ne_nil _ _,
        revBlock_split N t uf lo _ cm j R L hj1 hjl hσ hRf hRne hRb hLf' hLb⟩

/-- from a converted block to `convertOps`: the whole schedule is one block starting in the
initial state and ending with no snapshot left -/
theorem convertOps_of_conv (N : Nat) (ops : List Op) (hwf : OpsWf ops) (evs : List Ev) (n' r' : Nat)
    (h : Conv N ops.getLast? 0 none ops [] 0 0 [] evs n' r' []) :
    convertOps N ops = .ok (evs ++ [⟨.endReverse, n', r'⟩]) := by
  rw [convertOps_eq N ops hwf]
  obtain ⟨s', h1, h2, h3, h4, h5⟩ := h ConvSt.init rfl rfl rfl
  rw [h1]
  dsimp only
  rw [h5]
  simp [ConvSt.yield, h2, h3, h4, ConvSt.init]

/-- **Refinement for Revolve**: the twin (`revolve(N-1, cm, …)` converted by `_iterator`) yields
exactly the stream of the recursive model. -/
theorem revolveTwin_eq (N cm : Nat) (c : Costs) (hN : 1 ≤ N) (hcm : 1 ≤ cm) :
    revolveTwin N cm c = revolveEvs N cm c := by
  obtain ⟨ops, hops, hfacts, _, hblock⟩ := revolve_block N (opt0Table (N - 1) cm c.uf c.ub) c.uf
    N 0 (N - 1) cm hcm (Nat.sub_lt hN Nat.one_pos)
  rw [Nat.zero_add, Nat.sub_add_cancel hN] at hfacts hblock
  obtain ⟨⟨evsP, hseg, hconv⟩, _⟩ := hblock cm 0 (N - 0 + 1) true [] ops.getLast? []
    (le_refl N) rfl (Nat.le_succ _) ⟨fun _ => rfl, fun _ => rfl⟩
    (TailOk.nil 0) (by intro k hk; cases hk)
  have htop : revolveOpsTop N cm c = some ops := by
    unfold revolveOpsTop
    rw [revolveOps_eq_at]; exact hops
  have h1 : revolveTwin N cm c = .ok (evsP ++ [⟨.endReverse, 1, N⟩]) := by
    unfold revolveTwin twinOf
    rw [htop]
    exact convertOps_of_conv N ops hfacts.wf evsP (0 + 1) (N - 0)
      (Conv.congr (hconv 0 none) rfl (Nat.sub_self N).symm rfl rfl rfl)
  have h2 : revolveEvs N cm c = .ok (evsP ++ [⟨.endReverse, 1, N⟩]) := by
    unfold revolveEvs revSeg
    dsimp only
    rw [hseg]
  rw [h1, h2]

end Ckpt.Ops
