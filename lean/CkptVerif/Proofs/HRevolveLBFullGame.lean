import CkptVerif.Proofs.HRevolveLB
/-!
# The combinatorial core of `HRevolveOptimalT`: every accepted stream is a play of the pebble game

`Game … x n` (`Proofs/HRevolveLB.lean`): some play from `x` reverses all steps at cost `n`.  It is closed
under the basic moves by definition, and an accepted `Copy`/`Move` is a `load`, an `xfer` or nothing,
followed by a `drop`: every accepted complete stream of `cfgHRevolve c0 c1 N` is a play from the initial
state, at the same cost without the reversed steps (`game_of_accepted`).

`GameLB`: every play from the initial state costs at least an achievable hierarchical cost (`HLB.A`, hence
at least the table value).
`hrevolveOptimalT_of_gameLB : (∀ c c0 c1, 1 ≤ c0 → GameLB c c0 c1) → HRevolveOptimalT`.

`GameLB` is exactly what is still open; for plays in which every `load` takes the most recent alive
checkpoint and there is no `xfer` it follows from `hrevolveOptimalT_partial2`'s potential.
-/
namespace Ckpt.LB7
open Ckpt.RC Ckpt.GW Ckpt.Mean Ckpt.HLB

theorem Game.weaken {c : Costs} {c0 c1 : Nat} {x : GState} {n : Nat} (h : Game c c0 c1 x n) (w : Nat) :
    Game c c0 c1 x (n + w) := by
  induction h with
  | fin toks W n => exact Game.fin toks W (n + w)
  | step x y w' n h _ ih =>
    have := Game.step x y w' (n + w) h ih
    have e : n + w + w' = n + w' + w := by omega
    rw [e] at this
    exact this

theorem Game.step' {c : Costs} {c0 c1 : Nat} {x y : GState} {w n m : Nat} (h : GStep c c0 c1 x y w)
    (hy : Game c c0 c1 y n) (hm : m = n + w) : Game c c0 c1 x m := by
  subst hm; exact Game.step x y w n h hy

theorem game_moves (c : Costs) (c0 c1 : Nat) : BasicMoves c c0 c1 (Game c c0 c1) where
  fin := fun toks W => Game.fin toks W 0
  weaken := fun w h => h.weaken w
  adv := fun h1 h2 h => Game.step _ _ _ _ (GStep.adv _ _ _ _ h1 h2) h
  store := fun hcap h => Game.step _ _ _ _ (GStep.store _ _ _ _ hcap) h
  turn := fun h => Game.step _ _ _ _ (GStep.turn _ _) h
  drop := fun hs h => Game.step _ _ _ _ (GStep.drop _ _ _ _ hs) h

theorem store_pair {src dst : Storage} (h1 : src.isStore = true) (h2 : dst.isStore = true)
    (hne : src ≠ dst) : (src = .ram ∧ dst = .disk) ∨ (src = .disk ∧ dst = .ram) := by
  cases src <;> cases dst <;> simp_all [Storage.isStore]

theorem stk_mem {x : XS} {cp : Cp} (h : cp ∈ x.cps) : (cp.n, decide (cp.st = .disk)) ∈ stk x := by
  unfold stk; exact List.mem_map.mpr ⟨cp, h, rfl⟩

/-- `Copy` (`keep = true`) and `Move` (`keep = false`): a `load`, an `xfer` or nothing, then a `drop` -/
theorem step_cmG {cfg : Cfg} {c : Costs} {c0 c1 : Nat} {x : XS} (hram : cfg.ram = some c0)
    (hdisk : cfg.disk = some c1) (hinv : GW.Inv cfg (c0 + c1) x) (hinv2 : Inv2 x)
    (keep : Bool) (n : Nat) (src dst : Storage)
    (h : actViols.loadViols cfg x n src dst = []) :
    ∀ m, Game c c0 c1 (gst cfg (nextState cfg x (bif keep then .copy n src dst else .move n src dst))) m →
      Game c c0 c1 (gst cfg x)
        (m + ((if src = .disk then c.rd else 0) + (if dst = .disk then c.wd else 0))) := by
  obtain ⟨hsrc, cp, hf, ha, _, _, _, hw, hst⟩ := load_checks h
  obtain ⟨hmem, hn, hs⟩ := findCp_some hf
  rw [nextState_cm hf keep]
  obtain ⟨e_r, _, _, _⟩ := loadState_same x n cp dst (keptCps x keep n src)
  have e_cps := loadState_cps x n cp dst (keptCps x keep n src)
  have e_fwd := loadState_fwd x n cp dst (keptCps x keep n src)
  have e_deps := loadState_wDeps x n cp dst (keptCps x keep n src)
  generalize loadState x n cp dst (keptCps x keep n src) = x' at e_r e_cps e_fwd e_deps ⊢
  unfold loadCps at e_cps
  have hsub0 := keptCps_sublist x keep n src
  have htok : (n, decide (src = .disk)) ∈ stk x := by rw [← hn, ← hs]; exact stk_mem hmem
  by_cases hdw : dst = .work
  · -- a load
    subst hdw
    rw [if_pos rfl, if_pos (hinv2.ics cp hmem)] at e_fwd
    rw [if_pos rfl, (hinv.cps cp hmem).1, if_neg (Nat.lt_irrefl 0)] at e_deps
    have e_stk : (stk x').Sublist (stk x) := by
      unfold stk; rw [e_cps]; exact hsub0.map _
    intro m hp
    unfold gst at hp ⊢
    rw [adjPos_none e_deps, e_r, e_fwd] at hp
    rw [adjPos_none (hw rfl).2]
    have s1 := GStep.load (c := c) (c0 := c0) (c1 := c1) (cfg.N - x.r) (stk x) x.fwd n
      (decide (src = .disk)) htok ha
    refine Game.step' s1 ((game_moves c c0 c1).drop e_stk hp) ?_
    simp
  · rw [if_neg hdw] at e_fwd e_deps
    by_cases hds : dst.isStore = true
    · -- a transfer into the other level
      obtain ⟨hnone, hbud⟩ := hst hds
      have hne : src ≠ dst := by intro e; rw [e] at hf; rw [hf] at hnone; cases hnone
      have hbud' := (Ckpt.Mean.withinBudget_iff.mp hbud)
      have hcR := hbud'.1 c0 hram
      have hcD := hbud'.2 c1 hdisk
      obtain ⟨hR, hD⟩ := stk_counts x (fun cp hcp => (hinv.cps cp hcp).2)
      rw [Ckpt.countSt_cons, ← hR] at hcR
      rw [Ckpt.countSt_cons, ← hD] at hcD
      have hflip : (!decide (src = .disk)) = decide (dst = .disk) := by
        rcases store_pair hsrc hds hne with ⟨rfl, rfl⟩ | ⟨rfl, rfl⟩ <;> rfl
      have hcap : if decide (src = .disk) then nR (stk x) + 1 ≤ c0 else nD (stk x) + 1 ≤ c1 := by
        rcases store_pair hsrc hds hne with ⟨rfl, rfl⟩ | ⟨rfl, rfl⟩
        · rw [if_pos rfl] at hcD; simpa [Nat.add_comm] using hcD
        · rw [if_pos rfl] at hcR; simpa [Nat.add_comm] using hcR
      have hcost : (if src = .disk then c.rd else 0) + (if dst = .disk then c.wd else 0) =
          (if decide (src = .disk) then c.rd else c.wd) := by
        rcases store_pair hsrc hds hne with ⟨rfl, rfl⟩ | ⟨rfl, rfl⟩ <;> simp
      rw [if_pos hds] at e_cps
      have e_stk : stk x' = (n, decide (dst = .disk)) ::
          (keptCps x keep n src).map (fun cp => (cp.n, decide (cp.st = .disk))) := by
        unfold stk; rw [e_cps, List.map_cons, hn]
      intro m hg
      unfold gst at hg ⊢
      rw [adjPos_congr e_r e_deps, e_fwd, e_stk] at hg
      have s1 := GStep.xfer (c := c) (c0 := c0) (c1 := c1) (adjPos cfg x) (stk x) x.fwd n
        (decide (src = .disk)) htok hcap
      rw [hflip] at s1
      rw [hcost]
      exact Game.step' s1
        ((game_moves c c0 c1).drop ((hsub0.map _).cons_cons (n, decide (dst = .disk))) hg) rfl
    · -- nothing is loaded
      rw [if_neg hds] at e_cps
      exact step_drop (game_moves c c0 c1) (by rw [e_cps]; exact hsub0) e_fwd e_r e_deps _

/-- **every accepted complete stream of `cfgHRevolve c0 c1 N` is a play of the pebble game** from the
initial state, at the cost of the stream without its reversed steps -/
theorem game_of_accepted (N c0 c1 : Nat) (c : Costs) (os : List Obs)
    (hacc : Accepted (cfgHRevolve c0 c1 N) os) :
    Game c c0 c1 ⟨N, [], some 0⟩ (obsCostF c os) := by
  have hp := run_pot (c := c) (game_moves c c0 c1) (cfgHyp_h c0 c1 N) rfl rfl
    (ok := fun _ _ => True) (L := fun _ _ => True) (fun _ _ _ _ => ⟨trivial, trivial⟩)
    (fun x hinv hinv2 keep n src dst h _ => step_cmG rfl rfl hinv hinv2 keep n src dst h)
    os 0 (XS.init (cfgHRevolve c0 c1 N)) (inv_init (cfgHyp_h c0 c1 N)) (inv2_init _)
    hacc.1 hacc.2.1 hacc.2.2 trivial
  rwa [gst_init] at hp

/-- **the reduction**: `HRevolveOptimalT` follows from the lower bound for the pebble game -/
theorem hrevolveOptimalT_of_gameLB
    (h : ∀ (c : Costs) (c0 c1 : Nat), 1 ≤ c0 → GameLB c c0 c1) : HRevolveOptimalT := by
  intro N c0 c1 v c os hN hc0 _ hv hacc
  obtain ⟨w, hw, hA⟩ := h c c0 c1 hc0 N _ hN (game_of_accepted N c0 c1 c os hacc)
  exact lb_of_achievable hN hc0 hv hacc hw hA

end Ckpt.LB7

#print axioms Ckpt.LB7.game_of_accepted
#print axioms Ckpt.LB7.hrevolveOptimalT_of_gameLB
