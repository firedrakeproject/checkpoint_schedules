import CkptVerif.Proofs.MixedPlans
import CkptVerif.Proofs.LowerBound
import CkptVerif.Proofs.MixedOk
import CkptVerif.Proofs.MixedSteps
/-!
# C06: no executable schedule beats the mixed dynamic program

`C06_full`: every action stream that the checking executor `Spec/Exec.lean` accepts without a single
violation for the configuration `cfgMixed s st N` ("offline, `N` steps, at most `s` units in the storage
`st`, each holding EITHER one restart checkpoint OR the adjoint dependency data of one step, one adjoint
calculation, working storage holds the adjoint dependency data of one step") and that completes the
adjoint calculation performs at least `optimal_steps_mixed(N, s)` forward steps.  No structure is
assumed of the stream.  `C06_mixed_optimal`: the stream of `MixedCheckpointSchedule` attains the bound.

Proof: backward induction along the stream with the potential of `Proofs/MixedPlans.lean`: at every
state, some plan costs no more than the forward steps still to come.
-/
namespace Ckpt.MX
open Ckpt Ckpt.Mean

/-- what is assumed of the configuration: offline, one adjoint calculation, `s` units, all in the
storage `st0` -/
structure MxHyp (cfg : Cfg) (s : Nat) (st0 : Storage) : Prop where
  store : st0 = .ram ∨ st0 = .disk
  ram : cfg.ram = some (if st0 = .ram then s else 0)
  disk : cfg.disk = some (if st0 = .disk then s else 0)
  passes : cfg.passes = some 1
  keeps : cfg.keepsAllDeps = false
  offline : cfg.online = false

theorem MxHyp.cfgHyp {cfg : Cfg} {s : Nat} {st0 : Storage} (H : MxHyp cfg s st0) : GW.CfgHyp cfg s := by
  refine ⟨⟨_, _, H.ram, H.disk, ?_⟩, H.passes, H.keeps, H.offline⟩
  rcases H.store with h | h <;> subst h <;> simp

theorem mxHyp_cfgMixed (s N : Nat) (st : Storage) (hst : st = .ram ∨ st = .disk) :
    MxHyp (cfgMixed s st N) s st := by
  rcases hst with h | h <;> subst h <;> exact ⟨by simp, rfl, rfl, rfl, rfl, rfl⟩

/-- a checkpoint that fits the budget lives in the storage `st0` -/
theorem store_eq {cfg : Cfg} {s : Nat} {st0 : Storage} (H : MxHyp cfg s st0) {c : Cp} {cps : List Cp}
    (hs : c.st.isStore = true) (hb : withinBudget cfg (c :: cps) = true) : c.st = st0 := by
  rw [withinBudget_iff] at hb
  have h1 := hb.1 _ H.ram
  have h2 := hb.2 _ H.disk
  rw [countSt_cons] at h1 h2
  rcases H.store with h | h <;> subst h
  · cases hc : c.st <;> simp [hc, Storage.isStore] at hs h1 h2 ⊢
  · cases hc : c.st <;> simp [hc, Storage.isStore] at hs h1 h2 ⊢

/-- the resource a stored checkpoint stands for: a restart checkpoint is a forward state, a checkpoint
without restart data holds the adjoint dependency data of a step -/
def cpRes (c : Cp) : Nat × Bool := (c.n, decide (c.ics = 0))

/-- the resources of a state: the stored checkpoints and the forward state in working storage -/
def avail (x : XS) : List (Nat × Bool) := x.cps.map cpRes ++ x.fwd.toList.map (fun f => (f, false))

structure Inv (cfg : Cfg) (s : Nat) (st0 : Storage) (x : XS) : Prop where
  fin : x.fin = true
  r_le : x.r ≤ cfg.N
  cps : ∀ c ∈ x.cps, c.st = st0 ∧ (c.ics = 0 → c.deps = 1) ∧ (0 < c.ics → c.deps = 0)
  len : x.cps.length ≤ s
  deps : x.wDeps = none ∨ ∃ p, x.wDeps = some (p, p + 1) ∧ cfg.N - x.r ≤ p + 1 ∧
    (cfg.N - x.r = p + 1 → x.fwd = some (p + 1) ∨ x.fwd = none)
  done : 1 ≤ x.done → x.r = cfg.N

/-- the potential: a plan for the current state costs at most `n` -/
def Pot (cfg : Cfg) (s : Nat) (x : XS) (n : Nat) : Prop :=
  (GW.Flagged cfg x → Reach s (avail x) (cfg.N - x.r - 1) n) ∧
  (¬ GW.Flagged cfg x → Reach s (avail x) (cfg.N - x.r) n)

theorem pot_iff {cfg : Cfg} {s : Nat} {x : XS} {n : Nat} :
    Pot cfg s x n ↔ Reach s (avail x) (GW.adjPos cfg x) n :=
  GW.flagged_split (Q := fun a => Reach s (avail x) a n)

/-- after the stored adjoint data of the step below the adjoint have been loaded there is no forward
state in working storage -/
theorem Inv.frame {cfg : Cfg} {s : Nat} {st0 : Storage} {x : XS} (h : Inv cfg s st0 x) :
    GW.Frame (fun f q => f = some q ∨ f = none) cfg x := ⟨h.fin, h.r_le, h.deps, h.done⟩

theorem mem_avail {x : XS} {r : Nat × Bool} :
    r ∈ avail x ↔ (∃ c ∈ x.cps, cpRes c = r) ∨ (x.fwd = some r.1 ∧ r.2 = false) := by
  unfold avail
  rw [List.mem_append, List.mem_map]
  obtain ⟨r1, r2⟩ := r
  cases x.fwd <;> simp [eq_comm]

theorem length_le_of_inv {cfg : Cfg} {s : Nat} {st0 : Storage} (H : MxHyp cfg s st0) (l : List Cp)
    (h : ∀ c ∈ l, c.st = st0) (hb : withinBudget cfg l = true) : l.length ≤ s := by
  apply GW.length_le_of_budget H.cfgHyp l _ hb
  intro c hc
  rw [h c hc]
  rcases H.store with h | h <;> subst h <;> rfl

theorem step_forward {cfg : Cfg} {s : Nat} {st0 : Storage} (H : MxHyp cfg s st0) {x : XS}
    (hinv : Inv cfg s st0 x) {n0 n1 : Nat} {wi wa : Bool} {st : Storage}
    (h : actViols cfg x (.forward n0 n1 wi wa st) = []) :
    Inv cfg s st0 (nextState cfg x (.forward n0 n1 wi wa st)) ∧
    ∀ n, Pot cfg s (nextState cfg x (.forward n0 n1 wi wa st)) n → Pot cfg s x (n + (n1 - n0)) := by
  obtain ⟨hlt, hfwd, hle, hstore, hwork⟩ := GW.forward_clean hinv.fin h
  obtain ⟨hfr, hadj, hturn, hplain⟩ := GW.frame_forward
    (fun _ _ h => h.elim Option.some.inj (fun h => nomatch h)) (fun _ => Or.inl rfl)
    H.keeps hinv.frame (wi := wi) hlt hfwd hle hwork
  generalize hx' : nextState cfg x (.forward n0 n1 wi wa st) = x' at hfr hturn hplain ⊢
  have e_fwd : x'.fwd = some n1 := by rw [← hx', GW.nextState_forward hinv.fin]
  have e_cps : x'.cps = if st.isStore = true
      then { n := n0, st := st, ics := if wi = true then n1 - n0 else 0,
             deps := if wa = true then n1 - n0 else 0 } :: x.cps else x.cps := by
    rw [← hx', GW.nextState_forward hinv.fin]
  have hst0 : st.isStore = true → st = st0 := fun hs =>
    store_eq H (c := { n := n0, st := st, ics := 0, deps := 0 }) hs (hstore hs).2.2.2.2
  have hcps : ∀ c ∈ x'.cps, c.st = st0 ∧ (c.ics = 0 → c.deps = 1) ∧ (0 < c.ics → c.deps = 0) := by
    intro c hc
    rw [e_cps] at hc
    by_cases hs : st.isStore = true
    · rw [if_pos hs] at hc
      rcases List.mem_cons.mp hc with rfl | hc
      · obtain ⟨_, hx1, hx2, _, _⟩ := hstore hs
        refine ⟨hst0 hs, ?_, ?_⟩
        · intro hi
          cases wi
          · have hwa : wa = true := by simpa using (hstore hs).1
            have := hx2 hwa
            simp only [hwa, if_true]
            omega
          · simp only [if_true] at hi; omega
        · intro hi
          cases wi
          · simp at hi
          · simp [hx1 rfl]
      · exact hinv.cps c hc
    · rw [if_neg hs] at hc
      exact hinv.cps c hc
  have hlen : x'.cps.length ≤ s := by
    by_cases hs : st.isStore = true
    · refine length_le_of_inv H _ (fun c hc => (hcps c hc).1) ?_
      rw [e_cps, if_pos hs]
      exact GW.forward_budget _ _ (hstore hs).2.2.2.2
    · rw [e_cps, if_neg hs]; exact hinv.len
  refine ⟨⟨hfr.fin, hfr.r_le, hcps, hlen, hfr.deps, hfr.done⟩, fun n hp => ?_⟩
  rw [pot_iff] at hp ⊢
  rw [hadj]
  have hn0 : (n0, false) ∈ avail x := mem_avail.mpr (Or.inr ⟨hfwd, rfl⟩)
  have hold : ∀ c ∈ x.cps, cpRes c ∈ avail x := fun c hc => mem_avail.mpr (Or.inl ⟨c, hc, rfl⟩)
  by_cases hw : st = .work ∧ wa = true
  · -- the turn-around
    obtain ⟨h1, h2, hadj'⟩ := hturn hw
    have hns : ¬ st.isStore = true := by rw [hw.1]; decide
    rw [hadj'] at hp
    rw [h1, Nat.add_sub_cancel_left, ← h2, h1]
    refine reach_top (C := x.cps.map cpRes) (a := n0 + 1) false (by omega) hn0
      (by rw [List.length_map]; exact hinv.len) ?_ ?_ hp
    · intro e he hlt'
      rcases mem_avail.mp he with ⟨c, hc, rfl⟩ | ⟨he, _⟩
      · rw [e_cps, if_neg hns] at hc
        exact List.mem_map.mpr ⟨c, hc, rfl⟩
      · rw [e_fwd] at he
        have := Option.some.inj he
        omega
    · intro e he
      obtain ⟨c, hc, rfl⟩ := List.mem_map.mp he
      exact hold c hc
  · rw [hplain hw] at hp
    by_cases hsd : st.isStore = true ∧ wa = true
    · -- the adjoint dependency data of the step go into a unit
      obtain ⟨hs, hwa⟩ := hsd
      obtain ⟨_, hx1, hx2, hx3, _⟩ := hstore hs
      have hwi : wi = false := by
        cases wi
        · rfl
        · have := hx1 rfl; rw [hwa] at this; cases this
      have hn1 := hx2 hwa
      rw [hn1, Nat.add_sub_cancel_left]
      refine reach_fwd_dep hn0 ?_ ?_ hp
      · intro e he
        rcases mem_avail.mp he with ⟨c, hc, rfl⟩ | ⟨he, he2⟩
        · rw [e_cps, if_pos hs] at hc
          rcases List.mem_cons.mp hc with rfl | hc
          · right; left
            simp [cpRes, hwi]
          · exact Or.inr (Or.inr (hold c hc))
        · rw [e_fwd] at he
          left
          exact Prod.ext (by rw [← hn1]; exact (Option.some.inj he).symm) he2
      · intro hmem
        rcases mem_avail.mp hmem with ⟨c, hc, hcr⟩ | ⟨he, _⟩
        · rw [e_cps, if_pos hs] at hc
          rcases List.mem_cons.mp hc with rfl | hc
          · simp [cpRes, hwi] at hcr
          · have hcn : c.n = n0 := congrArg Prod.fst hcr
            exact (findCp_eq_none_iff.mp hx3) c hc ⟨hcn, by rw [(hinv.cps c hc).1, hst0 hs]⟩
        · rw [e_fwd] at he
          have := Option.some.inj he
          omega
    · refine reach_fwd hn0 hlt ?_ hp
      intro e he
      rcases mem_avail.mp he with ⟨c, hc, rfl⟩ | ⟨he, he2⟩
      · right
        rw [e_cps] at hc
        by_cases hs : st.isStore = true
        · rw [if_pos hs] at hc
          rcases List.mem_cons.mp hc with rfl | hc
          · -- a restart checkpoint at `n0`
            have hwa : wa = false := by
              cases wa
              · rfl
              · exact absurd ⟨hs, rfl⟩ hsd
            have hwi : wi = true := by simpa [hwa] using (hstore hs).1
            refine mem_avail.mpr (Or.inr ⟨hfwd, ?_⟩)
            simp only [cpRes, hwi, if_true, decide_eq_false_iff_not]
            omega
          · exact hold c hc
        · rw [if_neg hs] at hc
          exact hold c hc
      · rw [e_fwd] at he
        left
        exact Prod.ext (Option.some.inj he).symm he2

/-- an action that neither moves the adjoint nor creates a resource -/
theorem step_loadlike {cfg : Cfg} {s : Nat} {st0 : Storage} {x x' : XS} (hinv : Inv cfg s st0 x)
    (hr : x'.r = x.r) (hdone : x'.done = x.done) (hfin : x'.fin = x.fin)
    (hcps : ∀ c ∈ x'.cps, c.st = st0 ∧ (c.ics = 0 → c.deps = 1) ∧ (0 < c.ics → c.deps = 0))
    (hlen : x'.cps.length ≤ s)
    (havail : ∀ e ∈ avail x', e ∈ avail x)
    (hdeps : (x'.wDeps = x.wDeps ∧ x'.fwd = x.fwd) ∨ (x'.wDeps = none ∧ x.wDeps = none)) :
    Inv cfg s st0 x' ∧ ∀ n, Pot cfg s x' n → Pot cfg s x n := by
  obtain ⟨hfr, hadj⟩ := GW.frame_same hinv.frame hr hdone hfin hdeps
  refine ⟨⟨hfr.fin, hfr.r_le, hcps, hlen, hfr.deps, hfr.done⟩, fun n hp => ?_⟩
  rw [pot_iff] at hp ⊢
  rw [hadj] at hp
  exact reach_sub havail hp

/-- `Copy` and `Move` at once: `cps0` is what is left of the stored checkpoints -/
theorem step_load_gen {cfg : Cfg} {s : Nat} {st0 : Storage} (H : MxHyp cfg s st0) {x : XS}
    (hinv : Inv cfg s st0 x)
    {n : Nat} {dst : Storage} {c : Cp} (hcm : c ∈ x.cps) (hcn : c.n = n)
    (hwork : dst = .work → x.wDeps = none)
    (hstore : dst.isStore = true → withinBudget cfg ({ c with st := dst } :: x.cps) = true)
    (hdepn : c.ics = 0 → n + 1 = cfg.N - x.r)
    (cps0 : List Cp) (hsub : ∀ c' ∈ cps0, c' ∈ x.cps) (hlen0 : cps0.length ≤ x.cps.length)
    (hcount : ∀ s', countSt cps0 s' ≤ countSt x.cps s') :
    Inv cfg s st0 (GW.loadState x n c dst cps0) ∧
      ∀ m, Pot cfg s (GW.loadState x n c dst cps0) m → Pot cfg s x m := by
  obtain ⟨hcst, hcd1, hcd0⟩ := hinv.cps c hcm
  have hcps0 : ∀ c' ∈ cps0, c'.st = st0 ∧ (c'.ics = 0 → c'.deps = 1) ∧ (0 < c'.ics → c'.deps = 0) :=
    fun c' hc' => hinv.cps c' (hsub c' hc')
  have havail0 : ∀ c' ∈ cps0, cpRes c' ∈ avail x :=
    fun c' hc' => mem_avail.mpr (Or.inl ⟨c', hsub c' hc', rfl⟩)
  obtain ⟨e_r, e_fin, e_done, _⟩ := GW.loadState_same x n c dst cps0
  have e_cps := GW.loadState_cps x n c dst cps0
  have e_fwd := GW.loadState_fwd x n c dst cps0
  have e_deps := GW.loadState_wDeps x n c dst cps0
  generalize GW.loadState x n c dst cps0 = x' at *
  -- the stored checkpoints afterwards: the new copy lies in the one storage kind
  have hcps : ∀ c' ∈ x'.cps, c'.st = st0 ∧ (c'.ics = 0 → c'.deps = 1) ∧ (0 < c'.ics → c'.deps = 0) := by
    intro c' hc'
    rw [e_cps] at hc'
    rcases GW.mem_loadCps hc' with ⟨hds, rfl⟩ | hc0
    · exact ⟨store_eq H (c := { c with st := dst }) hds (hstore hds), hcd1, hcd0⟩
    · exact hcps0 c' hc0
  have hlen : x'.cps.length ≤ s := by
    by_cases hds : dst.isStore = true
    · refine length_le_of_inv H _ (fun c' hc' => (hcps c' hc').1) ?_
      rw [e_cps, GW.loadCps, if_pos hds]
      refine withinBudget_mono (fun s' => ?_) (hstore hds)
      rw [countSt_cons, countSt_cons]
      exact Nat.add_le_add_left (hcount s') _
    · rw [e_cps, GW.loadCps, if_neg hds]
      exact le_trans hlen0 hinv.len
  have hcpsav : ∀ c' ∈ x'.cps, cpRes c' ∈ avail x := by
    intro c' hc'
    rw [e_cps] at hc'
    rcases GW.mem_loadCps hc' with ⟨_, rfl⟩ | hc0
    · exact mem_avail.mpr (Or.inl ⟨c, hcm, rfl⟩)
    · exact havail0 c' hc0
  by_cases hdep : dst = .work ∧ c.ics = 0
  · -- the adjoint dependency data of the step below the adjoint are loaded
    obtain ⟨hdw, hi0⟩ := hdep
    have hw := hwork hdw
    have hna := hdepn hi0
    rw [if_pos hdw, if_neg (by omega)] at e_fwd
    rw [if_pos hdw, if_pos (by rw [hcd1 hi0]; exact Nat.one_pos), hcd1 hi0] at e_deps
    have hns : ¬ dst.isStore = true := by rw [hdw]; decide
    rw [GW.loadCps, if_neg hns] at e_cps
    have hfl' : GW.Flagged cfg x' := by
      refine ⟨by rw [e_r]; omega, ?_⟩
      rw [e_deps, e_r, ← hna]; rfl
    have hnfl : ¬ GW.Flagged cfg x := by
      rintro ⟨_, hd⟩; rw [hw] at hd; cases hd
    refine ⟨⟨by rw [e_fin]; exact hinv.fin, by rw [e_r]; exact hinv.r_le, hcps, hlen, ?_,
      by rw [e_done, e_r]; exact hinv.done⟩, ?_⟩
    · right
      exact ⟨n, e_deps, by rw [e_r]; omega, fun _ => Or.inr e_fwd⟩
    · intro m hp
      refine ⟨fun hf => absurd hf hnfl, fun _ => ?_⟩
      have hr := hp.1 hfl'
      rw [e_r] at hr
      have hmem : (cfg.N - x.r - 1, true) ∈ avail x := by
        refine mem_avail.mpr (Or.inl ⟨c, hcm, ?_⟩)
        simp only [cpRes, Prod.mk.injEq, hcn, hi0, decide_true, and_true]
        omega
      have hflen : (x.cps.filter (fun c' => decide (c'.n ≠ n))).length + 1 ≤ s := by
        have : (x.cps.filter (fun c' => decide (c'.n ≠ n))).length < x.cps.length := by
          rw [List.length_filter_lt_length_iff_exists]
          exact ⟨c, hcm, by simp [hcn]⟩
        have := hinv.len
        omega
      have := reach_top (C := (x.cps.filter (fun c' => decide (c'.n ≠ n))).map cpRes) true
        (by omega) hmem (by rw [List.length_map]; simpa using hflen) ?_ ?_ hr
      · simpa using this
      · intro e he hlt'
        rcases mem_avail.mp he with ⟨c', hc', rfl⟩ | ⟨he, _⟩
        · rw [e_cps] at hc'
          refine List.mem_map.mpr ⟨c', List.mem_filter.mpr ⟨hsub c' hc', ?_⟩, rfl⟩
          have : c'.n < cfg.N - x.r - 1 := hlt'
          simp only [ne_eq, decide_not, Bool.not_eq_eq_eq_not, Bool.not_true, decide_eq_false_iff_not]
          omega
        · rw [e_fwd] at he; cases he
      · intro e he
        obtain ⟨c', hc', rfl⟩ := List.mem_map.mp he
        exact mem_avail.mpr (Or.inl ⟨c', (List.mem_filter.mp hc').1, rfl⟩)
  · -- a restart checkpoint is loaded, copied or moved: nothing new becomes available
    refine step_loadlike hinv e_r e_done e_fin hcps hlen ?_ ?_
    · intro e he
      rcases mem_avail.mp he with ⟨c', hc', rfl⟩ | ⟨he, he2⟩
      · exact hcpsav c' hc'
      · rw [e_fwd] at he
        by_cases hdw : dst = .work
        · have hics : 0 < c.ics := Nat.pos_of_ne_zero (fun h => hdep ⟨hdw, h⟩)
          rw [if_pos hdw, if_pos hics] at he
          refine mem_avail.mpr (Or.inl ⟨c, hcm, ?_⟩)
          refine Prod.ext (hcn.trans (Option.some.inj he)) ?_
          rw [he2]
          exact decide_eq_false (by omega)
        · rw [if_neg hdw] at he
          exact mem_avail.mpr (Or.inr ⟨he, he2⟩)
    · rw [e_deps, e_fwd]
      by_cases hdw : dst = .work
      · have hics : 0 < c.ics := Nat.pos_of_ne_zero (fun h => hdep ⟨hdw, h⟩)
        rw [if_pos hdw, if_neg (by rw [hcd0 hics]; exact Nat.lt_irrefl 0)]
        exact Or.inr ⟨rfl, hwork hdw⟩
      · rw [if_neg hdw, if_neg hdw]
        exact Or.inl ⟨rfl, rfl⟩

theorem step_copy {cfg : Cfg} {s : Nat} {st0 : Storage} (H : MxHyp cfg s st0) {x : XS}
    (hinv : Inv cfg s st0 x) {n : Nat} {src dst : Storage} (h : actViols cfg x (.copy n src dst) = []) :
    Inv cfg s st0 (nextState cfg x (.copy n src dst)) ∧
    ∀ m, Pot cfg s (nextState cfg x (.copy n src dst)) m → Pot cfg s x m := by
  obtain ⟨_, c, hf, _, _, hdepn, _, hwork, hstore⟩ :=
    GW.load_checks (show actViols.loadViols cfg x n src dst = [] from h)
  obtain ⟨hcm, hcn, _⟩ := findCp_some hf
  rw [GW.nextState_copy hf]
  exact step_load_gen H hinv hcm hcn (fun hd => (hwork hd).2) (fun hd => (hstore hd).2) hdepn x.cps
    (fun _ h => h) (le_refl _) (fun _ => le_refl _)

theorem step_move {cfg : Cfg} {s : Nat} {st0 : Storage} (H : MxHyp cfg s st0) {x : XS}
    (hinv : Inv cfg s st0 x) {n : Nat} {src dst : Storage} (h : actViols cfg x (.move n src dst) = []) :
    Inv cfg s st0 (nextState cfg x (.move n src dst)) ∧
    ∀ m, Pot cfg s (nextState cfg x (.move n src dst)) m → Pot cfg s x m := by
  obtain ⟨_, c, hf, _, _, hdepn, _, hwork, hstore⟩ :=
    GW.load_checks (show actViols.loadViols cfg x n src dst = [] from h)
  obtain ⟨hcm, hcn, _⟩ := findCp_some hf
  rw [GW.nextState_move hf]
  exact step_load_gen H hinv hcm hcn (fun hd => (hwork hd).2) (fun hd => (hstore hd).2) hdepn
    (eraseCp x.cps n src) (fun _ h => mem_eraseCp h) (List.length_filter_le _ _)
    (fun s' => countSt_eraseCp_le _ _ _ _)

theorem step_reverse {cfg : Cfg} {s : Nat} {st0 : Storage} {x : XS} (hinv : Inv cfg s st0 x)
    {n1 n0 : Nat} {cl : Bool} (h : actViols cfg x (.reverse n1 n0 cl) = []) :
    Inv cfg s st0 (nextState cfg x (.reverse n1 n0 cl)) ∧
    ∀ m, Pot cfg s (nextState cfg x (.reverse n1 n0 cl)) m → Pot cfg s x m := by
  obtain ⟨hfr, hadj⟩ := GW.frame_reverse hinv.frame h
  refine ⟨⟨hfr.fin, hfr.r_le, hinv.cps, hinv.len, hfr.deps, hfr.done⟩, fun m hp => ?_⟩
  rw [pot_iff] at hp ⊢
  rw [hadj] at hp
  exact hp

theorem step_endForward {cfg : Cfg} {s : Nat} {st0 : Storage} {x : XS} (hinv : Inv cfg s st0 x) :
    Inv cfg s st0 (nextState cfg x .endForward) ∧
    ∀ m, Pot cfg s (nextState cfg x .endForward) m → Pot cfg s x m :=
  step_loadlike hinv rfl rfl rfl hinv.cps hinv.len (fun _ he => he) (Or.inl ⟨rfl, rfl⟩)

theorem step_endReverse {cfg : Cfg} {s : Nat} {st0 : Storage} (H : MxHyp cfg s st0) {x : XS}
    (hinv : Inv cfg s st0 x) (h : actViols cfg x .endReverse = []) :
    Inv cfg s st0 (nextState cfg x .endReverse) ∧
    ∀ m, Pot cfg s (nextState cfg x .endReverse) m → Pot cfg s x m := by
  obtain ⟨e, hfr⟩ := GW.frame_endReverse H.passes hinv.frame h
  rw [e]
  exact ⟨⟨hfr.fin, hfr.r_le, hinv.cps, hinv.len, hfr.deps, hfr.done⟩, fun m hp => hp⟩

/-- **One accepted step**: the invariant is kept, and a plan for the state after the step gives a plan
for the state before it that costs at most the forward steps of the action more. -/
theorem step_pot {cfg : Cfg} {s : Nat} {st0 : Storage} (H : MxHyp cfg s st0) {x : XS}
    (hinv : Inv cfg s st0 x) (o : Obs) (hclean : stepViols cfg x o = []) :
    Inv cfg s st0 (nextState cfg x o.act) ∧
    ∀ m, Pot cfg s (nextState cfg x o.act) m → Pot cfg s x (m + GW.actFwd o.act) := by
  unfold stepViols at hclean
  simp only [List.append_eq_nil_iff] at hclean
  obtain ⟨⟨_, hact⟩, _⟩ := hclean
  cases ho : o.act with
  | forward n0 n1 wi wa st =>
    rw [ho] at hact
    exact step_forward H hinv hact
  | reverse n1 n0 cl =>
    rw [ho] at hact
    exact step_reverse hinv hact
  | copy n src dst =>
    rw [ho] at hact
    exact step_copy H hinv hact
  | move n src dst =>
    rw [ho] at hact
    exact step_move H hinv hact
  | endForward => exact step_endForward hinv
  | endReverse =>
    rw [ho] at hact
    exact step_endReverse H hinv hact

/-- backward induction: a clean run from `x` that ends finished performs at least as many forward
steps as the cheapest plan for `x` costs -/
theorem run_pot {cfg : Cfg} {s : Nat} {st0 : Storage} (H : MxHyp cfg s st0) (os : List Obs) :
    ∀ (i : Nat) (x : XS), Inv cfg s st0 x → (runFrom cfg i x os).2 = [] →
      finished cfg (runFrom cfg i x os).1 = true → Pot cfg s x (GW.obsFwdSteps os) := by
  intro i x hinv hclean hfin
  revert hinv
  refine runFrom_induction
    (motive := fun x os => Inv cfg s st0 x → Pot cfg s x (GW.obsFwdSteps os)) ?_ ?_ os i x hclean hfin
  · intro x hfin hinv
    rw [pot_iff, GW.frame_finished hinv.frame H.passes hfin]
    exact reach_final s _
  · intro x o os hclean ih hinv
    obtain ⟨hinv', hstep⟩ := step_pot H hinv o hclean
    rw [GW.obsFwdSteps_cons, Nat.add_comm]
    exact hstep _ (ih hinv')

theorem inv_init {cfg : Cfg} {s : Nat} {st0 : Storage} (H : MxHyp cfg s st0) :
    Inv cfg s st0 (XS.init cfg) :=
  have hfr : GW.Frame (fun f q => f = some q ∨ f = none) cfg (XS.init cfg) := GW.frame_init H.offline
  ⟨hfr.fin, hfr.r_le, fun _ hc => absurd hc List.not_mem_nil, Nat.zero_le _, hfr.deps, hfr.done⟩

/-- **The lower bound** for a configuration with `s` units in one storage -/
theorem lowerBound {cfg : Cfg} {s : Nat} {st0 : Storage} (H : MxHyp cfg s st0) (hN : 1 ≤ cfg.N)
    (os : List Obs) (hclean : (run cfg os).2 = []) (hdone : finished cfg (run cfg os).1 = true) :
    mP cfg.N s ≤ GW.obsFwdSteps os := by
  have hp := run_pot H os 0 (XS.init cfg) (inv_init H) hclean hdone
  have hnf : ¬ GW.Flagged cfg (XS.init cfg) := fun h => by cases h.2
  exact reach_init hN (hp.2 hnf)

/-- **C06, the lower bound.**  Configuration `cfgMixed s st N`: offline, `N` steps, at most `s` units
in the storage `st` (RAM or disk), each holding either one restart checkpoint or the adjoint dependency
data of one step; one adjoint calculation; working storage holds the adjoint dependency data of one
step.  ANY stream of observations that the checking executor accepts without a violation and that
completes the adjoint calculation performs at least `optimal_steps_mixed(N, s)` forward steps. -/
theorem C06_lower (N s : Nat) (st : Storage) (hN : 1 ≤ N) (hst : st = .ram ∨ st = .disk)
    (os : List Obs) (hclean : (run (cfgMixed s st N) os).2 = [])
    (hdone : finished (cfgMixed s st N) (run (cfgMixed s st N) os).1 = true) :
    optMixedCell N (clampS N s) ≤ GW.obsFwdSteps os := by
  have := lowerBound (mxHyp_cfgMixed s N st hst) hN os hclean hdone
  have e : mP (cfgMixed s st N).N s = mP N s := rfl
  rw [e, ← mP_clamp s] at this
  exact this

/-- **C06_full**: for the documented parameters (`N ≥ 1`, `s ≥ min(1, N-1)`, RAM or disk) the published
helper `optimal_steps_mixed(N, s)` returns a value, and no accepted complete stream of `cfgMixed s st N`
performs fewer forward steps. -/
theorem C06_full (N s : Nat) (st : Storage) (hv : validMixed N s st = true) :
    ∃ v, optMixedSpec N s = some v ∧ v = optMixedCell N (clampS N s) ∧
      ∀ os : List Obs, (run (cfgMixed s st N) os).2 = [] →
        finished (cfgMixed s st N) (run (cfgMixed s st N) os).1 = true → v ≤ GW.obsFwdSteps os := by
  simp only [validMixed, Bool.and_eq_true, Bool.or_eq_true, decide_eq_true_eq] at hv
  obtain ⟨⟨hN, hs⟩, hst⟩ := hv
  refine ⟨optMixedCell N (clampS N s), ?_, rfl, fun os hc hd => C06_lower N s st hN hst os hc hd⟩
  show (if validKey N (clampS N s) = true then some (optMixedCell N (clampS N s)) else none) = _
  rw [if_pos ((validKey_clamp_iff N s).2 ⟨hN, by omega⟩)]

theorem obsFwdSteps_obsOffline (N : Nat) (evs : List Ev) :
    GW.obsFwdSteps (obsOffline N evs) = fwdSteps evs := by
  have h := congrArg (List.map GW.actFwd) (obsRec_acts N evs)
  rw [List.map_map, List.map_map, ← obsOffline_eq_rec] at h
  exact congrArg List.sum h

/-- the observations of the `MixedCheckpointSchedule` stream: accepted, complete, and exactly
`optimal_steps_mixed(N, s)` forward steps -/
theorem mixed_obs (N s : Nat) (st : Storage) (hv : validMixed N s st = true) :
    ∃ evs, mixedEvs memoPlan N s st = .ok evs ∧
      (run (cfgMixed s st N) (obsOffline N evs)).2 = [] ∧
      finished (cfgMixed s st N) (run (cfgMixed s st N) (obsOffline N evs)).1 = true ∧
      GW.obsFwdSteps (obsOffline N evs) = fwdSteps evs ∧
      fwdSteps evs = optMixedCell N (clampS N s) := by
  have hv' := hv
  simp only [validMixed, Bool.and_eq_true, Bool.or_eq_true, decide_eq_true_eq] at hv'
  obtain ⟨⟨hN, hs⟩, hst⟩ := hv'
  obtain ⟨evs, sn, f, hevs, _, hclean⟩ := mixed_clean N s st hst hN hs
  refine ⟨_, hevs, ?_, ?_, obsFwdSteps_obsOffline _ _, mixed_fwdSteps_optMixed N s st hN hs _ hevs⟩
  · rw [obsOffline_snoc_endReverse]; exact hclean.run_viols
  · rw [obsOffline_snoc_endReverse, hclean.run_state]; rfl

/-- **C06, complete**: the stream of `MixedCheckpointSchedule(N, s, storage)` is accepted by the
executor, completes the adjoint calculation, and among ALL accepted complete streams of
`cfgMixed s st N` it performs the minimum number of forward steps. -/
theorem C06_mixed_optimal (N s : Nat) (st : Storage) (hv : validMixed N s st = true) :
    ∃ evs, mixedEvs memoPlan N s st = .ok evs ∧
      (run (cfgMixed s st N) (obsOffline N evs)).2 = [] ∧
      finished (cfgMixed s st N) (run (cfgMixed s st N) (obsOffline N evs)).1 = true ∧
      GW.obsFwdSteps (obsOffline N evs) = fwdSteps evs ∧
      optMixedSpec N s = some (fwdSteps evs) ∧
      ∀ os : List Obs, (run (cfgMixed s st N) os).2 = [] →
        finished (cfgMixed s st N) (run (cfgMixed s st N) os).1 = true →
        fwdSteps evs ≤ GW.obsFwdSteps os := by
  obtain ⟨evs, hevs, hc, hd, h1, h2⟩ := mixed_obs N s st hv
  simp only [validMixed, Bool.and_eq_true, Bool.or_eq_true, decide_eq_true_eq] at hv
  refine ⟨evs, hevs, hc, hd, h1, mixed_fwdSteps_optMixedSpec N s st hv.1.1 hv.1.2 evs hevs,
    fun os hc' hd' => ?_⟩
  rw [h2]
  exact C06_lower N s st hv.1.1 hv.2 os hc' hd'

/-- a hand-written accepted stream for `N = 3`, `s = 1` with `5 = optimal_steps_mixed(3, 1)` forward
steps: the restart checkpoint at `0` is later replaced by the dependency data of step `0` -/
def demoStream : List Obs :=
  [⟨.forward 0 2 true false .ram, 2, 0, some 3, false, true⟩,
   ⟨.forward 2 3 false true .work, 3, 0, some 3, false, true⟩,
   ⟨.endForward, 3, 0, some 3, false, true⟩,
   ⟨.reverse 3 2 true, 3, 1, some 3, false, true⟩,
   ⟨.move 0 .ram .work, 0, 1, some 3, false, true⟩,
   ⟨.forward 0 1 false true .ram, 1, 1, some 3, false, true⟩,
   ⟨.forward 1 2 false true .work, 2, 1, some 3, false, true⟩,
   ⟨.reverse 2 1 true, 2, 2, some 3, false, true⟩,
   ⟨.move 0 .ram .work, 0, 2, some 3, false, true⟩,
   ⟨.reverse 1 0 true, 0, 3, some 3, false, true⟩,
   ⟨.endReverse, 0, 3, some 3, true, true⟩]

/-- the hypotheses of `C06_lower` are satisfiable, and the bound is attained -/
example : (run (cfgMixed 1 .ram 3) demoStream).2 = [] ∧
    finished (cfgMixed 1 .ram 3) (run (cfgMixed 1 .ram 3) demoStream).1 = true ∧
    GW.obsFwdSteps demoStream = 5 ∧ optMixedCell 3 (clampS 3 1) = 5 := by
  refine ⟨by decide, by decide, by decide, ?_⟩
  have : clampS 3 1 = 1 := by decide
  rw [this]
  exact mP_k1 (n := 3) (le_refl _)

/-- the stream of `Proofs/LowerBound.lean` that beats the binomial optimum: accepted for `cfgMixed`
too, `2 = optimal_steps_mixed(2, 1)` forward steps -/
example : (run (cfgMixed 1 .disk 2) (GW.mixedStream.map
      (fun o => { o with act := relabelAct ramToDisk o.act }))).2 = [] ∧
    (run (cfgMixed 1 .ram 2) GW.mixedStream).2 = [] ∧
    finished (cfgMixed 1 .ram 2) (run (cfgMixed 1 .ram 2) GW.mixedStream).1 = true ∧
    GW.obsFwdSteps GW.mixedStream = 2 ∧ optMixedCell 2 (clampS 2 1) = 2 := by
  refine ⟨by decide, by decide, by decide, by decide, ?_⟩
  have : clampS 2 1 = 1 := by decide
  rw [this]
  exact mP_small (n := 2) (k := 1) (le_refl _)

example (os : List Obs) (hclean : (run (cfgMixed 1 .disk 3) os).2 = [])
    (hdone : finished (cfgMixed 1 .disk 3) (run (cfgMixed 1 .disk 3) os).1 = true) :
    5 ≤ GW.obsFwdSteps os := by
  have := C06_lower 3 1 .disk (by decide) (Or.inr rfl) os hclean hdone
  have e : clampS 3 1 = 1 := by decide
  rw [e] at this
  have e2 : optMixedCell 3 1 = 5 := mP_k1 (n := 3) (le_refl _)
  omega

/-- 10 steps, 3 units: no accepted stream does it with fewer than 19 forward steps (restart
checkpoints only: 25, see `Proofs/LowerBound.lean`) -/
example (os : List Obs) (hclean : (run (cfgMixed 3 .ram 10) os).2 = [])
    (hdone : finished (cfgMixed 3 .ram 10) (run (cfgMixed 3 .ram 10) os).1 = true) :
    19 ≤ GW.obsFwdSteps os := by
  have := C06_lower 10 3 .ram (by decide) (Or.inl rfl) os hclean hdone
  have e : clampS 10 3 = 3 := by decide
  rw [e] at this
  have e2 : optMixedCell 10 3 = 19 := by
    rw [← dpGet_optMixedTable 10 4 10 3 (by decide) (by decide)]
    decide
  omega

end Ckpt.MX

#print axioms Ckpt.MX.C06_lower
#print axioms Ckpt.MX.C06_full
#print axioms Ckpt.MX.C06_mixed_optimal
