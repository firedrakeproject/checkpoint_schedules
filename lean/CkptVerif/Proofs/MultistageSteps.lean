import CkptVerif.Model.Multistage
import CkptVerif.Proofs.StepCount
import CkptVerif.Proofs.NAdvOpt
/-!
# Multistage performs the Griewank–Walther optimum number of forward steps

`multistageSeg_fwdSteps`: the stream of `MultistageCheckpointSchedule` (with `n_advance` as the split
function, either trajectory) advances the forward exactly `N + optimal_extra_steps(N, min(S, N-1))`
steps; `multistageSeg_fwdSteps_closed` is the binomial closed form.
-/
namespace Ckpt.GW

theorem nAdvance_attainsMin (traj : Traj) : AttainsMin (fun m k => nAdvance m k traj) :=
  fun m k hm hk => nAdvance_attains m k traj hm hk

/-- instance of `segWith_fwdSteps` for an inner segment: steps `[3, 10)` at stack depth 1 of 4 units -/
example (alloc : Nat → Storage) (evs : List Ev)
    (h : segWith 10 (fun m k => nAdvance m k .revolve) 4 alloc false 10 true false 3 10 1 = some evs) :
    fwdSteps evs = 7 + extraCell 7 3 := by
  exact segWith_fwdSteps _ _ _ _ _ (nAdvance_attainsMin .revolve) _ _ _ _ _ _ _ h (by decide)
    (Or.inr (by decide))

theorem multistageSeg_fwdSteps (N S : Nat) (alloc : Nat → Storage) (traj : Traj) (evs : List Ev)
    (h : multistageSeg N S alloc traj = some evs) (hN : 1 ≤ N) (hS : 2 ≤ N → 1 ≤ S) :
    fwdSteps evs = N + extraCell N (clampS N S) := by
  unfold multistageSeg at h
  cases hseg : segWith N (fun m k => nAdvance m k traj) S alloc false N false true 0 N 0 with
  | none => rw [hseg] at h; simp at h
  | some body =>
    rw [hseg] at h
    have h' : body ++ [⟨.endReverse, 1, N⟩] = evs := Option.some.inj h
    subst h'
    have hk : N = 0 + 1 ∨ 1 ≤ S - 0 := by
      by_cases h2 : 2 ≤ N
      · right; have := hS h2; omega
      · left; omega
    have := segWith_fwdSteps N (fun m k => nAdvance m k traj) S alloc false
      (nAdvance_attainsMin traj) N false true 0 N 0 body hseg (by omega) hk
    rw [fwdSteps_append, this]
    show N - 0 + extraCell (N - 0) (clampS (N - 0) (S - 0)) + 0 = _
    simp only [Nat.sub_zero, Nat.add_zero]

/-- the closed form: with `1 ≤ S ≤ N - 1` units and `β(S,t-1) < N ≤ β(S,t)` the schedule performs
`(t+1)·N − β(S+1, t-1)` forward steps (Griewank & Walther 2000) -/
theorem multistageSeg_fwdSteps_closed (N S t : Nat) (alloc : Nat → Storage) (traj : Traj)
    (evs : List Ev) (h : multistageSeg N S alloc traj = some evs)
    (hS : 1 ≤ S) (hSN : S ≤ N - 1) (hN : 2 ≤ N) (ht : 1 ≤ t)
    (hlo : Nat.choose (S + t - 1) (t - 1) < N) (hhi : N ≤ Nat.choose (S + t) t) :
    fwdSteps evs + Nat.choose (S + t) (t - 1) = (t + 1) * N := by
  rw [multistageSeg_fwdSteps N S alloc traj evs h (by omega) (fun _ => hS)]
  have hc : clampS N S = S := by unfold clampS; omega
  rw [hc]
  exact extraCell_closed N S t hS hSN hlo hhi ht

/-- 10 steps, 3 units: 25 forward steps (`= 3·10 − 5`), for either trajectory -/
example (alloc : Nat → Storage) (traj : Traj) (evs : List Ev)
    (h : multistageSeg 10 3 alloc traj = some evs) : fwdSteps evs = 25 := by
  have := multistageSeg_fwdSteps_closed 10 3 2 alloc traj evs h (by decide) (by decide) (by decide)
    (by decide) (by decide) (by decide)
  have e : Nat.choose (3 + 2) (2 - 1) = 5 := by decide
  omega

example : (multistageSeg 4 2 (fun _ => .ram) .revolve).map fwdSteps = some 8 := by decide

end Ckpt.GW
