import CkptVerif.Proofs.Binom
import Mathlib.Data.Nat.Find
/-! The period formula `mxrr_close_formula` of PeriodicDiskRevolve: the fuelled loop always
terminates within its fuel and returns `beta cm t*` for the least `t*` with
`beta (cm+1) t* * uf > wd + rd`. -/
namespace Ckpt

/-- the loop started at `t ≤ ts` with enough fuel stops exactly at the first failing `ts` -/
theorem mxrrLoop_eq (cm uf wr ts : Nat) (hlt : wr < beta (cm + 1) ts * uf)
    (hmin : ∀ s < ts, beta (cm + 1) s * uf ≤ wr) :
    ∀ fuel t, t ≤ ts → ts - t < fuel → mxrrLoop cm uf wr fuel t = some ts := by
  intro fuel
  induction fuel with
  | zero => intro t _ h; omega
  | succ fuel ih =>
    intro t hle hf
    rcases Nat.lt_or_ge t ts with h | h
    · have := hmin t h
      simp only [mxrrLoop, this, if_true]
      exact ih (t + 1) h (by omega)
    · have e : t = ts := by omega
      subst e
      have : ¬ beta (cm + 1) t * uf ≤ wr := by omega
      simp only [mxrrLoop, this, if_false]

/-- at `t = wr` the loop test already fails -/
theorem mxrr_test_fails_at (cm uf wr : Nat) (huf : 0 < uf) : wr < beta (cm + 1) wr * uf := by
  have h1 := beta_succ_ge cm wr
  calc wr < beta (cm + 1) wr := h1
    _ = beta (cm + 1) wr * 1 := (Nat.mul_one _).symm
    _ ≤ beta (cm + 1) wr * uf := Nat.mul_le_mul_left _ huf

theorem mxrr_exists (cm uf wr : Nat) (huf : 0 < uf) : ∃ t, wr < beta (cm + 1) t * uf :=
  ⟨wr, mxrr_test_fails_at cm uf wr huf⟩

/-- The fuel `wr + 2` always suffices, and the result is `beta cm t*` for the least `t*` with
`beta (cm+1) t* * uf > wr`. -/
theorem mxrr_spec (cm uf wr : Nat) (huf : 0 < uf) :
    ∃ h : ∃ t, wr < beta (cm + 1) t * uf, mxrr cm uf wr = some (beta cm (Nat.find h)) := by
  refine ⟨mxrr_exists cm uf wr huf, ?_⟩
  generalize hh : mxrr_exists cm uf wr huf = h
  have hle : Nat.find h ≤ wr := Nat.find_min' h (mxrr_test_fails_at cm uf wr huf)
  have hloop : mxrrLoop cm uf wr (wr + 2) 0 = some (Nat.find h) :=
    mxrrLoop_eq cm uf wr (Nat.find h) (Nat.find_spec h)
      (fun s hs => Nat.le_of_not_lt (Nat.find_min h hs)) (wr + 2) 0 (Nat.zero_le _) (by omega)
  have hne : ¬ uf = 0 := by omega
  simp only [mxrr, hne, if_false, hloop, Option.map_some]

/-- the least index is at most `wr`, so the loop makes at most `wr + 1` tests -/
theorem mxrr_find_le (cm uf wr : Nat) (h : ∃ t, wr < beta (cm + 1) t * uf) (huf : 0 < uf) :
    Nat.find h ≤ wr :=
  Nat.find_min' h (mxrr_test_fails_at cm uf wr huf)

theorem mxrr_zero (cm wr : Nat) : mxrr cm 0 wr = none := by simp [mxrr]

theorem mxrr_eq_none_iff (cm uf wr : Nat) : mxrr cm uf wr = none ↔ uf = 0 := by
  constructor
  · intro h
    by_contra hne
    obtain ⟨_, h2⟩ := mxrr_spec cm uf wr (Nat.pos_of_ne_zero hne)
    rw [h2] at h; cases h
  · rintro rfl; exact mxrr_zero cm wr

/-- the returned period is at least 1 -/
theorem mxrr_pos (cm uf wr m : Nat) (h : mxrr cm uf wr = some m) : 1 ≤ m := by
  by_cases huf : uf = 0
  · subst huf; rw [mxrr_zero] at h; cases h
  · obtain ⟨_, h2⟩ := mxrr_spec cm uf wr (Nat.pos_of_ne_zero huf)
    rw [h2] at h
    injection h with h
    subst h
    exact beta_pos _ _

/-- characterisation without `Nat.find` -/
theorem mxrr_eq_some_iff (cm uf wr m : Nat) (huf : 0 < uf) :
    mxrr cm uf wr = some m ↔
      ∃ ts, wr < beta (cm + 1) ts * uf ∧ (∀ s < ts, beta (cm + 1) s * uf ≤ wr) ∧ m = beta cm ts := by
  obtain ⟨h, h2⟩ := mxrr_spec cm uf wr huf
  rw [h2]
  constructor
  · intro e
    injection e with e
    exact ⟨Nat.find h, Nat.find_spec h, fun s hs => Nat.le_of_not_lt (Nat.find_min h hs), e.symm⟩
  · rintro ⟨ts, h1, h3, rfl⟩
    have : Nat.find h = ts := by
      apply le_antisymm (Nat.find_min' h h1)
      by_contra hc
      have := h3 _ (Nat.lt_of_not_le hc)
      have := Nat.find_spec h
      omega
    rw [this]

-- the hypotheses are satisfiable: cm = 2, uf = 1, wd + rd = 7: beta 3 t = 1, 4, 10 so t* = 2,
-- period = beta 2 2 = 6
example : mxrr 2 1 7 = some 6 := by decide
example : ∃ h : ∃ t, 7 < beta (2 + 1) t * 1, mxrr 2 1 7 = some (beta 2 (Nat.find h)) :=
  mxrr_spec 2 1 7 (by decide)

end Ckpt
