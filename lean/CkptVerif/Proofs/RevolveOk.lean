import CkptVerif.Model.Revolve
import CkptVerif.Spec.Configs
import CkptVerif.Proofs.SegOk
import CkptVerif.Proofs.Argmin
import CkptVerif.Proofs.Period
/-!
# Revolve, DiskRevolve, PeriodicDiskRevolve: the model streams are accepted by the executor

For all `N ≥ 1`, `cm ≥ 1` and all cost parameters (for an arbitrary cost table, in fact), the
streams run through the specification executor without a violation of any tag and are complete.
-/
namespace Ckpt

/-! Revolve's split function is admissible for `segWith_ok` -/

theorem revolveSplit_range (t : Array (Array Nat)) (uf m k : Nat) (hm : 2 ≤ m) (hk : 1 ≤ k) :
    ∃ a, revolveSplit t uf m k = some a ∧ 1 ≤ a ∧ a ≤ m - 1 := by
  unfold revolveSplit
  have hk0 : k ≠ 0 := Nat.ne_of_gt hk
  have hm1 : 1 ≤ m - 1 := Nat.le_sub_one_of_lt hm
  simp only [hk0, if_false]
  by_cases h1 : m - 1 = 1 ∨ k = 1
  · rw [if_pos h1]; exact ⟨_, rfl, hm1, le_refl _⟩
  · rw [if_neg h1]
    have hm2 : 1 ≤ m - 1 - 1 :=
      Nat.le_sub_one_of_lt (Nat.lt_of_le_of_ne hm1 fun h => h1 (Or.inl h.symm))
    obtain ⟨h2, h3, -⟩ := argminO_range'_map (fun j =>
      some (j * uf + opt0Get t (k - 1) (m - 1 - j) + opt0Get t k (j - 1))) (m - 1 - 1) hm2
    exact ⟨_, rfl, h2, h3.trans (Nat.sub_le _ _)⟩

theorem revolveSplit_one (t : Array (Array Nat)) (uf m : Nat) :
    revolveSplit t uf m 1 = some (m - 1) := by
  simp [revolveSplit]

example : revolveSplit (opt0Table 9 3 1 1) 1 10 3 = some 4 := by decide

theorem countSt_cons_disk_ram (n a b : Nat) (base : List Cp) :
    countSt (⟨n, .disk, a, b⟩ :: base) .ram = countSt base .ram := by
  simp [countSt]

/-- what the Revolve family needs of the executor configuration: RAM budget `cm ≥ 1` -/
structure RevHyp (cfg : Cfg) (N cm dn : Nat) : Prop where
  hN : cfg.N = N
  alive : Alive cfg dn
  ram : cfg.ram = some cm
  cm : 1 ≤ cm

theorem revHyp_revolve (cm N : Nat) (hcm : 1 ≤ cm) : RevHyp (cfgRevolve cm N) N cm 0 :=
  ⟨rfl, alive_one rfl, rfl, hcm⟩

theorem revHyp_disk (cm N : Nat) (hcm : 1 ≤ cm) : RevHyp (cfgDiskRevolve cm N) N cm 0 :=
  ⟨rfl, alive_one rfl, rfl, hcm⟩

/-- Hoare triple for `revSeg` on `[lo, hi)`: forward state in WORK at `lo` (any working data),
adjoint at `hi`, other checkpoints `base` (none in RAM, keys outside the region, DISK budget
respected) ⟶ adjoint at `lo`, same `base`. Arbitrary cost table `t`. -/
theorem revSeg_ok {cfg : Cfg} {N cm dn : Nat} (H : RevHyp cfg N cm dn) (t : Array (Array Nat)) (uf : Nat)
    (base : List Cp) (hbr : countSt base .ram = 0)
    (hbd : withinOpt cfg.disk (countSt base .disk) = true)
    (spine : Bool) (lo hi : Nat) (sn : List Cp) (wi wd : Option (Nat × Nat))
    (hlt : lo < hi) (hhi : hi ≤ N) (hsp : spine = true → hi = N) (hout : Outside base lo hi) :
    ∃ evs sn', revSeg N t uf cm spine lo hi = some evs ∧ (spine = false → sn' = sn) ∧
      Clean cfg (X (some lo) (N - hi) wi wd base (!spine) dn sn) (evs.map (Ev.obs · N))
        (X (some (lo + 1)) (N - lo) none none base true dn sn') := by
  have HS : SegHyp cfg N (revolveSplit t uf) cm (fun _ => Storage.ram) base lo hi dn := {
    hN := H.hN
    alive := H.alive
    range := fun m k hm hk => revolveSplit_range t uf m k hm hk
    one := fun m _ => revolveSplit_one t uf m
    store := fun _ _ => rfl
    budget := by
      intro stack hl hlen
      have hram := countSt_all (Labelled.const (fun _ => rfl) hl)
      simp only [withinBudget, countSt_append, hram, hbr, H.ram, Nat.add_zero, Bool.and_eq_true]
      exact ⟨by simpa [withinOpt] using hlen, by simpa using hbd⟩
    base := hout }
  obtain ⟨evs, sn', hseg, hsn, hclean⟩ := segWith_ok false HS (hi - lo + 1) false spine lo hi 0 [] 0
    (some lo) sn wi wd (fun h => by cases h) (Nat.le_succ _) hlt hhi (le_refl _) (le_refl _)
    (fun h => ⟨hsp h, rfl⟩) (fun h => by cases h) (by intro c hc; cases hc) trivial rfl
    (fun _ => H.cm) (fun _ => rfl) (fun h => by cases h)
  refine ⟨evs, sn', hseg, hsn, ?_⟩
  simpa only [Bool.false_eq_true, if_false, false_and, List.nil_append] using hclean

theorem revolve_clean (N cm : Nat) (c : Costs) (hN : 1 ≤ N) (hcm : 1 ≤ cm) :
    ∃ evs sn, revolveEvs N cm c = .ok (evs ++ [⟨.endReverse, 1, N⟩]) ∧
      Clean (cfgRevolve cm N) (XS.init (cfgRevolve cm N))
        (evs.map (Ev.obs · N) ++ [⟨.endReverse, 1, N, some N, true, true⟩])
        (X (some 1) N none none [] true 1 sn) := by
  obtain ⟨evs, sn', hseg, _, hclean⟩ := revSeg_ok (revHyp_revolve cm N hcm)
    (opt0Table (N - 1) cm c.uf c.ub) c.uf [] (by simp [countSt]) (by simp [countSt, cfgRevolve, withinOpt])
    true 0 N [] none none hN (le_refl _) (fun _ => rfl) (by intro x hx; cases hx)
  refine ⟨evs, sn', by simp only [revolveEvs, hseg], Clean.whole rfl rfl rfl (Or.inr rfl) ?_⟩
  simpa using hclean

theorem withinBudget_disk_cons {cfg : Cfg} {N cm dn : Nat} (H : RevHyp cfg N cm dn)
    (hd : cfg.disk = none) (n a : Nat) (base : List Cp) (hbr : countSt base .ram = 0) :
    withinBudget cfg (⟨n, .disk, a, 0⟩ :: base) = true := by
  simp [withinBudget, countSt_cons_disk_ram, hbr, H.ram, hd, withinOpt]

/-- `Forward lo (lo+a) true false .disk`: write a DISK checkpoint on top of `base` -/
theorem step_write_disk (cfg : Cfg) (N : Nat) (base : List Cp) (lo a r : Nat)
    (wi wd : Option (Nat × Nat)) (e : Bool) (dn : Nat) (sn : List Cp)
    (hN : cfg.N = N) (hal : Alive cfg dn) (h : lo + a ≤ N - r) (ha : 0 < a) (hb : Below base lo)
    (hB : withinBudget cfg (⟨lo, .disk, a, 0⟩ :: base) = true) :
    step cfg (X (some lo) r wi wd base e dn sn)
        (Ev.obs ⟨.forward lo (lo + a) true false .disk, lo + a, r⟩ N)
      = (X (some (lo + a)) r none none (⟨lo, .disk, a, 0⟩ :: base) e dn sn, []) :=
  step_write cfg N .disk base lo (lo + 1) (some lo) lo a r wi wd [] e dn sn hN hal
    h ha rfl rfl (by intro c hc; cases hc) (hb.outside _) (le_refl _) (Nat.lt_succ_self lo) hB

/-- `Move lo .disk .work` below the adjoint position `hi`: the DISK checkpoint on top of `base` is
loaded and deleted -/
theorem seg_move_disk {cfg : Cfg} {N dn : Nat} (hN : cfg.N = N) (hal : Alive cfg dn) (base : List Cp)
    (f : Option Nat) (lo k hi : Nat) (sn : List Cp) (h : hi ≤ lo + k) (hlo : lo < hi) (hhi : hi ≤ N)
    (hb : Below base lo) :
    step cfg (X f (N - hi) none none (⟨lo, .disk, k, 0⟩ :: base) true dn sn)
        (Ev.obs ⟨.move lo .disk .work, lo, N - hi⟩ N)
      = (X (some lo) (N - hi) (some (lo, lo + k)) none base true dn sn, []) :=
  seg_reload hN hal false base lo (lo + 1) f lo k hi .disk [] sn rfl h hlo hhi (by intro c hc; cases hc)
    (hb.outside _) (le_refl _) (Nat.lt_succ_self lo)

/-- Hoare triple for `diskSeg` on `[lo, hi)`: forward in WORK at `lo`, adjoint at `hi`, storage
`base` (no RAM checkpoint, keys `< lo`) ⟶ adjoint at `lo`, storage `base`. -/
theorem diskSeg_ok {cfg : Cfg} {N cm dn : Nat} (H : RevHyp cfg N cm dn) (hd : cfg.disk = none)
    (t0 : Array (Array Nat)) (tinf : Array Nat) (uf wr : Nat) :
    ∀ (fuel : Nat) (spine : Bool) (lo hi : Nat) (base : List Cp) (sn : List Cp)
      (wi wd : Option (Nat × Nat)),
      hi - lo ≤ fuel → lo < hi → hi ≤ N → (spine = true → hi = N) → Below base lo →
      countSt base .ram = 0 →
      ∃ evs sn', diskSeg N t0 tinf cm uf wr fuel spine lo hi = some evs ∧ (spine = false → sn' = sn) ∧
        Clean cfg (X (some lo) (N - hi) wi wd base (!spine) dn sn) (evs.map (Ev.obs · N))
          (X (some (lo + 1)) (N - lo) none none base true dn sn') := by
  intro fuel
  induction fuel with
  | zero =>
    intro _ lo hi _ _ _ _ h1 h2
    exact absurd h2 (Nat.not_lt.mpr (Nat.sub_eq_zero_iff_le.mp (Nat.le_zero.mp h1)))
  | succ fuel ih =>
    intro spine lo hi base sn wi wd hfuel hlt hhi hsp hbelow hbr
    have hbd : withinOpt cfg.disk (countSt base .disk) = true := by simp [hd, withinOpt]
    obtain ⟨l, rfl⟩ : ∃ l, hi = lo + (l + 1) := Nat.exists_eq_add_of_lt hlt
    rw [Nat.add_sub_cancel_left] at hfuel
    unfold diskSeg
    simp only [Nat.add_sub_cancel_left, Nat.add_sub_cancel]
    by_cases hcond : l ≥ 2 ∧ ((List.range' 1 (l - 1)).map (fun j =>
        wr + j * uf + tinf.getD (l - j) 0 + opt0Get t0 cm (j - 1))).foldl min
          (((List.range' 1 (l - 1)).map (fun j =>
            wr + j * uf + tinf.getD (l - j) 0 + opt0Get t0 cm (j - 1))).headD 0) < opt0Get t0 cm l
    · -- a DISK checkpoint at `lo`, the rest from `lo + j`, then `[lo, lo + j)` in memory
      rw [if_pos hcond]
      have hl2 : 2 ≤ l := hcond.1
      clear hcond
      obtain ⟨hj1, hj2, -⟩ := argminO_range'_map_some (fun j =>
        wr + j * uf + tinf.getD (l - j) 0 + opt0Get t0 cm (j - 1)) (l - 1) (Nat.le_sub_one_of_lt hl2)
      generalize argminO _ = j at hj1 hj2 ⊢
      -- the split point lies strictly inside: `lo < lo + j < lo + (l + 1)`
      have hjl : j < l := Nat.lt_of_le_of_lt hj2 (Nat.sub_lt (Nat.lt_of_lt_of_le Nat.zero_lt_two hl2) Nat.one_pos)
      have hlj : lo < lo + j := Nat.lt_add_of_pos_right hj1
      have hjh : lo + j ≤ lo + (l + 1) := Nat.add_le_add_left (Nat.le_succ_of_le hjl.le) lo
      have hjN : lo + j ≤ N := hjh.trans hhi
      obtain ⟨right, sn1, hright, hsn1, hcr⟩ := ih spine (lo + j) (lo + (l + 1)) (⟨lo, .disk, j, 0⟩ :: base) sn
        none none
        (by rw [Nat.add_sub_add_left]
            exact (Nat.sub_le_sub_left hj1 (l + 1)).trans (Nat.le_of_succ_le_succ hfuel))
        (Nat.add_lt_add_left (Nat.lt_succ_of_lt hjl) lo) hhi hsp (hbelow.cons rfl hlj)
        (by rw [countSt_cons_disk_ram]; exact hbr)
      rw [hright]; dsimp only
      obtain ⟨left, sn2, hleft, hsn2, hcl⟩ := revSeg_ok H t0 uf base hbr hbd false lo (lo + j) sn1
        (some (lo, lo + j)) none hlj hjN (fun h => by cases h) (hbelow.outside _)
      rw [hleft]; dsimp only
      refine ⟨_, sn2, rfl, fun h => by rw [hsn2 rfl, hsn1 h], ?_⟩
      simp only [List.map_append, List.map_cons, List.map_nil]
      simp only [Bool.not_false] at hcl
      have s1 := step_write_disk cfg N base lo j (N - (lo + (l + 1))) wi wd (!spine) dn sn H.hN H.alive
        (by rw [Nat.sub_sub_self hhi]; exact hjh) hj1 hbelow (withinBudget_disk_cons H hd lo j base hbr)
      have s3 := seg_move_disk H.hN H.alive base (some (lo + j + 1)) lo j (lo + j) sn1 (le_refl _) hlj
        hjN hbelow
      exact Clean.append (Clean.append (Clean.append (Clean.single s1) hcr) (Clean.single s3)) hcl
    · rw [if_neg hcond]
      exact revSeg_ok H t0 uf base hbr hbd spine lo _ sn wi wd hlt hhi hsp (hbelow.outside _)

theorem diskRevolve_clean (N cm : Nat) (c : Costs) (hN : 1 ≤ N) (hcm : 1 ≤ cm) :
    ∃ evs sn, diskRevolveEvs N cm c = .ok (evs ++ [⟨.endReverse, 1, N⟩]) ∧
      Clean (cfgDiskRevolve cm N) (XS.init (cfgDiskRevolve cm N))
        (evs.map (Ev.obs · N) ++ [⟨.endReverse, 1, N, some N, true, true⟩])
        (X (some 1) N none none [] true 1 sn) := by
  obtain ⟨evs, sn', hseg, _, hclean⟩ := diskSeg_ok (revHyp_disk cm N hcm) rfl
    (opt0Table (N - 1) cm c.uf c.ub)
    (optInfTable (N - 1) cm c.uf c.ub (c.wd + c.rd) (opt0Table (N - 1) cm c.uf c.ub)) c.uf (c.wd + c.rd)
    (N + 1) true 0 N [] [] none none (Nat.le_succ_of_le (Nat.sub_le _ _)) hN (le_refl _) (fun _ => rfl)
    (by intro x hx; cases hx) (by simp [countSt])
  refine ⟨evs, sn', by simp only [diskRevolveEvs, hseg], Clean.whole rfl rfl rfl (Or.inr rfl) ?_⟩
  simpa using hclean

/-- the periodic DISK checkpoints at `0, mx, …, (q-1)·mx`, most recent first -/
def diskBase (mx : Nat) : Nat → List Cp
  | 0 => []
  | q + 1 => ⟨q * mx, .disk, mx, 0⟩ :: diskBase mx q

theorem diskBase_below (mx : Nat) (hmx : 1 ≤ mx) : ∀ q, Below (diskBase mx q) (q * mx)
  | 0 => by intro c hc; cases hc
  | q + 1 => by
    have := diskBase_below mx hmx q
    rw [Nat.succ_mul]
    exact this.cons rfl (by omega)

theorem diskBase_ram (mx : Nat) : ∀ q, countSt (diskBase mx q) .ram = 0
  | 0 => by simp [diskBase, countSt]
  | q + 1 => by
    simp only [diskBase, countSt_cons_disk_ram]
    exact diskBase_ram mx q

theorem diskBase_length (mx : Nat) : ∀ q, (diskBase mx q).length = q
  | 0 => rfl
  | q + 1 => by simp [diskBase, diskBase_length mx q]

/-- the initial sweep, started at `q·mx` with the `q` periodic checkpoints written -/
theorem sweep_ok {cfg : Cfg} {N cm dn : Nat} (H : RevHyp cfg N cm dn) (hd : cfg.disk = none)
    (mx : Nat) (hmx : 1 ≤ mx) (sn : List Cp) :
    ∀ (fuel q : Nat), N - 1 - q * mx + 1 ≤ fuel → q * mx < N →
      ∃ q', (periodicSweep (N - 1) mx fuel (q * mx)).2 = q' * mx ∧ q' * mx < N ∧
        N - 1 - q' * mx ≤ mx ∧
        Clean cfg (X (some (q * mx)) 0 none none (diskBase mx q) false dn sn)
          ((periodicSweep (N - 1) mx fuel (q * mx)).1.map (Ev.obs · N))
          (X (some (q' * mx)) 0 none none (diskBase mx q') false dn sn) := by
  intro fuel
  induction fuel with
  | zero => intro q h; exact absurd h (Nat.not_succ_le_zero _)
  | succ fuel ih =>
    intro q hfuel hq
    unfold periodicSweep
    by_cases hc : N - 1 - q * mx > mx
    · rw [if_pos hc]
      have hlt : q * mx + mx < N - 1 := by rw [Nat.add_comm]; exact Nat.lt_sub_iff_add_lt.mp hc
      have hN' : q * mx + mx < N := Nat.lt_of_lt_of_le hlt (Nat.sub_le _ _)
      obtain ⟨q', h1, h2, h3, h5⟩ := ih (q + 1)
        (by rw [Nat.succ_mul, Nat.sub_add_eq]
            exact Nat.lt_of_lt_of_le (Nat.sub_lt (Nat.zero_lt_of_lt hc) hmx) (Nat.le_of_succ_le_succ hfuel))
        (by rw [Nat.succ_mul]; exact hN')
      rw [Nat.succ_mul] at h1 h5
      rcases hps : periodicSweep (N - 1) mx fuel (q * mx + mx) with ⟨rest, c'⟩
      rw [hps] at h1 h5
      dsimp only at h1 h5 ⊢
      refine ⟨q', h1, h2, h3, ?_⟩
      simp only [List.map_cons]
      refine Clean.cons (step_write_disk cfg N (diskBase mx q) (q * mx) mx 0 none none false dn sn
        H.hN H.alive hN'.le hmx (diskBase_below mx hmx q)
        (withinBudget_disk_cons H hd _ _ _ (diskBase_ram mx q))) ?_
      simpa only [diskBase] using h5
    · rw [if_neg hc]
      exact ⟨q, rfl, hq, Nat.le_of_not_gt hc, Clean.nil _ _⟩

/-- the blocks `[b·mx, (b+1)·mx)` for `b = q-1, …, 0` -/
theorem blocks_ok {cfg : Cfg} {N cm dn : Nat} (H : RevHyp cfg N cm dn) (hd : cfg.disk = none)
    (t0 : Array (Array Nat)) (uf mx : Nat) (hmx : 1 ≤ mx) (sn : List Cp) :
    ∀ (q : Nat) (f : Option Nat), q * mx ≤ N → (q = 0 → f = some 1) →
      ∃ evs, periodicBlocks N t0 uf cm mx q = some evs ∧
        Clean cfg (X f (N - q * mx) none none (diskBase mx q) true dn sn) (evs.map (Ev.obs · N))
          (X (some 1) N none none [] true dn sn) := by
  intro q
  induction q with
  | zero =>
    intro f _ hf
    refine ⟨[], rfl, ?_⟩
    rw [hf rfl, Nat.zero_mul, Nat.sub_zero]
    exact Clean.nil _ _
  | succ b ih =>
    intro f hq _
    rw [Nat.succ_mul] at hq
    have hbelow := diskBase_below mx hmx b
    have hlt : b * mx < b * mx + mx := Nat.lt_add_of_pos_right hmx
    have hbr := diskBase_ram mx b
    have hbd : withinOpt cfg.disk (countSt (diskBase mx b) .disk) = true := by simp [hd, withinOpt]
    unfold periodicBlocks
    dsimp only
    obtain ⟨evs1, sn1, hseg, hsn1, hc1⟩ := revSeg_ok H t0 uf (diskBase mx b) hbr hbd false (b * mx)
      (b * mx + mx) sn (some (b * mx, b * mx + mx)) none hlt hq (fun h => by cases h)
      (hbelow.outside _)
    have hsn : sn1 = sn := hsn1 rfl
    subst hsn
    obtain ⟨rest, hrest, hc2⟩ := ih (some (b * mx + 1)) (hlt.le.trans hq) (by intro h; subst h; simp)
    rw [hseg, hrest]
    refine ⟨_, rfl, ?_⟩
    simp only [List.map_append, List.map_cons, List.map_nil, Nat.succ_mul, diskBase]
    simp only [Bool.not_false] at hc1
    have s1 := seg_move_disk H.hN H.alive (diskBase mx b) f (b * mx) mx (b * mx + mx) sn1 (le_refl _)
      hlt hq hbelow
    exact Clean.append (Clean.append (Clean.single s1) hc1) hc2

theorem periodic_clean (N cm : Nat) (c : Costs) (hN : 1 ≤ N) (hcm : 1 ≤ cm) (huf : 0 < c.uf) :
    ∃ evs sn, periodicEvs N cm c = .ok (evs ++ [⟨.endReverse, 1, N⟩]) ∧
      Clean (cfgDiskRevolve cm N) (XS.init (cfgDiskRevolve cm N))
        (evs.map (Ev.obs · N) ++ [⟨.endReverse, 1, N, some N, true, true⟩])
        (X (some 1) N none none [] true 1 sn) := by
  obtain ⟨_, hmx⟩ := mxrr_spec cm c.uf (c.wd + c.rd) huf
  generalize hmxv : beta cm _ = mx at hmx
  have hmx1 : 1 ≤ mx := mxrr_pos _ _ _ _ hmx
  have H := revHyp_disk cm N hcm
  have hd : (cfgDiskRevolve cm N).disk = none := rfl
  obtain ⟨q, h1, h2, h3, hsweep⟩ := sweep_ok H hd mx hmx1 [] N 0
    (by rw [Nat.zero_mul, Nat.sub_zero, Nat.sub_add_cancel hN]) (by rw [Nat.zero_mul]; exact hN)
  rw [Nat.zero_mul] at h1 hsweep
  rcases hps : periodicSweep (N - 1) mx N 0 with ⟨sweep, cur⟩
  rw [hps] at h1 hsweep
  dsimp only at h1 hsweep
  subst h1
  have hbd : withinOpt (cfgDiskRevolve cm N).disk (countSt (diskBase mx q) .disk) = true := rfl
  obtain ⟨mid, sn1, hmid, _, hcmid⟩ := revSeg_ok H (opt0Table (max (N - 1) (mx + 1)) cm c.uf c.ub) c.uf
    (diskBase mx q) (diskBase_ram mx q) hbd true (q * mx) N [] none none h2 (le_refl _) (fun _ => rfl)
    (fun x hx => Or.inl (diskBase_below mx hmx1 q x hx))
  obtain ⟨blocks, hblocks, hcb⟩ := blocks_ok H hd (opt0Table (max (N - 1) (mx + 1)) cm c.uf c.ub) c.uf
    mx hmx1 sn1 q (some (q * mx + 1)) h2.le (by intro h; subst h; simp)
  have hdiv : q * mx / mx = q := Nat.mul_div_cancel _ hmx1
  refine ⟨sweep ++ mid ++ blocks, sn1, by simp only [periodicEvs, hmx, hps, hmid, hdiv, hblocks],
    Clean.whole rfl rfl rfl (Or.inr rfl) ?_⟩
  rw [List.map_append, List.map_append]
  rw [Nat.sub_self] at hcmid
  exact Clean.append (Clean.append hsweep hcmid) hcb

-- the hypotheses are satisfiable; concrete streams (N = 7 steps, 2 RAM units)
example : (match revolveEvs 7 2 ⟨1, 1, 2, 2⟩ with | .ok evs => evs.length | .error _ => 0) = 28 := by
  decide
-- DiskRevolve and PeriodicDiskRevolve with one RAM unit really use the disk (period `mx = 2`)
example : (match diskRevolveEvs 9 1 ⟨1, 1, 1, 1⟩ with
    | .ok evs => (evs.filter (fun e : Ev => touches .disk e.act)).length | .error _ => 0) ≠ 0 := by
  decide +kernel
example : mxrr 1 1 2 = some 2 ∧ (match periodicEvs 9 1 ⟨1, 1, 1, 1⟩ with
    | .ok evs => (evs.filter (fun e : Ev => touches .disk e.act)).length | .error _ => 0) ≠ 0 := by
  decide +kernel

end Ckpt
