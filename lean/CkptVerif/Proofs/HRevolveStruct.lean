import CkptVerif.Model.Revolve
import CkptVerif.Proofs.Argmin
import Mathlib.Tactic
/-!
# HRevolve: a structural description of Copy-vs-Move

`resolveLoads` decides for every pending `load` whether it is the last use of its checkpoint by
scanning the rest of the stream (`_last_reads`).  Here the same decision is made structurally,
from the position of the load in the recursion: `hRs`/`hAs` are `hR`/`hA` emitting `Ev`s directly.
`resolveLoads_hR`: both agree.
-/
namespace Ckpt

/-- the candidates of the split in `hA` -/
def hCands (c : HCtx) (K cm l : Nat) : List (Option Nat) :=
  (List.range' 1 (l - 1)).map (fun j =>
    oadd (oadd (oadd (some (j * c.uf)) (c.tab.opt K (l - j) (cm - 1))) (some (c.rr K)))
      (c.tab.optp K (j - 1) cm))

def hOther (c : HCtx) (K l : Nat) : Option Nat :=
  if K = 0 then c.tab.optp 0 l 1 else c.tab.opt (K - 1) l (cv c (K - 1))

/-- the split test of `hA` -/
def hSplit (c : HCtx) (K cm l : Nat) : Bool := olt (ominList (hCands c K cm l)) (hOther c K l)

/-- "the stream of `hA c _ lo (lo+l+1) K cm spine none` loads `(lo, lvl K)` again before any write
to `(lo, lvl K)`", i.e. the load preceding it is a `copy` -/
def reloads (c : HCtx) (K cm l : Nat) : Bool :=
  if l = 0 then false
  else if l = 1 then !(decide (c.w 0 + c.rr 0 < c.rr K))
  else if K = 0 then true
  else hSplit c K cm l

def evBase (c : HCtx) (lo hi : Nat) (spine : Bool) : List Ev :=
  [⟨.forward lo hi false true .work, hi, c.N - hi⟩] ++
  (if spine then [⟨.endForward, hi, c.N - hi⟩] else []) ++
  [⟨.reverse hi lo true, hi, c.N - hi + 1⟩]

def evFwd (c : HCtx) (lo tgt hi : Nat) (pending : Option Nat) : Ev :=
  match pending with
  | none => ⟨.forward lo tgt false false .work, tgt, c.N - hi⟩
  | some K => ⟨.forward lo tgt true false (lvl K), tgt, c.N - hi⟩

def evLoad (copy : Bool) (n : Nat) (st : Storage) (r : Nat) : Ev :=
  if copy then ⟨.copy n st .work, n, r⟩ else ⟨.move n st .work, n, r⟩

mutual
def hRs (c : HCtx) : (fuel : Nat) → (lo hi K cm : Nat) → (spine : Bool) → Option (List Ev)
  | 0, _, _, _, _, _ => none
  | fuel+1, lo, hi, K, cm, spine =>
    let l := hi - lo - 1
    if l = 0 then some (evBase c lo hi spine)
    else if K = 0 ∧ cm = 0 then none
    else if l = 1 then
      some ([evFwd c lo (lo + 1) hi (some 0)] ++ evBase c (lo + 1) hi spine ++
        [evLoad false lo .ram (c.N - (lo + 1))] ++ evBase c lo (lo + 1) false)
    else if K = 0 then hAs c fuel lo hi 0 cm spine (some 0)
    else if olt (oadd (some (c.w K)) (c.tab.optp K l cm)) (c.tab.opt (K - 1) l (cv c (K - 1))) then
      hAs c fuel lo hi K cm spine (some K)
    else hRs c fuel lo hi (K - 1) (cv c (K - 1)) spine
def hAs (c : HCtx) : (fuel : Nat) → (lo hi K cm : Nat) → (spine : Bool) → (pending : Option Nat) →
    Option (List Ev)
  | 0, _, _, _, _, _, _ => none
  | fuel+1, lo, hi, K, cm, spine, pending =>
    let l := hi - lo - 1
    if cm = 0 then none
    else if l = 0 then
      if pending.isSome then none else some (evBase c lo hi spine)
    else if l = 1 then
      if pending.isSome then none else
      if c.w 0 + c.rr 0 < c.rr K then
        some ([evFwd c lo (lo + 1) hi (some 0)] ++ evBase c (lo + 1) hi spine ++
          [evLoad false lo .ram (c.N - (lo + 1))] ++ evBase c lo (lo + 1) false)
      else
        some ([evFwd c lo (lo + 1) hi none] ++ evBase c (lo + 1) hi spine ++
          [evLoad false lo (lvl K) (c.N - (lo + 1))] ++ evBase c lo (lo + 1) false)
    else if K = 0 ∧ cm = 1 then
      let body := (List.range l).reverse.flatMap (fun idx =>
        (if idx ≠ l - 1 then [evLoad true lo .ram (c.N - (lo + idx + 2))] else []) ++
        [evFwd c lo (lo + idx + 1) (lo + idx + 2) (if idx = l - 1 then pending else none)] ++
        evBase c (lo + idx + 1) (lo + idx + 2) (spine && idx = l - 1))
      some (body ++ [evLoad false lo .ram (c.N - (lo + 1))] ++ evBase c lo (lo + 1) false)
    else
      if hSplit c K cm l then
        let j := argminO (hCands c K cm l)
        match hRs c fuel (lo + j) hi K (cm - 1) spine with
        | none => none
        | some right =>
          match hAs c fuel lo (lo + j) K cm false none with
          | none => none
          | some left =>
            some ([evFwd c lo (lo + j) hi pending] ++ right ++
              [evLoad (reloads c K cm (j - 1)) lo (lvl K) (c.N - (lo + j))] ++ left)
      else if K = 0 then hAs c fuel lo hi 0 1 spine pending
      else
        if pending.isSome then none else hRs c fuel lo hi (K - 1) (cv c (K - 1)) spine
end

theorem hR_succ (c : HCtx) (fuel lo hi K cm : Nat) (spine : Bool) :
    hR c (fuel + 1) lo hi K cm spine =
      if hi - lo - 1 = 0 then some (hBase c lo hi spine)
      else if K = 0 ∧ cm = 0 then none
      else if hi - lo - 1 = 1 then
        some ([hFwd c lo (lo + 1) hi (some 0)] ++ hBase c (lo + 1) hi spine ++
          [.load lo .ram (c.N - (lo + 1))] ++ hBase c lo (lo + 1) false)
      else if K = 0 then hA c fuel lo hi 0 cm spine (some 0)
      else if olt (oadd (some (c.w K)) (c.tab.optp K (hi - lo - 1) cm))
          (c.tab.opt (K - 1) (hi - lo - 1) (cv c (K - 1))) then
        hA c fuel lo hi K cm spine (some K)
      else hR c fuel lo hi (K - 1) (cv c (K - 1)) spine := by
  rw [hR]

theorem hRs_succ (c : HCtx) (fuel lo hi K cm : Nat) (spine : Bool) :
    hRs c (fuel + 1) lo hi K cm spine =
      if hi - lo - 1 = 0 then some (evBase c lo hi spine)
      else if K = 0 ∧ cm = 0 then none
      else if hi - lo - 1 = 1 then
        some ([evFwd c lo (lo + 1) hi (some 0)] ++ evBase c (lo + 1) hi spine ++
          [evLoad false lo .ram (c.N - (lo + 1))] ++ evBase c lo (lo + 1) false)
      else if K = 0 then hAs c fuel lo hi 0 cm spine (some 0)
      else if olt (oadd (some (c.w K)) (c.tab.optp K (hi - lo - 1) cm))
          (c.tab.opt (K - 1) (hi - lo - 1) (cv c (K - 1))) then
        hAs c fuel lo hi K cm spine (some K)
      else hRs c fuel lo hi (K - 1) (cv c (K - 1)) spine := by
  rw [hRs]

/-- one iteration `idx < l - 1` of the `cm = 1` loop -/
def loopOp (c : HCtx) (lo idx : Nat) : List HOp :=
  [.load lo .ram (c.N - (lo + idx + 2)), hFwd c lo (lo + idx + 1) (lo + idx + 2) none] ++
    hBase c (lo + idx + 1) (lo + idx + 2) false

def loopEv (c : HCtx) (lo idx : Nat) : List Ev :=
  [evLoad true lo .ram (c.N - (lo + idx + 2)), evFwd c lo (lo + idx + 1) (lo + idx + 2) none] ++
    evBase c (lo + idx + 1) (lo + idx + 2) false

theorem hA_succ (c : HCtx) (fuel lo hi K cm : Nat) (spine : Bool) (pending : Option Nat) :
    hA c (fuel + 1) lo hi K cm spine pending =
      if cm = 0 then none
      else if hi - lo - 1 = 0 then
        if pending.isSome then none else some (hBase c lo hi spine)
      else if hi - lo - 1 = 1 then
        if pending.isSome then none else
        if c.w 0 + c.rr 0 < c.rr K then
          some ([hFwd c lo (lo + 1) hi (some 0)] ++ hBase c (lo + 1) hi spine ++
            [.load lo .ram (c.N - (lo + 1))] ++ hBase c lo (lo + 1) false)
        else
          some ([hFwd c lo (lo + 1) hi none] ++ hBase c (lo + 1) hi spine ++
            [.load lo (lvl K) (c.N - (lo + 1))] ++ hBase c lo (lo + 1) false)
      else if K = 0 ∧ cm = 1 then
        some ((List.range (hi - lo - 1)).reverse.flatMap (fun idx =>
          (if idx ≠ hi - lo - 1 - 1 then [HOp.load lo .ram (c.N - (lo + idx + 2))] else []) ++
          [hFwd c lo (lo + idx + 1) (lo + idx + 2) (if idx = hi - lo - 1 - 1 then pending else none)] ++
          hBase c (lo + idx + 1) (lo + idx + 2) (spine && idx = hi - lo - 1 - 1))
          ++ [.load lo .ram (c.N - (lo + 1))] ++ hBase c lo (lo + 1) false)
      else if hSplit c K cm (hi - lo - 1) then
        match hR c fuel (lo + argminO (hCands c K cm (hi - lo - 1))) hi K (cm - 1) spine with
        | none => none
        | some right =>
          match hA c fuel lo (lo + argminO (hCands c K cm (hi - lo - 1))) K cm false none with
          | none => none
          | some left =>
            some ([hFwd c lo (lo + argminO (hCands c K cm (hi - lo - 1))) hi pending] ++ right ++
              [.load lo (lvl K) (c.N - (lo + argminO (hCands c K cm (hi - lo - 1))))] ++ left)
      else if K = 0 then hA c fuel lo hi 0 1 spine pending
      else if pending.isSome then none else hR c fuel lo hi (K - 1) (cv c (K - 1)) spine := by
  rw [hA]
  rfl

theorem hAs_succ (c : HCtx) (fuel lo hi K cm : Nat) (spine : Bool) (pending : Option Nat) :
    hAs c (fuel + 1) lo hi K cm spine pending =
      if cm = 0 then none
      else if hi - lo - 1 = 0 then
        if pending.isSome then none else some (evBase c lo hi spine)
      else if hi - lo - 1 = 1 then
        if pending.isSome then none else
        if c.w 0 + c.rr 0 < c.rr K then
          some ([evFwd c lo (lo + 1) hi (some 0)] ++ evBase c (lo + 1) hi spine ++
            [evLoad false lo .ram (c.N - (lo + 1))] ++ evBase c lo (lo + 1) false)
        else
          some ([evFwd c lo (lo + 1) hi none] ++ evBase c (lo + 1) hi spine ++
            [evLoad false lo (lvl K) (c.N - (lo + 1))] ++ evBase c lo (lo + 1) false)
      else if K = 0 ∧ cm = 1 then
        some ((List.range (hi - lo - 1)).reverse.flatMap (fun idx =>
          (if idx ≠ hi - lo - 1 - 1 then [evLoad true lo .ram (c.N - (lo + idx + 2))] else []) ++
          [evFwd c lo (lo + idx + 1) (lo + idx + 2) (if idx = hi - lo - 1 - 1 then pending else none)] ++
          evBase c (lo + idx + 1) (lo + idx + 2) (spine && idx = hi - lo - 1 - 1))
          ++ [evLoad false lo .ram (c.N - (lo + 1))] ++ evBase c lo (lo + 1) false)
      else if hSplit c K cm (hi - lo - 1) then
        match hRs c fuel (lo + argminO (hCands c K cm (hi - lo - 1))) hi K (cm - 1) spine with
        | none => none
        | some right =>
          match hAs c fuel lo (lo + argminO (hCands c K cm (hi - lo - 1))) K cm false none with
          | none => none
          | some left =>
            some ([evFwd c lo (lo + argminO (hCands c K cm (hi - lo - 1))) hi pending] ++ right ++
              [evLoad (reloads c K cm (argminO (hCands c K cm (hi - lo - 1)) - 1)) lo (lvl K)
                (c.N - (lo + argminO (hCands c K cm (hi - lo - 1))))] ++ left)
      else if K = 0 then hAs c fuel lo hi 0 1 spine pending
      else if pending.isSome then none else hRs c fuel lo hi (K - 1) (cv c (K - 1)) spine := by
  rw [hAs]

theorem hOther_zero (c : HCtx) (l : Nat) : hOther c 0 l = c.tab.optp 0 l 1 := if_pos rfl

theorem hOther_one (c : HCtx) (l : Nat) : hOther c 1 l = c.tab.opt 0 l c.c0 :=
  if_neg Nat.one_ne_zero

/-- at the DISK level the alternative to a split is the memory-only solution -/
theorem hSplit_one (c : HCtx) (cm l : Nat) :
    hSplit c 1 cm l = olt (ominList (hCands c 1 cm l)) (c.tab.opt 0 l c.c0) := rfl

theorem hSplit_range (c : HCtx) (K cm l : Nat) (hl : 2 ≤ l) :
    1 ≤ argminO (hCands c K cm l) ∧ argminO (hCands c K cm l) ≤ l - 1 :=
  have h := argminO_range'_map (fun j => oadd (oadd (oadd (some (j * c.uf)) (c.tab.opt K (l - j) (cm - 1)))
    (some (c.rr K))) (c.tab.optp K (j - 1) cm)) (l - 1) (by omega)
  ⟨h.1, h.2.1⟩

theorem hCands_argmin (c : HCtx) (K cm l : Nat) (hl : 2 ≤ l) :
    oadd (oadd (oadd (some (argminO (hCands c K cm l) * c.uf))
        (c.tab.opt K (l - argminO (hCands c K cm l)) (cm - 1))) (some (c.rr K)))
      (c.tab.optp K (argminO (hCands c K cm l) - 1) cm) = ominList (hCands c K cm l) :=
  (argminO_range'_map (fun j => oadd (oadd (oadd (some (j * c.uf)) (c.tab.opt K (l - j) (cm - 1)))
    (some (c.rr K))) (c.tab.optp K (j - 1) cm)) (l - 1) (by omega)).2.2

/-- the checkpoint (step, storage) an operation loads or writes -/
def opKey : HOp → Option (Nat × Storage)
  | .load n st _ => some (n, st)
  | .ev e =>
    match e.act with
    | .forward n0 _ true _ st => some (n0, st)
    | _ => none

theorem isLastLoad_cons_ne (n : Nat) (st : Storage) (op : HOp) (rest : List HOp)
    (h : opKey op ≠ some (n, st)) : isLastLoad n st (op :: rest) = isLastLoad n st rest := by
  cases op with
  | load n' st' r =>
    have : ¬ (n' = n ∧ st' = st) := by
      rintro ⟨rfl, rfl⟩; exact h rfl
    simp [isLastLoad, this]
  | ev e =>
    obtain ⟨a, en, er⟩ := e
    cases a with
    | forward n0 n1 wi wa st' =>
      cases wi with
      | false => simp [isLastLoad]
      | true =>
        have : ¬ (n0 = n ∧ st' = st) := by
          rintro ⟨rfl, rfl⟩; exact h rfl
        simp [isLastLoad, this]
    | _ => simp [isLastLoad]

theorem isLastLoad_load (n : Nat) (st : Storage) (r : Nat) (rest : List HOp) :
    isLastLoad n st (.load n st r :: rest) = false := by
  simp [isLastLoad]

theorem isLastLoad_write (n n1 : Nat) (st : Storage) (wa : Bool) (en er : Nat) (rest : List HOp) :
    isLastLoad n st (.ev ⟨.forward n n1 true wa st, en, er⟩ :: rest) = true := by
  simp [isLastLoad]

def NoTouch (n : Nat) (st : Storage) (a : List HOp) : Prop := ∀ op ∈ a, opKey op ≠ some (n, st)

theorem isLastLoad_append_left (n : Nat) (st : Storage) (a b : List HOp) (h : NoTouch n st a) :
    isLastLoad n st (a ++ b) = isLastLoad n st b := by
  induction a with
  | nil => rfl
  | cons op rest ih =>
    rw [List.cons_append, isLastLoad_cons_ne n st op _ (h op (List.mem_cons_self ..))]
    exact ih (fun op' h' => h op' (List.mem_cons_of_mem _ h'))

theorem isLastLoad_noTouch (n : Nat) (st : Storage) (a : List HOp) (h : NoTouch n st a) :
    isLastLoad n st a = true := by
  have := isLastLoad_append_left n st a [] h
  rw [List.append_nil] at this
  rw [this]; rfl

theorem isLastLoad_append_right (n : Nat) (st : Storage) (a b : List HOp) (h : NoTouch n st b) :
    isLastLoad n st (a ++ b) = isLastLoad n st a := by
  induction a with
  | nil => rw [List.nil_append, isLastLoad_noTouch n st b h]; rfl
  | cons op rest ih =>
    by_cases hk : opKey op = some (n, st)
    · cases op with
      | load n' st' r =>
        have : n' = n ∧ st' = st := by
          simp only [opKey, Option.some.injEq, Prod.mk.injEq] at hk; exact hk
        simp [isLastLoad, this]
      | ev e =>
        obtain ⟨a, en, er⟩ := e
        cases a with
        | forward n0 n1 wi wa st' =>
          cases wi with
          | false => simp [opKey] at hk
          | true =>
            have : n0 = n ∧ st' = st := by
              simp only [opKey, Option.some.injEq, Prod.mk.injEq] at hk; exact hk
            simp [isLastLoad, this]
        | _ => simp [opKey] at hk
    · rw [List.cons_append, isLastLoad_cons_ne n st op _ hk, isLastLoad_cons_ne n st op _ hk, ih]

theorem resolveLoads_load (n : Nat) (st : Storage) (r : Nat) (rest : List HOp) :
    resolveLoads (.load n st r :: rest) =
      evLoad (!isLastLoad n st rest) n st r :: resolveLoads rest := by
  cases h : isLastLoad n st rest <;> simp [resolveLoads, evLoad, h]

theorem resolveLoads_append (a b : List HOp)
    (h : ∀ n st r, HOp.load n st r ∈ a → NoTouch n st b) :
    resolveLoads (a ++ b) = resolveLoads a ++ resolveLoads b := by
  induction a with
  | nil => rfl
  | cons op rest ih =>
    have ih' := ih (fun n st r hm => h n st r (List.mem_cons_of_mem _ hm))
    cases op with
    | ev e =>
      rw [List.cons_append]
      show e :: resolveLoads (rest ++ b) = e :: resolveLoads rest ++ resolveLoads b
      rw [ih']; rfl
    | load n st r =>
      rw [List.cons_append, resolveLoads_load, resolveLoads_load, ih',
        isLastLoad_append_right n st rest b (h n st r (List.mem_cons_self ..))]
      rfl

theorem opKey_hFwd_none (c : HCtx) (lo tgt hi : Nat) : opKey (hFwd c lo tgt hi none) = none := rfl

theorem opKey_hFwd_some (c : HCtx) (lo tgt hi K : Nat) :
    opKey (hFwd c lo tgt hi (some K)) = some (lo, lvl K) := rfl

theorem hBase_keys (c : HCtx) (lo hi : Nat) (spine : Bool) :
    ∀ op ∈ hBase c lo hi spine, opKey op = none := by
  intro op hop
  cases spine <;> simp [hBase] at hop <;> rcases hop with rfl | rfl | rfl <;> rfl

theorem hBase_noLoad (c : HCtx) (lo hi : Nat) (spine : Bool) (n : Nat) (st : Storage) (r : Nat) :
    HOp.load n st r ∉ hBase c lo hi spine := by
  intro h
  have := hBase_keys c lo hi spine _ h
  simp [opKey] at this

theorem resolveLoads_hBase (c : HCtx) (lo hi : Nat) (spine : Bool) :
    resolveLoads (hBase c lo hi spine) = evBase c lo hi spine := by
  cases spine <;> rfl

theorem resolveLoads_hFwd (c : HCtx) (lo tgt hi : Nat) (p : Option Nat) (rest : List HOp) :
    resolveLoads (hFwd c lo tgt hi p :: rest) = evFwd c lo tgt hi p :: resolveLoads rest := by
  cases p <;> rfl

theorem resolveLoads_hBase_append (c : HCtx) (lo hi : Nat) (spine : Bool) (b : List HOp) :
    resolveLoads (hBase c lo hi spine ++ b) = evBase c lo hi spine ++ resolveLoads b := by
  rw [resolveLoads_append _ _ (fun n st r hm => absurd hm (hBase_noLoad c lo hi spine n st r)),
    resolveLoads_hBase]

theorem hBase_noTouch (c : HCtx) (lo hi : Nat) (spine : Bool) (n : Nat) (st : Storage) :
    NoTouch n st (hBase c lo hi spine) := by
  intro op hop
  rw [hBase_keys c lo hi spine op hop]
  simp

/-- all checkpoints touched have their step in `[lo, hi)`, and are in RAM if `ramOnly` -/
def Keys (lo hi : Nat) (ramOnly : Prop) (ops : List HOp) : Prop :=
  ∀ op ∈ ops, ∀ n st, opKey op = some (n, st) → lo ≤ n ∧ n < hi ∧ (ramOnly → st = .ram)

theorem Keys.append {lo hi : Nat} {p : Prop} {a b : List HOp} (ha : Keys lo hi p a)
    (hb : Keys lo hi p b) : Keys lo hi p (a ++ b) := by
  intro op hop
  rcases List.mem_append.1 hop with h | h
  · exact ha op h
  · exact hb op h

theorem Keys.mono {lo hi lo' hi' : Nat} {p p' : Prop} {a : List HOp} (ha : Keys lo hi p a)
    (h1 : lo' ≤ lo) (h2 : hi ≤ hi') (h3 : p' → p) : Keys lo' hi' p' a := by
  intro op hop n st hk
  obtain ⟨k1, k2, k3⟩ := ha op hop n st hk
  exact ⟨by omega, by omega, fun hp => k3 (h3 hp)⟩

theorem Keys.hBase (c : HCtx) (lo hi lo' hi' : Nat) (spine : Bool) (p : Prop) :
    Keys lo' hi' p (hBase c lo hi spine) := by
  intro op hop n st hk
  rw [hBase_keys c lo hi spine op hop] at hk
  cases hk

theorem Keys.single {lo hi : Nat} {p : Prop} (op : HOp)
    (h : ∀ n st, opKey op = some (n, st) → lo ≤ n ∧ n < hi ∧ (p → st = .ram)) :
    Keys lo hi p [op] := by
  intro op' hop n st hk
  rw [List.mem_singleton] at hop
  subst hop
  exact h n st hk

theorem Keys.load {lo hi : Nat} {p : Prop} (n : Nat) (st : Storage) (r : Nat) (h1 : lo ≤ n) (h2 : n < hi)
    (hst : p → st = .ram) : Keys lo hi p [.load n st r] := by
  refine Keys.single _ fun n' st' hk => ?_
  simp only [opKey, Option.some.injEq, Prod.mk.injEq] at hk
  obtain ⟨rfl, rfl⟩ := hk
  exact ⟨h1, h2, hst⟩

/-- a Forward writes (to `lvl K`) only when a write is pending -/
theorem Keys.hFwd {lo' hi' : Nat} {p : Prop} (c : HCtx) (lo tgt hi : Nat) (pending : Option Nat)
    (h1 : lo' ≤ lo) (h2 : lo < hi') (hp : ∀ K, pending = some K → p → lvl K = .ram) :
    Keys lo' hi' p [hFwd c lo tgt hi pending] := by
  refine Keys.single _ fun n st hk => ?_
  cases pending with
  | none => rw [opKey_hFwd_none] at hk; cases hk
  | some K =>
    rw [opKey_hFwd_some] at hk
    simp only [Option.some.injEq, Prod.mk.injEq] at hk
    obtain ⟨rfl, rfl⟩ := hk
    exact ⟨h1, h2, hp K rfl⟩

theorem Keys.noTouch {lo hi : Nat} {p : Prop} {a : List HOp} (ha : Keys lo hi p a) (n : Nat)
    (st : Storage) (h : n < lo ∨ hi ≤ n) : NoTouch n st a := by
  intro op hop hk
  have := ha op hop n st hk
  omega

theorem lvl_zero : lvl 0 = .ram := rfl

theorem lvl_pos (K : Nat) (h : K ≠ 0) : lvl K = .disk := by
  unfold lvl; rw [if_neg h]

theorem loopOp_head (c : HCtx) (lo idx : Nat) (rest : List HOp) :
    isLastLoad lo .ram (loopOp c lo idx ++ rest) = false := by
  unfold loopOp
  simp only [List.cons_append]
  exact isLastLoad_load _ _ _ _

theorem loop_isLast (c : HCtx) (lo : Nat) (idxs : List Nat) (T : List HOp)
    (hT : isLastLoad lo .ram T = false) :
    isLastLoad lo .ram (idxs.flatMap (loopOp c lo) ++ T) = false := by
  cases idxs with
  | nil => exact hT
  | cons i rest =>
    rw [List.flatMap_cons, List.append_assoc]
    exact loopOp_head c lo i _

theorem loopOp_append (c : HCtx) (lo i : Nat) (R : List HOp) :
    loopOp c lo i ++ R = .load lo .ram (c.N - (lo + i + 2)) ::
      hFwd c lo (lo + i + 1) (lo + i + 2) none :: (hBase c (lo + i + 1) (lo + i + 2) false ++ R) := rfl

theorem loopEv_append (c : HCtx) (lo i : Nat) (R : List Ev) :
    loopEv c lo i ++ R = evLoad true lo .ram (c.N - (lo + i + 2)) ::
      evFwd c lo (lo + i + 1) (lo + i + 2) none :: (evBase c (lo + i + 1) (lo + i + 2) false ++ R) := rfl

theorem loop_resolve (c : HCtx) (lo : Nat) (idxs : List Nat) (T : List HOp)
    (hT : isLastLoad lo .ram T = false) :
    resolveLoads (idxs.flatMap (loopOp c lo) ++ T) =
      idxs.flatMap (loopEv c lo) ++ resolveLoads T := by
  induction idxs with
  | nil => rfl
  | cons i rest ih =>
    rw [List.flatMap_cons, List.flatMap_cons, List.append_assoc, List.append_assoc]
    have hl := loop_isLast c lo rest T hT
    rw [loopOp_append, loopEv_append, resolveLoads_load, resolveLoads_hFwd,
      resolveLoads_hBase_append, ih]
    have e : isLastLoad lo .ram (hFwd c lo (lo + i + 1) (lo + i + 2) none ::
        (hBase c (lo + i + 1) (lo + i + 2) false ++ (rest.flatMap (loopOp c lo) ++ T))) = false := by
      rw [isLastLoad_cons_ne _ _ _ _ (by rw [opKey_hFwd_none]; simp),
        isLastLoad_append_left _ _ _ _ (hBase_noTouch c _ _ _ lo .ram)]
      exact hl
    rw [e]
    rfl

theorem flatMap_range_succ_reverse {β : Type} (f g : Nat → List β) (n : Nat) (h : ∀ i < n, f i = g i) :
    (List.range (n + 1)).reverse.flatMap f = f n ++ (List.range n).reverse.flatMap g := by
  rw [List.range_succ, List.reverse_append, List.reverse_singleton, List.singleton_append,
    List.flatMap_cons]
  congr 1
  refine List.flatMap_congr fun i hi => h i ?_
  rwa [List.mem_reverse, List.mem_range] at hi

/-- the loop body of `hA`, first iteration split off -/
theorem hA_loop_body (c : HCtx) (lo l' : Nat) (spine : Bool) (pending : Option Nat)
    (f : Nat → List HOp)
    (hf : f = fun idx =>
      (if idx ≠ l' + 1 - 1 then [HOp.load lo .ram (c.N - (lo + idx + 2))] else []) ++
      [hFwd c lo (lo + idx + 1) (lo + idx + 2) (if idx = l' + 1 - 1 then pending else none)] ++
      hBase c (lo + idx + 1) (lo + idx + 2) (spine && idx = l' + 1 - 1)) :
    (List.range (l' + 1)).reverse.flatMap f =
    ([hFwd c lo (lo + l' + 1) (lo + l' + 2) pending] ++ hBase c (lo + l' + 1) (lo + l' + 2) spine) ++
      (List.range l').reverse.flatMap (loopOp c lo) := by
  subst hf
  rw [flatMap_range_succ_reverse _ (loopOp c lo) l' fun i hi => by
    have h2 : i ≠ l' := Nat.ne_of_lt hi
    simp [loopOp, h2]]
  simp

theorem hAs_loop_body (c : HCtx) (lo l' : Nat) (spine : Bool) (pending : Option Nat)
    (f : Nat → List Ev)
    (hf : f = fun idx =>
      (if idx ≠ l' + 1 - 1 then [evLoad true lo .ram (c.N - (lo + idx + 2))] else []) ++
      [evFwd c lo (lo + idx + 1) (lo + idx + 2) (if idx = l' + 1 - 1 then pending else none)] ++
      evBase c (lo + idx + 1) (lo + idx + 2) (spine && idx = l' + 1 - 1)) :
    (List.range (l' + 1)).reverse.flatMap f =
    ([evFwd c lo (lo + l' + 1) (lo + l' + 2) pending] ++ evBase c (lo + l' + 1) (lo + l' + 2) spine) ++
      (List.range l').reverse.flatMap (loopEv c lo) := by
  subst hf
  rw [flatMap_range_succ_reverse _ (loopEv c lo) l' fun i hi => by
    have h2 : i ≠ l' := Nat.ne_of_lt hi
    simp [loopEv, h2]]
  simp

theorem loopOp_keys (c : HCtx) (lo hi : Nat) (p : Prop) (idxs : List Nat) (h : lo < hi) :
    Keys lo hi p (idxs.flatMap (loopOp c lo)) := by
  intro op hop n st hk
  rw [List.mem_flatMap] at hop
  obtain ⟨i, _, hop⟩ := hop
  unfold loopOp at hop
  rcases List.mem_append.1 hop with h1 | h1
  · simp only [List.mem_cons, List.not_mem_nil, or_false] at h1
    rcases h1 with rfl | rfl
    · simp only [opKey, Option.some.injEq, Prod.mk.injEq] at hk
      obtain ⟨rfl, rfl⟩ := hk
      exact ⟨le_refl _, h, fun _ => rfl⟩
    · rw [opKey_hFwd_none] at hk; cases hk
  · rw [hBase_keys _ _ _ _ op h1] at hk; cases hk

/-- the two-step segment: write/advance, reverse the second step, load, reverse the first -/
theorem resolve_unit (c : HCtx) (lo hi : Nat) (spine : Bool) (p : Option Nat) (st : Storage)
    (r : Nat) :
    resolveLoads ([hFwd c lo (lo + 1) hi p] ++ hBase c (lo + 1) hi spine ++ [.load lo st r] ++
        hBase c lo (lo + 1) false) =
      [evFwd c lo (lo + 1) hi p] ++ evBase c (lo + 1) hi spine ++ [evLoad false lo st r] ++
        evBase c lo (lo + 1) false := by
  simp only [List.cons_append, List.nil_append, List.append_assoc]
  rw [resolveLoads_hFwd, resolveLoads_hBase_append, resolveLoads_load, resolveLoads_hBase,
    isLastLoad_noTouch _ _ _ (hBase_noTouch c _ _ _ lo st)]
  rfl

theorem keys_unit (c : HCtx) (lo hi : Nat) (spine : Bool) (p : Option Nat) (st : Storage)
    (r : Nat) (P : Prop) (hlt : lo < hi) (hp : ∀ K', p = some K' → P → lvl K' = .ram)
    (hst : P → st = .ram) :
    Keys lo hi P ([hFwd c lo (lo + 1) hi p] ++ hBase c (lo + 1) hi spine ++ [.load lo st r] ++
        hBase c lo (lo + 1) false) := by
  exact Keys.append (Keys.append (Keys.append (Keys.hFwd c lo _ hi p (le_refl _) hlt hp)
    (Keys.hBase _ _ _ _ _ _ _)) (Keys.load lo st r (le_refl _) hlt hst)) (Keys.hBase _ _ _ _ _ _ _)

/-- a split: write/advance, right part, load, left part -/
theorem resolve_split (c : HCtx) (lo tgt hi : Nat) (p : Option Nat) (st : Storage) (r : Nat)
    (right left : List HOp)
    (hsep : ∀ n st' r', HOp.load n st' r' ∈ right → NoTouch n st' (.load lo st r :: left)) :
    resolveLoads ([hFwd c lo tgt hi p] ++ right ++ [.load lo st r] ++ left) =
      [evFwd c lo tgt hi p] ++ resolveLoads right ++
        [evLoad (!isLastLoad lo st left) lo st r] ++ resolveLoads left := by
  simp only [List.cons_append, List.nil_append, List.append_assoc]
  rw [resolveLoads_hFwd, resolveLoads_append _ _ hsep, resolveLoads_load]

theorem reloads_len_zero (c : HCtx) (K cm : Nat) : reloads c K cm 0 = false := rfl

theorem reloads_len_one (c : HCtx) (K cm : Nat) :
    reloads c K cm 1 = !decide (c.w 0 + c.rr 0 < c.rr K) := rfl

theorem reloads_zero (c : HCtx) (cm l : Nat) (h : 2 ≤ l) : reloads c 0 cm l = true := by
  unfold reloads
  rw [if_neg (by omega), if_neg (by omega), if_pos rfl]

theorem reloads_pos (c : HCtx) (K cm l : Nat) (h : 2 ≤ l) (hK : K ≠ 0) :
    reloads c K cm l = hSplit c K cm l := by
  unfold reloads
  rw [if_neg (by omega), if_neg (by omega), if_neg hK]

/-! `struct_main` proves two claims about every call of `hR` (`ROk`) and `hA` (`AOk`), together by
induction on the fuel: (1) `resolveLoads` of the model stream is the structural stream `hRs`/`hAs`;
(2) the call touches only checkpoints with key in `[lo, hi)`, in RAM only at level 0, and, for `hA`
entered with nothing pending, whether the load that precedes it is the last use of `(lo, lvl K)` is
decided by `reloads`.  (2) is what makes `resolveLoads` distribute over the parts in (1).
`K ≤ 1`: the model has the two levels RAM (0) and DISK (1).  `pending = none ∨ pending = some K`:
`hR` only ever asks `hA` to write the checkpoint of its own level. -/

def ROk (c : HCtx) (fuel lo hi K cm : Nat) (spine : Bool) : Prop :=
  (hR c fuel lo hi K cm spine).map resolveLoads = hRs c fuel lo hi K cm spine ∧
  ∀ ops, hR c fuel lo hi K cm spine = some ops → Keys lo hi (K = 0) ops

def AOk (c : HCtx) (fuel lo hi K cm : Nat) (spine : Bool) (pending : Option Nat) : Prop :=
  (hA c fuel lo hi K cm spine pending).map resolveLoads = hAs c fuel lo hi K cm spine pending ∧
  ∀ ops, hA c fuel lo hi K cm spine pending = some ops →
    Keys lo hi (K = 0) ops ∧
    (pending = none → isLastLoad lo (lvl K) ops = !reloads c K cm (hi - lo - 1))

theorem struct_main (c : HCtx) : ∀ fuel,
    (∀ lo hi K cm spine, K ≤ 1 → ROk c fuel lo hi K cm spine) ∧
    (∀ lo hi K cm spine pending, K ≤ 1 → (pending = none ∨ pending = some K) →
      AOk c fuel lo hi K cm spine pending) := by
  intro fuel
  induction fuel with
  | zero =>
    refine ⟨fun lo hi K cm spine _ => ⟨?_, ?_⟩, fun lo hi K cm spine pending _ _ => ⟨?_, ?_⟩⟩
    · rw [hR, hRs]; rfl
    · intro ops h; rw [hR] at h; cases h
    · rw [hA, hAs]; rfl
    · intro ops h; rw [hA] at h; cases h
  | succ fuel ih =>
    obtain ⟨ihR, ihA⟩ := ih
    constructor
    · -- hR
      intro lo hi K cm spine hK
      unfold ROk
      rw [hR_succ, hRs_succ]
      by_cases h0 : hi - lo - 1 = 0
      · rw [if_pos h0, if_pos h0]
        refine ⟨by rw [Option.map_some, resolveLoads_hBase], ?_⟩
        intro ops h; cases h; exact Keys.hBase _ _ _ _ _ _ _
      · rw [if_neg h0, if_neg h0]
        have hlt : lo < hi := by omega
        by_cases h1 : K = 0 ∧ cm = 0
        · rw [if_pos h1, if_pos h1]
          exact ⟨rfl, fun ops h => by cases h⟩
        · rw [if_neg h1, if_neg h1]
          by_cases h2 : hi - lo - 1 = 1
          · rw [if_pos h2, if_pos h2]
            refine ⟨by rw [Option.map_some, resolve_unit], ?_⟩
            intro ops h; cases h
            exact keys_unit c lo hi spine (some 0) .ram _ _ hlt
              (fun K' hK' _ => by cases hK'; rfl) (fun _ => rfl)
          · rw [if_neg h2, if_neg h2]
            by_cases h3 : K = 0
            · subst h3
              rw [if_pos rfl, if_pos rfl]
              obtain ⟨e, k⟩ := ihA lo hi 0 cm spine (some 0) (Nat.zero_le _) (Or.inr rfl)
              exact ⟨e, fun ops ho => (k ops ho).1⟩
            · rw [if_neg h3, if_neg h3]
              by_cases h4 : olt (oadd (some (c.w K)) (c.tab.optp K (hi - lo - 1) cm))
                  (c.tab.opt (K - 1) (hi - lo - 1) (cv c (K - 1))) = true
              · rw [if_pos h4, if_pos h4]
                obtain ⟨e, k⟩ := ihA lo hi K cm spine (some K) hK (Or.inr rfl)
                exact ⟨e, fun ops ho => (k ops ho).1⟩
              · rw [if_neg h4, if_neg h4]
                obtain ⟨e, k⟩ := ihR lo hi (K - 1) (cv c (K - 1)) spine ((Nat.sub_le _ _).trans hK)
                exact ⟨e, fun ops ho => (k ops ho).mono (le_refl _) (le_refl _)
                  (fun h => absurd h h3)⟩
    · -- hA
      intro lo hi K cm spine pending hK hp
      unfold AOk
      rw [hA_succ, hAs_succ]
      by_cases hc : cm = 0
      · rw [if_pos hc, if_pos hc]
        exact ⟨rfl, fun ops h => by cases h⟩
      rw [if_neg hc, if_neg hc]
      by_cases h0 : hi - lo - 1 = 0
      · rw [if_pos h0, if_pos h0]
        cases pending with
        | some p => exact ⟨rfl, fun ops h => by cases h⟩
        | none =>
          simp only [Option.isSome_none, Bool.false_eq_true, if_false]
          refine ⟨by rw [Option.map_some, resolveLoads_hBase], ?_⟩
          intro ops h; cases h
          refine ⟨Keys.hBase _ _ _ _ _ _ _, fun _ => ?_⟩
          rw [isLastLoad_noTouch _ _ _ (hBase_noTouch _ _ _ _ _ _), h0, reloads_len_zero]
          rfl
      rw [if_neg h0, if_neg h0]
      have hlt : lo < hi := by omega
      by_cases h1 : hi - lo - 1 = 1
      · rw [if_pos h1, if_pos h1]
        cases pending with
        | some p => exact ⟨rfl, fun ops h => by cases h⟩
        | none =>
          simp only [Option.isSome_none, Bool.false_eq_true, if_false]
          by_cases ht : c.w 0 + c.rr 0 < c.rr K
          · rw [if_pos ht, if_pos ht]
            have hK0 : K ≠ 0 := fun h => absurd (h ▸ ht) (Nat.not_lt.2 (Nat.le_add_left _ _))
            refine ⟨by rw [Option.map_some, resolve_unit], ?_⟩
            intro ops h; cases h
            refine ⟨keys_unit c lo hi spine (some 0) .ram _ _ hlt
              (fun _ _ h => absurd h hK0) (fun h => absurd h hK0), fun _ => ?_⟩
            have hkeys := keys_unit c lo hi spine (some 0) .ram (c.N - (lo + 1)) True hlt
              (fun K' hK' _ => by cases hK'; rfl) (fun _ => rfl)
            rw [isLastLoad_noTouch, h1]
            · rw [reloads_len_one, decide_eq_true ht]
              rfl
            · intro op hop hk
              have := (hkeys op hop lo (lvl K) hk).2.2 trivial
              rw [lvl_pos K hK0] at this
              cases this
          · rw [if_neg ht, if_neg ht]
            refine ⟨by rw [Option.map_some, resolve_unit], ?_⟩
            intro ops h; cases h
            refine ⟨keys_unit c lo hi spine none (lvl K) _ _ hlt
              (fun _ h => by cases h) (fun h => by rw [h]; rfl), fun _ => ?_⟩
            simp only [List.cons_append, List.nil_append, List.append_assoc]
            rw [isLastLoad_cons_ne _ _ _ _ (by rw [opKey_hFwd_none]; simp),
              isLastLoad_append_left _ _ _ _ (hBase_noTouch _ _ _ _ _ _), isLastLoad_load, h1,
              reloads_len_one, decide_eq_false ht]
            rfl
      rw [if_neg h1, if_neg h1]
      by_cases h2 : K = 0 ∧ cm = 1
      · -- the `cm = 1` loop
        rw [if_pos h2, if_pos h2]
        obtain ⟨hK0, hcm1⟩ := h2
        subst hK0
        obtain ⟨l', hl'⟩ := Nat.exists_eq_add_one_of_ne_zero h0
        have hl1 : 1 ≤ l' := Nat.pos_of_ne_zero fun h => h1 (by rw [hl', h])
        rw [hl', hA_loop_body c lo l' spine pending _ rfl, hAs_loop_body c lo l' spine pending _ rfl]
        have hT : isLastLoad lo .ram (HOp.load lo .ram (c.N - (lo + 1)) :: hBase c lo (lo + 1) false)
            = false := isLastLoad_load ..
        refine ⟨?_, ?_⟩
        · rw [Option.map_some]
          congr 1
          simp only [List.cons_append, List.nil_append, List.append_assoc]
          rw [resolveLoads_hFwd, resolveLoads_hBase_append, loop_resolve c lo _ _ hT,
            resolveLoads_load, resolveLoads_hBase,
            isLastLoad_noTouch _ _ _ (hBase_noTouch c _ _ _ lo .ram)]
          rfl
        · intro ops h; cases h
          refine ⟨?_, fun hpn => ?_⟩
          · exact Keys.append (Keys.append (Keys.append (Keys.append
              (Keys.hFwd c lo _ _ pending (le_refl _) hlt (fun K hK _ => by
                rcases hp with rfl | rfl <;> cases hK; rfl))
              (Keys.hBase _ _ _ _ _ _ _)) (loopOp_keys c lo hi _ _ hlt))
              (Keys.load lo .ram _ (le_refl _) hlt (fun _ => rfl))) (Keys.hBase _ _ _ _ _ _ _)
          · subst hpn
            simp only [List.cons_append, List.nil_append, List.append_assoc]
            rw [isLastLoad_cons_ne _ _ _ _ (by rw [opKey_hFwd_none]; simp),
              isLastLoad_append_left _ _ _ _ (hBase_noTouch _ _ _ _ _ _)]
            rw [show lvl 0 = Storage.ram from rfl, loop_isLast c lo _ _ hT,
              reloads_zero c cm (l' + 1) (Nat.succ_le_succ hl1)]
            rfl
      rw [if_neg h2, if_neg h2]
      have hl2 : 2 ≤ hi - lo - 1 := (Nat.two_le_iff _).2 ⟨h0, h1⟩
      by_cases h3 : hSplit c K cm (hi - lo - 1) = true
      · -- a split
        rw [if_pos h3, if_pos h3]
        obtain ⟨hj1, hj2⟩ := hSplit_range c K cm (hi - lo - 1) hl2
        generalize argminO (hCands c K cm (hi - lo - 1)) = j at hj1 hj2 ⊢
        have hlj : lo < lo + j := Nat.lt_add_of_pos_right hj1
        have hjh : lo + j ≤ hi := by omega
        clear hj2
        obtain ⟨eR, kR⟩ := ihR (lo + j) hi K (cm - 1) spine hK
        obtain ⟨eA, kA⟩ := ihA lo (lo + j) K cm false none hK (Or.inl rfl)
        rw [← eR, ← eA]
        cases hr : hR c fuel (lo + j) hi K (cm - 1) spine with
        | none => exact ⟨rfl, fun ops h => by cases h⟩
        | some right =>
          cases ha : hA c fuel lo (lo + j) K cm false none with
          | none => exact ⟨rfl, fun ops h => by cases h⟩
          | some left =>
            have kr := kR right hr
            obtain ⟨kl, il⟩ := kA left ha
            have il' := il rfl
            rw [Nat.add_sub_cancel_left] at il'
            have hsep : ∀ n st' r', HOp.load n st' r' ∈ right →
                NoTouch n st' (.load lo (lvl K) (c.N - (lo + j)) :: left) := by
              intro n st' r' hm op hop hk
              have hn := (kr _ hm n st' rfl).1
              rcases List.mem_cons.1 hop with rfl | hop
              · simp only [opKey, Option.some.injEq, Prod.mk.injEq] at hk
                obtain ⟨rfl, -⟩ := hk
                exact absurd hn hlj.not_ge
              · exact absurd hn (kl op hop n st' hk).2.1.not_ge
            refine ⟨?_, ?_⟩
            · simp only [Option.map_some]
              rw [resolve_split c lo (lo + j) hi pending (lvl K) _ right left hsep, il',
                Bool.not_not]
            · intro ops h; cases h
              refine ⟨?_, fun hpn => ?_⟩
              · have hram : K = 0 → lvl K = .ram := fun h => by rw [h]; rfl
                exact Keys.append (Keys.append (Keys.append
                  (Keys.hFwd c lo _ hi pending (le_refl _) hlt (fun K' hK' => by
                    rcases hp with rfl | rfl <;> cases hK'; exact hram))
                  (kr.mono hlj.le (le_refl _) id)) (Keys.load lo (lvl K) _ (le_refl _) hlt hram))
                  (kl.mono (le_refl _) hjh id)
              · subst hpn
                simp only [List.cons_append, List.nil_append, List.append_assoc]
                rw [isLastLoad_cons_ne _ _ _ _ (by rw [opKey_hFwd_none]; simp),
                  isLastLoad_append_left _ _ _ _ (kr.noTouch lo (lvl K) (Or.inl hlj)),
                  isLastLoad_load]
                by_cases hK0 : K = 0
                · subst hK0; rw [reloads_zero c cm _ hl2]; rfl
                · rw [reloads_pos c K cm _ hl2 hK0, h3]; rfl
      rw [if_neg h3, if_neg h3]
      by_cases h4 : K = 0
      · subst h4
        rw [if_pos rfl, if_pos rfl]
        obtain ⟨e, k⟩ := ihA lo hi 0 1 spine pending (Nat.zero_le _) hp
        refine ⟨e, fun ops ho => ⟨(k ops ho).1, fun hpn => ?_⟩⟩
        rw [(k ops ho).2 hpn, reloads_zero c 1 _ hl2, reloads_zero c cm _ hl2]
      · rw [if_neg h4, if_neg h4]
        cases pending with
        | some p => exact ⟨rfl, fun ops h => by cases h⟩
        | none =>
          simp only [Option.isSome_none, Bool.false_eq_true, if_false]
          obtain ⟨e, k⟩ := ihR lo hi (K - 1) (cv c (K - 1)) spine ((Nat.sub_le _ _).trans hK)
          refine ⟨e, fun ops ho => ⟨(k ops ho).mono (le_refl _) (le_refl _)
            (fun h => absurd h h4), fun _ => ?_⟩⟩
          have h3' : hSplit c K cm (hi - lo - 1) = false := by simpa using h3
          rw [reloads_pos c K cm _ hl2 h4, h3', isLastLoad_noTouch]
          · rfl
          · intro op hop hk
            have := (k ops ho op hop lo (lvl K) hk).2.2 (Nat.sub_eq_zero_of_le hK)
            rw [lvl_pos K h4] at this
            cases this

theorem resolveLoads_hR (c : HCtx) (fuel lo hi K cm : Nat) (spine : Bool) (hK : K ≤ 1) :
    (hR c fuel lo hi K cm spine).map resolveLoads = hRs c fuel lo hi K cm spine :=
  ((struct_main c fuel).1 lo hi K cm spine hK).1

theorem resolveLoads_hA (c : HCtx) (fuel lo hi K cm : Nat) (spine : Bool) (pending : Option Nat)
    (hK : K ≤ 1) (hp : pending = none ∨ pending = some K) :
    (hA c fuel lo hi K cm spine pending).map resolveLoads = hAs c fuel lo hi K cm spine pending :=
  ((struct_main c fuel).2 lo hi K cm spine pending hK hp).1

/-- the characterisation of Copy vs Move: the load preceding `hA … none` is a `copy` iff
`reloads` -/
theorem isLastLoad_hA (c : HCtx) (fuel lo hi K cm : Nat) (spine : Bool) (hK : K ≤ 1)
    (ops : List HOp) (h : hA c fuel lo hi K cm spine none = some ops) :
    isLastLoad lo (lvl K) ops = !reloads c K cm (hi - lo - 1) :=
  (((struct_main c fuel).2 lo hi K cm spine none hK (Or.inl rfl)).2 ops h).2 rfl

end Ckpt
