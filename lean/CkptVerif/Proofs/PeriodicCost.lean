import CkptVerif.Proofs.DiskCost
import CkptVerif.Proofs.RevolveSteps
import CkptVerif.Proofs.PeriodicOps
/-!
# PeriodicDiskRevolve never costs less than DiskRevolve (C07)

The cost of the periodic stream is computed from its structure
(`sweep ++ tail segment ++ blocks`); each period is one particular candidate (`j = mx`) of the
minimum that defines DiskRevolve's table `tinf`.
-/
namespace Ckpt.RC
open Ckpt List

/-- `tinf[l]` is below every "write a DISK checkpoint after `j` steps" candidate -/
theorem optInf_le_cand (lmax cm uf ub wr : Nat) (t0 : Array (Array Nat)) (l j : Nat)
    (hl : l ≤ lmax) (hj1 : 1 ≤ j) (hj : j ≤ l - 1) :
    (optInfTable lmax cm uf ub wr t0).getD l 0 ≤
      wr + j * uf + (optInfTable lmax cm uf ub wr t0).getD (l - j) 0 + opt0Get t0 cm (j - 1) := by
  rw [optInf_rec lmax cm uf ub wr t0 l (by omega) hl]
  refine le_trans (Nat.min_le_right _ _) ?_
  apply foldl_min_le
  exact mem_map.2 ⟨j, mem_range'_1.2 ⟨hj1, by omega⟩, rfl⟩

/-- `q` periods of length `mx` followed by a memory-only tail of `s + 1` steps is an upper bound of
`tinf` -/
theorem optInf_le_periodic (lmax lmax0 mmax cm uf ub wr mx s : Nat) (hcm1 : 1 ≤ cm) (hcm : cm ≤ mmax)
    (hmx : 1 ≤ mx) :
    ∀ q, (1 ≤ q → 1 ≤ s) → q * mx + s ≤ lmax →
      (optInfTable lmax cm uf ub wr (opt0Table lmax0 mmax uf ub)).getD (q * mx + s) 0 ≤
        q * (wr + mx * uf + opt0Get (opt0Table lmax0 mmax uf ub) cm (mx - 1)) +
          opt0Get (opt0Table lmax0 mmax uf ub) cm s := by
  intro q
  induction q with
  | zero =>
    intro _ hl
    rw [Nat.zero_mul, Nat.zero_mul, Nat.zero_add, Nat.zero_add] at *
    exact optInf_le_opt0 lmax lmax0 mmax cm uf ub wr hcm1 hcm s hl
  | succ q ih =>
    intro hs hl
    have hs1 := hs (Nat.succ_pos q)
    rw [Nat.succ_mul] at hl ⊢
    -- the first period is the candidate `j = mx`
    have h1 := optInf_le_cand lmax cm uf ub wr (opt0Table lmax0 mmax uf ub) (q * mx + mx + s) mx
      hl hmx (by omega)
    rw [show q * mx + mx + s - mx = q * mx + s by omega] at h1
    have h2 := ih (fun _ => hs1) (by omega)
    rw [Nat.succ_mul]
    omega

theorem cost_sweep (c : Costs) (mx : Nat) : ∀ q,
    cost c ((List.range q).map (sweepEv mx)) = q * (mx * c.uf + c.wd)
  | 0 => by simp
  | q + 1 => by
    rw [range_succ, map_append, cost_append, cost_sweep c mx q]
    have e : (q + 1) * mx - q * mx = mx := by rw [Nat.succ_mul]; omega
    simp [evCost, sweepEv, e]
    ring

theorem cost_blocksOf (c : Costs) (N lmax mmax cm mx : Nat) (hcm : cm ≤ mmax) (hmx : 1 ≤ mx)
    (hl : mx - 1 ≤ lmax) : ∀ q,
    (∀ b < q, revSeg N (opt0Table lmax mmax c.uf c.ub) c.uf cm false (b * mx) ((b + 1) * mx) =
      some (blockSeg N (opt0Table lmax mmax c.uf c.ub) c.uf cm mx b)) →
    cost c (blocksOf N (opt0Table lmax mmax c.uf c.ub) c.uf cm mx q) =
      q * (c.rd + opt0Get (opt0Table lmax mmax c.uf c.ub) cm (mx - 1) + mx * c.uf)
  | 0, _ => by simp [blocksOf]
  | q + 1, hseg => by
    have ih := cost_blocksOf c N lmax mmax cm mx hcm hmx hl q (fun b hb => hseg b (by omega))
    have e : (q + 1) * mx - q * mx = mx := by rw [Nat.succ_mul]; omega
    have hs := revSeg_cost c N lmax mmax cm hcm false _ _ _ (hseg q (by omega))
      (by rw [Nat.succ_mul]; omega) (by rw [e]; exact hl)
    rw [e] at hs
    rw [blocksOf, cost_cons, cost_append, ih, hs]
    simp [evCost, blockMove]
    ring

/-- the cost of the PeriodicDiskRevolve stream in closed form -/
theorem periodic_cost (N cm : Nat) (c : Costs) (mx : Nat) (evs : List Ev) (hN : 1 ≤ N)
    (hmx : mxrr cm c.uf (c.wd + c.rd) = some mx) (h : periodicEvs N cm c = .ok evs) :
    let q := (N - 2) / mx
    let t0 := opt0Table (max (N - 1) (mx + 1)) cm c.uf c.ub
    cost c evs = q * (mx * c.uf + c.wd) + (opt0Get t0 cm (N - q * mx - 1) + (N - q * mx) * c.uf) +
      q * (c.rd + opt0Get t0 cm (mx - 1) + mx * c.uf) := by
  intro q t0
  obtain ⟨hmx1, hq1, hq2, mid, hmid, hsegs, hevs⟩ := periodic_structure N cm c mx evs hN hmx h
  rw [← blocksOf_eq_flatMap] at hevs
  have hm := revSeg_cost c N _ cm cm (le_refl _) true _ _ mid hmid hq1 (by omega)
  have hb := cost_blocksOf c N (max (N - 1) (mx + 1)) cm cm mx (le_refl _) hmx1 (by omega)
    ((N - 2) / mx) hsegs
  have e0 : cost c [(⟨.endReverse, 1, N⟩ : Ev)] = 0 := rfl
  rw [hevs, cost_append, cost_append, cost_append, cost_sweep, hm, hb, e0, Nat.add_zero]

/-- `q` periods and a tail of `r` steps: the table bound `T ≤ q·(wr + mx·uf + A) + B` plus the first
sweep is the cost of the periodic stream -/
theorem periodic_arith (q mx r uf wd rd T A B : Nat) (h : T ≤ q * (wd + rd + mx * uf + A) + B) :
    T + (q * mx + r) * uf ≤ q * (mx * uf + wd) + (B + r * uf) + q * (rd + A + mx * uf) :=
  calc T + (q * mx + r) * uf ≤ q * (wd + rd + mx * uf + A) + B + (q * mx + r) * uf :=
        Nat.add_le_add_right h _
    _ = q * (mx * uf + wd) + (B + r * uf) + q * (rd + A + mx * uf) := by ring

/-- C07: for the same parameters DiskRevolve never costs more than PeriodicDiskRevolve -/
theorem diskRevolve_le_periodic (N cm : Nat) (c : Costs) (hN : 1 ≤ N) (hcm : 1 ≤ cm)
    (evsP evsD : List Ev) (hP : periodicEvs N cm c = .ok evsP)
    (hD : diskRevolveEvs N cm c = .ok evsD) : cost c evsD ≤ cost c evsP := by
  -- the period exists because the periodic stream does
  obtain ⟨mx, hmx⟩ : ∃ mx, mxrr cm c.uf (c.wd + c.rd) = some mx := by
    cases hm : mxrr cm c.uf (c.wd + c.rd) with
    | none => simp [periodicEvs, hm] at hP
    | some mx => exact ⟨mx, rfl⟩
  obtain ⟨hmx1, hq1, _⟩ := periodic_structure N cm c mx evsP hN hmx hP
  have hle : (N - 2) / mx * mx ≤ N - 2 := Nat.div_mul_le_self _ _
  rw [diskRevolve_cost N cm c hN hcm evsD hD, periodic_cost N cm c mx evsP hN hmx hP]
  generalize (N - 2) / mx = q at *
  -- `N = q·mx + (s + 1)`: a tail of at least one step, of at least two if there is a period at all
  obtain ⟨s, rfl⟩ : ∃ s, N = q * mx + (s + 1) := ⟨N - q * mx - 1, by omega⟩
  have hs : 1 ≤ q → 1 ≤ s := by
    intro h1
    have : mx ≤ q * mx := Nat.le_mul_of_pos_left _ h1
    omega
  rw [Nat.add_sub_cancel_left, Nat.add_sub_cancel, Nat.add_succ_sub_one]
  have key := optInf_le_periodic (q * mx + s) (q * mx + s) cm cm c.uf c.ub (c.wd + c.rd) mx s
    hcm (le_refl _) hmx1 q hs (le_refl _)
  -- bring the periodic table to the rows of DiskRevolve's
  rw [opt0Table_agree (max (q * mx + s) (mx + 1)) (q * mx + s) cm c.uf c.ub cm s
    (le_refl _) (by omega) (by omega)]
  rcases Nat.eq_zero_or_pos q with rfl | hpos
  · -- no period at all: the stream is plain Revolve
    exact periodic_arith 0 mx (s + 1) c.uf c.wd c.rd _ _ _
      (by simp only [Nat.zero_mul] at key ⊢; exact key)
  · have hmxN : mx - 1 ≤ q * mx + s := by
      have : mx ≤ q * mx := Nat.le_mul_of_pos_left _ hpos
      omega
    rw [opt0Table_agree (max (q * mx + s) (mx + 1)) (q * mx + s) cm c.uf c.ub cm (mx - 1)
      (le_refl _) (by omega) hmxN]
    exact periodic_arith q mx (s + 1) c.uf c.wd c.rd _ _ _ key

/-- C07, the chain: `cost(DiskRevolve) ≤ cost(PeriodicDiskRevolve)` and `cost(DiskRevolve) ≤ cost(Revolve)` -/
theorem diskRevolve_cheapest (N cm : Nat) (c : Costs) (hN : 1 ≤ N) (hcm : 1 ≤ cm)
    (evsP evsD evsR : List Ev) (hP : periodicEvs N cm c = .ok evsP)
    (hD : diskRevolveEvs N cm c = .ok evsD) (hR : revolveEvs N cm c = .ok evsR) :
    cost c evsD ≤ cost c evsP ∧ cost c evsD ≤ cost c evsR :=
  ⟨diskRevolve_le_periodic N cm c hN hcm evsP evsD hP hD, diskRevolve_le_revolve N cm c hN hcm evsD evsR hD hR⟩

-- N = 12, one RAM unit, wd = rd = 5: DiskRevolve is strictly cheaper (70 < 75)
example : (match diskRevolveEvs 12 1 ⟨1, 1, 5, 5⟩ with | .ok e => cost ⟨1, 1, 5, 5⟩ e | .error _ => 0) <
    (match periodicEvs 12 1 ⟨1, 1, 5, 5⟩ with | .ok e => cost ⟨1, 1, 5, 5⟩ e | .error _ => 0) := by
  decide +kernel

end Ckpt.RC
