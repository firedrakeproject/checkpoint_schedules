import CkptVerif.Model.MixedIter
import CkptVerif.Proofs.MixedSegLemmas
import CkptVerif.Proofs.MixedOk
import Mathlib.Tactic
/-!
# The iterative twin of `MixedCheckpointSchedule._iterator` refines to the recursive stream model

`mixedIter_eq_mixedEvs`: for a planner of the right shape (`PlanHyp`, in particular `memoPlan`) and
valid `(N, s)`, the loop `mixedIter` emits exactly the stream `mixedEvs` of the recursive model
`mseg`, for every fuel `≥ 6 N - 2` (so the default `mixedIterFuel N` suffices).

The heart is `seg_refine`, in continuation style: started at the top of the inner loop with
`_n = lo`, the adjoint at `hi = N - _r` and the snapshot stack `stack`, the machine emits
`mseg … lo hi k spine reuse` and arrives, just after the `Reverse` of step `lo`, at the reload point
with `_n = lo + 1`, `_r = N - lo` and the stack without the segment's own checkpoint.
-/
namespace Ckpt.RC
open Ckpt List

/-- a twin that answers has answered after its `yield` too, with the event in front -/
theorem _root_.Ckpt.yieldEv_ok {e : Ev} {k : Except Err (List Ev)} {evs : List Ev}
    (h : yieldEv e k = .ok evs) : ∃ es, k = .ok es ∧ evs = e :: es := by
  cases k with
  | error x => cases h
  | ok es => exact ⟨es, rfl, by injection h with h; exact h.symm⟩

def emits (es : List Ev) (k : Except Err (List Ev)) : Except Err (List Ev) := es.foldr yieldEv k

@[simp] theorem emits_nil (k : Except Err (List Ev)) : emits [] k = k := rfl
@[simp] theorem emits_cons (e : Ev) (es : List Ev) (k : Except Err (List Ev)) :
    emits (e :: es) k = yieldEv e (emits es k) := rfl
theorem emits_append (a b : List Ev) (k : Except Err (List Ev)) :
    emits (a ++ b) k = emits a (emits b k) := by simp [emits, foldr_append]
theorem emits_ok (es l : List Ev) : emits es (.ok l) = .ok (es ++ l) := by
  induction es with
  | nil => rfl
  | cons e es ih => simp [emits_cons, ih, yieldEv]

/-- the key (`n0`) of a snapshot entry -/
def skey (x : Nat × Nat × Nat) : Nat := x.2.1

theorem sub_ne_of_pos {m N : Nat} (h0 : 0 < m) (hN : m ≤ N) : N - m ≠ N :=
  (Nat.sub_lt (Nat.lt_of_lt_of_le h0 hN) h0).ne

theorem sub_succ_add_one {lo N : Nat} (h : lo < N) : N - (lo + 1) + 1 = N - lo := by
  rw [Nat.sub_add_eq, Nat.sub_add_cancel (Nat.le_sub_of_add_le' h)]

/-! The stack invariant `n + k = S`: `n` snapshots are held and `k` units are free. -/

/-- a checkpoint taken leaves one unit less for the rest -/
theorem push_units {n k S : Nat} (hS : n + k = S) (hk0 : k ≠ 0) : n + 1 + (k - 1) = S := by
  rw [Nat.add_assoc, Nat.add_sub_cancel' (Nat.pos_of_ne_zero hk0), hS]

/-- the planner's second argument `snapshots - len(snapshots) + 1`, when the top of the stack is reused or
reloaded -/
theorem units_top {n k S : Nat} (hS : n + k = S) (hk0 : k ≠ 0) : S - (n + 1) + 1 = k := by
  rw [← hS, Nat.add_sub_add_left, Nat.sub_add_cancel (Nat.pos_of_ne_zero hk0)]

theorem units_room {n k S : Nat} (hS : n + k = S) (hk0 : k ≠ 0) : ¬ n > S - 1 :=
  Nat.not_lt.2 (Nat.le_sub_one_of_lt (hS ▸ Nat.lt_add_of_pos_right (Nat.pos_of_ne_zero hk0)))

/-! One step of each of the three loops.  In these lemmas the adjoint stands at `hi`, that is
`_r = N - hi`. -/

section steps
variable (plan : Planner) (N S : Nat) (st : Storage)

theorem inner_FR (fuel n hi k : Nat) (keys : List Nat) (stack : List (Nat × Nat × Nat)) (s0 : Nat)
    (c : Cell) (hN : hi ≤ N) (h : n < hi) (hre : n ∉ keys) (hS : stack.length + k = S)
    (hc : plan (hi - n) k = some c) (hk : c.kind = stForwardReverse) (hl : c.len = 1) :
    mixInner plan N S st (fuel + 1) ⟨n, N - hi, keys, stack⟩ s0 =
      yieldEv ⟨.forward n (n + 1) false true .work, n + 1, N - hi⟩
        (mixInner plan N S st fuel ⟨n + 1, N - hi, keys, stack⟩ stForwardReverse) := by
  rw [mixInner]
  have e : 1 + n = n + 1 := Nat.add_comm 1 n
  have hS' : S - stack.length = k := Nat.sub_eq_of_eq_add' hS.symm
  simp [Nat.sub_sub_self hN, h, hre, hS', hc, hk, hl, e]

theorem inner_WAD (fuel n hi k : Nat) (keys : List Nat) (stack : List (Nat × Nat × Nat)) (s0 : Nat)
    (c : Cell) (hN : hi ≤ N) (h : n < hi) (hre : n ∉ keys) (hS : stack.length + k = S) (hk0 : k ≠ 0)
    (hc : plan (hi - n) k = some c) (hk : c.kind = stWriteAdjDeps) (hl : c.len = 1) :
    mixInner plan N S st (fuel + 1) ⟨n, N - hi, keys, stack⟩ s0 =
      yieldEv ⟨.forward n (n + 1) false true st, n + 1, N - hi⟩
        (mixInner plan N S st fuel ⟨n + 1, N - hi, n :: keys, (stWriteAdjDeps, n, n + 1) :: stack⟩
          stWriteAdjDeps) := by
  rw [mixInner]
  have e : 1 + n = n + 1 := Nat.add_comm 1 n
  have hS' : S - stack.length = k := Nat.sub_eq_of_eq_add' hS.symm
  have hS1 := units_room hS hk0
  simp [Nat.sub_sub_self hN, h, hre, hS', hc, hk, hl, e, hS1, stWriteAdjDeps, stForwardReverse, stForward]

theorem inner_WICS_new (fuel n hi k : Nat) (keys : List Nat) (stack : List (Nat × Nat × Nat)) (s0 : Nat)
    (c : Cell) (hN : hi ≤ N) (h : n < hi) (hre : n ∉ keys) (hS : stack.length + k = S) (hk0 : k ≠ 0)
    (hc : plan (hi - n) k = some c) (hk : c.kind = stWriteIcs) (hl : 2 ≤ c.len) :
    mixInner plan N S st (fuel + 1) ⟨n, N - hi, keys, stack⟩ s0 =
      yieldEv ⟨.forward n (n + c.len) true false st, n + c.len, N - hi⟩
        (mixInner plan N S st fuel
          ⟨n + c.len, N - hi, n :: keys, (stWriteIcs, n, n + c.len) :: stack⟩ stWriteIcs) := by
  rw [mixInner]
  have e : c.len + n = n + c.len := Nat.add_comm _ _
  have hS' : S - stack.length = k := Nat.sub_eq_of_eq_add' hS.symm
  have hS1 := units_room hS hk0
  have h1 : ¬ n + c.len ≤ n + 1 := Nat.not_le.2 (Nat.add_lt_add_left hl n)
  simp [Nat.sub_sub_self hN, h, hre, hS', hc, hk, e, hS1, h1, stWriteAdjDeps, stForwardReverse, stForward,
    stWriteIcs]

theorem inner_WICS_reuse (fuel n hi k : Nat) (keys : List Nat) (rest : List (Nat × Nat × Nat)) (e0 s0 : Nat)
    (c : Cell) (hN : hi ≤ N) (h : n < hi) (hre : n ∈ keys) (hS : rest.length + k = S) (hk0 : k ≠ 0)
    (hc : plan (hi - n) k = some c) (hk : c.kind = stWriteIcs) (hl : 2 ≤ c.len) (he : n + c.len ≤ e0) :
    mixInner plan N S st (fuel + 1) ⟨n, N - hi, keys, (stWriteIcs, n, e0) :: rest⟩ s0 =
      yieldEv ⟨.forward n (n + c.len) false false .work, n + c.len, N - hi⟩
        (mixInner plan N S st fuel ⟨n + c.len, N - hi, keys, (stWriteIcs, n, e0) :: rest⟩ stWriteIcs) := by
  rw [mixInner]
  have e : c.len + n = n + c.len := Nat.add_comm _ _
  have h1 : ¬ n + c.len ≤ n + 1 := Nat.not_le.2 (Nat.add_lt_add_left hl n)
  have h2 : ¬ e0 < n + c.len := Nat.not_lt.2 he
  simp [Nat.sub_sub_self hN, h, hre, units_top hS hk0, hc, hk, e, h1, h2, stWriteAdjDeps, stForwardReverse, stForward,
    stWriteIcs]

theorem inner_exit (fuel n r : Nat) (keys : List Nat) (stack : List (Nat × Nat × Nat)) (s0 : Nat)
    (h : ¬ n < N - r) :
    mixInner plan N S st (fuel + 1) ⟨n, r, keys, stack⟩ s0 =
      mixTurn plan N S st fuel ⟨n, r, keys, stack⟩ s0 := by
  rw [mixInner]; simp [h]

theorem turn_step (fuel n r : Nat) (keys : List Nat) (stack : List (Nat × Nat × Nat)) (s0 : Nat)
    (hn : n = N - r) (hs : s0 = stNone ∨ s0 = stForwardReverse) :
    mixTurn plan N S st (fuel + 1) ⟨n, r, keys, stack⟩ s0 =
      emits ((if r = 0 then [(⟨.endForward, n, r⟩ : Ev)] else []) ++
          [⟨.reverse (N - (r + 1) + 1) (N - (r + 1)) true, n, r + 1⟩])
        (mixReload plan N S st fuel ⟨n, r + 1, keys, stack⟩) := by
  rw [mixTurn]
  have h2 : ¬ (s0 ≠ stNone ∧ s0 ≠ stForwardReverse) := by
    rcases hs with h | h <;> simp [h]
  simp [hn, h2, emits]
  split <;> rfl

/-- the inner loop is left with `_n = lo + 1` and the adjoint of step `lo` is taken (lines 136-147) -/
theorem inner_turn (fuel lo : Nat) (keys : List Nat) (stack : List (Nat × Nat × Nat)) (s0 : Nat)
    (hlo : lo < N) (hs : s0 = stNone ∨ s0 = stForwardReverse) :
    mixInner plan N S st (fuel + 2) ⟨lo + 1, N - (lo + 1), keys, stack⟩ s0 =
      emits ((if lo + 1 = N then [(⟨.endForward, lo + 1, N - (lo + 1)⟩ : Ev)] else []) ++
          [⟨.reverse (lo + 1) lo true, lo + 1, N - lo⟩])
        (mixReload plan N S st fuel ⟨lo + 1, N - lo, keys, stack⟩) := by
  have hr : N - (N - (lo + 1)) = lo + 1 := Nat.sub_sub_self hlo
  have e4 : N - (lo + 1) = 0 ↔ lo + 1 = N :=
    ⟨fun h => Nat.le_antisymm hlo (Nat.sub_eq_zero_iff_le.1 h), fun h => by rw [h, Nat.sub_self]⟩
  rw [inner_exit plan N S st _ _ _ _ _ _ (by rw [hr]; exact Nat.lt_irrefl _),
    turn_step plan N S st _ _ _ _ _ _ hr.symm hs, sub_succ_add_one hlo,
    Nat.sub_sub_self hlo.le]
  simp only [e4]

theorem reload_break (fuel n : Nat) :
    mixReload plan N S st (fuel + 1) ⟨n, N, [], []⟩ = .ok [⟨.endReverse, n, N⟩] := by
  rw [mixReload]; simp

theorem reload_WAD (fuel n lo : Nat) (rest : List (Nat × Nat × Nat)) (keys : List Nat) (c1 : Cell)
    (hlo : lo < N) (hc : plan 1 (S - (rest.length + 1) + 1) = some c1)
    (hk : c1.kind ≠ stWriteAdjDeps) :
    mixReload plan N S st (fuel + 1)
        ⟨n, N - (lo + 1), lo :: keys, (stWriteAdjDeps, lo, lo + 1) :: rest⟩ =
      yieldEv ⟨.move lo st .work, lo + 1, N - (lo + 1)⟩
        (mixInner plan N S st fuel ⟨lo + 1, N - (lo + 1), keys, rest⟩ stNone) := by
  rw [mixReload]
  have hr := sub_ne_of_pos (Nat.succ_pos lo) hlo
  have h2 : lo + 1 = N - (N - (lo + 1)) := (Nat.sub_sub_self hlo).symm
  have hk' : ¬ 3 = c1.kind := fun h => hk h.symm
  simp [hr, hc, hk', ← h2, stWriteAdjDeps, stWriteIcs]

/-- a restart checkpoint for `lo`, written now or found on top of the stack (`reuse`): the first step
of a split segment, in the form in which `seg_refine` meets it -/
theorem inner_WICS (fuel lo hi k : Nat) (reuse : Bool) (rest : List (Nat × Nat × Nat)) (e0 s0 : Nat)
    (c : Cell) (hN : hi ≤ N) (h : lo < hi) (hnk : lo ∉ rest.map skey) (hS : rest.length + k = S)
    (hk0 : k ≠ 0) (hc : plan (hi - lo) k = some c) (hk : c.kind = stWriteIcs) (hl : 2 ≤ c.len)
    (he : reuse = true → lo + c.len ≤ e0) :
    mixInner plan N S st (fuel + 1)
        ⟨lo, N - hi, (if reuse then (stWriteIcs, lo, e0) :: rest else rest).map skey,
          if reuse then (stWriteIcs, lo, e0) :: rest else rest⟩ s0 =
      yieldEv (if reuse then ⟨.forward lo (lo + c.len) false false .work, lo + c.len, N - hi⟩
          else ⟨.forward lo (lo + c.len) true false st, lo + c.len, N - hi⟩)
        (mixInner plan N S st fuel
          ⟨lo + c.len, N - hi, lo :: rest.map skey,
            (stWriteIcs, lo, if reuse then e0 else lo + c.len) :: rest⟩ stWriteIcs) := by
  cases reuse with
  | false =>
    exact inner_WICS_new plan N S st fuel lo hi k _ rest s0 c hN h hnk hS hk0 hc hk hl
  | true =>
    exact inner_WICS_reuse plan N S st fuel lo hi k _ rest e0 s0 c hN h (mem_cons.2 (Or.inl rfl))
      hS hk0 hc hk hl (he rfl)

/-- the reload of the restart checkpoint for `lo` after the right part `[mid, hi)`: kept (`Copy`) if
the left part splits again, given up (`Move`) otherwise -/
theorem reload_WICS (fuel n lo mid e0 k : Nat) (rest : List (Nat × Nat × Nat)) (c2 : Cell)
    (hN : mid ≤ N) (hlt : lo + 1 < mid) (hS : rest.length + k = S) (hk0 : k ≠ 0)
    (hc : plan (mid - lo) k = some c2) :
    mixReload plan N S st (fuel + 1)
        ⟨n, N - mid, lo :: rest.map skey, (stWriteIcs, lo, e0) :: rest⟩ =
      yieldEv (if decide (c2.kind = stWriteIcs) then ⟨.copy lo st .work, lo, N - mid⟩
          else ⟨.move lo st .work, lo, N - mid⟩)
        (mixInner plan N S st fuel
          ⟨lo, N - mid,
            (if decide (c2.kind = stWriteIcs) then (stWriteIcs, lo, e0) :: rest else rest).map skey,
            if decide (c2.kind = stWriteIcs) then (stWriteIcs, lo, e0) :: rest else rest⟩ stNone) := by
  rw [mixReload]
  have hr := sub_ne_of_pos (Nat.zero_lt_of_lt hlt) hN
  have h1 : ¬ lo + 1 ≥ mid := Nat.not_le.2 hlt
  simp [Nat.sub_sub_self hN, hr, units_top hS hk0, hc, h1, eq_comm (a := stWriteIcs), apply_ite (map skey),
    skey]

/-- the dependency checkpoint of step `lo` is used: `Move`, leave the inner loop, the adjoint of `lo` -/
theorem reload_WAD_turn (hp : PlanHyp plan) (fuel n lo : Nat) (rest : List (Nat × Nat × Nat))
    (keys : List Nat) (hlo : lo + 1 < N) :
    mixReload plan N S st (fuel + 3)
        ⟨n, N - (lo + 1), lo :: keys, (stWriteAdjDeps, lo, lo + 1) :: rest⟩ =
      emits [⟨.move lo st .work, lo + 1, N - (lo + 1)⟩, ⟨.reverse (lo + 1) lo true, lo + 1, N - lo⟩]
        (mixReload plan N S st fuel ⟨lo + 1, N - lo, keys, rest⟩) := by
  obtain ⟨c1, hc1, hc1k, _⟩ := hp.one (S - (rest.length + 1) + 1)
  have hne : c1.kind ≠ stWriteAdjDeps := by rw [hc1k]; decide
  rw [reload_WAD plan N S st _ _ lo rest _ c1 (by omega) hc1 hne,
    inner_turn plan N S st _ lo _ _ _ (by omega) (Or.inl rfl), if_neg (Nat.ne_of_lt hlo)]
  rfl

end steps

theorem not_mem_keys (rest : List (Nat × Nat × Nat)) (lo : Nat) (h : ∀ x ∈ rest, skey x < lo) :
    lo ∉ rest.map skey := by
  intro hm
  obtain ⟨x, hx, he⟩ := mem_map.1 hm
  have := h x hx
  omega

theorem keys_cons {rest : List (Nat × Nat × Nat)} {lo lo' : Nat} (ty e : Nat)
    (h : ∀ x ∈ rest, skey x < lo) (hlt : lo < lo') : ∀ x ∈ (ty, lo, e) :: rest, skey x < lo' := by
  intro x hx
  rcases mem_cons.1 hx with rfl | hx
  · exact hlt
  · exact Nat.lt_trans (h x hx) hlt

theorem seg_refine (plan : Planner) (hp : PlanHyp plan) (N S : Nat) (st : Storage) :
    ∀ (f lo hi k : Nat) (spine reuse : Bool) (evs : List Ev) (rest : List (Nat × Nat × Nat))
      (e0 s0 : Nat),
      mseg N plan st f lo hi k spine reuse = some evs →
      lo < hi → hi ≤ N → (spine = true ↔ hi = N) →
      (∀ x ∈ rest, skey x < lo) → rest.length + k = S → (reuse = true → hi ≤ e0) →
      ∃ F, F + 6 * lo + 3 ≤ 6 * hi ∧ ∀ fuel',
        mixInner plan N S st (F + fuel')
          ⟨lo, N - hi, (if reuse then (stWriteIcs, lo, e0) :: rest else rest).map skey,
            if reuse then (stWriteIcs, lo, e0) :: rest else rest⟩ s0 =
        emits evs (mixReload plan N S st fuel' ⟨lo + 1, N - lo, rest.map skey, rest⟩) := by
  intro f
  induction f with
  | zero => intro lo hi k spine reuse evs rest e0 s0 h; cases h
  | succ f ih =>
    intro lo hi k spine reuse evs rest e0 s0 h hlt hN hsp hkeys hS he
    have hnk := not_mem_keys rest lo hkeys
    obtain ⟨c, hpl, hcase⟩ := mseg_succ_some h
    clear h
    rcases hcase with ⟨hFR, hm1, hl1, rfl, rfl⟩ | ⟨hWAD, hl1, rfl, hk0, hm2, right, hr, rfl⟩ |
      ⟨hWICS, hl2, hlm, hk0, right, c2, left, hr, hc2, hl, rfl⟩
    · -- a single step
      obtain rfl : hi = lo + 1 := (Nat.sub_eq_iff_eq_add' hlt.le).1 hm1
      refine ⟨3, by omega, fun fuel' => ?_⟩
      simp only [Bool.false_eq_true, if_false, hsp]
      rw [Nat.add_comm 3 fuel', inner_FR plan N S st _ lo _ k _ rest s0 c hN hlt hnk hS hpl hFR hl1,
        inner_turn plan N S st _ lo _ _ _ hN (Or.inr rfl), sub_succ_add_one hN]
      rfl
    · -- a dependency checkpoint for step `lo`
      replace hm2 : lo + 1 < hi := Nat.add_lt_of_lt_sub' hm2
      obtain ⟨Fr, hFr, ihr⟩ := ih (lo + 1) hi (k - 1) spine false right
        ((stWriteAdjDeps, lo, lo + 1) :: rest) 0 stWriteAdjDeps hr hm2 hN hsp
        (keys_cons _ _ hkeys (Nat.lt_succ_self lo)) (push_units hS hk0) nofun
      have hmap : ((stWriteAdjDeps, lo, lo + 1) :: rest).map skey = lo :: rest.map skey := rfl
      simp only [Bool.false_eq_true, if_false, hmap] at ihr ⊢
      refine ⟨Fr + 4, by omega, fun fuel' => ?_⟩
      rw [show Fr + 4 + fuel' = (Fr + (fuel' + 3)) + 1 by omega,
        inner_WAD plan N S st _ lo _ k _ rest s0 c hN hlt hnk hS hk0 hpl hWAD hl1,
        ihr (fuel' + 3), reload_WAD_turn plan N S st hp _ _ lo rest _ (Nat.lt_of_lt_of_le hm2 hN),
        emits_append, emits_append]
      rfl
    · -- a restart checkpoint for `lo`
      replace hlm : lo + c.len < hi := Nat.add_lt_of_lt_sub' hlm
      have hmid : lo + 1 < lo + c.len := Nat.add_lt_add_left hl2 lo
      have hmidN : lo + c.len ≤ N := Nat.le_trans hlm.le hN
      obtain ⟨Fr, hFr, ihr⟩ := ih (lo + c.len) hi (k - 1) spine false right
        ((stWriteIcs, lo, if reuse then e0 else lo + c.len) :: rest) 0 stWriteIcs hr hlm hN hsp
        (keys_cons _ _ hkeys (Nat.lt_of_succ_lt hmid)) (push_units hS hk0) nofun
      -- the checkpoint that covers `lo` during the right part reaches to the end of the left part
      have he1 : lo + c.len ≤ (if reuse then e0 else lo + c.len) := by
        cases reuse with
        | false => exact le_refl _
        | true => exact Nat.le_trans hlm.le (he rfl)
      obtain ⟨Fl, hFl, ihl⟩ := ih lo (lo + c.len) k false (decide (c2.kind = stWriteIcs)) left
        rest (if reuse then e0 else lo + c.len) stNone hl (Nat.lt_of_succ_lt hmid) hmidN
        ⟨nofun, fun hh => absurd (hh ▸ hlm) (Nat.not_lt.2 hN)⟩
        hkeys hS (fun _ => he1)
      have hmap : ((stWriteIcs, lo, if reuse then e0 else lo + c.len) :: rest).map skey
          = lo :: rest.map skey := rfl
      simp only [Bool.false_eq_true, if_false, hmap] at ihr
      refine ⟨1 + Fr + 1 + Fl, by omega, fun fuel' => ?_⟩
      rw [show 1 + Fr + 1 + Fl + fuel' = (Fr + ((Fl + fuel') + 1)) + 1 by omega,
        inner_WICS plan N S st _ lo hi k reuse rest e0 s0 c hN hlt hnk hS hk0 hpl hWICS hl2
          (fun h => Nat.le_trans hlm.le (he h)),
        ihr, reload_WICS plan N S st _ _ lo (lo + c.len) _ k rest c2 hmidN hmid hS hk0
          (by rw [Nat.add_sub_cancel_left]; exact hc2),
        ihl fuel', emits_append, emits_append, emits_append]
      rfl

/-- If the recursive model produces a stream, the loop produces the same stream, within the fuel
`6 N - 2`. -/
theorem mixedIter_of_mixedEvs (plan : Planner) (hp : PlanHyp plan) (N s : Nat) (st : Storage)
    (hN : 1 ≤ N) (evs : List Ev) (h : mixedEvs plan N s st = .ok evs) (fuel : Nat)
    (hf : 6 * N - 2 ≤ fuel) :
    mixedIter plan N (min s (N - 1)) st fuel = .ok evs := by
  unfold mixedEvs at h
  cases hm : mseg N plan st N 0 N (min s (N - 1)) true false with
  | none => rw [hm] at h; cases h
  | some e =>
    rw [hm] at h
    injection h with h
    obtain ⟨F, hF, hrun⟩ := seg_refine plan hp N (min s (N - 1)) st N 0 N (min s (N - 1)) true false e
      [] 0 stNone hm hN (le_refl _) ⟨fun _ => rfl, fun _ => rfl⟩ (by intro x hx; cases hx)
      (Nat.zero_add _) nofun
    obtain ⟨g, rfl⟩ := Nat.exists_eq_add_of_lt (show F < fuel by omega)
    have hr := hrun (g + 1)
    simp only [Bool.false_eq_true, if_false, map_nil, Nat.sub_self, Nat.sub_zero, Nat.zero_add] at hr
    unfold mixedIter MixSt.init
    rw [Nat.add_assoc, hr, reload_break, emits_ok, ← h]

/-- **Refinement.**  For a planner of the right shape and valid parameters the iterative twin of
`MixedCheckpointSchedule._iterator` and the recursive stream model agree (both are `.ok` with the
same list of events). -/
theorem mixedIter_eq_mixedEvs (plan : Planner) (hp : PlanHyp plan) (N s : Nat) (st : Storage)
    (hst : st = .ram ∨ st = .disk) (hN : 1 ≤ N) (hs : min 1 (N - 1) ≤ s) (fuel : Nat)
    (hf : 6 * N - 2 ≤ fuel) :
    mixedIter plan N (min s (N - 1)) st fuel = mixedEvs plan N s st := by
  obtain ⟨evs, _, _, hev, _⟩ := mixed_clean_plan plan hp N s st hst hN hs
  rw [hev]
  exact mixedIter_of_mixedEvs plan hp N s st hN _ hev fuel hf

/-- the entry point with its default fuel -/
theorem mixedIterEvs_eq_mixedEvs (plan : Planner) (hp : PlanHyp plan) (N s : Nat) (st : Storage)
    (hst : st = .ram ∨ st = .disk) (hN : 1 ≤ N) (hs : min 1 (N - 1) ≤ s) :
    mixedIterEvs plan N s st = mixedEvs plan N s st :=
  mixedIter_eq_mixedEvs plan hp N s st hst hN hs _ (by unfold mixedIterFuel; omega)

/-- … in particular for the memoised planner of the Python code -/
theorem mixedIterEvs_memoPlan (N s : Nat) (st : Storage) (hst : st = .ram ∨ st = .disk) (hN : 1 ≤ N)
    (hs : min 1 (N - 1) ≤ s) : mixedIterEvs memoPlan N s st = mixedEvs memoPlan N s st :=
  mixedIterEvs_eq_mixedEvs memoPlan memoPlan_hyp N s st hst hN hs

-- the hypotheses are satisfiable; a concrete run
example : mixedIterEvs memoPlan 5 2 .disk = mixedEvs memoPlan 5 2 .disk :=
  mixedIterEvs_memoPlan 5 2 .disk (Or.inr rfl) (by decide) (by decide)

end Ckpt.RC
