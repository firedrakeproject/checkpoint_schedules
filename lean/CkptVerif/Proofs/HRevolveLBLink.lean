import CkptVerif.Proofs.HRevolveLBTab
import CkptVerif.Proofs.HRevolveNoDisk
/-!
# The H-Revolve table is below every achievable hierarchical cost

For `k = c0 ≥ 1` the constructors of `HLB.A` are candidates of the recurrences of `hoptTable`, so
`opt[1][l][m] + (l+1)·uf ≤ v + (l+1)·ub` for every achievable `v` (`A c false c0 (l+1) m v`).
-/
namespace Ckpt.HLB
open Ckpt.RC Ckpt.GW

theorem exists_le_of_ole_some {a : Option Nat} {n : Nat} (h : ole a (some n) = true) :
    ∃ t, a = some t ∧ t ≤ n := by
  cases a with
  | none => simp [ole, olt] at h
  | some t => exact ⟨t, rfl, (ole_some_some t n).1 h⟩

/-! ## a level-1 entry is at most each candidate of its recurrence -/

section
variable (lmax c0 c1 w0 w1 r0 r1 ub uf : Nat)

theorem hopt1_le_write (l m : Nat) (hl : l ≤ lmax) (hm1 : 1 ≤ m) (hm : m ≤ c1) :
    ole ((hoptTable lmax c0 c1 w0 w1 r0 r1 ub uf).opt 1 l m)
      (oadd (some w1) ((hoptTable lmax c0 c1 w0 w1 r0 r1 ub uf).optp 1 l m)) = true := by
  rcases Nat.eq_zero_or_pos l with rfl | hl1
  · obtain ⟨hp, ho⟩ := hopt1_row0 lmax c0 c1 w0 w1 r0 r1 ub uf m hm
    rw [hp, ho, oadd, ole_some_some]
    omega
  · rw [(hopt1_rec lmax c0 c1 w0 w1 r0 r1 ub uf l m hl1 hl hm1 hm).2]
    exact omin_le_right _ _

theorem hoptp1_le_level0 (l m : Nat) (hl1 : 1 ≤ l) (hl : l ≤ lmax) (hm1 : 1 ≤ m) (hm : m ≤ c1) :
    ole ((hoptTable lmax c0 c1 w0 w1 r0 r1 ub uf).optp 1 l m)
      ((hoptTable lmax c0 c1 w0 w1 r0 r1 ub uf).opt 0 l c0) = true := by
  rw [(hopt1_rec lmax c0 c1 w0 w1 r0 r1 ub uf l m hl1 hl hm1 hm).1]
  exact ominList_le _ _ List.mem_cons_self

theorem hoptp1_le_split (l m j : Nat) (hl : l ≤ lmax) (hm1 : 1 ≤ m) (hm : m ≤ c1) (hj1 : 1 ≤ j)
    (hj2 : j + 1 ≤ l) :
    ole ((hoptTable lmax c0 c1 w0 w1 r0 r1 ub uf).optp 1 l m)
      (oadd (oadd (oadd (some (j * uf)) ((hoptTable lmax c0 c1 w0 w1 r0 r1 ub uf).opt 1 (l - j) (m - 1)))
        (some r1)) ((hoptTable lmax c0 c1 w0 w1 r0 r1 ub uf).optp 1 (j - 1) m)) = true := by
  rw [(hopt1_rec lmax c0 c1 w0 w1 r0 r1 ub uf l m (by omega) hl hm1 hm).1]
  exact ominList_le _ _ (List.mem_cons_of_mem _
    (List.mem_map.2 ⟨j, List.mem_range'_1.2 ⟨hj1, by omega⟩, rfl⟩))

end

/-! ## the constructors of `A` are such candidates -/

section
variable (lmax c0 c1 : Nat) (c : Costs)

/-- the table of `HRevolveOptimalT` -/
abbrev tabH : HTab := hoptTable lmax c0 c1 0 c.wd 0 c.rd c.ub c.uf

/-- the table entry `e` for `l + 1` steps is, up to the reversed steps, below `v` -/
def Link (e : Option Nat) (l v : Nat) : Prop :=
  ∃ t, e = some t ∧ t + (l + 1) * c.uf ≤ v + (l + 1) * c.ub

/-- an entry that is at most the level-0 entry `opt 0 l c0`, which is the memory-only table -/
theorem link_of_le_level0 (hc0 : 1 ≤ c0) (l : Nat) (hl : l ≤ lmax) {e : Option Nat}
    (hle : ole e ((tabH lmax c0 c1 c).opt 0 l c0) = true) : Link c e l (Rr c (l + 1) c0) := by
  rw [(hopt0_eq_opt0 lmax c0 c1 c.wd c.rd c.ub c.uf hc0 l hl c0 hc0 (le_refl _)).2] at hle
  obtain ⟨t, ht, htX⟩ := exists_le_of_ole_some hle
  have hX : _ + (l + 1) * c.uf = (l + 1) * c.ub + Rr c (l + 1) c0 :=
    opt0_eq_gwT lmax c0 c.uf c.ub l c0 hl hc0 (le_refl _)
  exact ⟨t, ht, by omega⟩

theorem link_one (m : Nat) (hm : m ≤ c1) :
    Link c ((tabH lmax c0 c1 c).optp 1 0 m) 0 c.uf ∧ Link c ((tabH lmax c0 c1 c).opt 1 0 m) 0 c.uf := by
  obtain ⟨hp, ho⟩ := hopt1_row0 lmax c0 c1 0 c.wd 0 c.rd c.ub c.uf m hm
  exact ⟨⟨c.ub, hp, by omega⟩, ⟨c.ub, ho, by omega⟩⟩

theorem link_ram (hc0 : 1 ≤ c0) (l m : Nat) (hl : l ≤ lmax) (hm : m ≤ c1) :
    Link c ((tabH lmax c0 c1 c).opt 1 l m) l (Rr c (l + 1) c0) :=
  link_of_le_level0 lmax c0 c1 c hc0 l hl
    (hopt1_le_level0 lmax c0 c1 0 c.wd 0 c.rd c.ub c.uf hc0 l m hl hm)

theorem linkp_ram (hc0 : 1 ≤ c0) (l m : Nat) (hl1 : 1 ≤ l) (hl : l ≤ lmax) (hm1 : 1 ≤ m) (hm : m ≤ c1) :
    Link c ((tabH lmax c0 c1 c).optp 1 l m) l (Rr c (l + 1) c0) :=
  link_of_le_level0 lmax c0 c1 c hc0 l hl
    (hoptp1_le_level0 lmax c0 c1 0 c.wd 0 c.rd c.ub c.uf l m hl1 hl hm1 hm)

theorem link_disk {l m v : Nat} (hl : l ≤ lmax) (hm1 : 1 ≤ m) (hm : m ≤ c1)
    (h : Link c ((tabH lmax c0 c1 c).optp 1 l m) l v) :
    Link c ((tabH lmax c0 c1 c).opt 1 l m) l (c.wd + v) := by
  obtain ⟨t', ht', hle'⟩ := h
  have hle := hopt1_le_write lmax c0 c1 0 c.wd 0 c.rd c.ub c.uf l m hl hm1 hm
  rw [ht', oadd] at hle
  obtain ⟨t, ht, htX⟩ := exists_le_of_ole_some hle
  exact ⟨t, ht, by omega⟩

theorem link_split {l m j v1 v2 : Nat} (hl : l ≤ lmax) (hm1 : 1 ≤ m) (hm : m ≤ c1) (hj1 : 1 ≤ j)
    (hj2 : j + 1 ≤ l) (h1 : Link c ((tabH lmax c0 c1 c).opt 1 (l - j) (m - 1)) (l - j) v1)
    (h2 : Link c ((tabH lmax c0 c1 c).optp 1 (j - 1) m) (j - 1) v2) :
    Link c ((tabH lmax c0 c1 c).optp 1 l m) l (j * c.uf + v1 + c.rd + v2) := by
  obtain ⟨t1, ht1, hle1⟩ := h1
  obtain ⟨t2, ht2, hle2⟩ := h2
  have hle := hoptp1_le_split lmax c0 c1 0 c.wd 0 c.rd c.ub c.uf l m j hl hm1 hm hj1 hj2
  rw [ht1, ht2] at hle
  obtain ⟨t, ht, htX⟩ := exists_le_of_ole_some hle
  refine ⟨t, ht, ?_⟩
  have e : l - j + 1 + (j - 1 + 1) = l + 1 := by omega
  have e1 : (l - j + 1) * c.uf + (j - 1 + 1) * c.uf = (l + 1) * c.uf := by rw [← Nat.add_mul, e]
  have e2 : (l - j + 1) * c.ub + (j - 1 + 1) * c.ub = (l + 1) * c.ub := by rw [← Nat.add_mul, e]
  omega

theorem link (hc0 : 1 ≤ c0) {p : Bool} {k n m v : Nat} (h : A c p k n m v) :
    k = c0 → ∀ l, n = l + 1 → l ≤ lmax → m ≤ c1 →
      Link c (bif p then (tabH lmax c0 c1 c).optp 1 l m else (tabH lmax c0 c1 c).opt 1 l m) l v := by
  -- `rw`, not `exact`: the unifier would look for the branch inside the table
  induction h with
  | t_one k m =>
    intro _ l hl _ hm
    obtain rfl : l = 0 := by omega
    rw [cond_false]
    exact (link_one lmax c0 c1 c m hm).2
  | t_ram k n m hk hn =>
    rintro rfl l rfl hll hm
    rw [cond_false]
    exact link_ram lmax k c1 c hc0 l m hll hm
  | t_disk k n m v hm hp ih =>
    rintro rfl l rfl hll hmc
    have ih := ih rfl l rfl hll hmc
    rw [cond_true] at ih
    rw [cond_false]
    exact link_disk lmax k c1 c hll hm hmc ih
  | p_one k m hm =>
    intro _ l hl _ hmc
    obtain rfl : l = 0 := by omega
    rw [cond_true]
    exact (link_one lmax c0 c1 c m hmc).1
  | p_ram k n m hk hn hm =>
    rintro rfl l rfl hll hmc
    rw [cond_true]
    exact linkp_ram lmax k c1 c hc0 l m (by omega) hll hm hmc
  | p_split k n m j v1 v2 hm hj1 hj2 hjk h1 h2 ih1 ih2 =>
    rintro rfl l rfl hll hmc
    have hj := hjk hc0
    have ih1 := ih1 rfl (l - j) (by omega) (by omega) (by omega)
    have ih2 := ih2 rfl (j - 1) (by omega) (by omega) hmc
    rw [cond_false] at ih1
    rw [cond_true] at ih2 ⊢
    exact link_split lmax k c1 c hll hm hmc hj1 (by omega) ih1 ih2

end

/-- **the link**: with `k = c0 ≥ 1`, `N ≥ 1`, `m ≤ c1`: the table value for `N` steps is below every
achievable cost -/
theorem table_le (N c0 c1 tv v : Nat) (c : Costs) (hN : 1 ≤ N) (hc0 : 1 ≤ c0)
    (ht : (hoptTable (N - 1) c0 c1 0 c.wd 0 c.rd c.ub c.uf).opt 1 (N - 1) c1 = some tv)
    (h : A c false c0 N c1 v) : tv + N * c.uf ≤ v + N * c.ub := by
  obtain ⟨t, ht', hle⟩ := link (N - 1) c0 c1 c hc0 h rfl (N - 1) (by omega) (le_refl _) (le_refl _)
  rw [cond_false] at ht'
  obtain rfl : tv = t := Option.some.inj (ht.symm.trans ht')
  rw [show N - 1 + 1 = N by omega] at hle
  exact hle

end Ckpt.HLB

#print axioms Ckpt.HLB.table_le
