import CkptVerif.Proofs.MixedDP
/-!
# Shape of the planner's answer `memoCell n s`

For valid clamped keys: the kind of the cell, the range of `len`, and the cost recurrence.
-/
namespace Ckpt

theorem memoCell_one (s : Nat) : memoCell 1 s = ⟨stForwardReverse, 1, 1⟩ := by
  rw [memoCell_eq, memoF_def, if_pos (Nat.le_refl 1)]

/-- `n ≤ s + 1` (every step gets a unit): `WRITE_ADJ_DEPS`, cost `n` -/
theorem memoCell_small (n s : Nat) (hn : 2 ≤ n) (hs : n ≤ s + 1) :
    memoCell n s = ⟨stWriteAdjDeps, 1, n⟩ := by
  rw [memoCell_eq, memoF_def, if_neg (by omega), if_pos hs]

theorem memoCell_cost_small (n s : Nat) (h : validKey n s = true) (hs : n ≤ s + 1) :
    (memoCell n s).cost = n := by
  rw [validKey_iff] at h
  by_cases h1 : n = 1
  · subst h1; rw [memoCell_one]
  · rw [memoCell_small n s (by omega) hs]

theorem memoCell_s_one (n : Nat) (hn : 3 ≤ n) :
    memoCell n 1 = ⟨stWriteIcs, n - 1, n * (n + 1) / 2 - 1⟩ := by
  rw [memoCell_eq, memoF_def, if_neg (by omega), if_neg (by omega), if_pos rfl]

/-- the cost with a single unit, including `n = 2` (which is the `WRITE_ADJ_DEPS` branch) -/
theorem memoCell_cost_s_one (n : Nat) (hn : 2 ≤ n) :
    (memoCell n 1).cost = n * (n + 1) / 2 - 1 := by
  by_cases h : n = 2
  · subst h; rw [memoCell_small 2 1 (by omega) (by omega)]
  · rw [memoCell_s_one n (by omega)]

/-- the planner's loop from a `some` accumulator preserves any property shared by the
accumulator and all candidate cells -/
theorem memoStep_fold_inv (cand : Nat → Nat) (P : Cell → Prop) (l : List Nat)
    (hl : ∀ i, i ∈ l → P ⟨stWriteIcs, i, cand i⟩) (c : Cell) (hc : P c) :
    ∃ c', l.foldl (memoStep cand) (some c) = some c' ∧ P c' := by
  induction l generalizing c with
  | nil => exact ⟨c, rfl, hc⟩
  | cons x xs ih =>
    rw [List.foldl_cons, memoStep_some]
    have hxs : ∀ i, i ∈ xs → P ⟨stWriteIcs, i, cand i⟩ :=
      fun i hi => hl i (List.mem_cons_of_mem _ hi)
    by_cases hx : cand x ≤ c.cost
    · rw [if_pos hx]
      exact ih hxs _ (hl x (List.mem_cons_self ..))
    · rw [if_neg hx]
      exact ih hxs c hc

/-- … and so does the whole loop over a non-empty range, which ends with a set accumulator -/
theorem memoStep_fold_none_inv (cand : Nat → Nat) (P : Cell → Prop) (l : List Nat) (hne : l ≠ [])
    (hl : ∀ i, i ∈ l → P ⟨stWriteIcs, i, cand i⟩) :
    ∃ c', l.foldl (memoStep cand) none = some c' ∧ P c' := by
  obtain ⟨x, xs, rfl⟩ := List.exists_cons_of_ne_nil hne
  rw [List.foldl_cons]
  have e : memoStep cand none x = some ⟨stWriteIcs, x, cand x⟩ := rfl
  rw [e]
  exact memoStep_fold_inv cand P xs (fun i hi => hl i (List.mem_cons_of_mem _ hi)) _
    (hl x (List.mem_cons_self ..))

/-- The general branch (`s ≥ 2`, `n > s + 1`): the answer is either the `WRITE_ADJ_DEPS` candidate
or one of the `WRITE_ICS` candidates `2 ≤ i < n`. -/
theorem memoCell_general (n s : Nat) (hs : 2 ≤ s) (hn : s + 1 < n) :
    memoCell n s = ⟨stWriteAdjDeps, 1, 1 + (memoCell (n - 1) (clampS (n - 1) (s - 1))).cost⟩ ∨
    ∃ i, 2 ≤ i ∧ i < n ∧ memoCell n s = ⟨stWriteIcs, i,
      i + (memoCell i (clampS i s)).cost + (memoCell (n - i) (clampS (n - i) (s - 1))).cost⟩ := by
  rw [memoCell_eq, memoF_def, if_neg (by omega), if_neg (by omega), if_neg (by omega)]
  obtain ⟨c', h1, i, hi2, hin, hc'⟩ := memoStep_fold_none_inv
    (splitCand n s (fun i j => (memoCell i j).cost))
    (fun c => ∃ i, 2 ≤ i ∧ i < n ∧ c = ⟨stWriteIcs, i,
      i + (memoCell i (clampS i s)).cost + (memoCell (n - i) (clampS (n - i) (s - 1))).cost⟩)
    (List.range' 2 (n - 2)) ((List.range'_ne_nil_iff 2).2 (by omega))
    (by
      intro i hi
      rw [List.mem_range'_1] at hi
      exact ⟨i, by omega, by omega, rfl⟩)
  rw [h1, memoFinish_some]
  by_cases hlt : 1 + (memoCell (n - 1) (clampS (n - 1) (s - 1))).cost < c'.cost
  · rw [if_pos hlt]; exact Or.inl rfl
  · rw [if_neg hlt]; exact Or.inr ⟨i, hi2, hin, hc'⟩

theorem memoCell_cases (n s : Nat) (h : validKey n s = true) (hn : 2 ≤ n) :
    1 ≤ s ∧
    (((memoCell n s).kind = stWriteAdjDeps ∧ (memoCell n s).len = 1 ∧
        (memoCell n s).cost = 1 + (memoCell (n - 1) (clampS (n - 1) (s - 1))).cost) ∨
     ((memoCell n s).kind = stWriteIcs ∧ 2 ≤ (memoCell n s).len ∧ (memoCell n s).len ≤ n - 1 ∧
        s + 1 < n ∧
        (memoCell n s).cost = (memoCell n s).len
          + (memoCell (memoCell n s).len (clampS (memoCell n s).len s)).cost
          + (memoCell (n - (memoCell n s).len) (clampS (n - (memoCell n s).len) (s - 1))).cost)) := by
  -- of the validity of the key only `1 ≤ s ≤ n - 1` is used
  obtain ⟨hs1, hsn⟩ : 1 ≤ s ∧ s ≤ n - 1 := by rw [validKey_iff] at h; omega
  clear h
  refine ⟨hs1, ?_⟩
  by_cases h2 : n ≤ s + 1
  · -- `n ≤ s + 1`: every step gets a unit
    left
    have hv : validKey (n - 1) (clampS (n - 1) (s - 1)) = true :=
      (validKey_clamp_iff (n - 1) (s - 1)).2 ⟨by omega, by omega⟩
    rw [memoCell_small n s hn h2, memoCell_cost_small _ _ hv (by rw [clampS_of_ge (by omega)]; omega)]
    exact ⟨rfl, rfl, by show n = 1 + (n - 1); omega⟩
  · by_cases h3 : s = 1
    · -- one unit
      right
      subst h3
      have hc1 : clampS (n - 1) 1 = 1 := clampS_one (by omega)
      rw [memoCell_s_one n (by omega)]
      refine ⟨rfl, by show 2 ≤ n - 1; omega, Nat.le_refl _, by omega, ?_⟩
      show n * (n + 1) / 2 - 1 = (n - 1) + (memoCell (n - 1) (clampS (n - 1) 1)).cost
        + (memoCell (n - (n - 1)) (clampS (n - (n - 1)) (1 - 1))).cost
      have e1 : n - (n - 1) = 1 := by omega
      rw [hc1, e1, memoCell_one, memoCell_cost_s_one (n - 1) (by omega)]
      obtain ⟨m, rfl⟩ : ∃ m, n = m + 1 := ⟨n - 1, by omega⟩
      show (m + 1) * (m + 1 + 1) / 2 - 1 = m + (m * (m + 1) / 2 - 1) + 1
      rw [tri_succ]
      have := tri_ge m (by omega)
      omega
    · rcases memoCell_general n s (by omega) (by omega) with e | ⟨i, hi2, hin, e⟩
      · left; rw [e]; exact ⟨rfl, rfl, rfl⟩
      · right; rw [e]; exact ⟨rfl, hi2, by show i ≤ n - 1; omega, by omega, rfl⟩

theorem memoCell_kind_only (n s : Nat) (h : validKey n s = true) :
    ((memoCell n s).kind = stForwardReverse ∨ (memoCell n s).kind = stWriteAdjDeps ∨
      (memoCell n s).kind = stWriteIcs) ∧
    ((memoCell n s).kind = stForwardReverse ↔ n = 1) := by
  by_cases h1 : n = 1
  · subst h1
    rw [memoCell_one]
    exact ⟨Or.inl rfl, fun _ => rfl, fun _ => rfl⟩
  · have hn : 2 ≤ n := by rw [validKey_iff] at h; omega
    obtain ⟨_, hc | hc⟩ := memoCell_cases n s h hn
    · rw [hc.1]
      exact ⟨Or.inr (Or.inl rfl), fun hk => absurd hk (by decide), fun hk => absurd hk h1⟩
    · rw [hc.1]
      exact ⟨Or.inr (Or.inr rfl), fun hk => absurd hk (by decide), fun hk => absurd hk h1⟩

/-- numeric form of `memoCell_kind_only` -/
theorem memoCell_kind_num (n s : Nat) (h : validKey n s = true) :
    ((memoCell n s).kind = 2 ∨ (memoCell n s).kind = 3 ∨ (memoCell n s).kind = 4) ∧
    ((memoCell n s).kind = 2 ↔ n = 1) :=
  memoCell_kind_only n s h

/-- shape of the answers of `mixed_step_memoization` -/
theorem memoSpec_shape (m k : Nat) (c : Cell) (h : memoSpec m k = some c) :
    (m = 1 ∧ c.kind = 2 ∧ c.len = 1) ∨
    (2 ≤ m ∧ 1 ≤ k ∧ ((c.kind = 3 ∧ c.len = 1) ∨ (c.kind = 4 ∧ 2 ≤ c.len ∧ c.len ≤ m - 1))) := by
  unfold memoSpec at h
  dsimp only at h
  by_cases hv : validKey m (clampS m k) = true
  · rw [if_pos hv] at h
    injection h with h
    have hv' := (validKey_clamp_iff m k).1 hv
    by_cases h1 : m = 1
    · left
      subst h1
      rw [memoCell_one] at h
      subst h
      exact ⟨rfl, rfl, rfl⟩
    · right
      have hm : 2 ≤ m := by omega
      refine ⟨hm, by omega, ?_⟩
      obtain ⟨_, hc | hc⟩ := memoCell_cases m (clampS m k) hv hm
      · left; rw [← h]; exact ⟨hc.1, hc.2.1⟩
      · right; rw [← h]; exact ⟨hc.1, hc.2.1, hc.2.2.1⟩
  · rw [if_neg hv] at h
    cases h

end Ckpt
