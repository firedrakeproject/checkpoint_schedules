import CkptVerif.Proofs.Meaning
/-!
# Two disciplines a stream of actions may obey

"Restart data only": no `Forward` of the stream stores adjoint dependency data in a storage unit;
`GW.storesDeps a` says that the action `a` is such a `Forward`.  `LB7.Lifo`: every `Copy`/`Move` loads the most recently stored checkpoint that is still stored
into WORK (no direct RAM ↔ DISK transfers, no restart from an older checkpoint while a newer one is
stored).  Both are hypotheses of the lower bounds and conclusions of the acceptance proofs, which is why
they stand in front of either.
-/
namespace Ckpt.GW

/-- a `Forward` that writes adjoint dependency data into a storage unit (the "mixed" mechanism) -/
def storesDeps : Action → Bool
  | .forward _ _ _ wa st => wa && st.isStore
  | _ => false

end Ckpt.GW

namespace Ckpt.LB7

/-- the action obeys the LIFO discipline in state `x`: a `Copy`/`Move` loads the head of the list of
stored checkpoints (the most recently stored one) into WORK -/
def lifoAct (x : XS) : Action → Bool
  | .copy n src dst => decide (dst = .work) &&
      (match x.cps with | cp :: _ => decide (cp.n = n ∧ cp.st = src) | [] => false)
  | .move n src dst => decide (dst = .work) &&
      (match x.cps with | cp :: _ => decide (cp.n = n ∧ cp.st = src) | [] => false)
  | _ => true

def lifoFrom (cfg : Cfg) : XS → List Obs → Bool
  | _, [] => true
  | x, o :: os => lifoAct x o.act && lifoFrom cfg (nextState cfg x o.act) os

def Lifo (cfg : Cfg) (os : List Obs) : Prop := lifoFrom cfg (XS.init cfg) os = true

instance (cfg : Cfg) (os : List Obs) : Decidable (Lifo cfg os) := by unfold Lifo; infer_instance

end Ckpt.LB7

namespace Ckpt
open Ckpt.LB7 Ckpt.Mean

theorem lifoFrom_append (cfg : Cfg) : ∀ (as bs : List Obs) (x : XS),
    lifoFrom cfg x (as ++ bs) = (lifoFrom cfg x as && lifoFrom cfg (finalSt cfg x as) bs) := by
  intro as
  induction as with
  | nil => intro bs x; simp [lifoFrom, finalSt]
  | cons a as ih =>
    intro bs x
    simp only [List.cons_append, lifoFrom, ih, finalSt, List.foldl_cons, Bool.and_assoc]

end Ckpt
