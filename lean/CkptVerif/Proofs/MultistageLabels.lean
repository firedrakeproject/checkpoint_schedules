import CkptVerif.Proofs.MixedSteps
import CkptVerif.Proofs.MultistageE2E
import CkptVerif.Proofs.StepBridges
/-!
# C14: the Multistage stream and its storage labels

(a) `segWith_relabel`: relabelling the stack positions relabels the stream, nothing else changes;
`eraseSt` replaces RAM/DISK by a placeholder: the erased stream does not depend on the labelling
(`segWith_erase`), hence the erased `MultistageCheckpointSchedule` streams coincide for all valid
splits of the same total number of units (`multistage_erase`).

(b) `labelsOk alloc evs top`: replay of the checkpoint stack (a store-writing `Forward` pushes, a
`Move` pops, a `Copy` reads the top) checking that EVERY storage named by the stream is either `WORK`
(in a non-checkpoint role) or the label `alloc p` of the stack position `p` concerned.
`segWith_labelsOk`: every binomial segment passes, hence the Multistage stream
(`multistage_labelsOk`): one storage per stack position for the whole run.
-/
namespace Ckpt.GW

/-- relabelling the stack positions by `g` relabels the stream (also on failing runs) -/
theorem segWith_relabel (g : Storage → Storage) (hg : g .work = .work) (N : Nat)
    (σ : Nat → Nat → Option Nat) (S : Nat) (alloc : Nat → Storage) (persist : Bool) :
    ∀ (fuel : Nat) (stored spine : Bool) (lo hi d : Nat),
      segWith N σ S (fun d => g (alloc d)) persist fuel stored spine lo hi d =
        (segWith N σ S alloc persist fuel stored spine lo hi d).map (List.map (relabel g)) := by
  intro fuel
  induction fuel with
  | zero => intro stored spine lo hi d; rfl
  | succ fuel ih =>
    intro stored spine lo hi d
    by_cases hu : hi = lo + 1
    · subst hu
      rw [segWith_unit, segWith_unit]
      cases stored <;> cases spine <;> by_cases hp : persist = true ∧ d = 0 <;>
        simp [relabel, relabelAct, hg, hp]
    · rw [segWith_step _ _ _ _ _ _ _ _ _ _ _ hu, segWith_step _ _ _ _ _ _ _ _ _ _ _ hu]
      cases σ (hi - lo) (S - d) with
      | none => rfl
      | some a =>
        simp only [Option.bind_some, ih]
        cases segWith N σ S alloc persist fuel false spine (lo + a) hi (d + 1) with
        | none => rfl
        | some right =>
          cases segWith N σ S alloc persist fuel true false lo (lo + a) d with
          | none => rfl
          | some left =>
            cases stored <;> simp [relabel, relabelAct, hg]

def eraseS : Storage → Storage
  | .ram => .none
  | .disk => .none
  | x => x

def eraseSt (e : Ev) : Ev := relabel eraseS e

theorem eraseS_of_isStore {x : Storage} (h : x.isStore = true) : eraseS x = .none := by
  cases x <;> first | rfl | cases h

theorem segWith_eraseSt (N : Nat) (σ : Nat → Nat → Option Nat) (S : Nat) (alloc : Nat → Storage)
    (persist : Bool) (fuel : Nat) (stored spine : Bool) (lo hi d : Nat) :
    (segWith N σ S alloc persist fuel stored spine lo hi d).map (List.map eraseSt) =
      segWith N σ S (fun d => eraseS (alloc d)) persist fuel stored spine lo hi d :=
  (segWith_relabel eraseS rfl N σ S alloc persist fuel stored spine lo hi d).symm

/-- **the erased stream does not depend on the labelling**: for any two labellings that agree after
erasure — in particular any two labellings by RAM/DISK -/
theorem segWith_erase (N : Nat) (σ : Nat → Nat → Option Nat) (S : Nat) (alloc alloc' : Nat → Storage)
    (persist : Bool) (fuel : Nat) (stored spine : Bool) (lo hi d : Nat)
    (h : ∀ i, eraseS (alloc i) = eraseS (alloc' i)) :
    (segWith N σ S alloc persist fuel stored spine lo hi d).map (List.map eraseSt) =
      (segWith N σ S alloc' persist fuel stored spine lo hi d).map (List.map eraseSt) := by
  rw [segWith_eraseSt, segWith_eraseSt]
  have : (fun d => eraseS (alloc d)) = (fun d => eraseS (alloc' d)) := funext h
  rw [this]

theorem segWith_erase_isStore (N : Nat) (σ : Nat → Nat → Option Nat) (S : Nat)
    (alloc alloc' : Nat → Storage) (persist : Bool) (fuel : Nat) (stored spine : Bool) (lo hi d : Nat)
    (h : ∀ i, (alloc i).isStore = true) (h' : ∀ i, (alloc' i).isStore = true) :
    (segWith N σ S alloc persist fuel stored spine lo hi d).map (List.map eraseSt) =
      (segWith N σ S alloc' persist fuel stored spine lo hi d).map (List.map eraseSt) :=
  segWith_erase N σ S alloc alloc' persist fuel stored spine lo hi d
    (fun i => by rw [eraseS_of_isStore (h i), eraseS_of_isStore (h' i)])

theorem multistageSeg_erase (N S : Nat) (alloc alloc' : Nat → Storage) (traj : Traj)
    (h : ∀ i, eraseS (alloc i) = eraseS (alloc' i)) :
    (multistageSeg N S alloc traj).map (List.map eraseSt) =
      (multistageSeg N S alloc' traj).map (List.map eraseSt) := by
  have := segWith_erase N (fun m k => nAdvance m k traj) S alloc alloc' false N false true 0 N 0 h
  unfold multistageSeg
  cases h1 : segWith N (fun m k => nAdvance m k traj) S alloc false N false true 0 N 0 <;>
    cases h2 : segWith N (fun m k => nAdvance m k traj) S alloc' false N false true 0 N 0 <;>
    rw [h1, h2] at this <;> simp at this ⊢
  exact this

/-- the labelling computed by `__init__`, padded with `NONE`, erases to the constant placeholder -/
theorem eraseS_getD (storage : List Storage) (h : ∀ x ∈ storage, x.isStore = true) (i : Nat) :
    eraseS (storage.getD i .none) = .none := by
  by_cases hi : i < storage.length
  · have e : storage.getD i .none = storage[i] := by simp [List.getD, hi]
    rw [e]; exact eraseS_of_isStore (h _ (List.getElem_mem hi))
  · have e : storage.getD i .none = .none := by simp [List.getD, Nat.le_of_not_lt hi]
    rw [e]; rfl

/-- **C14 (a)**: for valid parameters with the same total number of units the Multistage streams
coincide except for the storage named in the checkpoint actions -/
theorem multistage_erase (N ram disk ram' disk' : Nat) (traj : Traj)
    (hv : validMultistage N ram disk = true) (hv' : validMultistage N ram' disk' = true)
    (hsum : ram + disk = ram' + disk') (evs evs' : List Ev)
    (h : multistageEvs N ram disk traj = .ok evs) (h' : multistageEvs N ram' disk' traj = .ok evs') :
    evs.map eraseSt = evs'.map eraseSt := by
  simp only [validMultistage, Bool.and_eq_true, Bool.or_eq_true, decide_eq_true_eq] at hv hv'
  obtain ⟨storage, _, hst, _, hseg⟩ := multistageEvs_ok N ram disk traj hv.1 evs h
  obtain ⟨storage', _, hst', _, hseg'⟩ := multistageEvs_ok N ram' disk' traj hv'.1 evs' h'
  rw [← hsum] at hseg'
  have := multistageSeg_erase N (min (ram + disk) (N - 1)) (fun d => storage.getD d .none)
    (fun d => storage'.getD d .none) traj
    (fun i => by rw [eraseS_getD storage hst, eraseS_getD storage' hst'])
  rw [hseg, hseg'] at this
  exact Option.some.inj this

theorem multistageEvs_isOk (N ram disk : Nat) (traj : Traj) (hv : validMultistage N ram disk = true) :
    ∃ evs, multistageEvs N ram disk traj = .ok evs := by
  obtain ⟨_, evs, _, h, _⟩ := multistage_monitor_clean N ram disk traj hv
  exact ⟨evs, h⟩

/-- erasing the storage labels of an event does not change the forward steps it performs -/
theorem eraseSt_fwd (e : Ev) : evFwd (eraseSt e) = evFwd e := by
  obtain ⟨a, n, r⟩ := e
  cases a <;> rfl

example : (multistageEvs 6 2 1 .revolve).toOption.map (List.map eraseSt) =
    (multistageEvs 6 0 3 .revolve).toOption.map (List.map eraseSt) := by decide

example : multistageEvs 6 2 1 .revolve ≠ multistageEvs 6 0 3 .revolve := by decide

/-- Replay of the checkpoint stack; `top` = number of stack positions in use.  `none`: some event
names a storage that is not the label of the stack position it acts on. -/
def labelsOk (alloc : Nat → Storage) : List Ev → (top : Nat) → Option Nat
  | [], top => some top
  | e :: es, top =>
    match e.act with
    | .forward _ _ true _ st =>
      -- a checkpoint is written to the first free position
      if st = alloc top then labelsOk alloc es (top + 1) else none
    | .forward _ _ false _ st =>
      if st = .work then labelsOk alloc es top else none
    | .copy _ src dst =>
      if 1 ≤ top ∧ src = alloc (top - 1) ∧ dst = .work then labelsOk alloc es top else none
    | .move _ src dst =>
      if 1 ≤ top ∧ src = alloc (top - 1) ∧ dst = .work then labelsOk alloc es (top - 1) else none
    | _ => labelsOk alloc es top

theorem labelsOk_append (alloc : Nat → Storage) : ∀ (a b : List Ev) (top : Nat),
    labelsOk alloc (a ++ b) top = (labelsOk alloc a top).bind (labelsOk alloc b) := by
  intro a
  induction a with
  | nil => intro b top; rfl
  | cons e es ih =>
    intro b top
    simp only [List.cons_append, labelsOk]
    split <;> (try split) <;> first | rfl | exact ih _ _

/-- the stack position an event acts on when `top` positions are in use -/
def evPos (e : Ev) (top : Nat) : Option Nat :=
  match e.act with
  | .forward _ _ true _ _ => some top
  | .copy _ _ _ => some (top - 1)
  | .move _ _ _ => some (top - 1)
  | _ => none

/-- what one accepted event says about the storages it names -/
theorem labelsOk_head (alloc : Nat → Storage) (e : Ev) (es : List Ev) (top t' : Nat)
    (h : labelsOk alloc (e :: es) top = some t') (st : Storage) (ht : touches st e.act = true) :
    st = .work ∨ ∃ p, evPos e top = some p ∧ st = alloc p := by
  obtain ⟨a, n, r⟩ := e
  cases a with
  | forward n0 n1 wi wa s =>
    cases wi with
    | true =>
      simp only [labelsOk] at h
      split at h
      · rename_i hs
        simp only [touches, decide_eq_true_eq] at ht
        exact .inr ⟨top, rfl, by rw [← ht, hs]⟩
      · cases h
    | false =>
      simp only [labelsOk] at h
      split at h
      · rename_i hs
        simp only [touches, decide_eq_true_eq] at ht
        exact .inl (by rw [← ht, hs])
      · cases h
  | copy n0 src dst =>
    simp only [labelsOk] at h
    split at h
    · rename_i hs
      simp only [touches, Bool.or_eq_true, decide_eq_true_eq] at ht
      rcases ht with ht | ht
      · exact .inr ⟨top - 1, rfl, by rw [← ht, hs.2.1]⟩
      · exact .inl (by rw [← ht, hs.2.2])
    · cases h
  | move n0 src dst =>
    simp only [labelsOk] at h
    split at h
    · rename_i hs
      simp only [touches, Bool.or_eq_true, decide_eq_true_eq] at ht
      rcases ht with ht | ht
      · exact .inr ⟨top - 1, rfl, by rw [← ht, hs.2.1]⟩
      · exact .inl (by rw [← ht, hs.2.2])
    · cases h
  | reverse _ _ _ => simp [touches] at ht
  | endForward => simp [touches] at ht
  | endReverse => simp [touches] at ht

/-- **Reading of `labelsOk`**: at every point of an accepted stream, the stack height `top` after
the prefix is defined, and every storage the next event names is `WORK` or the label of the stack
position the event acts on (`top` for a checkpoint write, `top - 1` for a `Copy`/`Move`). -/
theorem labelsOk_touches (alloc : Nat → Storage) (evs : List Ev) (t t' : Nat)
    (h : labelsOk alloc evs t = some t') (pre : List Ev) (e : Ev) (post : List Ev)
    (hsplit : evs = pre ++ e :: post) :
    ∃ top, labelsOk alloc pre t = some top ∧
      ∀ st, touches st e.act = true → st = .work ∨ ∃ p, evPos e top = some p ∧ st = alloc p := by
  subst hsplit
  rw [labelsOk_append] at h
  cases hp : labelsOk alloc pre t with
  | none => rw [hp] at h; cases h
  | some top =>
    rw [hp] at h
    exact ⟨top, rfl, fun st ht => labelsOk_head alloc e post top t' h st ht⟩

/-- **Every binomial segment names, at every stack position, the label of that position.**
Entered with `d` positions in use (`d + 1` if the checkpoint for `lo` is stored), left with `d`
(`1` if the bottom position is persistent).  No hypothesis on the split function. -/
theorem segWith_labelsOk (N : Nat) (σ : Nat → Nat → Option Nat) (S : Nat) (alloc : Nat → Storage)
    (persist : Bool) :
    ∀ (fuel : Nat) (stored spine : Bool) (lo hi d : Nat) (evs : List Ev),
      segWith N σ S alloc persist fuel stored spine lo hi d = some evs →
      (persist = true → d = 0 → stored = true) →
      labelsOk alloc evs (d + if stored then 1 else 0) = some (if persist = true ∧ d = 0 then 1 else d) := by
  refine segWith_induction N σ S alloc persist (motive := fun stored _ _ _ d evs =>
      (persist = true → d = 0 → stored = true) →
      labelsOk alloc evs (d + if stored then 1 else 0) = some (if persist = true ∧ d = 0 then 1 else d))
    (fun stored spine lo d hpers => ?_) (fun stored spine lo hi d a right left _ _ R L hpers => ?_)
  · by_cases hp : persist = true ∧ d = 0
    · have hs := hpers hp.1 hp.2
      subst hs
      obtain ⟨hp1, hp2⟩ := hp
      subst hp1 hp2
      cases spine <;> simp [labelsOk]
    · cases stored <;> cases spine <;> simp [labelsOk, hp]
  · replace R := R (by intro _ h0; omega)
    replace L := L (by intro _ _; rfl)
    simp only [Bool.false_eq_true, if_false, Nat.add_zero, if_true] at R L
    have hR' : labelsOk alloc right (d + 1) = some (d + 1) := by
      rw [R, if_neg (by omega)]
    rw [labelsOk_append, labelsOk_append]
    have hfirst : labelsOk alloc (if stored = true
        then [(⟨Action.copy lo (alloc d) .work, lo, N - hi⟩ : Ev),
          ⟨Action.forward lo (lo + a) false false .work, lo + a, N - hi⟩]
        else [⟨Action.forward lo (lo + a) true false (alloc d), lo + a, N - hi⟩])
        (d + if stored = true then 1 else 0) = some (d + 1) := by
      cases stored <;> simp [labelsOk]
    rw [hfirst, Option.bind_some, hR', Option.bind_some, L]

/-- **C14 (b)** for the stream of `multistageSeg`: started with an empty stack, every checkpoint
action names the label of its stack position, and the stack is empty at the end -/
theorem multistageSeg_labelsOk (N S : Nat) (alloc : Nat → Storage) (traj : Traj) (evs : List Ev)
    (h : multistageSeg N S alloc traj = some evs) : labelsOk alloc evs 0 = some 0 := by
  unfold multistageSeg at h
  cases hseg : segWith N (fun m k => nAdvance m k traj) S alloc false N false true 0 N 0 with
  | none => rw [hseg] at h; cases h
  | some body =>
    rw [hseg] at h
    have h' := Option.some.inj h
    subst h'
    have := segWith_labelsOk N _ S alloc false N false true 0 N 0 body hseg (by intro h0; cases h0)
    simp only [Bool.false_eq_true, if_false, Nat.add_zero, false_and] at this
    rw [labelsOk_append, this]
    rfl

/-- **C14 (b)** at the level of the class: the stream of `MultistageCheckpointSchedule(N, ram, disk)`
uses the `storage` tuple computed by `__init__` as a fixed labelling of the stack positions -/
theorem multistage_labelsOk (N ram disk : Nat) (traj : Traj) (hv : validMultistage N ram disk = true)
    (evs : List Ev) (h : multistageEvs N ram disk traj = .ok evs) :
    ∃ storage, multistageStorage N ram disk traj = some storage ∧
      storage.length = min (ram + disk) (N - 1) ∧ (∀ x ∈ storage, x.isStore = true) ∧
      storage.count .ram ≤ ram ∧ storage.count .disk ≤ disk ∧
      labelsOk (fun d => storage.getD d .none) evs 0 = some 0 := by
  simp only [validMultistage, Bool.and_eq_true, Bool.or_eq_true, decide_eq_true_eq] at hv
  obtain ⟨storage, hsto, hst, hlen, hseg⟩ := multistageEvs_ok N ram disk traj hv.1 evs h
  obtain ⟨storage', hsto', _, hr, hd, _⟩ := multistageStorage_spec N ram disk traj hv.1
  rw [hsto] at hsto'
  have := Option.some.inj hsto'
  subst this
  exact ⟨storage, hsto, hlen, hst, hr, hd, multistageSeg_labelsOk N _ _ traj evs hseg⟩

/-- the same for a period block of `TwoLevelCheckpointSchedule`: position 0 is the periodic DISK
checkpoint (kept: the block is entered and left with one position in use), positions `≥ 1` carry `st` -/
theorem twoLevel_block_labelsOk (N b : Nat) (st : Storage) (traj : Traj) (fuel lo hi : Nat)
    (seg : List Ev)
    (h : segWith N (fun m k => nAdvance m k traj) (b + 1) (fun d => if d = 0 then .disk else st) true
      fuel true false lo hi 0 = some seg) :
    labelsOk (fun d => if d = 0 then .disk else st) seg 1 = some 1 := by
  have := segWith_labelsOk N _ (b + 1) _ true fuel true false lo hi 0 seg h (fun _ _ => rfl)
  simpa using this

/-- the heights of `labelsOk` are those of the dry run of `allocate_snapshots` -/
theorem labelsOk_dryRun (alloc : Nat → Storage) (S : Nat) : ∀ (evs : List Ev) (t t' t'' : Nat)
    (w w' : List Nat), labelsOk alloc evs t = some t' → dryRun S evs t w = some (t'', w') → t' = t'' := by
  intro evs
  induction evs with
  | nil =>
    intro t t' t'' w w' h1 h2
    simp only [labelsOk, Option.some.injEq] at h1
    simp only [dryRun, Option.some.injEq, Prod.mk.injEq] at h2
    omega
  | cons e es ih =>
    intro t t' t'' w w' h1 h2
    obtain ⟨a, n, r⟩ := e
    cases a with
    | forward n0 n1 wi wa s =>
      cases wi with
      | true =>
        simp only [labelsOk] at h1
        simp only [dryRun] at h2
        split at h1
        · split at h2
          · cases h2
          · exact ih _ _ _ _ _ h1 h2
        · cases h1
      | false =>
        simp only [labelsOk] at h1
        simp only [dryRun] at h2
        split at h1
        · exact ih _ _ _ _ _ h1 h2
        · cases h1
    | copy n0 src dst =>
      simp only [labelsOk] at h1
      simp only [dryRun] at h2
      split at h1
      · split at h2
        · cases h2
        · exact ih _ _ _ _ _ h1 h2
      · cases h1
    | move n0 src dst =>
      simp only [labelsOk] at h1
      simp only [dryRun] at h2
      split at h1
      · rename_i hs
        split at h2
        · cases h2
        · rw [if_pos hs.2.2] at h2
          exact ih _ _ _ _ _ h1 h2
      · cases h1
    | reverse _ _ _ => exact ih _ _ _ _ _ h1 h2
    | endForward => exact ih _ _ _ _ _ h1 h2
    | endReverse => exact ih _ _ _ _ _ h1 h2

/-- a concrete run: 6 steps, 2 RAM + 1 disk unit; the labelling computed by `__init__` -/
example : multistageStorage 6 2 1 .revolve = some [.disk, .ram, .ram] := by decide

example : (multistageEvs 6 2 1 .revolve).toOption.bind
    (fun evs => labelsOk (fun d => [Storage.disk, .ram, .ram].getD d .none) evs 0) = some 0 := by decide

/-- the checker is not vacuous: with another labelling the same stream is rejected -/
example : (multistageEvs 6 2 1 .revolve).toOption.bind
    (fun evs => labelsOk (fun d => [Storage.ram, .disk, .ram].getD d .none) evs 0) = none := by decide

end Ckpt.GW
