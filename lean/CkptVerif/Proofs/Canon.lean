import CkptVerif.Proofs.Machine
import CkptVerif.Proofs.ExecLemmas
/-!
# The canonical trace of an offline single-adjoint schedule, and what the monitor does with
traces of the canonical shape

The trace recorded by the canonical client is `init, uses, body, [stop, stop, stop,] uses` with a
body of `act` lines and copies of the `uses` line.  `monitor_shape` reduces the monitor's verdict on
such a trace to the executor's verdict on the observations of the body; the offline theorem
`monitor_offline_clean` and the online ones (`OnlineGlue.lean`) are instances.
-/
namespace Ckpt

/-- What a client observes along an offline schedule producing `evs` with `max_n = N`:
`max_n` is known throughout, `is_exhausted` becomes true exactly at the last event. -/
def obsOffline (N : Nat) (evs : List Ev) : List Obs :=
  evs.mapIdx (fun i e => ⟨e.act, e.n, e.r, some N, decide (i + 1 = evs.length), true⟩)

def obsRec (N : Nat) : List Ev → List Obs
  | [] => []
  | e :: rest => ⟨e.act, e.n, e.r, some N, decide (rest = []), true⟩ :: obsRec N rest

theorem obsRec_eq_mapIdx (N : Nat) (evs : List Ev) :
    obsRec N evs =
      evs.mapIdx (fun i e => ⟨e.act, e.n, e.r, some N, decide (i + 1 = evs.length), true⟩) := by
  induction evs with
  | nil => rfl
  | cons e rest ih =>
    rw [obsRec, List.mapIdx_cons, ih]
    congr 1
    · cases rest <;> simp
    · apply congrArg (fun f => List.mapIdx f rest)
      funext i e'
      simp

theorem obsOffline_eq_rec (N : Nat) (evs : List Ev) : obsOffline N evs = obsRec N evs :=
  (obsRec_eq_mapIdx N evs).symm

theorem obsRec_length (N : Nat) (evs : List Ev) : (obsRec N evs).length = evs.length := by
  induction evs with
  | nil => rfl
  | cons e rest ih => simp [obsRec, ih]

theorem obsRec_acts (N : Nat) (evs : List Ev) :
    (obsRec N evs).map (·.act) = evs.map (·.act) := by
  induction evs with
  | nil => rfl
  | cons e rest ih => simp [obsRec, ih]

theorem obsRec_snoc (N : Nat) (evs : List Ev) (e : Ev) :
    obsRec N (evs ++ [e]) = evs.map (Ev.obs · N) ++ [⟨e.act, e.n, e.r, some N, true, true⟩] := by
  induction evs with
  | nil => rfl
  | cons a evs ih =>
    rw [List.cons_append, obsRec, ih]
    simp [Ev.obs]

/-- the `act` lines of the canonical trace, with a `uses` line after the first EndForward -/
def actLines (u : Line) (N : Nat) : List Ev → Bool → List Line
  | [], _ => []
  | e :: rest, usedEF =>
    [Line.act ⟨e.act, e.n, e.r, some N, decide (rest = []), true⟩] ++
      (if (decide (e.act = .endForward) && !usedEF) = true then [u] else []) ++
      actLines u N rest (usedEF || (decide (e.act = .endForward) && !usedEF))

theorem actLines_cons (u : Line) (N : Nat) (e : Ev) (rest : List Ev) (usedEF : Bool) :
    actLines u N (e :: rest) usedEF =
      [Line.act ⟨e.act, e.n, e.r, some N, decide (rest = []), true⟩] ++
      (if (decide (e.act = .endForward) && !usedEF) = true then [u] else []) ++
      actLines u N rest (usedEF || (decide (e.act = .endForward) && !usedEF)) := rfl

/-- the whole canonical trace of an offline schedule ending in `⟨EndReverse, nE, rE⟩` -/
def canonOffline (u : Line) (N : Nat) (evs : List Ev) (nE rE : Nat) : List Line :=
  [Line.init 0 0 (some N) false false, u] ++ actLines u N evs false ++
    [Line.stop nE rE (some N) true true, Line.stop nE rE (some N) true true,
     Line.stop nE rE (some N) true true] ++ [u]

/-- the events still to be produced by the generator in state `m` are `l`, after `d` completed
adjoint calculations -/
def Pending (s : Sched) (N : Nat) (m : MSt) (l : List Ev) (d : Nat) : Prop :=
  (m.phase = .fwd ∧ s.first N = .ok l ∧ d = 0) ∨ m.phase = .run l d

theorem next_pending (s : Sched) (N : Nat) (m : MSt) (e : Ev) (rest : List Ev) (d : Nat)
    (hN : m.maxN = some N) (hp : Pending s N m (e :: rest) d) :
    s.next m = ({ m with started := true, n := e.n, r := e.r,
                         phase := (s.after N e rest d).1, exhausted := (s.after N e rest d).2 },
                .act ⟨e.act, e.n, e.r, some N, (s.after N e rest d).2, true⟩) := by
  rcases hp with ⟨hp, hf, rfl⟩ | hp
  · exact next_fwd_cons s m N e rest hp hN hf
  · rw [next_run_cons s m e rest d hp, hN]; rfl

theorem after_more (s : Sched) (N : Nat) (e : Ev) (l : List Ev) (d : Nat) (hl : l ≠ [])
    (he : e.act ≠ .endReverse) (hnf : s.afterFin e d = false) :
    s.after N e l d = (.run l d, false) := by
  rw [after_eq, hnf, afterDone, if_neg he]
  cases l with
  | nil => exact absurd rfl hl
  | cons _ _ => rfl

theorem afterFin_single (s : Sched) (hs : s.passes = some 1) (e : Ev) (he : e.act ≠ .endReverse) :
    s.afterFin e 0 = false := by
  simp [Sched.afterFin, hs, afterDone, he]

theorem after_single_last (s : Sched) (hs : s.passes = some 1) (N : Nat) (e : Ev)
    (rest : List Ev) (he : e.act = .endReverse) : s.after N e rest 0 = (.stopped, true) := by
  rw [after_eq]
  have : s.afterFin e 0 = true := by simp [Sched.afterFin, hs, afterDone, he]
  rw [this]; rfl

theorem canonLoop_stopped (s : Sched) (Nfin k fuel : Nat) (m : MSt) (seen : Nat) (usedEF : Bool)
    (hp : m.phase = .stopped) (hst : m.started = true) :
    s.canonLoop Nfin k (fuel + 1) m seen usedEF =
      [m.line .stop, m.line .stop, m.line .stop, s.usesLine] := by
  have hm : ({ m with started := true } : MSt) = m := by cases m; cases hst; rfl
  have h1 : s.next m = (m, .stop) := by rw [next_of_stopped s m hp, hm]
  rw [Sched.canonLoop]
  simp only [h1]

theorem canonLoop_act_more (s : Sched) (Nfin k f : Nat) (m : MSt) (seen : Nat) (usedEF : Bool)
    (e : Ev) (N : Nat) (ph : Phase) (he : e.act ≠ .endReverse)
    (hnext : s.next m = ((⟨e.n, e.r, some N, true, false, ph⟩ : MSt),
      .act ⟨e.act, e.n, e.r, some N, false, true⟩)) :
    s.canonLoop Nfin k (f + 1) m seen usedEF =
      [Line.act ⟨e.act, e.n, e.r, some N, false, true⟩] ++
      (if (decide (e.act = .endForward) && !usedEF) = true then [s.usesLine] else []) ++
      s.canonLoop Nfin k f (⟨e.n, e.r, some N, true, false, ph⟩ : MSt) seen
        (usedEF || (decide (e.act = .endForward) && !usedEF)) := by
  rw [Sched.canonLoop]
  simp only [hnext]
  simp [he]

theorem canonLoop_act_last (s : Sched) (Nfin k f : Nat) (m : MSt) (seen : Nat) (usedEF : Bool)
    (nE rE : Nat) (N : Nat)
    (hnext : s.next m = ((⟨nE, rE, some N, true, true, .stopped⟩ : MSt),
      .act ⟨.endReverse, nE, rE, some N, true, true⟩)) :
    s.canonLoop Nfin k (f + 2) m seen usedEF =
      [Line.act ⟨.endReverse, nE, rE, some N, true, true⟩,
       Line.stop nE rE (some N) true true, Line.stop nE rE (some N) true true,
       Line.stop nE rE (some N) true true, s.usesLine] := by
  rw [Sched.canonLoop]
  simp only [hnext]
  simp
  rw [canonLoop_stopped s Nfin k f _ _ _ rfl rfl]
  rfl

/-- **The canonical loop over events that are not the last of their adjoint calculation**
(`pre`, followed by `e' :: rest`): one `act` line each, a `uses` line after the first EndForward.
`ls` is that list of lines; it is the corresponding prefix of `actLines`, and once the `uses` line
has been recorded it consists of the `act` lines alone. -/
theorem canonLoop_prefix (s : Sched) (N Nfin k : Nat) (e' : Ev) (rest : List Ev) (d seen : Nat) :
    ∀ (pre : List Ev) (g : Nat) (m : MSt) (used : Bool),
      (∀ e ∈ pre, e.act ≠ .endReverse ∧ s.afterFin e d = false) → m.maxN = some N →
      Pending s N m (pre ++ e' :: rest) d →
      ∃ (ls : List Line) (used' : Bool) (m' : MSt),
        s.canonLoop Nfin k (pre.length + g) m seen used = ls ++ s.canonLoop Nfin k g m' seen used' ∧
        actLines s.usesLine N (pre ++ e' :: rest) used =
          ls ++ actLines s.usesLine N (e' :: rest) used' ∧
        (used = true → ls = pre.map (fun e => Line.act (Ev.obs e N)) ∧ used' = true) ∧
        m'.maxN = some N ∧ Pending s N m' (e' :: rest) d := by
  intro pre
  induction pre with
  | nil =>
    intro g m used _ hN hp
    exact ⟨[], used, m, by rw [List.length_nil, Nat.zero_add]; rfl, rfl, fun h => ⟨rfl, h⟩, hN, hp⟩
  | cons e pre ih =>
    intro g m used h hN hp
    obtain ⟨he, hnf⟩ := h e List.mem_cons_self
    have hl : pre ++ e' :: rest ≠ [] := List.append_ne_nil_of_right_ne_nil _ (List.cons_ne_nil _ _)
    have hnext := next_pending s N m e (pre ++ e' :: rest) d hN hp
    rw [after_more s N e _ d hl he hnf, hN] at hnext
    obtain ⟨X, used', m', h1, h2, h3, h4, h5⟩ :=
      ih g (⟨e.n, e.r, some N, true, false, .run (pre ++ e' :: rest) d⟩ : MSt)
        (used || (decide (e.act = .endForward) && !used))
        (fun x hx => h x (List.mem_cons_of_mem _ hx)) rfl (.inr rfl)
    refine ⟨[Line.act (Ev.obs e N)] ++
      (if (decide (e.act = .endForward) && !used) = true then [s.usesLine] else []) ++ X,
      used', m', ?_, ?_, ?_, h4, h5⟩
    · rw [show (e :: pre).length + g = (pre.length + g) + 1 by rw [List.length_cons]; omega,
        canonLoop_act_more s Nfin k _ m seen used e N _ he hnext, h1]
      simp only [List.append_assoc, Ev.obs]
    · rw [List.cons_append, actLines_cons, h2, decide_eq_false hl]
      simp only [List.append_assoc, Ev.obs]
    · rintro rfl
      obtain ⟨hX, hu⟩ := h3 rfl
      exact ⟨by rw [hX]; simp, hu⟩

theorem canonLoop_offline (s : Sched) (hs : s.passes = some 1) (N Nfin k nE rE : Nat)
    (todo : List Ev) (fuel : Nat) (m : MSt) (seen : Nat) (usedEF : Bool)
    (hne : ∀ e ∈ todo, e.act ≠ .endReverse) (hfuel : todo.length + 2 ≤ fuel)
    (hN : m.maxN = some N) (hp : Pending s N m (todo ++ [⟨.endReverse, nE, rE⟩]) 0) :
    s.canonLoop Nfin k fuel m seen usedEF =
      actLines s.usesLine N (todo ++ [⟨.endReverse, nE, rE⟩]) usedEF ++
        [Line.stop nE rE (some N) true true, Line.stop nE rE (some N) true true,
         Line.stop nE rE (some N) true true, s.usesLine] := by
  obtain ⟨f, rfl⟩ : ∃ f, fuel = todo.length + (f + 2) := ⟨fuel - (todo.length + 2), by omega⟩
  obtain ⟨X, used', m', h1, h2, -, hN', hp'⟩ := canonLoop_prefix s N Nfin k ⟨.endReverse, nE, rE⟩ []
    0 seen todo (f + 2) m usedEF (fun e he => ⟨hne e he, afterFin_single s hs e (hne e he)⟩) hN hp
  have hnext := next_pending s N m' _ [] 0 hN' hp'
  rw [after_single_last s hs N _ [] rfl, hN'] at hnext
  rw [h1, h2, canonLoop_act_last s Nfin k f m' seen used' nE rE N hnext]
  simp [actLines]

/-- **The canonical trace of an offline single-adjoint schedule**: init line, `uses` line, the
`act` lines in order (a `uses` line after the first EndForward), three `stop` lines, `uses` line.
Neither `Nfin` nor `k` matter. -/
theorem canon_offline (N Nfin k fuel : Nat) (pre : List Ev) (nE rE : Nat)
    (uses : Storage → Option Bool) (hpre : ∀ e ∈ pre, e.act ≠ .endReverse)
    (hfuel : (pre ++ [(⟨.endReverse, nE, rE⟩ : Ev)]).length + 1 ≤ fuel) :
    (offlineSched N (.ok (pre ++ [⟨.endReverse, nE, rE⟩])) uses).canon Nfin k fuel =
      canonOffline (offlineSched N (.ok (pre ++ [⟨.endReverse, nE, rE⟩])) uses).usesLine N
        (pre ++ [⟨.endReverse, nE, rE⟩]) nE rE := by
  simp only [Sched.canon, canonOffline]
  rw [canonLoop_offline _ rfl N Nfin k nE rE pre fuel _ 0 false hpre
    (by simp at hfuel ⊢; omega) rfl (.inl ⟨rfl, rfl, rfl⟩)]
  simp [MSt.line, Sched.init, offlineSched]

def actsOf (ls : List Line) : List Obs :=
  ls.filterMap (fun l => match l with | .act o => some o | _ => none)

def ActUses (u : Line) (ls : List Line) : Prop := ∀ l ∈ ls, l = u ∨ ∃ o, l = Line.act o

theorem actsOf_append (a b : List Line) : actsOf (a ++ b) = actsOf a ++ actsOf b :=
  List.filterMap_append

theorem actsOf_map_act (os : List Obs) : actsOf (os.map Line.act) = os := by
  induction os with
  | nil => rfl
  | cons o os ih => simp only [List.map_cons, actsOf, List.filterMap_cons] at ih ⊢; rw [ih]

theorem actsOf_uses (a b c d : Option Bool) : actsOf [Line.uses a b c d] = [] := rfl

theorem ActUses.append {u : Line} {a b : List Line} (ha : ActUses u a) (hb : ActUses u b) :
    ActUses u (a ++ b) := by
  intro l hl
  rcases List.mem_append.mp hl with h | h
  · exact ha l h
  · exact hb l h

theorem ActUses.map_act (u : Line) (os : List Obs) : ActUses u (os.map Line.act) := by
  intro l hl
  obtain ⟨o, _, rfl⟩ := List.mem_map.mp hl
  exact .inr ⟨o, rfl⟩

theorem ActUses.single (u : Line) : ActUses u [u] := by
  intro l hl; exact .inl (List.mem_singleton.mp hl)

theorem foldl_monStep_actUses (cfg : Cfg) (a b c d : Option Bool) :
    ∀ (ls : List Line) (x : XS) (i : Nat) (V : List (Nat × Viol)),
      ActUses (.uses a b c d) ls →
      ls.foldl (monStep cfg) ⟨x, i, false, V⟩ =
        ⟨(runFrom cfg i x (actsOf ls)).1, i + (actsOf ls).length, false,
          V ++ (runFrom cfg i x (actsOf ls)).2⟩ := by
  intro ls
  induction ls with
  | nil => intro x i V _; simp [actsOf, runFrom]
  | cons l ls ih =>
    intro x i V h
    have hls : ActUses (.uses a b c d) ls := fun y hy => h y (List.mem_cons_of_mem _ hy)
    rcases h l List.mem_cons_self with rfl | ⟨o, rfl⟩
    · exact ih x i V hls
    · rw [List.foldl_cons]
      simp only [monStep]
      rw [ih _ _ _ hls, show actsOf (Line.act o :: ls) = o :: actsOf ls from rfl]
      simp only [runFrom, List.length_cons]
      simp [chk, Nat.add_assoc, Nat.add_comm 1]

def c11Step (tr td : Bool) (acc : List (Nat × Viol)) : Line → List (Nat × Viol)
  | .uses a b c d =>
    acc ++ (chk (a.isSome && b.isSome && c.isSome && d.isSome) .C11 1 ++
            chk (!tr || a == some true) .C11 2 ++
            chk (!td || b == some true) .C11 3).map (fun v => (0, v))
  | _ => acc

def lineActs (ls : List Line) : List Action :=
  ls.filterMap (fun l => match l with | .act o => some o.act | _ => none)

theorem lineActs_eq (ls : List Line) : lineActs ls = (actsOf ls).map (·.act) := by
  unfold lineActs actsOf
  rw [List.map_filterMap]
  congr 1
  funext l
  cases l <;> rfl

theorem c11Viols_eq (ls : List Line) :
    c11Viols ls = ls.foldl (c11Step ((lineActs ls).any (touches .ram))
      ((lineActs ls).any (touches .disk))) [] := by
  unfold c11Viols lineActs
  simp only
  congr 1

/-- C11 holds as soon as every `uses` line of the trace answers correctly. -/
theorem c11Viols_nil (ls : List Line)
    (h : ∀ a b c d, Line.uses a b c d ∈ ls →
      a.isSome = true ∧ b.isSome = true ∧ c.isSome = true ∧ d.isSome = true ∧
      ((∃ o ∈ actsOf ls, touches .ram o.act = true) → a = some true) ∧
      ((∃ o ∈ actsOf ls, touches .disk o.act = true) → b = some true)) :
    c11Viols ls = [] := by
  have hany : ∀ st, ((actsOf ls).map (·.act)).any (touches st) = true →
      ∃ o ∈ actsOf ls, touches st o.act = true := by
    intro st hst
    obtain ⟨x, hx, ht⟩ := List.any_eq_true.mp hst
    obtain ⟨o, ho, rfl⟩ := List.mem_map.mp hx
    exact ⟨o, ho, ht⟩
  have hr := hany .ram
  have hd := hany .disk
  rw [c11Viols_eq, lineActs_eq]
  generalize ((actsOf ls).map (·.act)).any (touches .ram) = tr at hr ⊢
  generalize ((actsOf ls).map (·.act)).any (touches .disk) = td at hd ⊢
  have hstep : ∀ l ∈ ls, c11Step tr td [] l = [] := by
    intro l hl
    cases l with
    | uses a b c d =>
      obtain ⟨ha, hb, hc, hd', hr', hdk⟩ := h a b c d hl
      have e1 : chk (a.isSome && b.isSome && c.isSome && d.isSome) .C11 1 = [] := by
        rw [ha, hb, hc, hd']; rfl
      have e2 : chk (!tr || a == some true) .C11 2 = [] := by
        cases tr with
        | false => rfl
        | true => rw [hr' (hr rfl)]; rfl
      have e3 : chk (!td || b == some true) .C11 3 = [] := by
        cases td with
        | false => rfl
        | true => rw [hdk (hd rfl)]; rfl
      simp only [c11Step, e1, e2, e3, List.append_nil, List.map_nil]
    | _ => rfl
  clear h hany hr hd
  induction ls with
  | nil => rfl
  | cons l ls ih =>
    rw [List.foldl_cons, hstep l List.mem_cons_self]
    exact ih (fun y hy => hstep y (List.mem_cons_of_mem _ hy))

/-- **Generic monitor lemma.**  A trace `init, uses, body, [stop, stop, stop,] uses` whose body
consists of act lines and copies of the `uses` line is accepted as soon as the observations of the
body are `Clean` from `XS.init cfg` to a state `xf` satisfying the end condition, and the `uses`
line satisfies C11 w.r.t. the observed actions. -/
theorem monitor_shape (cfg : Cfg) (k : Nat) (ua ub uc ud : Option Bool) (body : List Line)
    (stops : List Line) (xf : XS)
    (hbody : ActUses (.uses ua ub uc ud) body)
    (hclean : Clean cfg (XS.init cfg) (actsOf body) xf)
    (hstops : stops = [] ∨ (finished cfg xf = true ∧
      ∃ n r mN, stops = [Line.stop n r mN true true, Line.stop n r mN true true,
        Line.stop n r mN true true]))
    (hend : endViols cfg k xf = [])
    (hsome : ua.isSome = true ∧ ub.isSome = true ∧ uc.isSome = true ∧ ud.isSome = true)
    (hram : (∃ o ∈ actsOf body, touches .ram o.act = true) → ua = some true)
    (hdisk : (∃ o ∈ actsOf body, touches .disk o.act = true) → ub = some true) :
    monitor cfg k ([Line.init 0 0 (if cfg.online then none else some cfg.N) false false,
      Line.uses ua ub uc ud] ++ body ++ stops ++ [Line.uses ua ub uc ud]) = [] := by
  have hfold : ([Line.init 0 0 (if cfg.online then none else some cfg.N) false false,
      Line.uses ua ub uc ud] ++ body ++ stops ++ [Line.uses ua ub uc ud]).foldl (monStep cfg)
        { x := XS.init cfg, idx := 0, stopped := false, viols := [] } =
      ⟨xf, (actsOf body).length, decide (stops ≠ []), []⟩ := by
    rw [List.foldl_append, List.foldl_append, List.foldl_append]
    have h0 : [Line.init 0 0 (if cfg.online then none else some cfg.N) false false,
        Line.uses ua ub uc ud].foldl (monStep cfg)
        { x := XS.init cfg, idx := 0, stopped := false, viols := [] } =
        { x := XS.init cfg, idx := 0, stopped := false, viols := [] } := by
      simp [monStep, chk]
    rw [h0, foldl_monStep_actUses cfg ua ub uc ud body _ _ _ hbody, hclean 0]
    rcases hstops with rfl | ⟨hfin, n, r, mN, rfl⟩
    · simp [monStep]
    · simp [monStep, hfin, chk]
  have hc11 : c11Viols ([Line.init 0 0 (if cfg.online then none else some cfg.N) false false,
      Line.uses ua ub uc ud] ++ body ++ stops ++ [Line.uses ua ub uc ud]) = [] := by
    have hacts : actsOf ([Line.init 0 0 (if cfg.online then none else some cfg.N) false false,
        Line.uses ua ub uc ud] ++ body ++ stops ++ [Line.uses ua ub uc ud]) = actsOf body := by
      rw [actsOf_append, actsOf_append, actsOf_append]
      have : actsOf stops = [] := by
        rcases hstops with rfl | ⟨_, n, r, mN, rfl⟩ <;> rfl
      rw [this]
      simp [actsOf]
    apply c11Viols_nil
    intro a b c d hmem
    rw [hacts]
    have huses : Line.uses a b c d = Line.uses ua ub uc ud := by
      simp only [List.mem_append, List.mem_cons, List.not_mem_nil, or_false] at hmem
      rcases hmem with (((h | h) | h) | h) | h
      · cases h
      · exact h
      · rcases hbody _ h with h' | ⟨o, h'⟩
        · exact h'
        · cases h'
      · rcases hstops with rfl | ⟨_, n, r, mN, rfl⟩
        · cases h
        · simp at h
      · exact h
    cases huses
    exact ⟨hsome.1, hsome.2.1, hsome.2.2.1, hsome.2.2.2, hram, hdisk⟩
  unfold monitor
  simp only [hfold, hc11, hend]
  rfl

theorem mem_actLines (u : Line) (N : Nat) (l : Line) : ∀ (evs : List Ev) (usedEF : Bool),
    l ∈ actLines u N evs usedEF → l = u ∨ ∃ o, l = .act o := by
  intro evs
  induction evs with
  | nil => intro usedEF h; cases h
  | cons e rest ih =>
    intro usedEF h
    rw [actLines_cons, List.mem_append, List.mem_append] at h
    rcases h with (h | h) | h
    · exact .inr ⟨_, List.mem_singleton.mp h⟩
    · split at h
      · exact .inl (List.mem_singleton.mp h)
      · cases h
    · exact ih _ h

theorem actsOf_actLines (a b c d : Option Bool) (N : Nat) : ∀ (evs : List Ev) (usedEF : Bool),
    actsOf (actLines (.uses a b c d) N evs usedEF) = obsRec N evs := by
  intro evs
  induction evs with
  | nil => intro _; rfl
  | cons e rest ih =>
    intro usedEF
    rw [actLines_cons, actsOf_append, actsOf_append, ih, obsRec]
    have : actsOf (if (decide (e.act = .endForward) && !usedEF) = true
        then [Line.uses a b c d] else []) = [] := by
      split <;> rfl
    rw [this]
    rfl

theorem finished_of_done (cfg : Cfg) (hpass : cfg.passes = some 1) (x : XS) (h : 1 ≤ x.done) :
    finished cfg x = true := by
  unfold finished; rw [hpass]; exact decide_eq_true h

theorem runFrom_snoc (cfg : Cfg) (i : Nat) (x : XS) (os : List Obs) (o : Obs) :
    runFrom cfg i x (os ++ [o]) =
      (nextState cfg (runFrom cfg i x os).1 o.act,
        (runFrom cfg i x os).2 ++
          (stepViols cfg (runFrom cfg i x os).1 o).map (fun v => (i + os.length, v))) := by
  rw [run_append]
  simp [runFrom, step]

/-- the start index only labels the violations -/
theorem runFrom_index (cfg : Cfg) (os : List Obs) : ∀ (x : XS) (i j : Nat),
    (runFrom cfg i x os).1 = (runFrom cfg j x os).1 ∧
    ((runFrom cfg i x os).2 = [] → (runFrom cfg j x os).2 = []) := by
  induction os with
  | nil => intro x i j; exact ⟨rfl, fun _ => rfl⟩
  | cons o os ih =>
    intro x i j
    obtain ⟨h1, h2⟩ := ih (step cfg x o).1 (i + 1) (j + 1)
    simp only [runFrom, List.append_eq_nil_iff, List.map_eq_nil_iff]
    exact ⟨h1, fun h => ⟨h.1, h2 h.2⟩⟩

theorem clean_of_runFrom (cfg : Cfg) (x : XS) (os : List Obs)
    (h : (runFrom cfg 0 x os).2 = []) : Clean cfg x os (runFrom cfg 0 x os).1 := by
  intro i
  obtain ⟨h1, h2⟩ := runFrom_index cfg os x 0 i
  exact Prod.ext h1.symm (h2 h)

/-- **Main theorem** (the form all glue theorems go through). If the executor accepts the decorated stream of an offline
single-adjoint schedule and `uses_storage_type` answers correctly, the monitor accepts the
canonical trace.  `Nfin`, `k` are arbitrary, the fuel bound is `evs.length + 1`, and
`ended = true` is not needed (it is implied by the acceptance of the final EndReverse). -/
theorem monitor_offline_clean_gen (cfg : Cfg) (N Nfin k fuel : Nat) (pre : List Ev) (nE rE : Nat)
    (uses : Storage → Option Bool)
    (hN : cfg.N = N) (hon : cfg.online = false) (hpass : cfg.passes = some 1)
    (hfuel : (pre ++ [(⟨.endReverse, nE, rE⟩ : Ev)]).length + 1 ≤ fuel)
    (hpre : ∀ e ∈ pre, e.act ≠ .endReverse)
    (hrun : (run cfg (obsOffline N (pre ++ [⟨.endReverse, nE, rE⟩]))).2 = [])
    (huses : ∀ st, (uses st).isSome = true)
    (hram : (∃ e ∈ pre ++ [(⟨.endReverse, nE, rE⟩ : Ev)], touches .ram e.act = true) →
      uses .ram = some true)
    (hdisk : (∃ e ∈ pre ++ [(⟨.endReverse, nE, rE⟩ : Ev)], touches .disk e.act = true) →
      uses .disk = some true) :
    monitor cfg k
      ((offlineSched N (.ok (pre ++ [⟨.endReverse, nE, rE⟩])) uses).canon Nfin k fuel) = [] := by
  rw [canon_offline N Nfin k fuel pre nE rE uses hpre hfuel]
  have hacts := fun s : Sched => actsOf_actLines (s.uses .ram) (s.uses .disk) (s.uses .work)
    (s.uses .none) N (pre ++ [⟨.endReverse, nE, rE⟩]) false
  -- the executor ends in a finished state: the last action is the EndReverse
  have hfin : finished cfg (run cfg (obsOffline N (pre ++ [⟨.endReverse, nE, rE⟩]))).1 = true := by
    apply finished_of_done cfg hpass
    rw [obsOffline_eq_rec, obsRec_snoc, run, runFrom_snoc]
    exact Nat.le_add_left 1 _
  have hmem : ∀ st, (∃ o ∈ obsRec N (pre ++ [⟨.endReverse, nE, rE⟩]), touches st o.act = true) →
      ∃ e ∈ pre ++ [(⟨.endReverse, nE, rE⟩ : Ev)], touches st e.act = true := by
    rintro st ⟨o, ho, ht⟩
    have : o.act ∈ (obsRec N (pre ++ [⟨.endReverse, nE, rE⟩])).map (·.act) :=
      List.mem_map.mpr ⟨o, ho, rfl⟩
    rw [obsRec_acts] at this
    obtain ⟨e, he, hea⟩ := List.mem_map.mp this
    exact ⟨e, he, by rw [hea]; exact ht⟩
  have hinit : some N = if cfg.online then none else some cfg.N := by rw [hon, hN]; rfl
  unfold canonOffline
  rw [hinit]
  apply monitor_shape cfg k _ _ _ _ _ _ _ (fun l hl => mem_actLines _ N l _ _ hl)
  · rw [hacts, ← obsOffline_eq_rec]; exact clean_of_runFrom cfg _ _ hrun
  · exact .inr ⟨hfin, _, _, _, rfl⟩
  · unfold endViols; rw [hpass]; exact if_pos hfin
  · exact ⟨huses _, huses _, huses _, huses _⟩
  · rw [hacts]; exact fun h => hram (hmem _ h)
  · rw [hacts]; exact fun h => hdisk (hmem _ h)

/-- the instance `Nfin = N` of `monitor_offline_clean_gen`, with the hypotheses as first stated: `_hk`
and `_hended` are not used, and a fuel of `evs.length + 1` would do. -/
theorem monitor_offline_clean (cfg : Cfg) (N k fuel : Nat) (pre : List Ev) (nE rE : Nat)
    (uses : Storage → Option Bool)
    (hN : cfg.N = N) (hon : cfg.online = false) (hpass : cfg.passes = some 1) (_hk : 1 ≤ k)
    (hfuel : (pre ++ [(⟨.endReverse, nE, rE⟩ : Ev)]).length + 4 ≤ fuel)
    (hpre : ∀ e ∈ pre, e.act ≠ .endReverse)
    (hrun : (run cfg (obsOffline N (pre ++ [⟨.endReverse, nE, rE⟩]))).2 = [])
    (_hended : (run cfg (obsOffline N (pre ++ [⟨.endReverse, nE, rE⟩]))).1.ended = true)
    (huses : ∀ st, (uses st).isSome = true)
    (hram : (∃ e ∈ pre ++ [(⟨.endReverse, nE, rE⟩ : Ev)], touches .ram e.act = true) →
      uses .ram = some true)
    (hdisk : (∃ e ∈ pre ++ [(⟨.endReverse, nE, rE⟩ : Ev)], touches .disk e.act = true) →
      uses .disk = some true) :
    monitor cfg k
      ((offlineSched N (.ok (pre ++ [⟨.endReverse, nE, rE⟩])) uses).canon N k fuel) = [] :=
  monitor_offline_clean_gen cfg N N k fuel pre nE rE uses hN hon hpass (by omega) hpre hrun
    huses hram hdisk

/-- the hypothesis `ended = true` of `monitor_offline_clean` is implied by the others: the final
`EndReverse` is only accepted after an `EndForward` (C02.7) -/
theorem run_ended_of_clean (cfg : Cfg) (N : Nat) (pre : List Ev) (nE rE : Nat)
    (hrun : (run cfg (obsOffline N (pre ++ [⟨.endReverse, nE, rE⟩]))).2 = []) :
    (run cfg (obsOffline N (pre ++ [⟨.endReverse, nE, rE⟩]))).1.ended = true := by
  rw [obsOffline_eq_rec, obsRec_snoc, run, runFrom_snoc] at hrun ⊢
  generalize (runFrom cfg 0 (XS.init cfg) (pre.map (Ev.obs · N))).1 = y at hrun ⊢
  simp only [List.append_eq_nil_iff, List.map_eq_nil_iff, stepViols, actViols] at hrun
  have h3 : chk y.ended .C02 7 = [] := hrun.2.1.2.1.1
  show y.ended = true
  cases hy : y.ended with
  | true => rfl
  | false => rw [hy] at h3; cases h3

/-! ## Non-vacuity: a two-step schedule with one RAM checkpoint -/

section Example
def exCfg : Cfg := { N := 2, ram := some 1, disk := some 0, passes := some 1, keepsAllDeps := false, online := false }
def exPre : List Ev :=
  [⟨.forward 0 1 true false .ram, 1, 0⟩, ⟨.forward 1 2 false true .work, 2, 0⟩, ⟨.endForward, 2, 0⟩,
   ⟨.reverse 2 1 true, 2, 1⟩, ⟨.move 0 .ram .work, 0, 1⟩, ⟨.forward 0 1 false true .work, 1, 1⟩,
   ⟨.reverse 1 0 true, 1, 2⟩]
def exUses : Storage → Option Bool
  | .ram => some true | .work => some true | _ => some false

example : monitor exCfg 1
    ((offlineSched 2 (.ok (exPre ++ [⟨.endReverse, 1, 2⟩])) exUses).canon 2 1 12) = [] :=
  monitor_offline_clean exCfg 2 1 12 exPre 1 2 exUses rfl rfl rfl (by decide) (by decide)
    (by decide) (by decide) (by decide) (by intro st; cases st <;> rfl) (fun _ => rfl)
    (fun h => absurd h (by decide))
end Example

end Ckpt

section AxiomCheck
open Ckpt
#print axioms obsRec_eq_mapIdx
#print axioms canon_offline
#print axioms monitor_shape
#print axioms monitor_offline_clean_gen
#print axioms monitor_offline_clean
#print axioms run_ended_of_clean
end AxiomCheck
