import CkptVerif.Proofs.OpsDisk
import CkptVerif.Proofs.RevolveOk
import CkptVerif.Proofs.Opt0
import CkptVerif.Proofs.Period
/-!
# Refinement for PeriodicDiskRevolve

Python builds the table `get_opt_0_table(mx + 1, cm, …)`; the stream model `periodicEvs` uses the
larger table `opt0Table (max (N-1) (mx+1)) …`.  Both agree on the entries that are read
(`opt0Table_agree`), hence give the same splits on segments of at most `mx + 1` steps.
-/
namespace Ckpt.Ops

/-- two tables agreeing on the entries `k ≤ cm`, `l ≤ L` give the same splits for segments of
`m ≤ L + 2` steps -/
theorem revolveSplit_agree (t1 t2 : Array (Array Nat)) (uf cm L : Nat)
    (h : ∀ k l, k ≤ cm → l ≤ L → opt0Get t1 k l = opt0Get t2 k l) (m k : Nat) (hm : m ≤ L + 2)
    (hk : k ≤ cm) : revolveSplit t1 uf m k = revolveSplit t2 uf m k := by
  unfold revolveSplit
  dsimp only
  by_cases hk0 : k = 0
  · rw [if_pos hk0, if_pos hk0]
  rw [if_neg hk0, if_neg hk0]
  by_cases h1 : m - 1 = 1 ∨ k = 1
  · rw [if_pos h1, if_pos h1]
  rw [if_neg h1, if_neg h1]
  congr 2
  apply List.map_congr_left
  intro j hj
  rw [List.mem_range'_1] at hj
  rw [h (k - 1) (m - 1 - j) (by omega) (by omega), h k (j - 1) hk (by omega)]

theorem revSeg_agree (N : Nat) (t1 t2 : Array (Array Nat)) (uf cm L : Nat)
    (h : ∀ k l, k ≤ cm → l ≤ L → opt0Get t1 k l = opt0Get t2 k l) (spine : Bool) (lo hi : Nat)
    (hlt : lo < hi) (hM : hi - lo ≤ L + 2) :
    revSeg N t1 uf cm spine lo hi = revSeg N t2 uf cm spine lo hi := by
  unfold revSeg
  apply segWith_congr N _ _ cm _ false (L + 2)
    (fun m k hm hk => revolveSplit_agree t1 t2 uf cm L h m k hm hk)
  · intro m k a hm hσ
    by_cases hk : k = 0
    · subst hk; simp [revolveSplit] at hσ
    · obtain ⟨a', ha', h1, h2⟩ := revolveSplit_range t2 uf m k hm (by omega)
      rw [ha'] at hσ; cases hσ; exact ⟨h1, h2⟩
  · exact hlt
  · exact hM

/-- the snapshots of the periodic DISK checkpoints at `0, mx, …, (q-1)·mx`, most recent first -/
def diskSnaps (mx : Nat) : Nat → List (Option Storage × Nat)
  | 0 => []
  | q + 1 => (some .disk, q * mx) :: diskSnaps mx q

theorem diskSnaps_ok (mx : Nat) (hmx : 1 ≤ mx) : ∀ q, SnapOk (q * mx) (diskSnaps mx q)
  | 0 => by intro k hk; cases hk
  | q + 1 => by
    have := diskSnaps_ok mx hmx q
    rw [Nat.succ_mul]
    exact this.cons (by omega) _

/-- a `Conv` whose first part may be empty -/
theorem Conv.append' {N : Nat} {wrap : Option Op} {pos : Nat} {prev : Option Op}
    {xs ys tail : List Op} {n r n1 r1 n2 r2 : Nat} {S S1 S2 : List (Option Storage × Nat)}
    {e1 e2 : List Ev}
    (h1 : Conv N wrap pos prev xs (ys ++ tail) n r S e1 n1 r1 S1)
    (h2 : ∀ pos' prev', Conv N wrap pos' prev' ys tail n1 r1 S1 e2 n2 r2 S2) :
    Conv N wrap pos prev (xs ++ ys) tail n r S (e1 ++ e2) n2 r2 S2 := by
  intro s hn hr hS
  obtain ⟨s1, a1, a2, a3, a4, a5⟩ := h1 s hn hr hS
  obtain ⟨s2, b1, b2, b3, b4, b5⟩ := h2 _ _ s1 a3 a4 a5
  refine ⟨s2, ?_, ?_, b3, b4, b5⟩
  · rw [convL_append, a1]; exact b1
  · rw [b2, a2, List.append_assoc]

/-- the initial sweep: `Write_disk c; Forward [c, c+mx]` while more than `mx` steps remain -/
theorem sweep_conv (N mx : Nat) (hmx : 1 ≤ mx) :
    ∀ (fuel q : Nat), N - 1 - q * mx + 1 ≤ fuel → q * mx < N →
      ∃ q', (periodicSweepOps (N - 1) mx fuel (q * mx)).2 = q' * mx ∧
        (periodicSweep (N - 1) mx fuel (q * mx)).2 = q' * mx ∧ q' * mx < N ∧
        N - 1 - q' * mx ≤ mx ∧
        OpsWf (periodicSweepOps (N - 1) mx fuel (q * mx)).1 ∧
        ∀ pos prev tail wrap, Conv N wrap pos prev (periodicSweepOps (N - 1) mx fuel (q * mx)).1 tail
          (q * mx) 0 (diskSnaps mx q) (periodicSweep (N - 1) mx fuel (q * mx)).1 (q' * mx) 0
          (diskSnaps mx q') := by
  intro fuel
  induction fuel with
  | zero => intro q h; omega
  | succ fuel ih =>
    intro q hfuel hq
    unfold periodicSweepOps periodicSweep
    by_cases hc : N - 1 - q * mx > mx
    · rw [if_pos hc, if_pos hc]
      obtain ⟨q', h1, h2, h3, h4, h6, h7⟩ := ih (q + 1) (by rw [Nat.succ_mul]; omega)
        (by rw [Nat.succ_mul]; omega)
      rw [Nat.succ_mul] at h1 h2 h6 h7
      rcases hps : periodicSweepOps (N - 1) mx fuel (q * mx + mx) with ⟨restO, c1⟩
      rcases hpe : periodicSweep (N - 1) mx fuel (q * mx + mx) with ⟨restE, c2⟩
      rw [hps] at h1 h6 h7
      rw [hpe] at h2 h7
      dsimp only at h1 h2 h6 h7 ⊢
      refine ⟨q', h1, h2, h3, h4, ?_, ?_⟩
      · intro o ho
        rcases List.mem_cons.1 ho with rfl | ho
        · exact ⟨_, convAct_wd _⟩
        rcases List.mem_cons.1 ho with rfl | ho
        · exact ⟨_, convAct_fwd _ _ (by omega)⟩
        · exact h6 o ho
      · intro pos prev tail wrap
        exact Conv.write_prefix (Op.wd (q * mx)) _ .disk (q * mx) mx 0 (convAct_wd _) rfl rfl rfl hmx
          (by omega) (snap_key _ _ (diskSnaps_ok mx hmx q) _) (fun _ _ => h7 _ _ _ _) pos prev
    · rw [if_neg hc, if_neg hc]
      refine ⟨q, rfl, rfl, hq, by omega, (show OpsWf [] from by intro o ho; cases ho), ?_⟩
      intro pos prev tail wrap
      exact Conv.nil _ _ _ _ _ _ _ _

/-- everything in the blocks below `q·mx` concerns steps `< q·mx` -/
theorem blocks_conv (N : Nat) (t : Array (Array Nat)) (uf cm mx : Nat) (hmx : 1 ≤ mx)
    (hcm : 1 ≤ cm) :
    ∀ (q : Nat), q * mx < N →
      ∃ ops evs, periodicBlockOps t uf cm mx q = some ops ∧
        periodicBlocks N t uf cm mx q = some evs ∧ TailOk (q * mx) ops ∧ OpsWf ops ∧
        ∀ pos prev n0 wrap, Conv N wrap pos prev ops [] n0 (N - q * mx) (diskSnaps mx q) evs
          (if q = 0 then n0 else 1) N [] := by
  intro q
  induction q with
  | zero =>
    intro _
    refine ⟨[], [], rfl, rfl, (show TailOk _ [] from by intro o ho; cases ho),
      (show OpsWf [] from by intro o ho; cases ho), ?_⟩
    intro pos prev n0 wrap
    rw [Nat.zero_mul, Nat.sub_zero]
    exact Conv.nil _ _ _ _ _ _ _ _
  | succ b ih =>
    intro hq
    rw [Nat.succ_mul] at hq
    obtain ⟨rest, evsR, hrest, hevsR, hkR, hwfR, hconvR⟩ := ih (by omega)
    obtain ⟨blk, hblk, hfB, hneB, hB⟩ := revSeg_block N t uf cm (b * mx) (mx - 1) mx hcm
      (by omega)
    have hhi : b * mx + (mx - 1) + 1 = b * mx + mx := by omega
    rw [hhi] at hfB hB
    have hBargs : (false = true ↔ b * mx + mx = N) := by
      constructor
      · intro h; cases h
      · intro h; omega
    obtain ⟨evsB, hsegB, hconvB⟩ := hB false (by omega) hBargs
    have hshift := shiftOps_revolveOps t uf mx (b * mx) (mx - 1) cm
    rw [hblk] at hshift
    cases hro : revolveOps t uf mx (mx - 1) cm with
    | none => rw [hro] at hshift; cases hshift
    | some blk0 =>
      rw [hro, Option.map_some] at hshift
      injection hshift with hshift
      refine ⟨[Op.rd (b * mx)] ++ blk ++ rest,
        [⟨.move (b * mx) .disk .work, b * mx, N - (b * mx + mx)⟩] ++ evsB ++ evsR, ?_, ?_, ?_, ?_, ?_⟩
      · rw [periodicBlockOps, hro, hrest]
        dsimp only
        rw [hshift]
      · rw [periodicBlocks]
        simp only [hsegB, hevsR]
      · rw [Nat.succ_mul]
        exact (TailOk.of_keys ((facts_rd (b * mx) _ (by omega)).keys.append hfB.keys) (le_refl _)).append
          (hkR.mono (by omega))
      · exact ((facts_rd (b * mx) (b * mx + mx) (by omega)).wf.append hfB.wf).append hwfR
      · intro pos prev n0 wrap
        rw [if_neg (by omega), Nat.succ_mul]
        show Conv N wrap pos prev (Op.rd (b * mx) :: (blk ++ rest)) [] n0 _ _
          (⟨.move (b * mx) .disk .work, b * mx, N - (b * mx + mx)⟩ :: (evsB ++ evsR)) _ _ _
        refine Conv.move_prefix (Op.rd (b * mx)) _ .disk (b * mx) _ (convAct_rd _) rfl rfl rfl
          (snap_key _ _ (diskSnaps_ok mx hmx b) _) ?_ (fun pos' prev' => ?_) pos prev n0
        · rw [List.append_assoc]
          exact lastRd_disk_of_ram (b * mx) _ blk (rest ++ []) hfB (by rw [List.append_nil]; exact hkR)
        refine Conv.append' (n1 := b * mx + 1) (r1 := N - b * mx) (S1 := diskSnaps mx b) ?_ ?_
        · exact hconvB (rest ++ []) wrap (diskSnaps mx b) (by rw [List.append_nil]; exact hkR)
            (diskSnaps_ok mx hmx b) _ _
        · intro pos' prev'
          have := hconvR pos' prev' (b * mx + 1) wrap
          by_cases hb0 : b = 0
          · subst hb0
            simpa using this
          · rw [if_neg hb0] at this
            exact this

theorem periodicBlocks_agree (N : Nat) (t1 t2 : Array (Array Nat)) (uf cm mx L : Nat)
    (hmx : 1 ≤ mx) (hL : mx ≤ L + 2)
    (h : ∀ k l, k ≤ cm → l ≤ L → opt0Get t1 k l = opt0Get t2 k l) :
    ∀ q, periodicBlocks N t1 uf cm mx q = periodicBlocks N t2 uf cm mx q := by
  intro q
  induction q with
  | zero => rfl
  | succ b ih =>
    rw [periodicBlocks, periodicBlocks, ih,
      revSeg_agree N t1 t2 uf cm L h false (b * mx) (b * mx + mx) (by omega) (by omega)]

/-- **Refinement for PeriodicDiskRevolve**: the twin (`periodic_disk_revolve(N-1, cm, …)` converted
by `_iterator`) yields exactly the stream of the recursive model. -/
theorem periodicTwin_eq (N cm : Nat) (c : Costs) (hN : 1 ≤ N) (hcm : 1 ≤ cm) (huf : 0 < c.uf) :
    periodicTwin N cm c = periodicEvs N cm c := by
  obtain ⟨_, hmx⟩ := mxrr_spec cm c.uf (c.wd + c.rd) huf
  generalize hmxv : beta cm _ = mx at hmx
  have hmx1 : 1 ≤ mx := mxrr_pos _ _ _ _ hmx
  obtain ⟨q, h1, h2, h3, h4, hwfS, hsweep⟩ := sweep_conv N mx hmx1 N 0 (by omega) (by omega)
  rw [Nat.zero_mul] at h1 h2 hwfS hsweep
  rcases hps : periodicSweepOps (N - 1) mx N 0 with ⟨sweepO, ct⟩
  rcases hpe : periodicSweep (N - 1) mx N 0 with ⟨sweepE, cur⟩
  rw [hps] at h1 hwfS hsweep
  rw [hpe] at h2 hsweep
  dsimp only at h1 h2 hwfS hsweep
  subst h1 h2
  -- tables
  have hagree : ∀ k l, k ≤ cm → l ≤ mx + 1 →
      opt0Get (opt0Table (mx + 1) cm c.uf c.ub) k l =
        opt0Get (opt0Table (max (N - 1) (mx + 1)) cm c.uf c.ub) k l :=
    fun k l hk hl => opt0Table_agree (mx + 1) (max (N - 1) (mx + 1)) cm c.uf c.ub k l hk hl
      (by omega)
  -- the middle part and the blocks
  obtain ⟨mid, hmidO, hfM, hneM, hM⟩ := revSeg_block N (opt0Table (mx + 1) cm c.uf c.ub) c.uf
    cm (q * mx) (N - 1 - q * mx) (N - 1 - q * mx + 1) hcm (by omega)
  obtain ⟨blocks, evsB, hblkO, hblkE, hkB, hwfB, hconvB⟩ := blocks_conv N
    (opt0Table (mx + 1) cm c.uf c.ub) c.uf cm mx hmx1 hcm q h3
  have hhi : q * mx + (N - 1 - q * mx) + 1 = N := by omega
  rw [hhi] at hM
  obtain ⟨evsM, hsegM, hconvM⟩ := hM true (le_refl _) (by constructor <;> intro _ <;> [rfl; rfl])
  have hdiv : q * mx / mx = q := Nat.mul_div_cancel _ (by omega)
  -- stage 1
  have hshift := shiftOps_revolveOps (opt0Table (mx + 1) cm c.uf c.ub) c.uf (N - 1 - q * mx + 1)
    (q * mx) (N - 1 - q * mx) cm
  rw [hmidO] at hshift
  have htop : periodicOpsTop N cm c = some (sweepO ++ mid ++ blocks) := by
    unfold periodicOpsTop
    rw [hmx]
    dsimp only
    unfold periodicOps
    rw [show N - 1 + 1 = N by omega, hps]
    dsimp only
    cases hro : revolveOps (opt0Table (mx + 1) cm c.uf c.ub) c.uf (N - 1 - q * mx + 1)
        (N - 1 - q * mx) cm with
    | none => rw [hro] at hshift; cases hshift
    | some mid0 =>
      rw [hro, Option.map_some] at hshift
      injection hshift with hshift
      dsimp only
      rw [hdiv, hblkO, hshift]
  -- the model
  have hmodel : periodicEvs N cm c = .ok ((sweepE ++ evsM ++ evsB) ++ [⟨.endReverse, 1, N⟩]) := by
    unfold periodicEvs
    rw [hmx]
    dsimp only
    rw [hpe]
    dsimp only
    rw [← revSeg_agree N _ _ c.uf cm (mx + 1) hagree true (q * mx) N h3 (by omega), hsegM]
    dsimp only
    rw [hdiv, ← periodicBlocks_agree N _ _ c.uf cm mx (mx + 1) hmx1 (by omega) hagree q, hblkE]
  -- stage 2
  have hwf : OpsWf (sweepO ++ mid ++ blocks) := (hwfS.append hfM.wf).append hwfB
  have hconv : Conv N (sweepO ++ mid ++ blocks).getLast? 0 none (sweepO ++ mid ++ blocks) [] 0 0 []
      (sweepE ++ evsM ++ evsB) 1 N [] := by
    rw [List.append_assoc, List.append_assoc]
    refine Conv.append' (n1 := q * mx) (r1 := 0) (S1 := diskSnaps mx q)
      (by have := hsweep 0 none ((mid ++ blocks) ++ []) (sweepO ++ (mid ++ blocks)).getLast?
          simpa [diskSnaps] using this) ?_
    intro pos' prev'
    refine Conv.append' (n1 := q * mx + 1) (r1 := N - q * mx) (S1 := diskSnaps mx q) ?_ ?_
    · exact Conv.congr (hconvM (blocks ++ []) _ (diskSnaps mx q) (by rw [List.append_nil]; exact hkB)
        (diskSnaps_ok mx hmx1 q) _ _) rfl (by omega) rfl rfl rfl
    · intro pos'' prev''
      have := hconvB pos'' prev'' (q * mx + 1) (sweepO ++ (mid ++ blocks)).getLast?
      by_cases hq0 : q = 0
      · subst hq0
        simpa using this
      · rw [if_neg hq0] at this
        exact this
  have htwin : periodicTwin N cm c = .ok ((sweepE ++ evsM ++ evsB) ++ [⟨.endReverse, 1, N⟩]) := by
    unfold periodicTwin twinOf
    rw [htop]
    exact convertOps_of_conv N _ hwf _ 1 N hconv
  rw [htwin, hmodel]

end Ckpt.Ops
