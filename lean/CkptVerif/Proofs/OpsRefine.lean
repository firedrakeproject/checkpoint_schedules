import CkptVerif.Model.Ops
import Mathlib.Tactic
/-!
# Converting operation sequences: `convertOps` as a pass over the list, and how blocks convert

Stage 2 of the Revolve-family twins (`RevolveCheckpointSchedule._iterator`) for all of them at once.

* `convertOps_eq`: the index-based loop of `convertOps` (look-behind `schedule[i-1]`, look-ahead
  `schedule[i+3]`, the precomputed set `_last_reads`, characterised by `lastRd`) is a left-to-right
  pass `convL` over the list in which every operation sees its predecessor, the rest of the list and
  its position.  `convL` is compositional (`convL_append`).
* `Step1 … n r S evs n' r' S'`: one operation, from every state with the given `_n`, `_r`, snapshots,
  yields `evs` and ends in the given state; one lemma per kind of operation (`step_*`).
* `Conv … xs tail n r S evs n' r' S'`: the same for a block `xs` followed by `tail`, with the rules
  `Conv.nil`, `Conv.cons`, `Conv.append`, `Conv.congr`, and the blocks every schedule is made of: the
  turn-around step (`turn_block`), a block behind `Write; Forward`, `Read; Forward`, `Read`
  (`Conv.write_prefix`, `Conv.copy_prefix`, `Conv.move_prefix`) and before a `Discard`
  (`Conv.discard_suffix`).

`OpsRevolve`, `OpsDisk`, `OpsPeriodic`, `OpsHRevolve(Main)` build the stream of each schedule from
these rules; `convertOps_of_conv` (OpsRevolve) returns from `Conv` to `convertOps`.
-/
namespace Ckpt.Ops

/-- the key `(storage, n_0)` of an operation -/
def opKeyOf (o : Op) : Option Storage × Nat :=
  match convAct o with
  | .ok a => (a.storage, a.n0)
  | .error _ => (none, 0)

def opIsRead (o : Op) : Bool := o.kind.isRead
def opIsWrite (o : Op) : Bool := o.kind.isWrite

/-- no later read of `k` before `k` is next written -/
def lastRd (k : Option Storage × Nat) : List Op → Bool
  | [] => true
  | o :: rest =>
    if opIsRead o ∧ opKeyOf o = k then false
    else if opIsWrite o ∧ opKeyOf o = k then true
    else lastRd k rest

/-- every operation is accepted by `_convert_action` -/
def OpsWf (ops : List Op) : Prop := ∀ o ∈ ops, ∃ a, convAct o = .ok a

theorem convAct_kind (o : Op) (a : CAct) (h : convAct o = .ok a) : a.kind = o.kind := by
  unfold convAct at h
  cases hk : o.kind <;> simp only [hk] at h <;>
    (try split_ifs at h) <;> (try cases h) <;> rfl

theorem opKeyOf_eq (o : Op) (a : CAct) (h : convAct o = .ok a) : opKeyOf o = (a.storage, a.n0) := by
  unfold opKeyOf; rw [h]

theorem not_write_of_read (o : Op) (h : opIsRead o = true) : opIsWrite o = false := by
  unfold opIsRead at h; unfold opIsWrite
  cases hk : o.kind <;> simp [hk, OpKind.isRead, OpKind.isWrite] at h ⊢

theorem lastRd_cons_read (o : Op) (rest : List Op) (k : Option Storage × Nat)
    (hr : opIsRead o = true) :
    lastRd k (o :: rest) = false ↔ (opKeyOf o = k ∨ lastRd k rest = false) := by
  rw [lastRd]
  by_cases hk : opKeyOf o = k
  · simp [hr, hk]
  · simp [hk]

theorem lastRd_cons_write (o : Op) (rest : List Op) (k : Option Storage × Nat)
    (hw : opIsWrite o = true) :
    lastRd k (o :: rest) = false ↔ (opKeyOf o ≠ k ∧ lastRd k rest = false) := by
  have hr : opIsRead o = false := by
    by_contra h
    have := not_write_of_read o (by simpa using h)
    rw [hw] at this; cases this
  rw [lastRd]
  by_cases hk : opKeyOf o = k
  · simp [hr, hw, hk]
  · simp [hk]

theorem lastRd_cons_other (o : Op) (rest : List Op) (k : Option Storage × Nat)
    (hr : opIsRead o = false) (hw : opIsWrite o = false) :
    lastRd k (o :: rest) = lastRd k rest := by
  rw [lastRd]; simp [hr, hw]

theorem mem_addIfAbsent {α : Type} [BEq α] [LawfulBEq α] (x k : α) (l : List α) :
    k ∈ (if l.contains x then l else x :: l) ↔ k = x ∨ k ∈ l := by
  by_cases hc : l.contains x = true
  · rw [if_pos hc]
    have : x ∈ l := by simpa using hc
    constructor
    · intro h; exact Or.inr h
    · rintro (rfl | h)
      · exact this
      · exact h
  · rw [if_neg hc]; simp

/-- the state of the `_last_reads` loop when it is about to process index `i - 1` -/
theorem lastReadsLoop_spec (ops : List Op) (hwf : OpsWf ops) :
    ∀ (i : Nat) (LR : List Nat) (RL : List (Option Storage × Nat)), i ≤ ops.length →
      (∀ k, k ∈ RL ↔ lastRd k (ops.drop i) = false) →
      (∀ j, j ∈ LR ↔ i ≤ j ∧ ∃ o, ops[j]? = some o ∧ opIsRead o = true ∧
        lastRd (opKeyOf o) (ops.drop (j + 1)) = true) →
      ∃ LR' RL', lastReadsLoop ops.toArray i (LR, RL) = .ok (LR', RL') ∧
        ∀ j, j ∈ LR' ↔ ∃ o, ops[j]? = some o ∧ opIsRead o = true ∧
          lastRd (opKeyOf o) (ops.drop (j + 1)) = true := by
  intro i
  induction i with
  | zero =>
    intro LR RL _ _ hLR
    refine ⟨LR, RL, rfl, fun j => ?_⟩
    rw [hLR j]; simp
  | succ i ih =>
    intro LR RL hi hRL hLR
    have hlt : i < ops.length := by omega
    have hget : ops.toArray.getD i default = ops[i] := by simp [Array.getD, hlt]
    obtain ⟨a, ha⟩ := hwf ops[i] (List.getElem_mem hlt)
    have hdrop : ops.drop i = ops[i] :: ops.drop (i + 1) := List.drop_eq_getElem_cons hlt
    have hkind := convAct_kind _ _ ha
    have hkey := opKeyOf_eq _ _ ha
    -- the positions `≥ i` already collected, when `i` itself is not collected
    have hLRskip : ¬ (opIsRead ops[i] = true ∧ lastRd (opKeyOf ops[i]) (ops.drop (i + 1)) = true) →
        ∀ j, j ∈ LR ↔ i ≤ j ∧ ∃ o, ops[j]? = some o ∧ opIsRead o = true ∧
          lastRd (opKeyOf o) (ops.drop (j + 1)) = true := by
      intro hnot j
      rw [hLR j]
      constructor
      · rintro ⟨h1, h2⟩; exact ⟨by omega, h2⟩
      · rintro ⟨h1, o, ho, hro, hlo⟩
        refine ⟨?_, o, ho, hro, hlo⟩
        by_contra hne
        have hji : j = i := by omega
        subst hji
        rw [List.getElem?_eq_getElem hlt] at ho
        cases ho
        exact hnot ⟨hro, hlo⟩
    rw [lastReadsLoop, hget, ha]
    dsimp only
    by_cases hr : a.kind.isRead = true
    · rw [if_pos hr]
      have hrd : opIsRead ops[i] = true := by unfold opIsRead; rw [← hkind]; exact hr
      rw [← hkey]
      apply ih _ _ (by omega)
      · intro k
        rw [hdrop, lastRd_cons_read _ _ _ hrd, mem_addIfAbsent, hRL k]
        constructor
        · rintro (h | h)
          · exact Or.inl h.symm
          · exact Or.inr h
        · rintro (h | h)
          · exact Or.inl h.symm
          · exact Or.inr h
      · intro j
        have hmem : (RL.contains (opKeyOf ops[i]) = true) ↔
            lastRd (opKeyOf ops[i]) (ops.drop (i + 1)) = false := by
          rw [← hRL]; simp
        by_cases hc : RL.contains (opKeyOf ops[i]) = true
        · rw [if_pos hc]
          apply hLRskip
          rintro ⟨_, h⟩
          rw [hmem.1 hc] at h; cases h
        · rw [if_neg hc]
          have ht : lastRd (opKeyOf ops[i]) (ops.drop (i + 1)) = true := by
            by_contra hh
            exact hc (hmem.2 (by simpa using hh))
          simp only [List.mem_cons]
          rw [hLR j]
          constructor
          · rintro (h | ⟨h1, h2⟩)
            · subst h
              exact ⟨le_refl _, ops[j], List.getElem?_eq_getElem hlt, hrd, ht⟩
            · exact ⟨by omega, h2⟩
          · rintro ⟨h1, h2⟩
            by_cases hji : j = i
            · exact Or.inl hji
            · exact Or.inr ⟨by omega, h2⟩
    · rw [if_neg hr]
      have hrd : opIsRead ops[i] = false := by
        unfold opIsRead; rw [← hkind]; simpa using hr
      have hLR' := hLRskip (by rw [hrd]; simp)
      by_cases hw : a.kind.isWrite = true
      · rw [if_pos hw]
        have hwr : opIsWrite ops[i] = true := by unfold opIsWrite; rw [← hkind]; exact hw
        rw [← hkey]
        apply ih _ _ (by omega) _ hLR'
        intro k
        rw [hdrop, lastRd_cons_write _ _ _ hwr, ← hRL k]
        simp only [List.mem_filter, ne_eq, decide_not, Bool.not_eq_eq_eq_not, Bool.not_true,
          decide_eq_false_iff_not]
        constructor
        · rintro ⟨h1, h2⟩; exact ⟨fun h => h2 h.symm, h1⟩
        · rintro ⟨h1, h2⟩; exact ⟨h2, fun h => h1 h.symm⟩
      · rw [if_neg hw]
        have hwr : opIsWrite ops[i] = false := by
          unfold opIsWrite; rw [← hkind]; simpa using hw
        apply ih _ _ (by omega) _ hLR'
        intro k
        rw [hdrop, lastRd_cons_other _ _ _ hrd hwr]
        exact hRL k

/-- `i in last_reads` for the operation `cur` followed by `rest` -/
def isLastAt (cur : Op) (rest : List Op) : Bool := lastRd (opKeyOf cur) rest

/-- The conversion as a pass over `xs` followed by `tail` (which is only looked at, not
converted); `pos`: the index of the head of `xs` in the whole schedule, `prev`: the operation before
it, `wrap`: the last operation of the whole schedule (what `schedule[-1]` sees at `i = 0`). -/
def convL (N : Nat) (wrap : Option Op) :
    (pos : Nat) → (prev : Option Op) → (xs tail : List Op) → ConvSt → Except Err ConvSt
  | _, _, [], _, s => .ok s
  | pos, prev, cur :: rest, tail, s =>
    match convBody N (if pos = 0 then wrap else prev) cur ((rest ++ tail)[2]?)
        (isLastAt cur (rest ++ tail)) (decide (pos < 2)) s with
    | .error e => .error (convErr s e)
    | .ok s' => convL N wrap (pos + 1) (some cur) rest tail s'

theorem convL_append (N : Nat) (wrap : Option Op) (xs ys tail : List Op) :
    ∀ (pos : Nat) (prev : Option Op) (s : ConvSt),
      convL N wrap pos prev (xs ++ ys) tail s =
        match convL N wrap pos prev xs (ys ++ tail) s with
        | .error e => .error e
        | .ok s' => convL N wrap (pos + xs.length) (if xs = [] then prev else xs.getLast?) ys tail s' := by
  induction xs with
  | nil => intro pos prev s; simp [convL]
  | cons x xs ih =>
    intro pos prev s
    rw [List.cons_append, convL, convL, List.append_assoc]
    cases hb : convBody N (if pos = 0 then wrap else prev) x ((xs ++ (ys ++ tail))[2]?)
        (isLastAt x (xs ++ (ys ++ tail))) (decide (pos < 2)) s with
    | error e => rfl
    | ok s' =>
      dsimp only
      rw [ih (pos + 1) (some x) s']
      have e1 : pos + 1 + xs.length = pos + (x :: xs).length := by simp; omega
      have e2 : (if xs = [] then some x else xs.getLast?) =
          (if x :: xs = [] then prev else (x :: xs).getLast?) := by
        cases xs with
        | nil => simp
        | cons y ys => simp [List.getLast?_cons_cons]
      rw [e1, e2]

theorem convBody_isLast_congr (N : Nat) (p : Option Op) (cur : Op) (ah : Option Op)
    (b1 b2 e : Bool) (s : ConvSt) (h : opIsRead cur = true → b1 = b2) :
    convBody N p cur ah b1 e s = convBody N p cur ah b2 e s := by
  by_cases hr : opIsRead cur = true
  · rw [h hr]
  · unfold convBody
    cases hc : convAct cur with
    | error e => rfl
    | ok a =>
      have hk := convAct_kind _ _ hc
      dsimp only
      unfold opIsRead at hr
      rw [← hk] at hr
      cases hkk : a.kind <;> simp only [hkk, OpKind.isRead] at hr ⊢ <;>
        first | rfl | exact absurd trivial hr

theorem pyGetPrev_toArray (ops : List Op) (i : Nat) :
    pyGetPrev ops.toArray i = if i = 0 then ops.getLast? else ops[i - 1]? := by
  unfold pyGetPrev
  by_cases h0 : i = 0
  · rw [if_pos h0, if_pos h0]
    by_cases hs : ops.toArray.size = 0
    · rw [if_pos hs]
      have : ops = [] := by simpa using hs
      subst this; rfl
    · rw [if_neg hs, List.getLast?_eq_getElem?]
      simp
  · rw [if_neg h0, if_neg h0]; simp

theorem convLoop_eq_convL (N : Nat) (ops : List Op) (lastR : List Nat)
    (hlast : ∀ j, j ∈ lastR ↔ ∃ o, ops[j]? = some o ∧ opIsRead o = true ∧
      lastRd (opKeyOf o) (ops.drop (j + 1)) = true) :
    ∀ (fuel i : Nat) (s : ConvSt), i + fuel = ops.length →
      convLoop N ops.toArray lastR fuel i s =
        convL N ops.getLast? i (if i = 0 then none else ops[i - 1]?) (ops.drop i) [] s := by
  intro fuel
  induction fuel with
  | zero =>
    intro i s hi
    have : ops.drop i = [] := by rw [List.drop_eq_nil_iff]; omega
    rw [this]; rfl
  | succ fuel ih =>
    intro i s hi
    have hlt : i < ops.length := by omega
    have hdrop : ops.drop i = ops[i] :: ops.drop (i + 1) := List.drop_eq_getElem_cons hlt
    have hget : ops.toArray.getD i default = ops[i] := by simp [Array.getD, hlt]
    rw [hdrop, convLoop, convL, convStep, pyGetPrev_toArray, hget, List.append_nil]
    have hah : ops.toArray[i + 3]? = (ops.drop (i + 1))[2]? := by
      rw [List.getElem?_drop]; simp
    have hprev : (if i = 0 then ops.getLast? else if i = 0 then none else ops[i - 1]?) =
        (if i = 0 then ops.getLast? else ops[i - 1]?) := by
      by_cases h0 : i = 0 <;> simp [h0]
    rw [hah, hprev]
    rw [convBody_isLast_congr N _ ops[i] _ (lastR.contains i) (isLastAt ops[i] (ops.drop (i + 1)))]
    · cases hb : convBody N (if i = 0 then ops.getLast? else ops[i - 1]?) ops[i]
          ((ops.drop (i + 1))[2]?) (isLastAt ops[i] (ops.drop (i + 1))) (decide (i < 2)) s with
      | error e => rfl
      | ok s' =>
        dsimp only
        rw [ih (i + 1) s' (by omega)]
        have : (if i + 1 = 0 then none else ops[i + 1 - 1]?) = some ops[i] := by
          simp [List.getElem?_eq_getElem hlt]
        rw [this]
    · intro hr
      unfold isLastAt
      cases hl : lastRd (opKeyOf ops[i]) (ops.drop (i + 1)) with
      | true =>
        have : i ∈ lastR := (hlast i).2 ⟨ops[i], List.getElem?_eq_getElem hlt, hr, hl⟩
        simpa using this
      | false =>
        have : i ∉ lastR := by
          intro hm
          obtain ⟨o, ho, _, hlo⟩ := (hlast i).1 hm
          rw [List.getElem?_eq_getElem hlt] at ho
          cases ho
          rw [hl] at hlo; cases hlo
        simpa using this

/-- **Part A**: `convertOps` is the left-to-right pass followed by the final check -/
theorem convertOps_eq (N : Nat) (ops : List Op) (hwf : OpsWf ops) :
    convertOps N ops =
      match convL N ops.getLast? 0 none ops [] ConvSt.init with
      | .error e => .error e
      | .ok s =>
        if s.snapshots.length > 0 then
          .error (convErr s "RuntimeError: Unexpected snapshot number.")
        else .ok ((s.yield .endReverse).out) := by
  obtain ⟨LR, RL, hloop, hLR⟩ := lastReadsLoop_spec ops hwf ops.length [] [] (le_refl _)
    (by intro k; simp [lastRd])
    (by
      intro j
      constructor
      · intro h; cases h
      · rintro ⟨h1, o, ho, _⟩
        rw [List.getElem?_eq_none (by omega)] at ho
        cases ho)
  have hlr : lastReads ops.toArray = .ok LR := by
    unfold lastReads
    have : ops.toArray.size = ops.length := by simp
    rw [this, hloop]; rfl
  unfold convertOps
  dsimp only
  rw [hlr]
  dsimp only
  have hsz : ops.toArray.size = ops.length := by simp
  rw [hsz, convLoop_eq_convL N ops LR hLR ops.length 0 ConvSt.init (by omega)]
  simp only [if_true, List.drop_zero]
  rfl

/-- one iteration succeeds from every state with the given `_n`, `_r`, snapshots -/
def Step1 (N : Nat) (prev : Option Op) (cur : Op) (ahead : Option Op) (isLast early : Bool)
    (n r : Nat) (S : List (Option Storage × Nat)) (evs : List Ev) (n' r' : Nat)
    (S' : List (Option Storage × Nat)) : Prop :=
  ∀ s : ConvSt, s.n = n → s.r = r → s.snapshots = S →
    ∃ s', convBody N prev cur ahead isLast early s = .ok s' ∧ s'.out = s.out ++ evs ∧ s'.n = n' ∧
      s'.r = r' ∧ s'.snapshots = S'

theorem convAct_fwd (a b : Nat) (h : a < b) : convAct (Op.fwd a b) = .ok ⟨.forward, a, some b, none⟩ := by
  unfold convAct Op.fwd; simp; omega

theorem convAct_bwd (a b : Nat) (h : b < a) : convAct (Op.bwd a b) = .ok ⟨.backward, a, some b, none⟩ := by
  unfold convAct Op.bwd; simp; omega

/-- `Write_Forward*` followed (three operations later) by the matching `Discard_Forward*` -/
theorem step_wf (N : Nat) (prev : Option Op) (cur nxt : Op) (il e : Bool) (n r : Nat)
    (S : List (Option Storage × Nat))
    (hk : (cur.kind = .writeForwardMemory ∧ nxt.kind = .discardForwardMemory) ∨
      (cur.kind = .writeForward ∧ nxt.kind = .discardForward))
    (ha : cur.a = n + 1) (hn : nxt.a = n + 1) :
    Step1 N prev cur (some nxt) il e n r S [] n r S := by
  intro s hsn hsr hsS
  rcases hk with ⟨h1, h2⟩ | ⟨h1, h2⟩
  · refine ⟨{ s with wStorage := some .work }, ?_, by simp, hsn, hsr, hsS⟩
    unfold convBody convAct
    simp [h1, h2, ha, hn, hsn]
  · refine ⟨{ s with wStorage := some .work }, ?_, by simp, hsn, hsr, hsS⟩
    unfold convBody convAct
    simp [h1, h2, ha, hn, hsn]

theorem step_bwd (N : Nat) (prev ah : Option Op) (il e : Bool) (lo r : Nat)
    (S : List (Option Storage × Nat)) (h : lo + 1 = N - r) :
    Step1 N prev (Op.bwd (lo + 1) lo) ah il e (lo + 1) r S
      [⟨.reverse (lo + 1) lo true, lo + 1, r + 1⟩] (lo + 1) (r + 1) S := by
  intro s hsn hsr hsS
  refine ⟨({ s with r := s.r + 1 } : ConvSt).yield (.reverse (lo + 1) lo true), ?_, ?_, hsn, ?_, hsS⟩
  · unfold convBody
    rw [convAct_bwd _ _ (by omega)]
    simp [hsn, hsr, h]
  · simp [ConvSt.yield, hsn, hsr]
  · simp [ConvSt.yield, hsr]

/-- `Discard_Forward*`, `Discard*` (not among the first two operations), `Write*`: checks only -/
theorem step_noop (N : Nat) (prev ah : Option Op) (cur : Op) (il e : Bool) (n r : Nat)
    (S : List (Option Storage × Nat)) (a : CAct) (hc : convAct cur = .ok a)
    (hk : ((a.kind = .discardForward ∨ a.kind = .discardForwardMemory) ∧ a.n0 = n) ∨
      ((a.kind = .discard ∨ a.kind = .discardMemory) ∧ e = false) ∨
      (a.kind.isWrite = true ∧ a.n0 = n)) :
    Step1 N prev cur ah il e n r S [] n r S := by
  intro s hsn hsr hsS
  refine ⟨s, ?_, by simp, hsn, hsr, hsS⟩
  unfold convBody
  rw [hc]
  rcases hk with ⟨h1 | h1, h2⟩ | ⟨h1 | h1, h2⟩ | ⟨h1, h2⟩
  · simp [h1, h2, hsn]
  · simp [h1, h2, hsn]
  · simp [h1, h2]
  · simp [h1, h2]
  · cases hk : a.kind <;> simp [hk, OpKind.isWrite] at h1 <;> simp [hk, h2, hsn]

def fwdEvs (N lo hi r : Nat) (wi wa : Bool) (st : Storage) : List Ev :=
  [⟨.forward lo hi wi wa st, hi, r⟩] ++ (if hi = N then [⟨.endForward, hi, r⟩] else [])

/-- the end of the `Forward` branch: `yield Forward(…)`, then `EndForward` if `_n == max_n` -/
theorem finish_spec (N : Nat) (s0 : ConvSt) (act : Action) (h : s0.n = N → s0.r = 0) :
    ∃ s', (if (s0.yield act).n = N then
        if (s0.yield act).r ≠ 0 then Except.error "InvalidReverseStep"
        else Except.ok ((s0.yield act).yield .endForward)
      else Except.ok (s0.yield act)) = Except.ok s' ∧
      s'.out = s0.out ++ ([⟨act, s0.n, s0.r⟩] ++ if s0.n = N then [⟨.endForward, s0.n, s0.r⟩] else []) ∧
      s'.n = s0.n ∧ s'.r = s0.r ∧ s'.snapshots = s0.snapshots := by
  by_cases hN : s0.n = N
  · have hr := h hN
    refine ⟨(s0.yield act).yield .endForward, ?_, ?_, rfl, rfl, rfl⟩
    · have h1 : (s0.yield act).n = N := hN
      have h2 : ¬ (s0.yield act).r ≠ 0 := by simpa [ConvSt.yield] using hr
      rw [if_pos h1, if_neg h2]
    · simp [ConvSt.yield, hN]
  · refine ⟨s0.yield act, ?_, ?_, rfl, rfl, rfl⟩
    · have h1 : ¬ (s0.yield act).n = N := hN
      rw [if_neg h1]
    · simp [ConvSt.yield, hN]

/-- `Forward` right after the `Write_Forward*` of its end point: the turn-around step -/
theorem step_fwd_turn (N : Nat) (p : Op) (ah : Option Op) (il e : Bool) (lo r : Nat)
    (S : List (Option Storage × Nat)) (w : CAct) (hp : convAct p = .ok w)
    (hk : w.kind = .writeForward ∨ w.kind = .writeForwardMemory) (hn : w.n0 = lo + 1)
    (hst : w.storage = some .work) (hr : lo + 1 = N → r = 0) :
    Step1 N (some p) (Op.fwd lo (lo + 1)) ah il e lo r S (fwdEvs N lo (lo + 1) r false true .work)
      (lo + 1) r S := by
  intro s hsn hsr hsS
  have hnw : w.kind.isWrite = false := by rcases hk with hk | hk <;> rw [hk] <;> rfl
  obtain ⟨s', h1, h2, h3, h4, h5⟩ := finish_spec N
    { s with n := lo + 1, wN0 := some w.n0, wStorage := w.storage, writeIcs := false, adjDeps := true }
    (.forward lo (lo + 1) false true .work) (by intro h; show s.r = 0; rw [hsr]; exact hr h)
  refine ⟨s', ?_, ?_, h3, ?_, ?_⟩
  · unfold convBody
    rw [convAct_fwd _ _ (by omega)]
    dsimp only
    rw [if_neg (by simp [hsn]), hp]
    dsimp only
    simpa [hnw, hk, hn, hst] using h1
  · rw [h2]; simp [fwdEvs, hsr]
  · rw [h4]; exact hsr
  · rw [h5]; exact hsS

/-- `Forward` right after the `Write*` of its start point: the checkpoint is written -/
theorem step_fwd_write (N : Nat) (p : Op) (ah : Option Op) (il e : Bool) (lo hi r : Nat)
    (S : List (Option Storage × Nat)) (w : CAct) (st : Storage) (hp : convAct p = .ok w)
    (hk : w.kind.isWrite = true) (hn : w.n0 = lo) (hst : w.storage = some st) (hlt : lo < hi)
    (hr : hi = N → r = 0) (hS : (some st, lo) ∉ S) :
    Step1 N (some p) (Op.fwd lo hi) ah il e lo r S (fwdEvs N lo hi r true false st)
      hi r ((some st, lo) :: S) := by
  intro s hsn hsr hsS
  obtain ⟨s', h1, h2, h3, h4, h5⟩ := finish_spec N
    { s with n := hi, wN0 := some w.n0, wStorage := w.storage, writeIcs := true, adjDeps := false,
             snapshots := (some st, lo) :: s.snapshots }
    (.forward lo hi true false st) (by intro h; show s.r = 0; rw [hsr]; exact hr h)
  refine ⟨s', ?_, ?_, h3, ?_, ?_⟩
  · unfold convBody
    rw [convAct_fwd _ _ hlt]
    dsimp only
    rw [if_neg (by simp [hsn]), hp]
    dsimp only
    have hm : (some st, lo) ∉ s.snapshots := by rw [hsS]; exact hS
    simpa [hk, hn, hst, hm] using h1
  · rw [h2]; simp [fwdEvs, hsr]
  · rw [h4]; exact hsr
  · rw [h5]; show (some st, lo) :: s.snapshots = _; rw [hsS]

/-- `Forward` after anything else (here: after a `Read*`): plain advance -/
theorem step_fwd_plain (N : Nat) (p : Op) (ah : Option Op) (il e : Bool) (lo hi r : Nat)
    (S : List (Option Storage × Nat)) (w : CAct) (hp : convAct p = .ok w)
    (hk : w.kind.isRead = true) (hlt : lo < hi) (hr : hi = N → r = 0) :
    Step1 N (some p) (Op.fwd lo hi) ah il e lo r S (fwdEvs N lo hi r false false .work) hi r S := by
  intro s hsn hsr hsS
  obtain ⟨s', h1, h2, h3, h4, h5⟩ := finish_spec N
    { s with n := hi, wN0 := some w.n0, wStorage := some .work, writeIcs := false, adjDeps := false }
    (.forward lo hi false false .work) (by intro h; show s.r = 0; rw [hsr]; exact hr h)
  refine ⟨s', ?_, ?_, h3, ?_, ?_⟩
  · unfold convBody
    rw [convAct_fwd _ _ hlt]
    dsimp only
    rw [if_neg (by simp [hsn]), hp]
    dsimp only
    have h1' : w.kind.isWrite = false := by
      cases hkk : w.kind <;> simp [hkk, OpKind.isRead] at hk <;> rfl
    have h2' : ¬ (w.kind = .writeForward ∨ w.kind = .writeForwardMemory) := by
      cases hkk : w.kind <;> simp [hkk, OpKind.isRead] at hk <;> simp
    simpa [h1', h2'] using h1
  · rw [h2]; simp [fwdEvs, hsr]
  · rw [h4]; exact hsr
  · rw [h5]; exact hsS

/-- a `Read*` which is the last use of its checkpoint: `Move` -/
theorem step_read_last (N : Nat) (prev ah : Option Op) (cur : Op) (e : Bool) (n r : Nat)
    (S : List (Option Storage × Nat)) (a : CAct) (st : Storage) (hc : convAct cur = .ok a)
    (hk : a.kind.isRead = true) (hst : a.storage = some st) (hS : (some st, a.n0) ∉ S) :
    Step1 N prev cur ah true e n r ((some st, a.n0) :: S) [⟨.move a.n0 st .work, a.n0, r⟩]
      a.n0 r S := by
  intro s hsn hsr hsS
  have hf : List.filter (fun x => !decide (x = (some st, a.n0))) S = S := by
    rw [List.filter_eq_self]
    intro x hx
    simp only [Bool.not_eq_eq_eq_not, Bool.not_true, decide_eq_false_iff_not]
    intro h; subst h; exact hS hx
  refine ⟨({ s with n := a.n0, snapshots := S } : ConvSt).yield (.move a.n0 st .work), ?_, ?_, rfl, ?_, rfl⟩
  · unfold convBody
    rw [hc]
    cases hkk : a.kind <;> simp [hkk, OpKind.isRead] at hk <;>
      simp [hkk, hst, hsS, hf]
  · simp [ConvSt.yield, hsr]
  · simp [ConvSt.yield, hsr]

/-- a `Read*` whose checkpoint is read again later: `Copy` -/
theorem step_read_copy (N : Nat) (prev ah : Option Op) (cur : Op) (e : Bool) (n r : Nat)
    (S : List (Option Storage × Nat)) (a : CAct) (st : Storage) (hc : convAct cur = .ok a)
    (hk : a.kind.isRead = true) (hst : a.storage = some st) :
    Step1 N prev cur ah false e n r S [⟨.copy a.n0 st .work, a.n0, r⟩] a.n0 r S := by
  intro s hsn hsr hsS
  refine ⟨({ s with n := a.n0 } : ConvSt).yield (.copy a.n0 st .work), ?_, ?_, rfl, ?_, ?_⟩
  · unfold convBody
    rw [hc]
    cases hkk : a.kind <;> simp [hkk, OpKind.isRead] at hk <;> simp [hkk, hst]
  · simp [ConvSt.yield, hsr]
  · simp [ConvSt.yield, hsr]
  · simp [ConvSt.yield, hsS]

/-- the pass over `xs` succeeds from every state with the given `_n`, `_r`, snapshots; it yields
`evs` and ends with the given `_n`, `_r`, snapshots -/
def Conv (N : Nat) (wrap : Option Op) (pos : Nat) (prev : Option Op) (xs tail : List Op)
    (n r : Nat) (S : List (Option Storage × Nat)) (evs : List Ev) (n' r' : Nat)
    (S' : List (Option Storage × Nat)) : Prop :=
  ∀ s : ConvSt, s.n = n → s.r = r → s.snapshots = S →
    ∃ s', convL N wrap pos prev xs tail s = .ok s' ∧ s'.out = s.out ++ evs ∧ s'.n = n' ∧
      s'.r = r' ∧ s'.snapshots = S'

theorem Conv.nil (N : Nat) (wrap : Option Op) (pos : Nat) (prev : Option Op) (tail : List Op)
    (n r : Nat) (S : List (Option Storage × Nat)) : Conv N wrap pos prev [] tail n r S [] n r S := by
  intro s h1 h2 h3
  exact ⟨s, rfl, by simp, h1, h2, h3⟩

theorem Conv.cons {N : Nat} {wrap : Option Op} {pos : Nat} {prev : Option Op} {cur : Op}
    {rest tail : List Op} {n r n1 r1 n2 r2 : Nat} {S S1 S2 : List (Option Storage × Nat)}
    {e1 e2 : List Ev}
    (h1 : Step1 N (if pos = 0 then wrap else prev) cur ((rest ++ tail)[2]?)
      (isLastAt cur (rest ++ tail)) (decide (pos < 2)) n r S e1 n1 r1 S1)
    (h2 : Conv N wrap (pos + 1) (some cur) rest tail n1 r1 S1 e2 n2 r2 S2) :
    Conv N wrap pos prev (cur :: rest) tail n r S (e1 ++ e2) n2 r2 S2 := by
  intro s hn hr hS
  obtain ⟨s1, a1, a2, a3, a4, a5⟩ := h1 s hn hr hS
  obtain ⟨s2, b1, b2, b3, b4, b5⟩ := h2 s1 a3 a4 a5
  refine ⟨s2, ?_, ?_, b3, b4, b5⟩
  · rw [convL, a1]; exact b1
  · rw [b2, a2, List.append_assoc]

theorem Conv.append {N : Nat} {wrap : Option Op} {pos : Nat} {prev : Option Op}
    {xs ys tail : List Op} {n r n1 r1 n2 r2 : Nat} {S S1 S2 : List (Option Storage × Nat)}
    {e1 e2 : List Ev} (hne : xs ≠ [])
    (h1 : Conv N wrap pos prev xs (ys ++ tail) n r S e1 n1 r1 S1)
    (h2 : Conv N wrap (pos + xs.length) xs.getLast? ys tail n1 r1 S1 e2 n2 r2 S2) :
    Conv N wrap pos prev (xs ++ ys) tail n r S (e1 ++ e2) n2 r2 S2 := by
  intro s hn hr hS
  obtain ⟨s1, a1, a2, a3, a4, a5⟩ := h1 s hn hr hS
  obtain ⟨s2, b1, b2, b3, b4, b5⟩ := h2 s1 a3 a4 a5
  refine ⟨s2, ?_, ?_, b3, b4, b5⟩
  · rw [convL_append, a1]
    dsimp only
    rw [if_neg hne]; exact b1
  · rw [b2, a2, List.append_assoc]

theorem convAct_wfm (n : Nat) : convAct (Op.wfm n) = .ok ⟨.writeForwardMemory, n, none, some .work⟩ := rfl
theorem convAct_dfm (n : Nat) : convAct (Op.dfm n) = .ok ⟨.discardForwardMemory, n, none, some .work⟩ := rfl
theorem convAct_wm (n : Nat) : convAct (Op.wm n) = .ok ⟨.writeMemory, n, none, some .ram⟩ := rfl
theorem convAct_rm (n : Nat) : convAct (Op.rm n) = .ok ⟨.readMemory, n, none, some .ram⟩ := rfl
theorem convAct_dm (n : Nat) : convAct (Op.dm n) = .ok ⟨.discardMemory, n, none, some .ram⟩ := rfl
theorem convAct_wd (n : Nat) : convAct (Op.wd n) = .ok ⟨.writeDisk, n, none, some .disk⟩ := rfl
theorem convAct_rd (n : Nat) : convAct (Op.rd n) = .ok ⟨.readDisk, n, none, some .disk⟩ := rfl

def turnEvs (N lo : Nat) : List Ev :=
  fwdEvs N lo (lo + 1) (N - (lo + 1)) false true .work ++
    [⟨.reverse (lo + 1) lo true, lo + 1, N - (lo + 1) + 1⟩]

/-- `Write_Forward_memory lo+1; Forward [lo, lo+1]; Backward [lo+1, lo];
Discard_Forward_memory lo+1` -/
def turnOps (lo : Nat) : List Op :=
  [Op.wfm (lo + 1), Op.fwd lo (lo + 1), Op.bwd (lo + 1) lo, Op.dfm (lo + 1)]

/-- the turn-around step as the stream models write it: `EndForward` exactly on the spine -/
theorem turnEvs_spine (N lo : Nat) (spine : Bool) (h : spine = true ↔ lo + 1 = N) :
    [(⟨.forward lo (lo + 1) false true .work, lo + 1, N - (lo + 1)⟩ : Ev)]
      ++ (if spine then [⟨.endForward, lo + 1, N - (lo + 1)⟩] else [])
      ++ [⟨.reverse (lo + 1) lo true, lo + 1, N - (lo + 1) + 1⟩] = turnEvs N lo := by
  cases spine with
  | true => simp [turnEvs, fwdEvs, h.1 rfl]
  | false =>
    have : ¬ lo + 1 = N := fun hN => by cases h.2 hN
    simp [turnEvs, fwdEvs, this]

theorem Conv.congr {N : Nat} {wrap : Option Op} {pos : Nat} {prev : Option Op}
    {xs tail : List Op} {n r n' r' m q m' q' : Nat} {S S' : List (Option Storage × Nat)}
    {evs evs' : List Ev}
    (h : Conv N wrap pos prev xs tail m q S evs' m' q' S') (h1 : n = m) (h2 : r = q)
    (h3 : evs = evs') (h4 : n' = m') (h5 : r' = q') :
    Conv N wrap pos prev xs tail n r S evs n' r' S' := by
  subst h1 h2 h3 h4 h5; exact h

theorem Conv.evs {N : Nat} {wrap : Option Op} {pos : Nat} {prev : Option Op}
    {xs tail : List Op} {n r n' r' : Nat} {S S' : List (Option Storage × Nat)} {evs evs' : List Ev}
    (h : Conv N wrap pos prev xs tail n r S evs' n' r' S') (he : evs = evs') :
    Conv N wrap pos prev xs tail n r S evs n' r' S' :=
  Conv.congr h rfl rfl he rfl rfl

theorem turn_block (N : Nat) (wrap : Option Op) (pos : Nat) (prev : Option Op) (tail : List Op)
    (lo : Nat) (S : List (Option Storage × Nat)) (hlo : lo + 1 ≤ N) :
    Conv N wrap pos prev (turnOps lo) tail lo (N - (lo + 1)) S (turnEvs N lo) (lo + 1) (N - lo) S := by
  have e : N - lo = N - (lo + 1) + 1 := by omega
  rw [e]
  unfold turnOps
  refine Conv.evs (evs' := [] ++ (fwdEvs N lo (lo + 1) (N - (lo + 1)) false true .work ++
    ([⟨.reverse (lo + 1) lo true, lo + 1, N - (lo + 1) + 1⟩] ++ ([] ++ [])))) ?_ (by simp [turnEvs])
  refine Conv.cons (step_wf N _ _ (Op.dfm (lo + 1)) _ _ lo _ S (Or.inl ⟨rfl, rfl⟩) rfl rfl) ?_
  refine Conv.cons (n1 := lo + 1) (r1 := N - (lo + 1)) (S1 := S) ?_ ?_
  · rw [if_neg (by omega)]
    exact step_fwd_turn N _ _ _ _ lo _ S _ (convAct_wfm _) (Or.inr rfl) rfl rfl (by omega)
  refine Conv.cons (step_bwd N _ _ _ _ lo _ S (by omega)) ?_
  refine Conv.cons (step_noop N _ _ _ _ _ (lo + 1) _ S _ (convAct_dfm _)
    (Or.inl ⟨Or.inr rfl, rfl⟩)) ?_
  exact Conv.nil _ _ _ _ _ _ _ _

/-- a block followed by a `Discard*` that is not among the first two operations -/
theorem Conv.discard_suffix {N : Nat} {wrap : Option Op} {pos : Nat} {prev : Option Op}
    {xs tail : List Op} {n r n' r' : Nat} {S S' : List (Option Storage × Nat)} {evs : List Ev}
    (dc : Op) (cd : CAct) (hd : convAct dc = .ok cd)
    (hk : cd.kind = .discard ∨ cd.kind = .discardMemory) (hlen : 2 ≤ xs.length)
    (h : Conv N wrap pos prev xs ([dc] ++ tail) n r S evs n' r' S') :
    Conv N wrap pos prev (xs ++ [dc]) tail n r S evs n' r' S' := by
  refine Conv.evs (evs' := evs ++ ([] ++ [])) ?_ (by simp)
  refine Conv.append (by intro h0; rw [h0] at hlen; cases hlen) h ?_
  exact Conv.cons (step_noop N _ _ _ _ _ n' _ S' _ hd
    (Or.inr (Or.inl ⟨hk, decide_eq_false (by omega)⟩))) (Conv.nil _ _ _ _ _ _ _ _)

theorem lastRd_fwd (k : Option Storage × Nat) (a b : Nat) (rest : List Op) :
    lastRd k (Op.fwd a b :: rest) = lastRd k rest :=
  lastRd_cons_other _ _ _ rfl rfl

section prefixes
variable {N : Nat} {wrap : Option Op} {Y tail : List Op} {S S' : List (Option Storage × Nat)}
  {evsY : List Ev} {n' r' : Nat}

/-- `Write* lo; Forward [lo, lo+a]; Y`: the `Forward` writes the checkpoint, `Y` runs with it stored -/
theorem Conv.write_prefix (w : Op) (cw : CAct) (st : Storage) (lo a r : Nat) (hw : convAct w = .ok cw)
    (hk : cw.kind.isWrite = true) (hn : cw.n0 = lo) (hst : cw.storage = some st) (ha : 0 < a)
    (hN : ¬ lo + a = N) (hkey : (some st, lo) ∉ S)
    (hY : ∀ pos prev, Conv N wrap pos prev Y tail (lo + a) r ((some st, lo) :: S) evsY n' r' S') :
    ∀ pos prev, Conv N wrap pos prev (w :: Op.fwd lo (lo + a) :: Y) tail lo r S
      (⟨.forward lo (lo + a) true false st, lo + a, r⟩ :: evsY) n' r' S' := by
  intro pos prev
  refine Conv.evs (evs' := [] ++ (fwdEvs N lo (lo + a) r true false st ++ evsY)) ?_
    (by simp [fwdEvs, hN])
  refine Conv.cons (n1 := lo) (r1 := r) (S1 := S)
    (step_noop N _ _ _ _ _ lo _ S _ hw (Or.inr (Or.inr ⟨hk, hn⟩))) ?_
  refine Conv.cons (n1 := lo + a) (r1 := r) (S1 := (some st, lo) :: S) ?_ (hY _ _)
  rw [if_neg (by omega)]
  exact step_fwd_write N _ _ _ _ lo (lo + a) _ S _ st hw hk hn hst (by omega)
    (fun h => absurd h hN) hkey

/-- `Read* lo; Forward [lo, lo+a]; Y` where `Y` reads `lo` again: a `Copy` -/
theorem Conv.copy_prefix (rd : Op) (cr : CAct) (st : Storage) (lo a r : Nat) (hrd : convAct rd = .ok cr)
    (hk : cr.kind.isRead = true) (hn : cr.n0 = lo) (hst : cr.storage = some st) (ha : 0 < a)
    (hN : ¬ lo + a = N) (hlast : lastRd (some st, lo) (Y ++ tail) = false)
    (hY : ∀ pos prev, Conv N wrap pos prev Y tail (lo + a) r S evsY n' r' S') :
    ∀ pos prev n0, Conv N wrap pos prev (rd :: Op.fwd lo (lo + a) :: Y) tail n0 r S
      (⟨.copy lo st .work, lo, r⟩ :: ⟨.forward lo (lo + a) false false .work, lo + a, r⟩ :: evsY)
      n' r' S' := by
  intro pos prev n0
  subst hn
  have hl : isLastAt rd ((Op.fwd cr.n0 (cr.n0 + a) :: Y) ++ tail) = false := by
    rw [isLastAt, opKeyOf_eq rd cr hrd, hst, List.cons_append, lastRd_fwd]; exact hlast
  refine Conv.evs (evs' := [⟨.copy cr.n0 st .work, cr.n0, r⟩] ++
    (fwdEvs N cr.n0 (cr.n0 + a) r false false .work ++ evsY)) ?_ (by simp [fwdEvs, hN])
  refine Conv.cons (n1 := cr.n0) (r1 := r) (S1 := S) ?_ ?_
  · rw [hl]
    exact step_read_copy N _ _ _ _ n0 _ _ _ st hrd hk hst
  refine Conv.cons (n1 := cr.n0 + a) (r1 := r) (S1 := S) ?_ (hY _ _)
  rw [if_neg (by omega)]
  exact step_fwd_plain N _ _ _ _ cr.n0 (cr.n0 + a) _ _ _ hrd hk (by omega) (fun h => absurd h hN)

/-- `Read* lo; Y` where `lo` is not read again before it is next written: a `Move` -/
theorem Conv.move_prefix (rd : Op) (cr : CAct) (st : Storage) (lo r : Nat) (hrd : convAct rd = .ok cr)
    (hk : cr.kind.isRead = true) (hn : cr.n0 = lo) (hst : cr.storage = some st)
    (hkey : (some st, lo) ∉ S) (hlast : lastRd (some st, lo) (Y ++ tail) = true)
    (hY : ∀ pos prev, Conv N wrap pos prev Y tail lo r S evsY n' r' S') :
    ∀ pos prev n0, Conv N wrap pos prev (rd :: Y) tail n0 r ((some st, lo) :: S)
      (⟨.move lo st .work, lo, r⟩ :: evsY) n' r' S' := by
  intro pos prev n0
  subst hn
  have hl : isLastAt rd (Y ++ tail) = true := by
    rw [isLastAt, opKeyOf_eq rd cr hrd, hst]; exact hlast
  refine Conv.evs (evs' := [⟨.move cr.n0 st .work, cr.n0, r⟩] ++ evsY) ?_ rfl
  refine Conv.cons (n1 := cr.n0) (r1 := r) (S1 := S) ?_ (hY _ _)
  rw [hl]
  exact step_read_last N _ _ _ _ n0 _ S _ st hrd hk hst hkey

end prefixes

end Ckpt.Ops
