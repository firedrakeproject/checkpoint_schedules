import CkptVerif.Proofs.GW
import CkptVerif.Proofs.Plans
/-!
# Plans: the potential behind the lower bound

State of a reversal in progress: the adjoint stands at `a` (steps `[0, a)` are still to be reversed)
and forward states are available at the positions `E` (stored restart checkpoints and the state in
working storage).  A *plan* is a list of pairs `(e, b)`: the state available at `e` is carried to the
base `b ≥ e` (at the price `b - e` of forward steps) and the bases `0 = b_1 < b_2 < … < a` cut `[0, a)`
into gaps; gap number `l` is reversed with `s - l + 1` units (its own base included), i.e. at the price
`gwT (b_{l+1} - b_l) (s - l + 1)`; a gap with no unit at all (the base is only in working storage)
must be a single step.  Distinct bases use distinct available states.

`Reach s E a n`: some plan for `(E, a)` costs at most `n`.  The lemmas `reach_*` say how the cheapest
plan can change under the moves of an executable schedule; `Proofs/LowerBound.lean` instantiates them
with the checking executor.

The development itself is `Proofs/Plans.lean`, over an arbitrary price function and with tagged
items; a plan here is a plan there with the price `gwT` and no dependency item (`Reach_iff`).
-/
namespace Ckpt.GW

/-! ## two more facts about the optimum -/

/-- equality in the one-unit recurrence -/
theorem gwT_k1_succ (i : Nat) (hi : 1 ≤ i) : gwT (i + 1) 1 = i + gwT i 1 + 1 := by
  have : Nat.choose (i + 1 + 1) 2 = Nat.choose (i + 1) 1 + Nat.choose (i + 1) 2 :=
    Nat.choose_succ_succ' (i + 1) 1
  rw [gwT_k1' (i + 1) (by omega), gwT_k1' i hi, this, Nat.choose_one_right]
  omega

/-- the recurrence inequality, one unit included (the right part is then a single step) -/
theorem gwT_rec_le1 (m k i : Nat) (hk : 1 ≤ k) (h1 : 1 ≤ i) (h2 : i < m) (h0 : k = 1 → m - i = 1) :
    gwT m k ≤ i + gwT i k + gwT (m - i) (k - 1) := by
  rcases Nat.eq_or_lt_of_le hk with hk1 | hk2
  · subst hk1
    have hmi := h0 rfl
    have hm : m = i + 1 := by omega
    subst hm
    rw [hmi, gwT_one, gwT_k1_succ i h1]
  · exact gwT_rec_le m k i hk2 h1 h2

/-- more units never hurt -/
theorem gwT_anti (k : Nat) (hk : 1 ≤ k) : ∀ m, 1 ≤ m → gwT m (k + 1) ≤ gwT m k := by
  intro m
  induction m using Nat.strong_induction_on generalizing k with
  | _ m ih =>
    intro hm
    rcases Nat.eq_or_lt_of_le hm with rfl | hm2
    · rw [gwT_one, gwT_one]
    · rcases Nat.eq_or_lt_of_le hk with hk1 | hk2
      · subst hk1
        obtain ⟨j, rfl⟩ : ∃ j, m = j + 1 := ⟨m - 1, by omega⟩
        have h1 : gwT (j + 1) 2 ≤ j + gwT j 2 + gwT (j + 1 - j) (2 - 1) :=
          gwT_rec_le (j + 1) 2 j (le_refl _) (by omega) (by omega)
        have e : j + 1 - j = 1 := by omega
        rw [e, gwT_one] at h1
        have h3 : gwT j 2 ≤ gwT j 1 := ih j (by omega) 1 (le_refl _) (by omega)
        have h4 := gwT_k1_succ j (by omega)
        show gwT (j + 1) 2 ≤ gwT (j + 1) 1
        omega
      · obtain ⟨i, hi1, hi2, he⟩ := gwT_rec_attained m k (by omega) hk2
        have h1 := gwT_rec_le m (k + 1) i (by omega) hi1 hi2
        rw [Nat.add_sub_cancel] at h1
        have h2 := ih i hi2 k hk hi1
        have h3 := ih (m - i) (by omega) (k - 1) (by omega) (by omega)
        have e : k - 1 + 1 = k := Nat.sub_add_cancel hk
        rw [e] at h3
        omega

/-! ## the price of a list of bases -/

/-- price of reversing `[b_1, a)` cut at the bases `b_1 < b_2 < …`, the first gap having `k` units -/
def Xi : Nat → List Nat → Nat → Nat
  | _, [], _ => 0
  | k, [b], a => gwT (a - b) k
  | k, b :: b' :: rest, a => gwT (b' - b) k + Xi (k - 1) (b' :: rest) a

/-- the bases increase, stay below `a`, every gap but the last has a unit, and a last gap without
unit is a single step -/
def XiOk : Nat → List Nat → Nat → Prop
  | _, [], _ => True
  | k, [b], a => b < a ∧ (k = 0 → a = b + 1)
  | k, b :: b' :: rest, a => 1 ≤ k ∧ b < b' ∧ XiOk (k - 1) (b' :: rest) a

theorem Xi_cons_cons (k b b' : Nat) (rest : List Nat) (a : Nat) :
    Xi k (b :: b' :: rest) a = gwT (b' - b) k + Xi (k - 1) (b' :: rest) a := rfl

theorem XiOk_cons_cons (k b b' : Nat) (rest : List Nat) (a : Nat) :
    XiOk k (b :: b' :: rest) a ↔ 1 ≤ k ∧ b < b' ∧ XiOk (k - 1) (b' :: rest) a := Iff.rfl

theorem XiOk_single (k b a : Nat) : XiOk k [b] a ↔ b < a ∧ (k = 0 → a = b + 1) := Iff.rfl

/-! ## plans -/

/-- the part of the definition of a plan that does not mention the available states -/
structure PlanShape (s a : Nat) (P : List (Nat × Nat)) : Prop where
  ok : XiOk s (P.map Prod.snd) a
  head : 0 < a → ∃ rest, P = (0, 0) :: rest
  le : ∀ p ∈ P, p.1 ≤ p.2
  nodup : (P.map Prod.fst).Nodup

/-- a plan for the adjoint at `a` and forward states available at the positions `E` -/
def PlanOk (s : Nat) (E : List Nat) (a : Nat) (P : List (Nat × Nat)) : Prop :=
  PlanShape s a P ∧ ∀ p ∈ P, p.1 ∈ E

/-- forward steps spent on carrying the available states to the bases -/
def fee (P : List (Nat × Nat)) : Nat := (P.map (fun p => p.2 - p.1)).sum

def planVal (s a : Nat) (P : List (Nat × Nat)) : Nat := fee P + Xi s (P.map Prod.snd) a

/-- some plan costs at most `n` -/
def Reach (s : Nat) (E : List Nat) (a n : Nat) : Prop := ∃ P, PlanOk s E a P ∧ planVal s a P ≤ n

/-! ## `gwT` is a price function, and a plan is a plan of untagged items -/

theorem gwT_priceHyp : Plans.PriceHyp gwT False where
  one := gwT_one
  anti := fun m k hm hk => by
    rcases hk with hk | rfl
    · exact gwT_anti k hk m hm
    · rw [gwT_one, gwT_one]
  split := fun {m k i} hk h1 h2 h0 => gwT_rec_le1 m k i hk h1 h2 h0
  dep := fun h => h.elim

theorem mem_tag {E : List Nat} {r : Nat × Bool} : r ∈ E.map (·, false) ↔ ∃ e ∈ E, r = (e, false) := by
  rw [List.mem_map]
  exact ⟨fun ⟨e, he, h⟩ => ⟨e, he, h.symm⟩, fun ⟨e, he, h⟩ => ⟨e, he, h.symm⟩⟩

theorem Xi_eq (B : List Nat) (k a : Nat) : Xi k B a = Plans.Xi gwT k (B.map (·, false)) a := by
  induction B generalizing k with
  | nil => rfl
  | cons b rest ih =>
    cases rest with
    | nil => rfl
    | cons b' rest' => rw [Xi_cons_cons, ih]; rfl

theorem XiOk_iff (B : List Nat) (k a : Nat) : XiOk k B a ↔ MX.XiOk k (B.map (·, false)) a := by
  induction B generalizing k with
  | nil => exact Iff.rfl
  | cons b rest ih =>
    cases rest with
    | nil =>
      constructor
      · rintro ⟨h1, h2⟩
        refine ⟨h1, ?_, (fun h => by cases h), trivial⟩
        rcases Nat.eq_zero_or_pos k with h | h
        · exact Or.inr ⟨rfl, rfl, h2 h⟩
        · exact Or.inl h
      · rintro ⟨h1, h2, _, _⟩
        refine ⟨h1, fun hk => ?_⟩
        rcases h2 with h | ⟨_, _, h⟩
        · omega
        · exact h
    | cons b' rest' =>
      rw [XiOk_cons_cons, ih]
      constructor
      · rintro ⟨h1, h2, h3⟩
        exact ⟨h2, Or.inl h1, (fun h => by cases h), h3⟩
      · rintro ⟨h2, h1, _, h3⟩
        refine ⟨?_, h2, h3⟩
        rcases h1 with h | ⟨_, h, _⟩
        · exact h
        · cases h

/-- a pair `(e, b)` as an untagged item -/
def toIt (p : Nat × Nat) : MX.It := ⟨p.1, p.2, false⟩

theorem map_shape (P : List (Nat × Nat)) :
    (P.map toIt).map MX.It.shape = (P.map Prod.snd).map (·, false) := by
  rw [List.map_map, List.map_map]; rfl

theorem map_res (P : List (Nat × Nat)) :
    (P.map toIt).map MX.It.res = (P.map Prod.fst).map (·, false) := by
  rw [List.map_map, List.map_map]; rfl

theorem fee_eq (P : List (Nat × Nat)) : fee P = MX.fee (P.map toIt) := by
  unfold fee MX.fee
  rw [List.map_map]
  rfl

theorem planVal_eq (s a : Nat) (P : List (Nat × Nat)) :
    planVal s a P = Plans.planVal gwT s a (P.map toIt) := by
  unfold planVal Plans.planVal
  rw [Xi_eq, map_shape, fee_eq]

theorem tag_injective : Function.Injective (fun e : Nat => (e, false)) :=
  fun _ _ h => congrArg Prod.fst h

theorem PlanShape_iff (s a : Nat) (P : List (Nat × Nat)) :
    PlanShape s a P ↔ MX.PlanShape s a (P.map toIt) := by
  constructor
  · intro h
    refine ⟨by rw [map_shape]; exact (XiOk_iff _ _ _).1 h.ok, ?_, ?_, ?_⟩
    · rcases Nat.eq_zero_or_pos a with rfl | ha
      · rw [map_shape, MX.XiOk_zero s _ ((XiOk_iff _ _ _).1 h.ok)]
        rfl
      · obtain ⟨rest, rfl⟩ := h.head ha
        rfl
    · intro t ht
      obtain ⟨p, hp, rfl⟩ := List.mem_map.1 ht
      exact ⟨h.le p hp, fun h => by cases h⟩
    · rw [map_res]
      exact h.nodup.map tag_injective
  · intro h
    refine ⟨(XiOk_iff _ _ _).2 (by rw [← map_shape]; exact h.ok), ?_, ?_, ?_⟩
    · intro ha
      cases P with
      | nil => exact absurd h.head (by show a ≠ 0; omega)
      | cons p rest =>
        have h0 : p.2 = 0 := h.head
        have h1 := (h.le (toIt p) (List.mem_cons_self ..)).1
        exact ⟨rest, by rw [show p = (0, 0) from Prod.ext (by show p.1 = 0; have : p.1 ≤ p.2 := h1; omega) h0]⟩
    · intro p hp
      exact (h.le (toIt p) (List.mem_map.2 ⟨p, hp, rfl⟩)).1
    · have := h.nodup
      rw [map_res] at this
      exact List.Nodup.of_map _ this

theorem Reach_iff {s : Nat} {E : List Nat} {a n : Nat} :
    Reach s E a n ↔ Plans.Reach gwT s (E.map (·, false)) a n := by
  constructor
  · rintro ⟨P, ⟨hs, hsrc⟩, hv⟩
    refine ⟨P.map toIt, ⟨(PlanShape_iff s a P).1 hs, fun t ht => ?_⟩, by rw [← planVal_eq]; exact hv⟩
    obtain ⟨p, hp, rfl⟩ := List.mem_map.1 ht
    exact mem_tag.2 ⟨p.1, hsrc p hp, rfl⟩
  · rintro ⟨Q, ⟨hs, hsrc⟩, hv⟩
    -- all items are untagged: the plan comes from a list of pairs
    have hQ : (Q.map fun t => (t.e, t.b)).map toIt = Q := by
      rw [List.map_map]
      refine (List.map_congr_left fun t ht => ?_).trans (List.map_id Q)
      obtain ⟨e, _, he⟩ := mem_tag.1 (hsrc t ht)
      have hd : t.d = false := congrArg Prod.snd he
      cases t
      simp only at hd
      subst hd
      rfl
    rw [← hQ] at hs hv hsrc
    refine ⟨_, ⟨(PlanShape_iff s a _).2 hs, fun p hp => ?_⟩, by rw [planVal_eq]; exact hv⟩
    obtain ⟨e, he, h⟩ := mem_tag.1 (hsrc (toIt p) (List.mem_map.2 ⟨p, hp, rfl⟩))
    exact (congrArg Prod.fst h : p.1 = e) ▸ he

/-! ## how the cheapest plan can change -/

/-- nothing left to reverse -/
theorem reach_final (s : Nat) (E : List Nat) : Reach s E 0 0 :=
  Reach_iff.2 (Plans.reach_final s _)

/-- fewer available states: plans stay plans -/
theorem reach_sub {s : Nat} {E E' : List Nat} {a n : Nat} (hE : ∀ e ∈ E', e ∈ E)
    (h : Reach s E' a n) : Reach s E a n :=
  Reach_iff.2 (Plans.reach_sub
    (fun r hr => by obtain ⟨e, he, rfl⟩ := mem_tag.1 hr; exact mem_tag.2 ⟨e, hE e he, rfl⟩)
    (Reach_iff.1 h))

/-- at the very beginning only the state `0` is available: the plan is `[0]` with all `s` units -/
theorem reach_init {s N n : Nat} (hN : 1 ≤ N) (h : Reach s [0] N n) : gwT N s ≤ n :=
  Plans.reach_init hN (Reach_iff.1 h)

/-- **A forward** from an available state `f` to `f'` (whether or not a checkpoint is written at `f`):
afterwards the states `E ∪ {f'}` (at most) are available. -/
theorem reach_fwd {s : Nat} {E E' : List Nat} {a n f f' : Nat} (hf : f ∈ E) (hlt : f < f')
    (hE : ∀ e ∈ E', e = f' ∨ e ∈ E) (h : Reach s E' a n) : Reach s E a (n + (f' - f)) :=
  Reach_iff.2 (Plans.reach_fwd gwT_priceHyp (mem_tag.2 ⟨f, hf, rfl⟩) hlt
    (fun r hr => by
      obtain ⟨e, he, rfl⟩ := mem_tag.1 hr
      rcases hE e he with rfl | h
      · exact Or.inl rfl
      · exact Or.inr (mem_tag.2 ⟨e, h, rfl⟩))
    (fun r hr h => by obtain ⟨e, _, rfl⟩ := mem_tag.1 hr; cases h)
    (Reach_iff.1 h))

/-- **The turn-around**: the state `a - 1` is available; the step `a - 1 → a` is taken (one forward
step) and reversed.  Afterwards at most the `≤ s` stored states `C` are available below `a - 1`. -/
theorem reach_turn {s : Nat} {E E' C : List Nat} {a n : Nat} (ha : 1 ≤ a) (hmem : a - 1 ∈ E)
    (hC : C.length ≤ s) (h1 : ∀ e ∈ E', e < a - 1 → e ∈ C) (h2 : ∀ e ∈ C, e ∈ E)
    (h : Reach s E' (a - 1) n) : Reach s E a (n + 1) :=
  Reach_iff.2 (Plans.reach_top gwT_priceHyp false ha (mem_tag.2 ⟨a - 1, hmem, rfl⟩)
    (C := C.map (·, false)) (by rw [List.length_map]; exact hC)
    (fun r hr hlt => by
      obtain ⟨e, he, rfl⟩ := mem_tag.1 hr
      exact mem_tag.2 ⟨e, h1 e he hlt, rfl⟩)
    (fun r hr => by obtain ⟨e, he, rfl⟩ := mem_tag.1 hr; exact mem_tag.2 ⟨e, h2 e he, rfl⟩)
    (Reach_iff.1 h))

end Ckpt.GW
