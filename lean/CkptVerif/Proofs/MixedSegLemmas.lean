import CkptVerif.Proofs.MixedTab
import Mathlib.Order.Basic
import Mathlib.Tactic.Use
import Mathlib.Tactic.ByContra
/-!
# `mseg`: unfolding equations, and the planner facts the stream proofs use

`mseg_FR`, `mseg_WAD`, `mseg_WICS`: one unfolding of the Mixed stream for each kind of planner
answer.  `PlanHyp plan`: the shape of the planner's answers (`memoCell_cases` etc. read as facts
about a `Planner`); `PlanCost plan`: the cost recurrence.  `memoPlan` satisfies both: they are the
two halves of `memoPlan_big`.
-/
namespace Ckpt

/-! ## one unfolding of `mseg` -/

theorem mseg_FR (N : Nat) (plan : Planner) (st : Storage) (fuel lo hi k : Nat) (spine : Bool)
    (c : Cell) (hc : plan (hi - lo) k = some c) (hk : c.kind = stForwardReverse)
    (hm : hi - lo = 1) (hl : c.len = 1) :
    mseg N plan st (fuel + 1) lo hi k spine false =
      some ([⟨.forward lo hi false true .work, hi, N - hi⟩]
        ++ (if spine then [⟨.endForward, hi, N - hi⟩] else [])
        ++ [⟨.reverse hi lo true, hi, N - hi + 1⟩]) := by
  rw [mseg]
  rw [hm] at hc
  simp only [hm, hc, hk, hl]
  simp

theorem mseg_WAD (N : Nat) (plan : Planner) (st : Storage) (fuel lo hi k : Nat) (spine : Bool)
    (c : Cell) (right : List Ev)
    (hc : plan (hi - lo) k = some c) (hk : c.kind = stWriteAdjDeps) (hl : c.len = 1)
    (hk0 : k ≠ 0) (hm : 2 ≤ hi - lo)
    (hright : mseg N plan st fuel (lo + 1) hi (k - 1) spine false = some right) :
    mseg N plan st (fuel + 1) lo hi k spine false =
      some ([⟨.forward lo (lo + 1) false true st, lo + 1, N - hi⟩] ++ right ++
        [⟨.move lo st .work, lo + 1, N - (lo + 1)⟩,
         ⟨.reverse (lo + 1) lo true, lo + 1, N - lo⟩]) := by
  rw [mseg]
  have : ¬ hi - lo < 2 := by omega
  simp only [hc, hk, hl, hright]
  simp [stWriteAdjDeps, stForwardReverse, hk0, this]

theorem mseg_WICS (N : Nat) (plan : Planner) (st : Storage) (fuel lo hi k : Nat)
    (spine reuse : Bool) (c c2 : Cell) (right left : List Ev)
    (hc : plan (hi - lo) k = some c) (hk : c.kind = stWriteIcs) (h2 : 2 ≤ c.len)
    (hlt : c.len < hi - lo) (hk0 : k ≠ 0)
    (hright : mseg N plan st fuel (lo + c.len) hi (k - 1) spine false = some right)
    (hc2 : plan c.len k = some c2)
    (hleft : mseg N plan st fuel lo (lo + c.len) k false (decide (c2.kind = stWriteIcs))
      = some left) :
    mseg N plan st (fuel + 1) lo hi k spine reuse =
      some ([if reuse then ⟨.forward lo (lo + c.len) false false .work, lo + c.len, N - hi⟩
             else ⟨.forward lo (lo + c.len) true false st, lo + c.len, N - hi⟩]
        ++ right
        ++ [if decide (c2.kind = stWriteIcs) then ⟨.copy lo st .work, lo, N - (lo + c.len)⟩
            else ⟨.move lo st .work, lo, N - (lo + c.len)⟩]
        ++ left) := by
  rw [mseg]
  have h1 : ¬ c.len < 2 := by omega
  have h3 : ¬ hi - lo ≤ c.len := by omega
  simp only [hc, hk, hright, hc2, hleft]
  simp [stWriteAdjDeps, stForwardReverse, stWriteIcs, hk0, h1, h3]

/-- a segment that exists was produced by one of the three planner answers `mseg` accepts -/
theorem mseg_succ_some {N : Nat} {plan : Planner} {st : Storage} {f lo hi k : Nat} {spine reuse : Bool}
    {evs : List Ev} (h : mseg N plan st (f + 1) lo hi k spine reuse = some evs) :
    ∃ c, plan (hi - lo) k = some c ∧
      ((c.kind = stForwardReverse ∧ hi - lo = 1 ∧ c.len = 1 ∧ reuse = false ∧
          evs = [⟨.forward lo hi false true .work, hi, N - hi⟩]
            ++ (if spine then [⟨.endForward, hi, N - hi⟩] else [])
            ++ [⟨.reverse hi lo true, hi, N - hi + 1⟩]) ∨
        (c.kind = stWriteAdjDeps ∧ c.len = 1 ∧ reuse = false ∧ k ≠ 0 ∧ 2 ≤ hi - lo ∧
          ∃ right, mseg N plan st f (lo + 1) hi (k - 1) spine false = some right ∧
            evs = [⟨.forward lo (lo + 1) false true st, lo + 1, N - hi⟩] ++ right ++
              [⟨.move lo st .work, lo + 1, N - (lo + 1)⟩, ⟨.reverse (lo + 1) lo true, lo + 1, N - lo⟩]) ∨
        (c.kind = stWriteIcs ∧ 2 ≤ c.len ∧ c.len < hi - lo ∧ k ≠ 0 ∧
          ∃ right c2 left, mseg N plan st f (lo + c.len) hi (k - 1) spine false = some right ∧
            plan c.len k = some c2 ∧
            mseg N plan st f lo (lo + c.len) k false (decide (c2.kind = stWriteIcs)) = some left ∧
            evs = [if reuse then ⟨.forward lo (lo + c.len) false false .work, lo + c.len, N - hi⟩
                   else ⟨.forward lo (lo + c.len) true false st, lo + c.len, N - hi⟩]
              ++ right
              ++ [if decide (c2.kind = stWriteIcs) then ⟨.copy lo st .work, lo, N - (lo + c.len)⟩
                  else ⟨.move lo st .work, lo, N - (lo + c.len)⟩]
              ++ left)) := by
  rw [mseg] at h
  dsimp only at h
  cases hpl : plan (hi - lo) k with
  | none => rw [hpl] at h; cases h
  | some c =>
    rw [hpl] at h
    dsimp only at h
    refine ⟨c, rfl, ?_⟩
    by_cases hFR : c.kind = stForwardReverse
    · rw [if_pos hFR] at h
      by_cases hcond : hi - lo ≠ 1 ∨ c.len ≠ 1 ∨ reuse = true
      · rw [if_pos hcond] at h; cases h
      rw [if_neg hcond] at h
      cases h
      simp only [ne_eq, not_or, Decidable.not_not, Bool.not_eq_true] at hcond
      exact Or.inl ⟨hFR, hcond.1, hcond.2.1, hcond.2.2, rfl⟩
    rw [if_neg hFR] at h
    by_cases hWAD : c.kind = stWriteAdjDeps
    · rw [if_pos hWAD] at h
      by_cases hcond : c.len ≠ 1 ∨ reuse = true ∨ k = 0 ∨ hi - lo < 2
      · rw [if_pos hcond] at h; cases h
      rw [if_neg hcond] at h
      simp only [ne_eq, not_or, Decidable.not_not, Bool.not_eq_true, Nat.not_lt] at hcond
      cases hr : mseg N plan st f (lo + 1) hi (k - 1) spine false with
      | none => rw [hr] at h; cases h
      | some right =>
        rw [hr] at h
        cases h
        exact Or.inr (Or.inl ⟨hWAD, hcond.1, hcond.2.1, hcond.2.2.1, hcond.2.2.2, right, rfl, rfl⟩)
    rw [if_neg hWAD] at h
    by_cases hWICS : c.kind = stWriteIcs
    · rw [if_pos hWICS] at h
      by_cases hcond : c.len < 2 ∨ hi - lo ≤ c.len ∨ k = 0
      · rw [if_pos hcond] at h; cases h
      rw [if_neg hcond] at h
      simp only [not_or, Nat.not_lt, Nat.not_le] at hcond
      cases hr : mseg N plan st f (lo + c.len) hi (k - 1) spine false with
      | none => rw [hr] at h; cases h
      | some right =>
        rw [hr] at h
        dsimp only at h
        cases hc2 : plan c.len k with
        | none => rw [hc2] at h; cases h
        | some c2 =>
          rw [hc2] at h
          dsimp only at h
          cases hl : mseg N plan st f lo (lo + c.len) k false (decide (c2.kind = stWriteIcs)) with
          | none => rw [hl] at h; cases h
          | some left =>
            rw [hl] at h
            cases h
            exact Or.inr (Or.inr ⟨hWICS, hcond.1, hcond.2.1, hcond.2.2, right, c2, left, rfl, rfl, hl, rfl⟩)
    · rw [if_neg hWICS] at h; cases h

/-! ## what the streams need to know about a planner -/

/-- shape of the answers on valid keys (`m = 1`, or `m ≥ 2 ∧ k ≥ 1`) -/
structure PlanHyp (plan : Planner) : Prop where
  one : ∀ k, ∃ c, plan 1 k = some c ∧ c.kind = stForwardReverse ∧ c.len = 1
  big : ∀ m k, 2 ≤ m → 1 ≤ k → ∃ c, plan m k = some c ∧
    ((c.kind = stWriteAdjDeps ∧ c.len = 1 ∧ (3 ≤ m → 2 ≤ k)) ∨
     (c.kind = stWriteIcs ∧ 2 ≤ c.len ∧ c.len ≤ m - 1 ∧ (k = 1 → c.len = m - 1)))

/-- the cost recurrence of the answers on valid keys -/
structure PlanCost (plan : Planner) : Prop where
  one : ∀ k c, plan 1 k = some c → c.cost = 1
  wad : ∀ m k c, 2 ≤ m → 1 ≤ k → plan m k = some c → c.kind = stWriteAdjDeps →
    ∃ c', plan (m - 1) (k - 1) = some c' ∧ c.cost = 1 + c'.cost
  wics : ∀ m k c, 2 ≤ m → 1 ≤ k → plan m k = some c → c.kind = stWriteIcs →
    ∃ c1 c2, plan c.len k = some c1 ∧ plan (m - c.len) (k - 1) = some c2 ∧
      c.cost = c.len + c1.cost + c2.cost

theorem memoPlan_eq (m k : Nat) (h : validKey m (clampS m k) = true) :
    memoPlan m k = some (memoCell m (clampS m k)) := by
  show (if validKey m (clampS m k) = true then some (memoCell m (clampS m k)) else none) = _
  rw [if_pos h]

theorem memoPlan_valid (m k : Nat) (h1 : 1 ≤ m) (h2 : m = 1 ∨ 1 ≤ k) :
    memoPlan m k = some (memoCell m (clampS m k)) :=
  memoPlan_eq m k ((validKey_clamp_iff m k).2 ⟨h1, h2⟩)

/-- with a single unit and `m ≥ 3` the answer is `WRITE_ICS` of length `m - 1` -/
theorem memoCell_clamp_one (m : Nat) (h3 : 3 ≤ m) :
    memoCell m (clampS m 1) = ⟨stWriteIcs, m - 1, m * (m + 1) / 2 - 1⟩ := by
  rw [clampS_one (by omega), memoCell_s_one m h3]

/-- the answer of `memoPlan` on a key with `2 ≤ m`, `1 ≤ k`: its shape, and its cost in terms of
the answers on the two sub-keys -/
theorem memoPlan_big (m k : Nat) (hm : 2 ≤ m) (hk : 1 ≤ k) :
    ∃ c, memoPlan m k = some c ∧
      ((c.kind = stWriteAdjDeps ∧ c.len = 1 ∧ (3 ≤ m → 2 ≤ k) ∧
          ∃ c', memoPlan (m - 1) (k - 1) = some c' ∧ c.cost = 1 + c'.cost) ∨
       (c.kind = stWriteIcs ∧ 2 ≤ c.len ∧ c.len ≤ m - 1 ∧ (k = 1 → c.len = m - 1) ∧
          ∃ c1 c2, memoPlan c.len k = some c1 ∧ memoPlan (m - c.len) (k - 1) = some c2 ∧
            c.cost = c.len + c1.cost + c2.cost)) := by
  have hv : validKey m (clampS m k) = true := (validKey_clamp_iff m k).2 ⟨by omega, Or.inr hk⟩
  refine ⟨_, memoPlan_eq m k hv, ?_⟩
  obtain ⟨hs1, hc | hc⟩ := memoCell_cases m (clampS m k) hv hm
  · left
    obtain ⟨hkind, hlen, hcost⟩ := hc
    rw [clampS_clampS_pred _ m k (Nat.le_refl _)] at hcost
    suffices h : (3 ≤ m → 2 ≤ k) ∧ memoPlan (m - 1) (k - 1) = some _ from
      ⟨hkind, hlen, h.1, _, h.2, hcost⟩
    -- what is left is arithmetic of the keys; the `memoCell` terms of `hcost` slow `omega` down
    clear hcost
    have h3 : 3 ≤ m → 2 ≤ k := by
      intro h3
      by_contra hk2
      obtain rfl : k = 1 := by omega
      rw [memoCell_clamp_one m h3] at hkind
      exact absurd (show stWriteIcs = stWriteAdjDeps from hkind) (by decide)
    exact ⟨h3, memoPlan_valid (m - 1) (k - 1) (by omega) (by omega)⟩
  · right
    obtain ⟨hkind, hl2, hlm, hsm, hcost⟩ := hc
    rw [clampS_clampS _ m k hlm, clampS_clampS_pred _ m k
      (Nat.sub_le_sub_left (Nat.le_trans (by decide) hl2) m)] at hcost
    suffices h : (k = 1 → (memoCell m (clampS m k)).len = m - 1) ∧
        memoPlan (memoCell m (clampS m k)).len k = some _ ∧
        memoPlan (m - (memoCell m (clampS m k)).len) (k - 1) = some _ from
      ⟨hkind, hl2, hlm, h.1, _, _, h.2.1, h.2.2, hcost⟩
    clear hcost
    have hone : k = 1 → (memoCell m (clampS m k)).len = m - 1 := by
      rintro rfl
      rw [memoCell_clamp_one m (by omega)]
    have hsub : m - (memoCell m (clampS m k)).len = 1 ∨ 1 ≤ k - 1 := by
      by_cases hk1 : k = 1
      · left; rw [hone hk1]; omega
      · right; omega
    exact ⟨hone, memoPlan_valid _ k (by omega) (Or.inr hk),
      memoPlan_valid _ (k - 1) (by omega) hsub⟩

theorem memoPlan_hyp : PlanHyp memoPlan where
  one := by
    intro k
    refine ⟨_, memoPlan_valid 1 k (Nat.le_refl _) (Or.inl rfl), ?_, ?_⟩ <;> rw [memoCell_one]
  big := by
    intro m k hm hk
    obtain ⟨c, hc, h | h⟩ := memoPlan_big m k hm hk
    · exact ⟨c, hc, .inl ⟨h.1, h.2.1, h.2.2.1⟩⟩
    · exact ⟨c, hc, .inr ⟨h.1, h.2.1, h.2.2.1, h.2.2.2.1⟩⟩

theorem memoPlan_cost : PlanCost memoPlan where
  one := by
    intro k c h
    rw [memoPlan_valid 1 k (Nat.le_refl _) (Or.inl rfl)] at h
    cases h
    rw [memoCell_one]
  wad := by
    intro m k c hm hk h hkind
    obtain ⟨c0, hc0, hw | hi⟩ := memoPlan_big m k hm hk <;> rw [h] at hc0 <;> cases hc0
    · exact hw.2.2.2
    · rw [hi.1] at hkind
      exact absurd hkind (by decide)
  wics := by
    intro m k c hm hk h hkind
    obtain ⟨c0, hc0, hw | hi⟩ := memoPlan_big m k hm hk <;> rw [h] at hc0 <;> cases hc0
    · rw [hw.1] at hkind
      exact absurd hkind (by decide)
    · exact hi.2.2.2.2

end Ckpt
