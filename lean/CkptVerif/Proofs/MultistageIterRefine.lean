import CkptVerif.Model.MultistageIter
import CkptVerif.Proofs.MixedIterRefine
import CkptVerif.Proofs.MultistageOk
import CkptVerif.Proofs.SegWith
/-!
# The iterative twin of `MultistageCheckpointSchedule._iterator` refines to `multistageSeg`

`multistageIter_eq_multistageSeg`: for `1 ≤ N` and (`2 ≤ N → 1 ≤ S`) the loop emits exactly the
stream of the recursive model, within the fuel `2 N`.

`ms_seg` (continuation style): the segment `segWith … stored spine lo hi (len rest)` is what the
machine emits from its entry point `msEntry`, that is from

* the top of the reverse loop with `snapshots[-1] = lo` (`stored`), or
* the top of the forward loop (`spine`) / of the inner checkpointing loop, with `_n = lo`,

until it is back at the top of the reverse loop with `_n = lo + 1`, `_r = N - lo` and the stack
`rest` it started with (without `lo`).
-/
namespace Ckpt.RC
open Ckpt List

section steps
variable (N S : Nat) (alloc : Nat → Storage) (traj : Traj)

theorem fwd_iter (fuel n r a : Nat) (stack : List Nat) (h : n < N - 1)
    (ha : nAdvance (N - n) (S - stack.length) traj = some a) (ha1 : 1 ≤ a) (hS : stack.length < S) :
    msFwd N S alloc traj (fuel + 1) ⟨n, r, stack⟩ =
      yieldEv ⟨.forward n (n + a) true false (alloc stack.length), n + a, r⟩
        (msFwd N S alloc traj fuel ⟨n + a, r, n :: stack⟩) := by
  rw [msFwd]
  have h1 : ¬ stack.length ≥ S := by omega
  simp [h, ha, h1]
  omega

theorem fwd_exit (fuel n r : Nat) (stack : List Nat) (h : n + 1 = N) :
    msFwd N S alloc traj (fuel + 1) ⟨n, r, stack⟩ =
      emits [⟨.forward n (n + 1) false true .work, n + 1, r⟩, ⟨.endForward, n + 1, r⟩,
          ⟨.reverse (n + 1) n true, n + 1, r + 1⟩]
        (msRev N S alloc traj fuel ⟨n + 1, r + 1, stack⟩) := by
  rw [msFwd]
  have h2 : n = N - 1 := by omega
  simp [h2, emits]

theorem inner_iter (fuel n r a : Nat) (stack : List Nat) (h : n < N - r - 1)
    (ha : nAdvance (N - r - n) (S - stack.length) traj = some a) (ha1 : 1 ≤ a)
    (hS : stack.length < S) :
    msInner N S alloc traj (fuel + 1) ⟨n, r, stack⟩ =
      yieldEv ⟨.forward n (n + a) true false (alloc stack.length), n + a, r⟩
        (msInner N S alloc traj fuel ⟨n + a, r, n :: stack⟩) := by
  rw [msInner]
  have h1 : ¬ stack.length ≥ S := by omega
  simp [h, ha, h1]
  omega

theorem inner_exit' (fuel n r : Nat) (stack : List Nat) (h : n + 1 = N - r) :
    msInner N S alloc traj (fuel + 1) ⟨n, r, stack⟩ =
      emits [⟨.forward n (n + 1) false true .work, n + 1, r⟩,
          ⟨.reverse (n + 1) n true, n + 1, r + 1⟩]
        (msRev N S alloc traj fuel ⟨n + 1, r + 1, stack⟩) := by
  rw [msInner]
  have h2 : n = N - r - 1 := by omega
  simp [h2, emits]

theorem rev_move (fuel n r cpN : Nat) (rest : List Nat) (hr : r < N) (h : cpN + 1 = N - r) :
    msRev N S alloc traj (fuel + 1) ⟨n, r, cpN :: rest⟩ =
      emits [⟨.move cpN (alloc rest.length) .work, cpN, r⟩,
          ⟨.forward cpN (cpN + 1) false true .work, cpN + 1, r⟩,
          ⟨.reverse (cpN + 1) cpN true, cpN + 1, r + 1⟩]
        (msRev N S alloc traj fuel ⟨cpN + 1, r + 1, rest⟩) := by
  rw [msRev]
  have h2 : cpN = N - r - 1 := by omega
  simp [hr, h2, emits]

theorem rev_copy (fuel n r cpN a : Nat) (rest : List Nat) (hr : r < N)
    (hlt : cpN + 1 < N - r)
    (ha : nAdvance (N - r - cpN) (S - (rest.length + 1) + 1) traj = some a) (ha1 : 1 ≤ a) :
    msRev N S alloc traj (fuel + 1) ⟨n, r, cpN :: rest⟩ =
      emits [⟨.copy cpN (alloc rest.length) .work, cpN, r⟩,
          ⟨.forward cpN (cpN + a) false false .work, cpN + a, r⟩]
        (msInner N S alloc traj fuel ⟨cpN + a, r, cpN :: rest⟩) := by
  rw [msRev]
  have h2 : ¬ cpN = N - r - 1 := by omega
  have h3 : ¬ a = 0 := by omega
  simp [hr, h2, ha, h3, emits]

theorem rev_exit (fuel n : Nat) :
    msRev N S alloc traj (fuel + 1) ⟨n, N, []⟩ = .ok [⟨.endReverse, n, N⟩] := by
  rw [msRev]; simp

end steps

section entry
variable (N S : Nat) (alloc : Nat → Storage) (traj : Traj)

/-- where the machine stands when the segment `segWith … stored spine lo hi (len rest)` begins: at the
top of the reverse loop with `lo` on the stack, of the forward loop, or of the checkpointing loop -/
def msEntry (stored spine : Bool) (fuel nprev lo r : Nat) (rest : List Nat) : Except Err (List Ev) :=
  if stored then msRev N S alloc traj fuel ⟨nprev, r, lo :: rest⟩
  else if spine then msFwd N S alloc traj fuel ⟨lo, r, rest⟩
  else msInner N S alloc traj fuel ⟨lo, r, rest⟩

theorem msEntry_stored (spine : Bool) (fuel nprev lo r : Nat) (rest : List Nat) :
    msEntry N S alloc traj true spine fuel nprev lo r rest
      = msRev N S alloc traj fuel ⟨nprev, r, lo :: rest⟩ := rfl

/-- a segment of one step: `Move` if stored, the turn-around, back at the top of the reverse loop -/
theorem msEntry_unit (σ : Nat → Nat → Option Nat) (f : Nat) (stored spine : Bool)
    (fuel nprev lo : Nat) (rest : List Nat) (evs : List Ev)
    (h : segWith N σ S alloc false (f + 1) stored spine lo (lo + 1) rest.length = some evs)
    (hlo : lo + 1 ≤ N) (hsp : spine = true → lo + 1 = N ∧ stored = false) :
    msEntry N S alloc traj stored spine (fuel + 1) nprev lo (N - (lo + 1)) rest
      = emits evs (msRev N S alloc traj fuel ⟨lo + 1, N - lo, rest⟩) := by
  rw [segWith_unit] at h
  cases h
  have e1 : N - (lo + 1) + 1 = N - lo := by omega
  cases stored with
  | true =>
    obtain rfl : spine = false := by
      cases spine with
      | false => rfl
      | true => cases (hsp rfl).2
    rw [msEntry_stored, rev_move N S alloc traj _ _ _ lo rest (by omega) (by omega), e1]
    simp [emits]
  | false =>
    cases spine with
    | true =>
      rw [msEntry, if_neg Bool.false_ne_true, if_pos rfl, fwd_exit N S alloc traj _ _ _ _ (hsp rfl).1, e1]
      simp [emits]
    | false =>
      rw [msEntry, if_neg Bool.false_ne_true, if_neg Bool.false_ne_true,
        inner_exit' N S alloc traj _ _ _ _ (by omega), e1]
      simp [emits]

/-- a longer segment: `Copy` and advance if stored, advance and write otherwise; the right part begins
in the forward loop on the spine, in the checkpointing loop elsewhere -/
theorem msEntry_split (stored spine : Bool) (fuel nprev nprev' lo hi a : Nat) (rest : List Nat)
    (ha : nAdvance (hi - lo) (S - rest.length) traj = some a) (hlt : lo + 2 ≤ hi) (hN : hi ≤ N)
    (hsp : spine = true → hi = N ∧ stored = false) :
    msEntry N S alloc traj stored spine (fuel + 1) nprev lo (N - hi) rest
      = emits (if stored then
            [⟨.copy lo (alloc rest.length) .work, lo, N - hi⟩,
             ⟨.forward lo (lo + a) false false .work, lo + a, N - hi⟩]
          else [⟨.forward lo (lo + a) true false (alloc rest.length), lo + a, N - hi⟩])
        (msEntry N S alloc traj false spine fuel nprev' (lo + a) (N - hi) (lo :: rest)) := by
  obtain ⟨hk1, ha1, ha2⟩ := nAdvance_some_bounds ha (by omega)
  replace hk1 : rest.length < S := by omega
  have hm : N - (N - hi) - lo = hi - lo := by omega
  cases stored with
  | true =>
    obtain rfl : spine = false := by
      cases spine with
      | false => rfl
      | true => cases (hsp rfl).2
    have ha3 : nAdvance (N - (N - hi) - lo) (S - (rest.length + 1) + 1) traj = some a := by
      rw [hm, show S - (rest.length + 1) + 1 = S - rest.length by omega]; exact ha
    rw [msEntry_stored, rev_copy N S alloc traj _ _ _ lo a rest (by omega) (by omega) ha3 ha1]
    rfl
  | false =>
    cases spine with
    | true =>
      have ha3 : nAdvance (N - lo) (S - rest.length) traj = some a := by
        rw [← (hsp rfl).1]; exact ha
      rw [msEntry, if_neg Bool.false_ne_true, if_pos rfl,
        fwd_iter N S alloc traj _ lo _ a rest (by omega) ha3 ha1 (by omega)]
      rfl
    | false =>
      rw [msEntry, if_neg Bool.false_ne_true, if_neg Bool.false_ne_true,
        inner_iter N S alloc traj _ lo _ a rest (by omega) (by rw [hm]; exact ha) ha1 (by omega)]
      rfl

end entry

theorem ms_seg (N S : Nat) (alloc : Nat → Storage) (traj : Traj) :
    ∀ (f : Nat) (stored spine : Bool) (lo hi : Nat) (evs : List Ev) (rest : List Nat) (nprev : Nat),
      segWith N (fun m k => nAdvance m k traj) S alloc false f stored spine lo hi rest.length = some evs →
      lo < hi → hi ≤ N → (spine = true → hi = N ∧ stored = false) →
      ∃ F, F ≤ 2 * (hi - lo) - 1 ∧ ∀ fuel',
        msEntry N S alloc traj stored spine (F + fuel') nprev lo (N - hi) rest =
        emits evs (msRev N S alloc traj fuel' ⟨lo + 1, N - lo, rest⟩) := by
  intro f
  induction f with
  | zero => intro _ _ _ _ _ _ _ h; cases h
  | succ f ih =>
    intro stored spine lo hi evs rest nprev h hlt hN hsp
    by_cases hu : hi = lo + 1
    · subst hu
      refine ⟨1, by omega, fun fuel' => ?_⟩
      rw [Nat.add_comm 1 fuel']
      exact msEntry_unit N S alloc traj _ f stored spine fuel' nprev lo rest evs h hN hsp
    · obtain ⟨a, right, left, ha, hr, hl, rfl⟩ := segWith_succ_some _ _ _ _ _ h hu
      obtain ⟨_, ha1, ha2⟩ := nAdvance_some_bounds ha (by omega)
      obtain ⟨Fr, hFr, ihr⟩ := ih false spine (lo + a) hi right (lo :: rest) nprev hr
        (by omega) hN (fun hs => ⟨(hsp hs).1, rfl⟩)
      obtain ⟨Fl, hFl, ihl⟩ := ih true false lo (lo + a) left rest (lo + a + 1) hl (by omega)
        (by omega) (by simp)
      refine ⟨1 + Fr + Fl, by omega, fun fuel' => ?_⟩
      rw [show 1 + Fr + Fl + fuel' = (Fr + (Fl + fuel')) + 1 by omega,
        msEntry_split N S alloc traj stored spine _ nprev nprev lo hi a rest ha (by omega) hN hsp,
        ihr (Fl + fuel'), ← msEntry_stored N S alloc traj false, ihl fuel', emits_append, emits_append]

/-- If the recursive model produces a stream, the loop produces the same stream (fuel `2 N`). -/
theorem multistageIter_of_seg (N S : Nat) (alloc : Nat → Storage) (traj : Traj) (hN : 1 ≤ N)
    (evs : List Ev) (h : multistageSeg N S alloc traj = some evs) (fuel : Nat) (hf : 2 * N ≤ fuel) :
    multistageIter N S alloc traj fuel = .ok evs := by
  unfold multistageSeg at h
  cases hs : segWith N (fun m k => nAdvance m k traj) S alloc false N false true 0 N 0 with
  | none => rw [hs] at h; cases h
  | some e =>
    rw [hs] at h
    simp only [Option.map_some, Option.some.injEq] at h
    obtain ⟨F, hF, hrun⟩ := ms_seg N S alloc traj N false true 0 N e [] 0 hs (by omega) (le_refl _)
      (fun _ => ⟨rfl, rfl⟩)
    have hr := hrun (fuel - F)
    simp only [msEntry, Bool.false_eq_true, if_false, if_true, Nat.sub_self, Nat.sub_zero, Nat.zero_add] at hr
    unfold multistageIter MsSt.init
    rw [show fuel = F + (fuel - F) by omega, hr, show fuel - F = (fuel - F - 1) + 1 by omega,
      rev_exit, emits_ok, ← h]

/-- **Refinement.**  For valid parameters the iterative twin of
`MultistageCheckpointSchedule._iterator` and the recursive stream model agree. -/
theorem multistageIter_eq_multistageSeg (N S : Nat) (alloc : Nat → Storage) (traj : Traj)
    (hN : 1 ≤ N) (hS : 2 ≤ N → 1 ≤ S) (fuel : Nat) (hf : 2 * N ≤ fuel) :
    ∃ evs, multistageSeg N S alloc traj = some evs ∧ multistageIter N S alloc traj fuel = .ok evs := by
  obtain ⟨e, he⟩ := segWith_nAdvance_some N S alloc false traj N false true 0 N 0 (by omega) (by omega) (fun h => by have := hS (by omega); omega)
  have hseg : multistageSeg N S alloc traj = some (e ++ [⟨.endReverse, 1, N⟩]) := by
    unfold multistageSeg; rw [he]; rfl
  exact ⟨_, hseg, multistageIter_of_seg N S alloc traj hN _ hseg fuel hf⟩

/-- the constructor-level twin agrees with `multistageEvs` -/
theorem multistageIterEvs_eq (N ram disk : Nat) (traj : Traj) :
    multistageIterEvs N ram disk traj = multistageEvs N ram disk traj := by
  unfold multistageIterEvs multistageEvs
  by_cases hN : N < 1
  · rw [if_pos hN, if_pos hN]
  · rw [if_neg hN, if_neg hN]
    cases hst : multistageStorage N ram disk traj with
    | none => rfl
    | some storage =>
      dsimp only
      by_cases hz : N > 1 ∧ storage.length = 0
      · rw [if_pos hz, if_pos hz]
      · rw [if_neg hz, if_neg hz]
        obtain ⟨evs, h1, h2⟩ := multistageIter_eq_multistageSeg N storage.length
          (fun d => storage.getD d .none) traj (by omega)
          (fun h => by
            by_contra hc
            exact hz ⟨by omega, by omega⟩)
          (multistageIterFuel N) (by unfold multistageIterFuel; omega)
        rw [h1, h2]

-- a concrete run: 7 steps, 2 units
example : multistageIter 7 2 (fun _ => .ram) .maximum 16 =
    .ok ((multistageSeg 7 2 (fun _ => .ram) .maximum).getD []) := by decide +kernel

end Ckpt.RC
