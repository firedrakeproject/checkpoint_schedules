import CkptVerif.Proofs.HRevolveStruct
import CkptVerif.Proofs.HOpt
import CkptVerif.Proofs.ExecLemmas
import CkptVerif.Spec.Configs
import CkptVerif.Proofs.Disciplines
/-!
# HRevolve: the model stream is accepted by the specification executor, and is LIFO

The acceptance proof works on the structural streams `hRs`/`hAs` of `HRevolveStruct.lean`
(Copy/Move decided by position), which equal `resolveLoads` of the model streams.

It is carried out for `CleanL`: `Clean` (no violation) together with the LIFO discipline (`LB7.Lifo`:
every `Copy`/`Move` loads the head of the list of stored checkpoints into WORK) and "restart data only
in the storage units".  So the HRevolve stream is itself a member of the class in which
`LB7.hrevolveOptimalT_partial` shows it to be cost-optimal.  Acceptance alone (`hrev_ok`,
`hrevolve_clean`) is the first component.
-/
namespace Ckpt
open Ckpt.LB7

def CleanL (cfg : Cfg) (x : XS) (os : List Obs) (x' : XS) : Prop :=
  Clean cfg x os x' ∧ lifoFrom cfg x os = true ∧ ∀ o ∈ os, GW.storesDeps o.act = false

/-! The two side conditions of a single action hold by computation, except for a load (`reload_step`):
`nd_tac` closes "restart data only" (`GW.storesDeps o.act = false`), `lifo_tac` closes the LIFO
condition (`lifoAct x o.act = true`); a failing `rfl` in a `CleanL.cons`/`CleanL.single` is one of the two. -/
macro "nd_tac" : tactic => `(tactic| rfl)
macro "lifo_tac" : tactic => `(tactic| rfl)

theorem CleanL.append {cfg : Cfg} {x x' x'' : XS} {as bs : List Obs}
    (h1 : CleanL cfg x as x') (h2 : CleanL cfg x' bs x'') : CleanL cfg x (as ++ bs) x'' := by
  refine ⟨Clean.append h1.1 h2.1, ?_, ?_⟩
  · have e : Mean.finalSt cfg x as = x' := by
      rw [← Mean.runFrom_fst_eq cfg as 0 x, h1.1 0]
    rw [lifoFrom_append, h1.2.1, e, h2.2.1]
    rfl
  · intro o ho
    rcases List.mem_append.mp ho with h | h
    · exact h1.2.2 o h
    · exact h2.2.2 o h

theorem CleanL.single {cfg : Cfg} {x x' : XS} {o : Obs} (h : step cfg x o = (x', []))
    (hl : lifoAct x o.act = true := by lifo_tac)
    (hd : GW.storesDeps o.act = false := by nd_tac) : CleanL cfg x [o] x' := by
  refine ⟨Clean.single h, ?_, ?_⟩
  · simp only [lifoFrom, hl, Bool.and_self]
  · intro o' ho'
    rw [List.mem_singleton.mp ho']
    exact hd

theorem CleanL.cons {cfg : Cfg} {x x' x'' : XS} {o : Obs} {os : List Obs}
    (h1 : CleanL cfg x [o] x') (h2 : CleanL cfg x' os x'') : CleanL cfg x (o :: os) x'' :=
  CleanL.append h1 h2

/-- neither a load nor a `Forward` that stores adjoint data: the side conditions hold in every state -/
def plainAct : Action → Bool
  | .copy _ _ _ => false
  | .move _ _ _ => false
  | a => !GW.storesDeps a

theorem plainAct_spec {a : Action} (h : plainAct a = true) :
    (∀ y, lifoAct y a = true) ∧ GW.storesDeps a = false := by
  cases a <;> simp_all [plainAct, lifoAct]

theorem CleanL.of_clean {cfg : Cfg} {x x' : XS} {os : List Obs} (h : Clean cfg x os x')
    (hp : os.all (fun o => plainAct o.act) = true) : CleanL cfg x os x' := by
  rw [List.all_eq_true] at hp
  refine ⟨h, ?_, fun o ho => (plainAct_spec (hp o ho)).2⟩
  clear h
  induction os generalizing x with
  | nil => rfl
  | cons o os ih =>
    simp only [lifoFrom, (plainAct_spec (hp o (List.mem_cons_self ..))).1 x, Bool.true_and]
    exact ih (fun o' ho' => hp o' (List.mem_cons_of_mem _ ho'))

/-- the final `EndReverse` of a single-adjoint offline schedule (`Clean.whole`) -/
theorem CleanL.whole {cfg : Cfg} {N : Nat} {evs : List Ev} {f : Option Nat} {sn : List Cp}
    (hN : cfg.N = N) (hp : cfg.passes = some 1) (hon : cfg.online = false) (hf : f = none ∨ f = some 1)
    (h : CleanL cfg (X (some 0) 0 none none [] false 0 []) (evs.map (Ev.obs · N))
      (X f N none none [] true 0 sn)) :
    CleanL cfg (XS.init cfg) (evs.map (Ev.obs · N) ++ [⟨.endReverse, 1, N, some N, true, true⟩])
      (X f N none none [] true 1 sn) := by
  have hinit : XS.init cfg = X (some 0) 0 none none [] false 0 [] := by simp [XS.init, X, hon]
  rw [hinit]
  exact h.append (CleanL.single (step_endReverse_final' cfg N 1 f sn hN hp hf))

theorem withinBudget_iff (cfg : Cfg) (c0 c1 : Nat) (hr : cfg.ram = some c0) (hd : cfg.disk = some c1)
    (l : List Cp) :
    withinBudget cfg l = true ↔ countSt l .ram ≤ c0 ∧ countSt l .disk ≤ c1 := by
  simp [withinBudget, withinOpt, hr, hd]

/-- what the acceptance proof needs of the executor configuration and of the cost table -/
structure HHyp (cfg : Cfg) (c : HCtx) (dn : Nat) : Prop where
  hN : cfg.N = c.N
  alive : Alive cfg dn
  ram : cfg.ram = some c.c0
  disk : cfg.disk = some c.c1
  c0pos : 1 ≤ c.c0
  /-- whenever `hR` decides to write to DISK, `hA` finds a split (see `HOpt.lean`) -/
  tab : ∀ l cm, 2 ≤ l →
    olt (oadd (some (c.w 1)) (c.tab.optp 1 l cm)) (c.tab.opt 0 l c.c0) = true →
    cm ≠ 0 ∧ hSplit c 1 cm l = true

/-- the units still available at level `K`: `cm` at the level itself, and the budgets of both
storages are respected -/
def Inv (c : HCtx) (K cm : Nat) (L : List Cp) : Prop :=
  if K = 0 then countSt L .ram + cm ≤ c.c0 ∧ countSt L .disk ≤ c.c1
  else countSt L .ram = 0 ∧ countSt L .disk + cm ≤ c.c1

theorem Inv_push (c : HCtx) (K cm : Nat) (L : List Cp) (lo a : Nat) (h : Inv c K cm L)
    (hcm : 1 ≤ cm) : Inv c K (cm - 1) (⟨lo, lvl K, a, 0⟩ :: L) := by
  unfold Inv at h ⊢
  rw [countSt_cons, countSt_cons]
  by_cases hK : K = 0
  · subst hK
    rw [if_pos rfl] at h ⊢
    have : ¬ (Storage.ram = Storage.disk) := by decide
    simp only [lvl_zero, if_true, this, if_false]
    omega
  · rw [if_neg hK] at h ⊢
    have : ¬ (Storage.disk = Storage.ram) := by decide
    simp only [lvl_pos K hK, if_true, this, if_false]
    omega

section blocks
variable {cfg : Cfg} {c : HCtx} {dn : Nat} (H : HHyp cfg c dn)
include H

/-- one step: advance recording the dependencies, (end of the forward sweep,) reverse -/
theorem evBase_cleanL (lo : Nat) (spine : Bool) (wi wd : Option (Nat × Nat)) (cps : List Cp)
    (sn : List Cp) (h1 : lo + 1 ≤ c.N) (hsp : spine = true → lo + 1 = c.N) :
    CleanL cfg (X (some lo) (c.N - (lo + 1)) wi wd cps (!spine) dn sn)
      ((evBase c lo (lo + 1) spine).map (Ev.obs · c.N))
      (X (some (lo + 1)) (c.N - lo) none none cps true dn (if spine then cps else sn)) :=
  CleanL.of_clean (turn_clean H.hN H.alive lo spine wi wd cps sn h1 hsp) (by cases spine <;> rfl)

omit H in
theorem lvl_isStore (K : Nat) : (lvl K).isStore = true := by
  unfold lvl; split <;> rfl

/-- `Forward lo (lo+a) true false (lvl K)`: write a restart checkpoint -/
theorem write_step (base : List Cp) (lo0 hi0 : Nat) (K lo a hi : Nat) (wi wd : Option (Nat × Nat))
    (rest : List Cp) (e : Bool) (sn : List Cp)
    (h : lo + a ≤ hi) (hhi : hi ≤ c.N) (ha : 0 < a)
    (hr : Below rest lo) (hb : Outside base lo0 hi0) (h0 : lo0 ≤ lo) (h1 : lo < hi0)
    (hB : withinBudget cfg (⟨lo, lvl K, a, 0⟩ :: (rest ++ base)) = true) :
    CleanL cfg (X (some lo) (c.N - hi) wi wd (rest ++ base) e dn sn)
      [Ev.obs (evFwd c lo (lo + a) hi (some K)) c.N]
      (X (some (lo + a)) (c.N - hi) none none (⟨lo, lvl K, a, 0⟩ :: (rest ++ base)) e dn sn) :=
  CleanL.single (step_write cfg c.N (lvl K) base lo0 hi0 (some lo) lo a (c.N - hi) wi wd rest e dn sn
    H.hN H.alive (by omega) ha rfl (lvl_isStore K) hr hb h0 h1 hB)

/-- `Forward lo (lo+a) false false WORK`: plain advance -/
theorem plain_step (lo a hi : Nat) (wi wd : Option (Nat × Nat)) (cps : List Cp) (e : Bool)
    (sn : List Cp) (h : lo + a ≤ hi) (hhi : hi ≤ c.N) (ha : 0 < a) :
    CleanL cfg (X (some lo) (c.N - hi) wi wd cps e dn sn)
      [Ev.obs (evFwd c lo (lo + a) hi none) c.N]
      (X (some (lo + a)) (c.N - hi) none none cps e dn sn) :=
  CleanL.single (step_plain cfg c.N (some lo) lo a (c.N - hi) wi wd cps e dn sn H.hN H.alive (by omega) ha rfl)

/-- re-load the restart checkpoint on top of the stack (`seg_reload`): it IS the head of the stack -/
theorem reload_step (keep : Bool) (base : List Cp) (lo0 hi0 : Nat) (f : Option Nat) (lo k hi : Nat)
    (st : Storage) (rest sn : List Cp) (hst : st.isStore = true) (h : hi ≤ lo + k) (hlo : lo < hi)
    (hhi : hi ≤ c.N) (hr : Below rest lo) (hb : Outside base lo0 hi0) (h0 : lo0 ≤ lo) (h1 : lo < hi0) :
    CleanL cfg (X f (c.N - hi) none none (⟨lo, st, k, 0⟩ :: (rest ++ base)) true dn sn)
      [Ev.obs (if keep then ⟨.copy lo st .work, lo, c.N - hi⟩ else ⟨.move lo st .work, lo, c.N - hi⟩) c.N]
      (X (some lo) (c.N - hi) (some (lo, lo + k)) none
        ((if keep then ⟨lo, st, k, 0⟩ :: rest else rest) ++ base) true dn sn) :=
  CleanL.single (seg_reload H.hN H.alive keep base lo0 hi0 f lo k hi st rest sn hst h hlo hhi hr hb h0 h1)
    (by cases keep <;> simp [lifoAct, X, Ev.obs]) (by cases keep <;> rfl)

theorem ram_budget (L : List Cp) (lo a : Nat)
    (h : countSt L .ram + 1 ≤ c.c0 ∧ countSt L .disk ≤ c.c1) :
    withinBudget cfg (⟨lo, .ram, a, 0⟩ :: L) = true := by
  rw [withinBudget_iff cfg c.c0 c.c1 H.ram H.disk, countSt_cons, countSt_cons]
  simp only [if_true]
  have : ¬ (Storage.ram = Storage.disk) := by decide
  simp only [this, if_false]
  omega

theorem within_of_Inv (K cm : Nat) (L : List Cp) (hinv : Inv c K cm L) : withinBudget cfg L = true := by
  rw [withinBudget_iff cfg c.c0 c.c1 H.ram H.disk]
  unfold Inv at hinv
  by_cases hK : K = 0
  · rw [if_pos hK] at hinv; omega
  · rw [if_neg hK] at hinv; omega

theorem lvl_budget (K cm : Nat) (L : List Cp) (lo a : Nat) (hinv : Inv c K cm L) (hcm : 1 ≤ cm) :
    withinBudget cfg (⟨lo, lvl K, a, 0⟩ :: L) = true :=
  within_of_Inv H K (cm - 1) _ (Inv_push c K cm L lo a hinv hcm)

/-- the two-step segment, the first step re-stored in RAM -/
theorem unit_write_cleanL (base : List Cp) (lo0 hi0 : Nat) (hb : Outside base lo0 hi0)
    (lo : Nat) (spine : Bool) (wi wd : Option (Nat × Nat)) (rest : List Cp) (sn : List Cp)
    (hN : lo + 2 ≤ c.N) (hsp : spine = true → lo + 2 = c.N) (h0 : lo0 ≤ lo) (h1 : lo < hi0)
    (hr : Below rest lo)
    (hbud : countSt (rest ++ base) .ram + 1 ≤ c.c0 ∧ countSt (rest ++ base) .disk ≤ c.c1) :
    ∃ sn', (spine = false → sn' = sn) ∧
    CleanL cfg (X (some lo) (c.N - (lo + 2)) wi wd (rest ++ base) (!spine) dn sn)
      (([evFwd c lo (lo + 1) (lo + 2) (some 0)] ++ evBase c (lo + 1) (lo + 2) spine ++
        [evLoad false lo .ram (c.N - (lo + 1))] ++ evBase c lo (lo + 1) false).map (Ev.obs · c.N))
      (X (some (lo + 1)) (c.N - lo) none none (rest ++ base) true dn sn') := by
  refine ⟨if spine then (⟨lo, .ram, 1, 0⟩ : Cp) :: (rest ++ base) else sn, fun h => by rw [h]; rfl, ?_⟩
  have hN1 : lo + 1 ≤ c.N := Nat.le_of_succ_le hN
  have hw := write_step H base lo0 hi0 0 lo 1 (lo + 2) wi wd rest (!spine) sn (Nat.le_succ _) hN
    Nat.one_pos hr hb h0 h1 (ram_budget H _ lo 1 hbud)
  have hb1 := evBase_cleanL H (lo + 1) spine none none ((⟨lo, .ram, 1, 0⟩ : Cp) :: (rest ++ base)) sn
    hN hsp
  have hm := reload_step H false base lo0 hi0 (some (lo + 1 + 1)) lo 1 (lo + 1) .ram rest
    (if spine then (⟨lo, .ram, 1, 0⟩ : Cp) :: (rest ++ base) else sn) rfl (le_refl _) (Nat.lt_succ_self lo)
    hN1 hr hb h0 h1
  have hb2 := evBase_cleanL H lo false (some (lo, lo + 1)) none (rest ++ base)
    (if spine then (⟨lo, .ram, 1, 0⟩ : Cp) :: (rest ++ base) else sn) hN1 (fun h => by cases h)
  simp only [List.map_append, List.map_cons, List.cons_append, List.nil_append,
    List.append_assoc]
  exact CleanL.cons hw (CleanL.append hb1 (CleanL.cons hm hb2))

/-- the two-step segment, the checkpoint at `lo` being present -/
theorem unit_plain_cleanL (base : List Cp) (lo0 hi0 : Nat) (hb : Outside base lo0 hi0)
    (lo : Nat) (st : Storage) (kk : Nat) (wi wd : Option (Nat × Nat)) (rest : List Cp)
    (sn : List Cp) (hst : st.isStore = true) (hkk : 2 ≤ kk)
    (hN : lo + 2 ≤ c.N) (h0 : lo0 ≤ lo) (h1 : lo < hi0) (hr : Below rest lo) :
    CleanL cfg (X (some lo) (c.N - (lo + 2)) wi wd (⟨lo, st, kk, 0⟩ :: (rest ++ base)) true dn sn)
      (([evFwd c lo (lo + 1) (lo + 2) none] ++ evBase c (lo + 1) (lo + 2) false ++
        [evLoad false lo st (c.N - (lo + 1))] ++ evBase c lo (lo + 1) false).map (Ev.obs · c.N))
      (X (some (lo + 1)) (c.N - lo) none none (rest ++ base) true dn sn) := by
  have hN1 : lo + 1 ≤ c.N := Nat.le_of_succ_le hN
  have hw := plain_step H lo 1 (lo + 2) wi wd ((⟨lo, st, kk, 0⟩ : Cp) :: (rest ++ base)) true sn
    (Nat.le_succ _) hN Nat.one_pos
  have hb1 := evBase_cleanL H (lo + 1) false none none ((⟨lo, st, kk, 0⟩ : Cp) :: (rest ++ base)) sn
    hN (fun h => by cases h)
  have hm := reload_step H false base lo0 hi0 (some (lo + 1 + 1)) lo kk (lo + 1) st rest sn hst
    (Nat.add_le_add_left (Nat.le_of_succ_le hkk) lo) (Nat.lt_succ_self lo) hN1 hr hb h0 h1
  have hb2 := evBase_cleanL H lo false (some (lo, lo + kk)) none (rest ++ base) sn hN1
    (fun h => by cases h)
  simp only [List.map_append, List.map_cons, List.cons_append, List.nil_append,
    List.append_assoc]
  exact CleanL.cons hw (CleanL.append hb1 (CleanL.cons hm hb2))

/-- the tail of the `cm = 1` loop: `n` further re-loads of `(lo, st)`, each followed by an advance
and the reversal of one step; then the last load (a `move`) and the first step -/
theorem loop_cleanL (base : List Cp) (lo0 hi0 : Nat) (hb : Outside base lo0 hi0)
    (lo : Nat) (kk : Nat) (rest : List Cp) (sn : List Cp) (h0 : lo0 ≤ lo) (h1 : lo < hi0)
    (hr : Below rest lo) :
    ∀ (n : Nat) (f : Option Nat), n + 1 ≤ kk → lo + n + 1 ≤ c.N →
    CleanL cfg (X f (c.N - (lo + n + 1)) none none (⟨lo, .ram, kk, 0⟩ :: (rest ++ base)) true dn sn)
      (((List.range n).reverse.flatMap (loopEv c lo) ++
        [evLoad false lo .ram (c.N - (lo + 1))] ++ evBase c lo (lo + 1) false).map (Ev.obs · c.N))
      (X (some (lo + 1)) (c.N - lo) none none (rest ++ base) true dn sn) := by
  intro n
  induction n with
  | zero =>
    intro f hk hN
    have hm := reload_step H false base lo0 hi0 f lo kk (lo + 1) .ram rest sn rfl
      (Nat.add_le_add_left hk lo) (Nat.lt_succ_self lo) hN hr hb h0 h1
    have hb2 := evBase_cleanL H lo false (some (lo, lo + kk)) none (rest ++ base) sn hN
      (fun h => by cases h)
    simp only [List.range_zero, List.reverse_nil, List.flatMap_nil, List.nil_append,
      List.map_cons, List.cons_append]
    exact CleanL.cons hm hb2
  | succ n ih =>
    intro f hk hN
    rw [List.range_succ, List.reverse_append, List.reverse_singleton, List.singleton_append,
      List.flatMap_cons, List.append_assoc, List.append_assoc, loopEv_append, List.map_cons,
      List.map_cons, List.map_append]
    have hc := reload_step H true base lo0 hi0 f lo kk (lo + n + 2) .ram rest sn rfl
      (Nat.add_le_add_left hk lo) (Nat.lt_add_of_pos_right (Nat.succ_pos (n + 1))) hN hr hb h0 h1
    have hp := plain_step H lo (n + 1) (lo + n + 2) (some (lo, lo + kk)) none
      ((⟨lo, .ram, kk, 0⟩ : Cp) :: (rest ++ base)) true sn (Nat.le_succ _) hN (Nat.succ_pos n)
    have hb1 := evBase_cleanL H (lo + n + 1) false none none
      ((⟨lo, .ram, kk, 0⟩ : Cp) :: (rest ++ base)) sn hN (fun h => by cases h)
    have hrest := ih (some (lo + n + 1 + 1)) (Nat.le_of_succ_le hk) (Nat.le_of_succ_le hN)
    have e1 : lo + (n + 1) + 1 = lo + n + 2 := rfl
    have e2 : lo + (n + 1) = lo + n + 1 := rfl
    rw [e1]
    rw [e2] at hp
    refine CleanL.cons hc (CleanL.cons hp (CleanL.append
      (x' := X (some (lo + n + 1 + 1)) (c.N - (lo + n + 1)) none none
        ((⟨lo, .ram, kk, 0⟩ : Cp) :: (rest ++ base)) true dn sn) ?_ ?_))
    · exact hb1
    · rw [← List.append_assoc]
      exact hrest

end blocks

def rankR (K : Nat) : Nat := if K = 0 then 2 else 4
def rankA (K cm : Nat) : Nat := if K = 0 then (if cm ≤ 1 then 0 else 1) else 3

theorem Inv_down (c : HCtx) (K cm : Nat) (L : List Cp) (h : Inv c K cm L) (hK : K ≠ 0) :
    Inv c 0 c.c0 L := by
  unfold Inv at h ⊢
  rw [if_neg hK] at h
  rw [if_pos rfl]
  omega

theorem Inv_one (c : HCtx) (cm : Nat) (L : List Cp) (h : Inv c 0 cm L) (hcm : 1 ≤ cm) :
    Inv c 0 1 L := by
  unfold Inv at h ⊢
  rw [if_pos rfl] at h ⊢
  omega

theorem Inv_ram (c : HCtx) (K cm : Nat) (L : List Cp) (h : Inv c K cm L) (hc0 : 1 ≤ c.c0)
    (hcm : K = 0 → 1 ≤ cm) :
    countSt L .ram + 1 ≤ c.c0 ∧ countSt L .disk ≤ c.c1 := by
  unfold Inv at h
  by_cases hK : K = 0
  · rw [if_pos hK] at h; have := hcm hK; omega
  · rw [if_neg hK] at h; omega

/-- what is proved about a call of `hRs`: forward in WORK at `lo`, adjoint at `hi`, stack `rest`
(keys `< lo`) ⟶ adjoint at `lo`, same stack, by a clean LIFO run -/
def RTripleL (cfg : Cfg) (c : HCtx) (dn : Nat) (base : List Cp) (lo0 hi0 fuel : Nat) : Prop :=
  ∀ (lo hi K cm : Nat) (spine : Bool) (rest : List Cp) (wi wd : Option (Nat × Nat)) (sn : List Cp),
    4 * (hi - lo) + rankR K ≤ fuel → lo < hi → hi ≤ c.N → lo0 ≤ lo → hi ≤ hi0 →
    (spine = true → hi = c.N) → K ≤ 1 → (K = 0 → 1 ≤ cm) → Below rest lo →
    Inv c K cm (rest ++ base) →
    ∃ evs sn', hRs c fuel lo hi K cm spine = some evs ∧ (spine = false → sn' = sn) ∧
      CleanL cfg (X (some lo) (c.N - hi) wi wd (rest ++ base) (!spine) dn sn)
        (evs.map (Ev.obs · c.N))
        (X (some (lo + 1)) (c.N - lo) none none (rest ++ base) true dn sn')

/-- what is proved about a call of `hAs`, by a clean LIFO run; `pres`: the checkpoint `⟨lo, lvl K, kk, 0⟩` is on top
of the stack (it was just re-loaded by a `copy`) -/
def ATripleL (cfg : Cfg) (c : HCtx) (dn : Nat) (base : List Cp) (lo0 hi0 fuel : Nat) : Prop :=
  ∀ (lo hi K cm : Nat) (spine : Bool) (pending : Option Nat) (pres : Bool) (rest : List Cp)
    (kk : Nat) (wi wd : Option (Nat × Nat)) (sn : List Cp),
    4 * (hi - lo) + rankA K cm ≤ fuel → lo < hi → hi ≤ c.N → lo0 ≤ lo → hi ≤ hi0 →
    (spine = true → hi = c.N) → K ≤ 1 → 1 ≤ cm → Below rest lo →
    Inv c K cm (rest ++ base) →
    (pending = none ∨ pending = some K) →
    (pending = some K → 2 ≤ hi - lo - 1 ∧ (K = 1 → hSplit c 1 cm (hi - lo - 1) = true)) →
    (pending = none → spine = false) →
    pres = (pending.isNone && reloads c K cm (hi - lo - 1)) →
    (pres = true → hi ≤ lo + kk) →
    ∃ evs sn', hAs c fuel lo hi K cm spine pending = some evs ∧ (spine = false → sn' = sn) ∧
      CleanL cfg
        (X (some lo) (c.N - hi) wi wd ((if pres then ⟨lo, lvl K, kk, 0⟩ :: rest else rest) ++ base)
          (!spine) dn sn)
        (evs.map (Ev.obs · c.N))
        (X (some (lo + 1)) (c.N - lo) none none (rest ++ base) true dn sn')

/-- `RTripleL` without the LIFO discipline -/
def RTriple (cfg : Cfg) (c : HCtx) (dn : Nat) (base : List Cp) (lo0 hi0 fuel : Nat) : Prop :=
  ∀ (lo hi K cm : Nat) (spine : Bool) (rest : List Cp) (wi wd : Option (Nat × Nat)) (sn : List Cp),
    4 * (hi - lo) + rankR K ≤ fuel → lo < hi → hi ≤ c.N → lo0 ≤ lo → hi ≤ hi0 →
    (spine = true → hi = c.N) → K ≤ 1 → (K = 0 → 1 ≤ cm) → Below rest lo →
    Inv c K cm (rest ++ base) →
    ∃ evs sn', hRs c fuel lo hi K cm spine = some evs ∧ (spine = false → sn' = sn) ∧
      Clean cfg (X (some lo) (c.N - hi) wi wd (rest ++ base) (!spine) dn sn)
        (evs.map (Ev.obs · c.N))
        (X (some (lo + 1)) (c.N - lo) none none (rest ++ base) true dn sn')

/-- `ATripleL` without the LIFO discipline -/
def ATriple (cfg : Cfg) (c : HCtx) (dn : Nat) (base : List Cp) (lo0 hi0 fuel : Nat) : Prop :=
  ∀ (lo hi K cm : Nat) (spine : Bool) (pending : Option Nat) (pres : Bool) (rest : List Cp)
    (kk : Nat) (wi wd : Option (Nat × Nat)) (sn : List Cp),
    4 * (hi - lo) + rankA K cm ≤ fuel → lo < hi → hi ≤ c.N → lo0 ≤ lo → hi ≤ hi0 →
    (spine = true → hi = c.N) → K ≤ 1 → 1 ≤ cm → Below rest lo →
    Inv c K cm (rest ++ base) →
    (pending = none ∨ pending = some K) →
    (pending = some K → 2 ≤ hi - lo - 1 ∧ (K = 1 → hSplit c 1 cm (hi - lo - 1) = true)) →
    (pending = none → spine = false) →
    pres = (pending.isNone && reloads c K cm (hi - lo - 1)) →
    (pres = true → hi ≤ lo + kk) →
    ∃ evs sn', hAs c fuel lo hi K cm spine pending = some evs ∧ (spine = false → sn' = sn) ∧
      Clean cfg
        (X (some lo) (c.N - hi) wi wd ((if pres then ⟨lo, lvl K, kk, 0⟩ :: rest else rest) ++ base)
          (!spine) dn sn)
        (evs.map (Ev.obs · c.N))
        (X (some (lo + 1)) (c.N - lo) none none (rest ++ base) true dn sn')

/-! The recursion descends in `4 * (hi - lo) + rank`.  Calls on a shorter segment decrease the first
summand; the calls that keep the segment decrease the rank: `hR K → hA K` (`rankA_lt_rankR`),
`hR 1 → hR 0` (4 to 2), `hA 0 cm → hA 0 1` for `cm ≥ 2` (1 to 0: the `cm = 1` loop recurses no
further) and `hA 1 → hR 0` (3 to 2). -/

theorem rankA_lt_rankR (K cm : Nat) : rankA K cm < rankR K := by
  unfold rankA rankR; split_ifs <;> omega

/-- outside the `cm = 1` loop at the RAM level -/
theorem rankR_le_rankA (K cm : Nat) (h : ¬ (K = 0 ∧ cm = 1)) (hcm : 1 ≤ cm) : rankR K ≤ rankA K cm + 1 := by
  unfold rankA rankR; split_ifs <;> omega

theorem no_fuel {lo hi r : Nat} (hf : 4 * (hi - lo) + r ≤ 0) (hlt : lo < hi) : False :=
  Nat.lt_irrefl 0 (Nat.lt_of_lt_of_le (Nat.mul_pos (by decide) (Nat.sub_pos_of_lt hlt))
    (Nat.le_trans (Nat.le_add_right _ _) hf))

/-- a call on the same segment `[lo, lo + n]` with a smaller rank -/
theorem descend_rank {lo n r r' fuel : Nat} (hf : 4 * n + r ≤ fuel + 1) (hr : r' < r) :
    4 * (lo + n - lo) + r' ≤ fuel := by
  rw [Nat.add_sub_cancel_left]; omega

/-- a call on a shorter segment, where the rank may go up by less than 4 -/
theorem descend_seg {a b r r' fuel : Nat} (hf : 4 * a + r ≤ fuel + 1) (hab : b < a) (hr : r' ≤ r + 3) :
    4 * b + r' ≤ fuel := by
  omega

theorem hrev_okL {cfg : Cfg} {c : HCtx} {dn : Nat} (H : HHyp cfg c dn) (base : List Cp)
    (lo0 hi0 : Nat) (hb : Outside base lo0 hi0) :
    ∀ fuel, RTripleL cfg c dn base lo0 hi0 fuel ∧ ATripleL cfg c dn base lo0 hi0 fuel := by
  intro fuel
  induction fuel with
  | zero =>
    constructor
    · intro lo hi K cm spine rest wi wd sn hf hlt; exact (no_fuel hf hlt).elim
    · intro lo hi K cm spine pending pres rest kk wi wd sn hf hlt; exact (no_fuel hf hlt).elim
  | succ fuel ih =>
    obtain ⟨ihR, ihA⟩ := ih
    constructor
    · -- hRs
      intro lo hi K cm spine rest wi wd sn hf hlt hN hlo0 hhi0 hsp hK hcm hbelow hinv
      -- the segment by the number `l` of steps above the first
      obtain ⟨l, rfl⟩ : ∃ l, hi = lo + (l + 1) := Nat.exists_eq_add_of_lt hlt
      simp only [Nat.add_sub_cancel_left] at hf
      have hlo1 : lo < hi0 := Nat.lt_of_lt_of_le hlt hhi0
      have hAR := rankA_lt_rankR K cm
      have hl : lo + (l + 1) - lo - 1 = l := by rw [Nat.add_sub_cancel_left, Nat.add_sub_cancel]
      rw [hRs_succ, hl]
      by_cases h0 : l = 0
      · rw [if_pos h0]
        subst h0
        exact ⟨_, _, rfl, fun h => by rw [h]; rfl, evBase_cleanL H lo spine wi wd _ sn hN hsp⟩
      rw [if_neg h0, if_neg (fun h => Nat.ne_of_gt (hcm h.1) h.2 : ¬ (K = 0 ∧ cm = 0))]
      by_cases h1 : l = 1
      · rw [if_pos h1]
        subst h1
        obtain ⟨sn', hsn, hcl⟩ := unit_write_cleanL H base lo0 hi0 hb lo spine wi wd rest sn hN hsp
          hlo0 hlo1 hbelow (Inv_ram c K cm _ hinv H.c0pos hcm)
        exact ⟨_, sn', rfl, hsn, hcl⟩
      rw [if_neg h1]
      have hl2 : 2 ≤ l := (Nat.two_le_iff l).mpr ⟨h0, h1⟩
      have hpend : ∀ K', (K' = 1 → hSplit c 1 cm l = true) → some K' = some K' →
          2 ≤ lo + (l + 1) - lo - 1 ∧ (K' = 1 → hSplit c 1 cm (lo + (l + 1) - lo - 1) = true) := by
        intro K' h _
        simpa only [Nat.add_sub_cancel_left, Nat.add_sub_cancel] using ⟨hl2, h⟩
      by_cases h3 : K = 0
      · subst h3
        rw [if_pos rfl]
        obtain ⟨evs, sn', he, hsn, hcl⟩ := ihA lo (lo + (l + 1)) 0 cm spine (some 0) false rest 0 wi wd sn
          (descend_rank hf hAR)
          hlt hN hlo0 hhi0 hsp (Nat.zero_le _) (hcm rfl) hbelow hinv (Or.inr rfl)
          (hpend 0 (fun h => by cases h)) (fun h => by cases h) rfl (fun h => by cases h)
        exact ⟨evs, sn', he, hsn, hcl⟩
      rw [if_neg h3]
      obtain rfl : K = 1 := Nat.le_antisymm hK (Nat.pos_of_ne_zero h3)
      by_cases h4 : olt (oadd (some (c.w 1)) (c.tab.optp 1 l cm))
          (c.tab.opt (1 - 1) l (cv c (1 - 1))) = true
      · rw [if_pos h4]
        obtain ⟨hcm0, hsplit⟩ := H.tab l cm hl2 h4
        obtain ⟨evs, sn', he, hsn, hcl⟩ := ihA lo (lo + (l + 1)) 1 cm spine (some 1) false rest 0 wi wd sn
          (descend_rank hf hAR)
          hlt hN hlo0 hhi0 hsp (le_refl _) (Nat.pos_of_ne_zero hcm0) hbelow hinv (Or.inr rfl)
          (hpend 1 (fun _ => hsplit)) (fun h => by cases h) rfl (fun h => by cases h)
        exact ⟨evs, sn', he, hsn, hcl⟩
      · rw [if_neg h4]
        exact ihR lo (lo + (l + 1)) (1 - 1) (cv c (1 - 1)) spine rest wi wd sn
          (descend_rank hf (by decide)) hlt hN hlo0 hhi0 hsp (Nat.zero_le _)
          (fun _ => H.c0pos) hbelow (Inv_down c 1 cm _ hinv Nat.one_ne_zero)
    · -- hAs
      intro lo hi K cm spine pending pres rest kk wi wd sn hf hlt hN hlo0 hhi0 hsp hK hcm hbelow
        hinv hp hpend hpsp hpres hkk
      obtain ⟨l, rfl⟩ : ∃ l, hi = lo + (l + 1) := Nat.exists_eq_add_of_lt hlt
      have hl : lo + (l + 1) - lo - 1 = l := by rw [Nat.add_sub_cancel_left, Nat.add_sub_cancel]
      rw [Nat.add_sub_cancel_left] at hf
      rw [hl] at hpend hpres
      have hlo1 : lo < hi0 := Nat.lt_of_lt_of_le hlt hhi0
      rw [hAs_succ, if_neg (Nat.ne_of_gt hcm), hl]
      -- nothing is pending on a segment of less than three steps
      have hpn : l < 2 → pending = none := by
        intro h
        rcases hp with h' | h'
        · exact h'
        · exact absurd (hpend h').1 (Nat.not_le_of_lt h)
      by_cases h0 : l = 0
      · rw [if_pos h0]
        subst h0
        obtain rfl := hpn Nat.zero_lt_two
        obtain rfl : pres = false := by rw [hpres]; rfl
        rw [Option.isSome_none, if_neg Bool.false_ne_true]
        exact ⟨_, _, rfl, fun h => by rw [h]; rfl, evBase_cleanL H lo spine wi wd _ sn hN hsp⟩
      rw [if_neg h0]
      by_cases h1 : l = 1
      · rw [if_pos h1]
        subst h1
        obtain rfl := hpn Nat.one_lt_two
        obtain rfl := hpsp rfl
        rw [Option.isSome_none, if_neg Bool.false_ne_true]
        have hrel : reloads c K cm 1 = !decide (c.w 0 + c.rr 0 < c.rr K) := rfl
        by_cases ht : c.w 0 + c.rr 0 < c.rr K
        · rw [if_pos ht]
          have hK0 : K ≠ 0 := by rintro rfl; exact Nat.not_lt_of_le (Nat.le_add_left _ _) ht
          obtain rfl : pres = false := by rw [hpres, hrel, decide_eq_true ht]; rfl
          obtain ⟨sn', hsn, hcl⟩ := unit_write_cleanL H base lo0 hi0 hb lo false wi wd rest sn hN
            (fun h => by cases h) hlo0 hlo1 hbelow (Inv_ram c K cm _ hinv H.c0pos (fun h => absurd h hK0))
          exact ⟨_, sn', rfl, fun _ => hsn rfl, hcl⟩
        · rw [if_neg ht]
          obtain rfl : pres = true := by rw [hpres, hrel, decide_eq_false ht]; rfl
          exact ⟨_, sn, rfl, fun _ => rfl,
            unit_plain_cleanL H base lo0 hi0 hb lo (lvl K) kk wi wd rest sn (lvl_isStore K)
              (Nat.le_of_add_le_add_left (hkk rfl)) hN hlo0 hlo1 hbelow⟩
      rw [if_neg h1]
      have hl2 : 2 ≤ l := (Nat.two_le_iff l).mpr ⟨h0, h1⟩
      -- the first action writes the checkpoint at `lo` (pending), or advances from the one present
      have hfirst : ∀ j, 1 ≤ j → j ≤ l → (K = 0 ∨ hSplit c K cm l = true) → ∃ kk', j ≤ kk' ∧
          CleanL cfg
            (X (some lo) (c.N - (lo + (l + 1))) wi wd
              ((if pres then ⟨lo, lvl K, kk, 0⟩ :: rest else rest) ++ base) (!spine) dn sn)
            [Ev.obs (evFwd c lo (lo + j) (lo + (l + 1)) pending) c.N]
            (X (some (lo + j)) (c.N - (lo + (l + 1))) none none
              (⟨lo, lvl K, kk', 0⟩ :: (rest ++ base)) (!spine) dn sn) := by
        intro j hj1 hj2 hrel
        have hjl : lo + j ≤ lo + (l + 1) := Nat.add_le_add_left (Nat.le_succ_of_le hj2) lo
        have hrel' : reloads c K cm l = true := by
          by_cases hK0 : K = 0
          · subst hK0; exact reloads_zero c cm _ hl2
          · rw [reloads_pos c K cm _ hl2 hK0]; exact hrel.resolve_left hK0
        rcases hp with rfl | rfl
        · obtain rfl : pres = true := by rw [hpres, hrel']; rfl
          have hkk' := hkk rfl
          exact ⟨kk, Nat.le_of_add_le_add_left (Nat.le_trans hjl hkk'),
            plain_step H lo j (lo + (l + 1)) wi wd _ _ sn hjl hN hj1⟩
        · obtain rfl : pres = false := by rw [hpres]; rfl
          exact ⟨j, le_refl _, write_step H base lo0 hi0 K lo j (lo + (l + 1)) wi wd rest
            (!spine) sn hjl hN hj1 hbelow hb hlo0 hlo1 (lvl_budget H K cm _ lo j hinv hcm)⟩
      by_cases h2 : K = 0 ∧ cm = 1
      · -- the `cm = 1` loop
        rw [if_pos h2]
        obtain ⟨rfl, rfl⟩ := h2
        obtain ⟨l', rfl⟩ := Nat.exists_eq_add_one_of_ne_zero h0
        rw [hAs_loop_body c lo l' spine pending _ rfl]
        obtain ⟨kk', hkk', hfirst⟩ := hfirst (l' + 1) (Nat.succ_pos l') (le_refl _) (Or.inl rfl)
        have hb1 := evBase_cleanL H (lo + l' + 1) spine none none
          ((⟨lo, .ram, kk', 0⟩ : Cp) :: (rest ++ base)) sn hN hsp
        have hloop := loop_cleanL H base lo0 hi0 hb lo kk' rest
          (if spine then (⟨lo, .ram, kk', 0⟩ : Cp) :: (rest ++ base) else sn) hlo0 hlo1 hbelow
          l' (some (lo + l' + 1 + 1)) hkk' (Nat.le_of_succ_le hN)
        refine ⟨_, (if spine then (⟨lo, .ram, kk', 0⟩ : Cp) :: (rest ++ base) else sn), rfl,
          fun h => by rw [h]; rfl, ?_⟩
        rw [List.append_assoc _ _ [_], List.append_assoc _ _ (evBase c lo (lo + 1) false),
          List.append_assoc [_], List.map_append, List.map_append]
        exact CleanL.append hfirst (CleanL.append hb1 hloop)
      rw [if_neg h2]
      have hRA := rankR_le_rankA K cm h2 hcm
      by_cases h3 : hSplit c K cm l = true
      · -- a split at `lo + j`
        rw [if_pos h3]
        obtain ⟨hj1, hj2⟩ := hSplit_range c K cm l hl2
        generalize argminO (hCands c K cm l) = j at hj1 hj2 ⊢
        have hjl : j ≤ l := Nat.le_trans hj2 (Nat.sub_le l 1)
        have hlj : lo < lo + j := Nat.lt_add_of_pos_right hj1
        have hjh : lo + j < lo + (l + 1) := Nat.add_lt_add_left (Nat.lt_succ_of_le hjl) lo
        have hjN : lo + j ≤ c.N := Nat.le_trans (Nat.le_of_lt hjh) hN
        obtain ⟨kk', hkk', hfirst⟩ := hfirst j hj1 hjl (Or.inr h3)
        have hjk : lo + j ≤ lo + kk' := Nat.add_le_add_left hkk' lo
        obtain ⟨right, sn1, hright, hsn1, hcl_right⟩ := ihR (lo + j) (lo + (l + 1)) K (cm - 1) spine
          (⟨lo, lvl K, kk', 0⟩ :: rest) none none sn
          (by rw [Nat.add_sub_add_left]
              exact descend_seg hf (Nat.sub_lt (Nat.succ_pos l) hj1)
                (Nat.le_trans hRA (Nat.add_le_add_left (by decide) _)))
          hjh hN (Nat.le_trans hlo0 (Nat.le_add_right lo j)) hhi0 hsp hK
          (fun h => Nat.le_sub_one_of_lt (Nat.lt_of_le_of_ne hcm (fun e => h2 ⟨h, e.symm⟩)))
          (hbelow.cons rfl hlj) (Inv_push c K cm (rest ++ base) lo kk' hinv hcm)
        rw [hright]
        obtain ⟨left, sn2, hleft, hsn2, hcl_left⟩ := ihA lo (lo + j) K cm false none
          (reloads c K cm (j - 1)) rest kk' (some (lo, lo + kk')) none sn1
          (by rw [Nat.add_sub_cancel_left]; exact descend_seg hf (Nat.lt_succ_of_le hjl) (Nat.le_add_right _ 3))
          hlj hjN hlo0 (Nat.le_trans (Nat.le_of_lt hjh) hhi0) (fun h => by cases h) hK hcm hbelow hinv (Or.inl rfl)
          (fun h => by cases h) (fun _ => rfl) (by rw [Nat.add_sub_cancel_left]; rfl) (fun _ => hjk)
        rw [hleft]
        refine ⟨_, sn2, rfl, fun h => by rw [hsn2 rfl, hsn1 h], ?_⟩
        rw [List.append_assoc _ [_], List.append_assoc [_], List.map_append, List.map_append,
          List.map_append]
        -- the checkpoint is kept iff the left part loads it again
        exact CleanL.append hfirst (CleanL.append hcl_right (CleanL.cons
          (reload_step H (reloads c K cm (j - 1)) base lo0 hi0 _ lo kk' (lo + j) (lvl K) rest sn1
            (lvl_isStore K) hjk hlj hjN hbelow hb hlo0 hlo1) hcl_left))
      rw [if_neg h3]
      by_cases h4 : K = 0
      · subst h4
        rw [if_pos rfl]
        have hA1 : rankA 0 1 = 0 := rfl
        have hAcm : rankA 0 cm = 1 := by unfold rankA; rw [if_pos rfl, if_neg (fun h => h2 ⟨rfl, Nat.le_antisymm h hcm⟩)]
        exact ihA lo (lo + (l + 1)) 0 1 spine pending pres rest kk wi wd sn
          (descend_rank hf (by rw [hAcm, hA1]; exact Nat.zero_lt_one))
          hlt hN hlo0 hhi0 hsp (Nat.zero_le _) (le_refl _) hbelow (Inv_one c cm _ hinv hcm) hp
          (fun h => by
            simp only [Nat.add_sub_cancel_left, Nat.add_sub_cancel]
            exact ⟨(hpend h).1, fun h1 => absurd h1 Nat.zero_ne_one⟩) hpsp
          (by simp only [Nat.add_sub_cancel_left, Nat.add_sub_cancel]
              rw [hpres, reloads_zero c cm _ hl2, reloads_zero c 1 _ hl2]) hkk
      · rw [if_neg h4]
        obtain rfl : K = 1 := Nat.le_antisymm hK (Nat.pos_of_ne_zero h4)
        obtain rfl : pending = none := by
          rcases hp with h | h
          · exact h
          · exact absurd ((hpend h).2 rfl) h3
        obtain rfl : pres = false := by
          rw [hpres, reloads_pos c 1 cm _ hl2 Nat.one_ne_zero, eq_false_of_ne_true h3]
          rfl
        have hA1 : rankA 1 cm = 3 := rfl
        rw [Option.isSome_none, if_neg Bool.false_ne_true]
        exact ihR lo (lo + (l + 1)) (1 - 1) (cv c (1 - 1)) spine rest wi wd sn
          (descend_rank hf (by rw [hA1]; decide)) hlt hN hlo0 hhi0 hsp (Nat.zero_le _)
          (fun _ => H.c0pos) hbelow (Inv_down c 1 cm _ hinv Nat.one_ne_zero)

theorem hrev_ok {cfg : Cfg} {c : HCtx} {dn : Nat} (H : HHyp cfg c dn) (base : List Cp)
    (lo0 hi0 : Nat) (hb : Outside base lo0 hi0) :
    ∀ fuel, RTriple cfg c dn base lo0 hi0 fuel ∧ ATriple cfg c dn base lo0 hi0 fuel := by
  intro fuel
  obtain ⟨hR, hA⟩ := hrev_okL H base lo0 hi0 hb fuel
  constructor
  · intro lo hi K cm spine rest wi wd sn h1 h2 h3 h4 h5 h6 h7 h8 h9 h10
    obtain ⟨evs, sn', he, hsn, hcl⟩ := hR lo hi K cm spine rest wi wd sn h1 h2 h3 h4 h5 h6 h7 h8 h9 h10
    exact ⟨evs, sn', he, hsn, hcl.1⟩
  · intro lo hi K cm spine pending pres rest kk wi wd sn h1 h2 h3 h4 h5 h6 h7 h8 h9 h10 h11 h12 h13 h14 h15
    obtain ⟨evs, sn', he, hsn, hcl⟩ := hA lo hi K cm spine pending pres rest kk wi wd sn h1 h2 h3 h4 h5 h6
      h7 h8 h9 h10 h11 h12 h13 h14 h15
    exact ⟨evs, sn', he, hsn, hcl.1⟩

/-- the context `hrevolveEvs` runs the recursion in -/
def hCtxOf (N c0 c1 : Nat) (c : Costs) : HCtx :=
  { N := N, c0 := c0, c1 := c1, uf := c.uf,
    w := fun K => if K = 0 then 0 else c.wd, rr := fun K => if K = 0 then 0 else c.rd,
    tab := hoptTable (N - 1) c0 c1 0 c.wd 0 c.rd c.ub c.uf }

/-- the only fact about the cost table the acceptance proof uses -/
def TabOk (c : HCtx) : Prop :=
  ∀ l cm, 2 ≤ l →
    olt (oadd (some (c.w 1)) (c.tab.optp 1 l cm)) (c.tab.opt 0 l c.c0) = true →
    cm ≠ 0 ∧ hSplit c 1 cm l = true

theorem hrevolveEvs_eq (N c0 c1 : Nat) (c : Costs) :
    hrevolveEvs N c0 c1 c =
      match hR (hCtxOf N c0 c1 c) (4 * N + 8) 0 N 1 c1 true with
      | none => .error (.later "hrevolve")
      | some ops => .ok (resolveLoads ops ++ [⟨.endReverse, 1, N⟩]) := rfl

/-- the HRevolve stream is accepted and LIFO, given the table fact -/
theorem hrevolve_cleanL_of_tab (N c0 c1 : Nat) (c : Costs) (hN : 1 ≤ N) (hc0 : 1 ≤ c0)
    (htab : TabOk (hCtxOf N c0 c1 c)) :
    ∃ evs sn, hrevolveEvs N c0 c1 c = .ok (evs ++ [⟨.endReverse, 1, N⟩]) ∧
      CleanL (cfgHRevolve c0 c1 N) (XS.init (cfgHRevolve c0 c1 N))
        (evs.map (Ev.obs · N) ++ [⟨.endReverse, 1, N, some N, true, true⟩])
        (X (some 1) N none none [] true 1 sn) := by
  have H : HHyp (cfgHRevolve c0 c1 N) (hCtxOf N c0 c1 c) 0 :=
    { hN := rfl
      alive := ⟨by simp [cfgHRevolve], by intro k hk; simp [cfgHRevolve] at hk; omega⟩
      ram := rfl
      disk := rfl
      c0pos := hc0
      tab := htab }
  have hNe : (hCtxOf N c0 c1 c).N = N := rfl
  obtain ⟨evs, sn', hevs, _, hclean⟩ := (hrev_okL H [] 0 N (by intro cp hcp; cases hcp)
    (4 * N + 8)).1 0 N 1 c1 true [] none none []
    (by rw [Nat.sub_zero]; exact Nat.add_le_add_left (by decide) _) hN (le_refl _) (le_refl _) (le_refl _)
    (fun _ => rfl) (le_refl _) (fun h => by cases h) (by intro cp hcp; cases hcp)
    (by unfold Inv; rw [if_neg Nat.one_ne_zero]; exact ⟨rfl, Nat.le_of_eq (Nat.zero_add c1)⟩)
  have hres := resolveLoads_hR (hCtxOf N c0 c1 c) (4 * N + 8) 0 N 1 c1 true (le_refl _)
  rw [hevs] at hres
  refine ⟨evs, sn', ?_, CleanL.whole rfl rfl rfl (Or.inr rfl) (by simpa [hNe] using hclean)⟩
  rw [hrevolveEvs_eq]
  cases hr : hR (hCtxOf N c0 c1 c) (4 * N + 8) 0 N 1 c1 true with
  | none => rw [hr] at hres; cases hres
  | some ops =>
    rw [hr, Option.map_some] at hres
    cases hres
    rfl

/-- the table `hrevolveEvs` builds has the required property (`HOpt.lean`) -/
theorem tabOk_hCtxOf (N c0 c1 : Nat) (c : Costs) : TabOk (hCtxOf N c0 c1 c) := by
  intro l cm hl h
  -- stated on `hSplit` itself the unifier would unfold the table
  rw [hSplit_one]
  exact hoptTable_split (N - 1) c0 c1 0 c.wd 0 c.rd c.ub c.uf l cm hl _ h

/-- the HRevolve stream is accepted and LIFO, and its storage units hold restart data only -/
theorem hrevolve_cleanL (N c0 c1 : Nat) (c : Costs) (hN : 1 ≤ N) (hc0 : 1 ≤ c0) :
    ∃ evs sn, hrevolveEvs N c0 c1 c = .ok (evs ++ [⟨.endReverse, 1, N⟩]) ∧
      CleanL (cfgHRevolve c0 c1 N) (XS.init (cfgHRevolve c0 c1 N))
        (evs.map (Ev.obs · N) ++ [⟨.endReverse, 1, N, some N, true, true⟩])
        (X (some 1) N none none [] true 1 sn) :=
  hrevolve_cleanL_of_tab N c0 c1 c hN hc0 (tabOk_hCtxOf N c0 c1 c)

/-- `HRevolve(N, c0, c1, costs)`: the stream is accepted by the specification
executor under `cfgHRevolve c0 c1 N` (RAM ≤ `c0`, DISK ≤ `c1`, one adjoint pass), for every
`N ≥ 1`, `c0 ≥ 1`, every `c1` and every cost vector. -/
theorem hrevolve_clean (N c0 c1 : Nat) (c : Costs) (hN : 1 ≤ N) (hc0 : 1 ≤ c0) :
    ∃ evs sn, hrevolveEvs N c0 c1 c = .ok (evs ++ [⟨.endReverse, 1, N⟩]) ∧
      Clean (cfgHRevolve c0 c1 N) (XS.init (cfgHRevolve c0 c1 N))
        (evs.map (Ev.obs · N) ++ [⟨.endReverse, 1, N, some N, true, true⟩])
        (X (some 1) N none none [] true 1 sn) := by
  obtain ⟨evs, sn, hevs, hcl⟩ := hrevolve_cleanL N c0 c1 c hN hc0
  exact ⟨evs, sn, hevs, hcl.1⟩

end Ckpt
