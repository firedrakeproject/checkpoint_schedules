import CkptVerif.Proofs.HRevolveLBFull
import CkptVerif.Proofs.Disciplines
/-!
# `Lifo` implies `Lifo'` on accepted streams: the lower bound for LIFO streams

`hrevolveOptimalT_partial`: `HRevolveOptimalT` for every accepted stream that obeys the LIFO discipline
`Lifo` (`Proofs/Disciplines.lean`): each `Copy`/`Move` loads the most recently stored checkpoint that is
still stored into WORK.  Nothing else is assumed: the checkpoints may be placed in RAM and on DISK in any
order, read any number of times (`Copy` out of DISK), dropped early, …  An accepted load names a
checkpoint below the adjoint position, so the head of the stack is then the most recent ALIVE checkpoint:
the stream obeys `Lifo'`, and the bound is `hrevolveOptimalT_partial2`.

The HRevolve stream is itself accepted and LIFO (`hrevolve_cleanL`, `Proofs/HRevolveOk.lean`) and costs
the table value: it is a cost-optimal LIFO schedule (`C07_hrevolve_optimal_in_lifo`).

`exLifo'` is an accepted `Lifo'` stream that is not `Lifo`.
-/
namespace Ckpt.LB7
open Ckpt.RC Ckpt.GW Ckpt.Mean Ckpt.HLB

theorem lifo_head {x : XS} {n : Nat} {src dst : Storage}
    (h : (decide (dst = .work) &&
      (match x.cps with | cp :: _ => decide (cp.n = n ∧ cp.st = src) | [] => false)) = true) :
    dst = .work ∧ ∃ cp rest, x.cps = cp :: rest ∧ cp.n = n ∧ cp.st = src := by
  rw [Bool.and_eq_true] at h
  obtain ⟨h1, h2⟩ := h
  refine ⟨by simpa using h1, ?_⟩
  cases hc : x.cps with
  | nil => rw [hc] at h2; cases h2
  | cons cp rest =>
    rw [hc] at h2
    simp only [decide_eq_true_eq] at h2
    exact ⟨cp, rest, rfl, h2.1, h2.2⟩

theorem topAlive_of_head {cfg : Cfg} {x : XS} {n : Nat} {src : Storage} {cp : Cp} {rest : List Cp}
    (hc : x.cps = cp :: rest) (hn : cp.n = n) (hs : cp.st = src) (ha : n < cfg.N - x.r) :
    topAlive cfg x n src = true := by
  unfold topAlive
  rw [hc, List.find?_cons]
  have : aliveAt cfg x cp = true := by unfold aliveAt; rw [hn]; simpa using ha
  rw [this]
  simp [hn, hs]

theorem lifoAct'_of_lifoAct {cfg : Cfg} {x : XS} {a : Action} (hclean : actViols cfg x a = [])
    (h : lifoAct x a = true) : lifoAct' cfg x a = true := by
  cases a with
  | copy n src dst =>
    obtain ⟨hdst, cp, rest, hc, hn, hs⟩ := lifo_head h
    subst hdst
    obtain ⟨_, _, _, ha, _⟩ := load_checks (show actViols.loadViols cfg x n src .work = [] from hclean)
    simp [lifoAct', Storage.isStore, topAlive_of_head hc hn hs ha]
  | move n src dst =>
    obtain ⟨hdst, cp, rest, hc, hn, hs⟩ := lifo_head h
    subst hdst
    obtain ⟨_, _, _, ha, _⟩ := load_checks (show actViols.loadViols cfg x n src .work = [] from hclean)
    simp [lifoAct', Storage.isStore, topAlive_of_head hc hn hs ha]
  | forward _ _ _ _ _ => rfl
  | reverse _ _ _ => rfl
  | endForward => rfl
  | endReverse => rfl

theorem lifoFrom'_of_lifoFrom {cfg : Cfg} (os : List Obs) :
    ∀ (i : Nat) (x : XS), (runFrom cfg i x os).2 = [] → lifoFrom cfg x os = true →
      lifoFrom' cfg x os = true := by
  induction os with
  | nil => intro _ _ _ _; rfl
  | cons o os ih =>
    intro i x hclean hl
    rw [runFrom_snd_cons, List.append_eq_nil_iff, List.map_eq_nil_iff] at hclean
    simp only [lifoFrom, Bool.and_eq_true] at hl
    simp only [lifoFrom', Bool.and_eq_true]
    have hact : actViols cfg x o.act = [] := by
      have := hclean.1
      unfold stepViols at this
      simp only [List.append_eq_nil_iff] at this
      exact this.1.2
    exact ⟨lifoAct'_of_lifoAct hact hl.1, ih (i + 1) _ hclean.2 hl.2⟩

theorem lifo'_of_lifo {cfg : Cfg} {os : List Obs} (hclean : (run cfg os).2 = [])
    (h : Lifo cfg os) : Lifo' cfg os :=
  lifoFrom'_of_lifoFrom os 0 _ hclean h

/-- **C07 for HRevolve with DISK units, among all LIFO schedules.**  For `N ≥ 1` steps, `c0 ≥ 1` RAM
units, `c1` DISK units and any cost vector: the value of the two-level H-Revolve table (plus the first
sweep) is a lower bound for the transfer-aware cost `obsCostT` of EVERY stream of observations that
the checking executor accepts for `cfgHRevolve c0 c1 N`, that completes the adjoint calculation, whose
storage units hold restart data only, and that obeys the LIFO discipline (every `Copy`/`Move` loads
the most recently stored checkpoint still present into WORK).  This is `HRevolveOptimalT` with the
additional hypothesis `Lifo`. -/
theorem hrevolveOptimalT_partial :
    ∀ (N c0 c1 v : Nat) (c : Costs) (os : List Obs), 1 ≤ N → 1 ≤ c0 → 0 < c.uf →
      (hoptTable (N - 1) c0 c1 0 c.wd 0 c.rd c.ub c.uf).opt 1 (N - 1) c1 = some v →
      Accepted (cfgHRevolve c0 c1 N) os → Lifo (cfgHRevolve c0 c1 N) os →
      v + N * c.uf ≤ obsCostT c os := by
  intro N c0 c1 v c os hN hc0 huf hv hacc hl
  exact hrevolveOptimalT_partial2 N c0 c1 v c os hN hc0 huf hv hacc (lifo'_of_lifo hacc.1 hl)

theorem hrevolveOptimalT_partial_again :
    ∀ (N c0 c1 v : Nat) (c : Costs) (os : List Obs), 1 ≤ N → 1 ≤ c0 → 0 < c.uf →
      (hoptTable (N - 1) c0 c1 0 c.wd 0 c.rd c.ub c.uf).opt 1 (N - 1) c1 = some v →
      Accepted (cfgHRevolve c0 c1 N) os → Lifo (cfgHRevolve c0 c1 N) os →
      v + N * c.uf ≤ obsCostT c os :=
  hrevolveOptimalT_partial

/-- the full statement follows for the streams that are LIFO; what is missing is exactly the
hypothesis `Lifo` -/
theorem hrevolveOptimalT_of_lifo
    (h : ∀ (c0 c1 N : Nat) (os : List Obs), Accepted (cfgHRevolve c0 c1 N) os →
      Lifo (cfgHRevolve c0 c1 N) os) : HRevolveOptimalT := by
  intro N c0 c1 v c os hN hc0 huf hv hacc
  exact hrevolveOptimalT_partial N c0 c1 v c os hN hc0 huf hv hacc (h c0 c1 N os hacc)

/-- **C07 for HRevolve with DISK units (LIFO competitors)**: the stream of `HRevolve(N, c0, c1)` costs
no more than ANY stream that the checking executor accepts for `cfgHRevolve c0 c1 N`, that completes
the adjoint calculation, holds restart data only in its units, and obeys the LIFO discipline — measured
in the transfer-aware cost `obsCostT` (on the HRevolve stream itself `obsCostT` is `RC.cost`: it makes
no RAM → DISK transfer). -/
theorem C07_hrevolve_lifo_optimal (N c0 c1 : Nat) (c : Costs) (hN : 1 ≤ N) (hc0 : 1 ≤ c0)
    (huf : 0 < c.uf) (evs : List Ev) (h : hrevolveEvs N c0 c1 c = .ok evs) (os : List Obs)
    (hacc : Accepted (cfgHRevolve c0 c1 N) os) (hlifo : Lifo (cfgHRevolve c0 c1 N) os) :
    cost c evs ≤ obsCostT c os := by
  obtain ⟨v, hv, hc⟩ := hrevolve_cost N c0 c1 c hN hc0 evs h
  rw [hc]
  exact hrevolveOptimalT_partial N c0 c1 v c os hN hc0 huf hv hacc hlifo

/-! ### non-vacuity: the multi-read stream of `DiskCounterexamples.lean` is LIFO -/

example : Accepted (cfgHRevolve 1 1 6) cexMultiRead ∧ Lifo (cfgHRevolve 1 1 6) cexMultiRead := by
  decide +kernel

/-! ### the bound is attained by the HRevolve stream, which is LIFO (instances) -/

/-- the observations of the HRevolve stream -/
def hrObs (N c0 c1 : Nat) (c : Costs) : List Obs :=
  match hrevolveEvs N c0 c1 c with
  | .ok evs => evs.dropLast.map (Ev.obs · N) ++ [⟨.endReverse, 1, N, some N, true, true⟩]
  | .error _ => []

/-- the HRevolve stream is accepted, LIFO, and its cost is the table value plus the first sweep -/
def hrAttains (N c0 c1 : Nat) (c : Costs) : Bool :=
  decide (Accepted (cfgHRevolve c0 c1 N) (hrObs N c0 c1 c)) &&
  decide (Lifo (cfgHRevolve c0 c1 N) (hrObs N c0 c1 c)) &&
  (match (hoptTable (N - 1) c0 c1 0 c.wd 0 c.rd c.ub c.uf).opt 1 (N - 1) c1 with
   | some v => decide (obsCostT c (hrObs N c0 c1 c) = v + N * c.uf)
   | none => false)

example : hrAttains 6 1 1 ⟨1, 1, 2, 1⟩ = true := by decide +kernel
example : hrAttains 9 1 2 ⟨1, 1, 2, 1⟩ = true := by decide +kernel
example : hrAttains 9 2 1 ⟨3, 1, 5, 1⟩ = true := by decide +kernel
example : hrAttains 10 2 2 ⟨1, 2, 3, 0⟩ = true := by decide +kernel

theorem lifoFrom_noTransfer (cfg : Cfg) : ∀ (os : List Obs) (x : XS), lifoFrom cfg x os = true →
    ∀ o ∈ os, transfersToDisk o.act = false := by
  intro os
  induction os with
  | nil => intro _ _ o ho; cases ho
  | cons a os ih =>
    intro x h o ho
    simp only [lifoFrom, Bool.and_eq_true] at h
    rcases List.mem_cons.mp ho with rfl | ho'
    · cases hact : o.act with
      | copy n src dst =>
        rw [hact] at h
        simp only [lifoAct, Bool.and_eq_true, decide_eq_true_eq] at h
        simp [transfersToDisk, h.1.1]
      | move n src dst =>
        rw [hact] at h
        simp only [lifoAct, Bool.and_eq_true, decide_eq_true_eq] at h
        simp [transfersToDisk, h.1.1]
      | _ => rfl
    · exact ih _ h.2 o ho'

/-- **the HRevolve stream is an accepted LIFO stream that attains the bound**: its observations are
accepted for `cfgHRevolve c0 c1 N`, complete, hold restart data only, obey the LIFO discipline, and
their transfer-aware cost is the table value plus the first sweep — the lower bound of
`hrevolveOptimalT_partial` -/
theorem hrevolve_lifo_attains (N c0 c1 : Nat) (c : Costs) (hN : 1 ≤ N) (hc0 : 1 ≤ c0) :
    ∃ evs os v, hrevolveEvs N c0 c1 c = .ok evs ∧ os.map (·.act) = evs.map (·.act) ∧
      Accepted (cfgHRevolve c0 c1 N) os ∧ Lifo (cfgHRevolve c0 c1 N) os ∧
      (hoptTable (N - 1) c0 c1 0 c.wd 0 c.rd c.ub c.uf).opt 1 (N - 1) c1 = some v ∧
      obsCostT c os = v + N * c.uf := by
  obtain ⟨evs, sn, hevs, hcl, hlifo, hnd⟩ := hrevolve_cleanL N c0 c1 c hN hc0
  obtain ⟨v, hv, hcost⟩ := hrevolve_cost N c0 c1 c hN hc0 _ hevs
  have hacts : (evs.map (Ev.obs · N) ++ [(⟨.endReverse, 1, N, some N, true, true⟩ : Obs)]).map (·.act)
      = (evs ++ [(⟨.endReverse, 1, N⟩ : Ev)]).map (·.act) := by
    rw [List.map_append, List.map_append, List.map_map]
    rfl
  have hrun : run (cfgHRevolve c0 c1 N)
      (evs.map (Ev.obs · N) ++ [(⟨.endReverse, 1, N, some N, true, true⟩ : Obs)]) =
      (X (some 1) N none none [] true 1 sn, []) := hcl 0
  refine ⟨_, _, v, hevs, hacts, ⟨?_, ?_, hnd⟩, hlifo, hv, ?_⟩
  · rw [hrun]
  · rw [hrun]; rfl
  · rw [obsCostT_eq_obsCost c _ (lifoFrom_noTransfer _ _ _ hlifo), obsCost_eq_cost c _ _ hacts, hcost]

/-- **HRevolve is a cost-optimal LIFO schedule**: its stream is accepted and LIFO, and no accepted
LIFO stream (restart data only) is cheaper in the transfer-aware cost -/
theorem C07_hrevolve_optimal_in_lifo (N c0 c1 : Nat) (c : Costs) (hN : 1 ≤ N) (hc0 : 1 ≤ c0)
    (huf : 0 < c.uf) :
    ∃ evs os0, hrevolveEvs N c0 c1 c = .ok evs ∧ os0.map (·.act) = evs.map (·.act) ∧
      Accepted (cfgHRevolve c0 c1 N) os0 ∧ Lifo (cfgHRevolve c0 c1 N) os0 ∧
      ∀ os, Accepted (cfgHRevolve c0 c1 N) os → Lifo (cfgHRevolve c0 c1 N) os →
        obsCostT c os0 ≤ obsCostT c os := by
  obtain ⟨evs, os0, v, hevs, hacts, hacc, hlifo, hv, hcost⟩ := hrevolve_lifo_attains N c0 c1 c hN hc0
  refine ⟨evs, os0, hevs, hacts, hacc, hlifo, fun os ha hl => ?_⟩
  rw [hcost]
  exact hrevolveOptimalT_partial N c0 c1 v c os hN hc0 huf hv ha hl

/-! ### `Lifo'` is strictly weaker than `Lifo` -/

/-- N = 4, two RAM units: the checkpoint of step 1 is stored on the way back and then DELETED unused
(`Move 1 RAM → NONE`) -/
def exLifo' : List Obs :=
  [⟨.forward 0 3 true false .ram, 3, 0, some 4, false, true⟩,
   ⟨.forward 3 4 false true .work, 4, 0, some 4, false, true⟩,
   ⟨.endForward, 4, 0, some 4, false, true⟩,
   ⟨.reverse 4 3 true, 4, 1, some 4, false, true⟩,
   ⟨.copy 0 .ram .work, 0, 1, some 4, false, true⟩,
   ⟨.forward 0 1 false false .none, 1, 1, some 4, false, true⟩,
   ⟨.forward 1 2 true false .ram, 2, 1, some 4, false, true⟩,
   ⟨.forward 2 3 false true .work, 3, 1, some 4, false, true⟩,
   ⟨.reverse 3 2 true, 3, 2, some 4, false, true⟩,
   ⟨.move 1 .ram .none, 3, 2, some 4, false, true⟩,
   ⟨.copy 0 .ram .work, 0, 2, some 4, false, true⟩,
   ⟨.forward 0 1 false false .none, 1, 2, some 4, false, true⟩,
   ⟨.forward 1 2 false true .work, 2, 2, some 4, false, true⟩,
   ⟨.reverse 2 1 true, 2, 3, some 4, false, true⟩,
   ⟨.move 0 .ram .work, 0, 3, some 4, false, true⟩,
   ⟨.forward 0 1 false true .work, 1, 3, some 4, false, true⟩,
   ⟨.reverse 1 0 true, 1, 4, some 4, false, true⟩,
   ⟨.endReverse, 1, 4, some 4, true, true⟩]

theorem exLifo'_spec : Accepted (cfgHRevolve 2 1 4) exLifo' ∧ Lifo' (cfgHRevolve 2 1 4) exLifo' ∧
    ¬ Lifo (cfgHRevolve 2 1 4) exLifo' := by decide +kernel

end Ckpt.LB7

#print axioms Ckpt.LB7.lifo'_of_lifo
#print axioms Ckpt.LB7.hrevolveOptimalT_partial_again
#print axioms Ckpt.LB7.exLifo'_spec
#print axioms Ckpt.LB7.hrevolveOptimalT_partial
#print axioms Ckpt.LB7.hrevolveOptimalT_of_lifo
#print axioms Ckpt.LB7.C07_hrevolve_lifo_optimal
#print axioms Ckpt.LB7.hrevolve_lifo_attains
#print axioms Ckpt.LB7.C07_hrevolve_optimal_in_lifo
