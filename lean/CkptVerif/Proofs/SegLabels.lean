import CkptVerif.Proofs.SegWith
import CkptVerif.Spec.Exec
import Mathlib.Tactic
/-!
# Which actions and which storages a binomial segment names

Facts about the events of `segWith N σ S alloc persist fuel stored spine lo hi d = some evs`,
by `segWith_induction`, for arbitrary `σ` and `alloc`:
no event is `EndReverse`; the only storages named are `.work` and `alloc d'` with `d ≤ d'`;
there is exactly one `EndForward` if `spine`, none otherwise; the stream is not empty.
-/
namespace Ckpt

/-- the four facts at once (the induction needs them together only for convenience) -/
structure SegFacts (alloc : Nat → Storage) (spine : Bool) (d : Nat) (evs : List Ev) : Prop where
  ne_nil : evs ≠ []
  no_endReverse : ∀ e ∈ evs, e.act ≠ .endReverse
  storages : ∀ e ∈ evs, ∀ st, touches st e.act = true → st = .work ∨ ∃ d', d ≤ d' ∧ alloc d' = st
  endForward_count : evs.countP (fun e => e.act = .endForward) = if spine then 1 else 0

theorem forall_mem_unit {P : Ev → Prop} (stored spine : Bool) (ld f ef rv : Ev)
    (hld : stored = true → P ld) (hf : P f) (hef : spine = true → P ef) (hrv : P rv) :
    ∀ e ∈ (if stored then [ld] else []) ++ [f] ++ (if spine then [ef] else []) ++ [rv], P e := by
  intro e he
  simp only [List.mem_append, List.mem_singleton] at he
  rcases he with ((he | he) | he) | he
  · cases stored
    · simp at he
    · simp at he; rw [he]; exact hld rfl
  · rw [he]; exact hf
  · cases spine
    · simp at he
    · simp at he; rw [he]; exact hef rfl
  · rw [he]; exact hrv

theorem forall_mem_first {P : Ev → Prop} (stored : Bool) (cp f w : Ev)
    (hcp : stored = true → P cp) (hf : stored = true → P f) (hw : stored = false → P w) :
    ∀ e ∈ (if stored then [cp, f] else [w]), P e := by
  intro e he
  cases stored
  · rw [List.mem_singleton.1 he]; exact hw rfl
  · rcases List.mem_cons.1 he with rfl | he
    · exact hcp rfl
    · rw [List.mem_singleton.1 he]; exact hf rfl

theorem segFacts_unit (alloc : Nat → Storage) (persist stored spine : Bool) (lo hi d r : Nat) :
    SegFacts alloc spine d
      ((if stored then
          [(⟨if persist ∧ d = 0 then .copy lo (alloc d) .work else .move lo (alloc d) .work, lo, r⟩ : Ev)]
        else [])
        ++ [⟨.forward lo hi false true .work, hi, r⟩]
        ++ (if spine then [⟨.endForward, hi, r⟩] else [])
        ++ [⟨.reverse hi lo true, hi, r + 1⟩]) := by
  have hload : ∀ c : Prop, ∀ [Decidable c],
      (if c then Action.copy lo (alloc d) .work else Action.move lo (alloc d) .work) ≠ .endReverse ∧
      (if c then Action.copy lo (alloc d) .work else Action.move lo (alloc d) .work) ≠ .endForward := by
    intro c _; by_cases h : c <;> simp [h]
  have hload2 : ∀ (c : Prop) [Decidable c] (st : Storage),
      touches st (if c then Action.copy lo (alloc d) .work else Action.move lo (alloc d) .work) = true →
      st = .work ∨ alloc d = st := by
    intro c _ st; by_cases h : c <;> simp [h, touches] <;> tauto
  refine ⟨by simp, ?_, ?_, ?_⟩
  · apply forall_mem_unit
    · intro _; exact (hload _).1
    · simp
    · intro _; simp
    · simp
  · apply forall_mem_unit (P := fun e => ∀ st, touches st e.act = true →
        st = .work ∨ ∃ d', d ≤ d' ∧ alloc d' = st)
    · intro _ st ht
      rcases hload2 _ st ht with h' | h'
      · exact .inl h'
      · exact .inr ⟨d, le_refl _, h'⟩
    · intro st ht; simp [touches] at ht; exact .inl ht.symm
    · intro _ st ht; simp [touches] at ht
    · intro st ht; simp [touches] at ht
  · cases stored <;> cases spine <;> simp [(hload _).2]

/-- what holds of every action a segment can emit holds of all actions of its stream -/
theorem GW.segWith_forall {P : Action → Prop} (N : Nat) (σ : Nat → Nat → Option Nat) (S : Nat)
    (alloc : Nat → Storage) (persist : Bool)
    (hload : ∀ lo d, P (.copy lo (alloc d) .work) ∧ P (.move lo (alloc d) .work))
    (hwork : ∀ lo hi wa, P (.forward lo hi false wa .work))
    (hstore : ∀ lo hi d, P (.forward lo hi true false (alloc d)))
    (hef : P .endForward) (hrev : ∀ hi lo, P (.reverse hi lo true)) :
    ∀ (fuel : Nat) (stored spine : Bool) (lo hi d : Nat) (evs : List Ev),
      segWith N σ S alloc persist fuel stored spine lo hi d = some evs → ∀ e ∈ evs, P e.act := by
  refine segWith_induction N σ S alloc persist (motive := fun _ _ _ _ _ evs => ∀ e ∈ evs, P e.act)
    (fun stored spine lo d => ?_) (fun stored spine lo hi d a right left _ _ R L => ?_)
  · refine forall_mem_unit (P := fun e => P e.act) stored spine _ _ _ _ (fun _ => ?_) (hwork _ _ _)
      (fun _ => hef) (hrev _ _)
    show P (if persist = true ∧ d = 0 then _ else _)
    split
    · exact (hload lo d).1
    · exact (hload lo d).2
  · intro e he
    rcases List.mem_append.1 he with he | he
    · rcases List.mem_append.1 he with he | he
      · exact forall_mem_first (P := fun e => P e.act) stored _ _ _ (fun _ => (hload lo d).1)
          (fun _ => hwork _ _ _) (fun _ => hstore _ _ _) e he
      · exact R e he
    · exact L e he

theorem segWith_facts (N : Nat) (σ : Nat → Nat → Option Nat) (S : Nat) (alloc : Nat → Storage)
    (persist : Bool) : ∀ (fuel : Nat) (stored spine : Bool) (lo hi d : Nat) (evs : List Ev),
      segWith N σ S alloc persist fuel stored spine lo hi d = some evs →
      SegFacts alloc spine d evs := by
  refine segWith_induction N σ S alloc persist (motive := fun _ spine _ _ d evs => SegFacts alloc spine d evs)
    (fun stored spine lo d => segFacts_unit alloc persist stored spine lo (lo + 1) d _)
    (fun stored spine lo hi d a right left _ _ R L => ⟨?_, ?_, ?_, ?_⟩)
  · intro hnil
    simp only [List.append_eq_nil_iff] at hnil
    exact L.ne_nil hnil.2
  · intro e he
    rcases List.mem_append.1 he with he | he
    · rcases List.mem_append.1 he with he | he
      · exact forall_mem_first (P := fun e => e.act ≠ .endReverse) stored _ _ _
          (fun _ h => by cases h) (fun _ h => by cases h) (fun _ h => by cases h) e he
      · exact R.no_endReverse e he
    · exact L.no_endReverse e he
  · intro e he st ht
    rcases List.mem_append.1 he with he | he
    · rcases List.mem_append.1 he with he | he
      · -- the checkpoint at `lo` names `alloc d`, the plain advance names `WORK`
        revert st
        refine forall_mem_first (P := fun e => ∀ st, touches st e.act = true →
          st = .work ∨ ∃ d', d ≤ d' ∧ alloc d' = st) stored _ _ _ (fun _ st ht => ?_)
          (fun _ st ht => ?_) (fun _ st ht => ?_) e he
        · simp [touches] at ht
          rcases ht with ht | ht
          · exact .inr ⟨d, le_refl _, ht⟩
          · exact .inl ht.symm
        · simp [touches] at ht; exact .inl ht.symm
        · simp [touches] at ht; exact .inr ⟨d, le_refl _, ht⟩
      · rcases R.storages e he st ht with h' | ⟨d', hd', h'⟩
        · exact .inl h'
        · exact .inr ⟨d', by omega, h'⟩
    · exact L.storages e he st ht
  · rw [List.countP_append, List.countP_append, R.endForward_count, L.endForward_count]
    cases stored <;> simp

variable {N : Nat} {σ : Nat → Nat → Option Nat} {S : Nat} {alloc : Nat → Storage} {persist : Bool}
  {fuel : Nat} {stored spine : Bool} {lo hi d : Nat} {evs : List Ev}

theorem segWith_no_endReverse (h : segWith N σ S alloc persist fuel stored spine lo hi d = some evs) :
    ∀ e ∈ evs, e.act ≠ .endReverse :=
  (segWith_facts N σ S alloc persist fuel stored spine lo hi d evs h).no_endReverse

/-- a RAM/DISK storage named by the stream is the label of a stack position `d' ≥ d` -/
theorem segWith_touches (h : segWith N σ S alloc persist fuel stored spine lo hi d = some evs)
    (e : Ev) (he : e ∈ evs) (st : Storage) (hst : st = .ram ∨ st = .disk)
    (ht : touches st e.act = true) : ∃ d', d ≤ d' ∧ alloc d' = st := by
  rcases (segWith_facts N σ S alloc persist fuel stored spine lo hi d evs h).storages e he st ht
    with h' | h'
  · rcases hst with rfl | rfl <;> cases h'
  · exact h'

/-- the same for all storages: working storage is the only other one named -/
theorem segWith_touches' (h : segWith N σ S alloc persist fuel stored spine lo hi d = some evs)
    (e : Ev) (he : e ∈ evs) (st : Storage) (ht : touches st e.act = true) :
    st = .work ∨ ∃ d', d ≤ d' ∧ alloc d' = st :=
  (segWith_facts N σ S alloc persist fuel stored spine lo hi d evs h).storages e he st ht

theorem segWith_endForward_count
    (h : segWith N σ S alloc persist fuel stored spine lo hi d = some evs) :
    evs.countP (fun e => e.act = .endForward) = if spine then 1 else 0 :=
  (segWith_facts N σ S alloc persist fuel stored spine lo hi d evs h).endForward_count

theorem segWith_no_endForward
    (h : segWith N σ S alloc persist fuel stored false lo hi d = some evs) :
    ∀ e ∈ evs, e.act ≠ .endForward := by
  have := segWith_endForward_count h
  simp only [Bool.false_eq_true, if_false, List.countP_eq_zero, decide_eq_true_eq] at this
  exact this

theorem segWith_ne_nil (h : segWith N σ S alloc persist fuel stored spine lo hi d = some evs) :
    evs ≠ [] :=
  (segWith_facts N σ S alloc persist fuel stored spine lo hi d evs h).ne_nil

/-- non-vacuity -/
example : (segWith 4 (fun m _ => some (m / 2)) 2 (fun d => if d = 0 then .disk else .ram)
    false 4 false true 0 4 0).isSome = true := by decide

end Ckpt

section AxiomCheck
open Ckpt
#print axioms segWith_facts
#print axioms segWith_no_endReverse
#print axioms segWith_touches
#print axioms segWith_endForward_count
#print axioms segWith_ne_nil
end AxiomCheck
