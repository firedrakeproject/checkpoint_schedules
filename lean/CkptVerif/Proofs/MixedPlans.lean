import CkptVerif.Proofs.MixedCost
import CkptVerif.Proofs.Plans
/-!
# Plans for the mixed problem: the potential behind the lower bound C06

`Proofs/Plans.lean` read with the price `mP m k = optimal_steps_mixed(m, k)` of a base with `k` units
and a gap of `m` steps, dependency items allowed.  `Proofs/MixedLowerBound.lean` instantiates the
lemmas `reach_*` with the checking executor.
-/
namespace Ckpt.MX

/-- price of one item: stored dependency data are free, a base with `k` units costs `mP len k` -/
def price (d : Bool) (len k : Nat) : Nat := if d then 0 else mP len k

/-- price of reversing `[b_1, a)` tiled by the items, the first one disposing of `k` units -/
def Xi : Nat → List (Nat × Bool) → Nat → Nat
  | _, [], _ => 0
  | k, q :: rest, a => price q.2 (nxt rest a - q.1) k + Xi (k - 1) rest a

def planVal (s a : Nat) (P : List It) : Nat := fee P + Xi s (P.map It.shape) a

/-- some plan costs at most `n` -/
def Reach (s : Nat) (R : List (Nat × Bool)) (a n : Nat) : Prop :=
  ∃ P, PlanOk s R a P ∧ planVal s a P ≤ n

/-! ## `mP` is a price function, and the notions above are the generic ones at `mP` -/

theorem mP_priceHyp : Plans.PriceHyp mP True where
  one := mP_one
  anti := mP_anti
  split := mP_rec
  dep := fun _ => mP_dep

theorem Xi_eq (k : Nat) (B : List (Nat × Bool)) (a : Nat) : Xi k B a = Plans.Xi mP k B a := by
  induction B generalizing k with
  | nil => rfl
  | cons q rest ih =>
    show price q.2 _ k + Xi (k - 1) rest a = Plans.price mP q.2 _ k + Plans.Xi mP (k - 1) rest a
    rw [ih]
    rfl

theorem Reach_iff {s : Nat} {R : List (Nat × Bool)} {a n : Nat} :
    Reach s R a n ↔ Plans.Reach mP s R a n := by
  unfold Reach Plans.Reach planVal Plans.planVal
  simp only [Xi_eq]

/-! ## the statements for `mP` -/

/-- **Merging**: everything between the item `p` and the base `y`, and `y` itself, is absorbed into
`p`, which becomes (or stays) a base. -/
theorem Xi_merge (pre : List (Nat × Bool)) (k : Nat) (p : Nat × Bool) (post : List (Nat × Bool))
    (a : Nat) : ∀ (mid : List (Nat × Bool)) (y : Nat),
    XiOk k (pre ++ p :: (mid ++ (y, false) :: post)) a →
    XiOk k (pre ++ (p.1, false) :: post) a ∧
      Xi k (pre ++ (p.1, false) :: post) a + p.1 ≤
        y + Xi k (pre ++ p :: (mid ++ (y, false) :: post)) a := by
  intro mid y h
  rw [Xi_eq, Xi_eq]
  exact Plans.Xi_merge mP_priceHyp pre k p post a mid y (fun _ _ _ => trivial) h

/-- nothing left to reverse -/
theorem reach_final (s : Nat) (R : List (Nat × Bool)) : Reach s R 0 0 :=
  Reach_iff.2 (Plans.reach_final s R)

/-- fewer resources: plans stay plans -/
theorem reach_sub {s : Nat} {R R' : List (Nat × Bool)} {a n : Nat} (hR : ∀ r ∈ R', r ∈ R)
    (h : Reach s R' a n) : Reach s R a n :=
  Reach_iff.2 (Plans.reach_sub hR (Reach_iff.1 h))

/-- at the very beginning only the state `0` is available: the plan is one base with all `s` units -/
theorem reach_init {s N n : Nat} (hN : 1 ≤ N) (h : Reach s [(0, false)] N n) : mP N s ≤ n :=
  Plans.reach_init hN (Reach_iff.1 h)

/-- **A forward** from an available state `f` to `f'` (whether or not a restart checkpoint is written
at `f`): afterwards the resources `R ∪ {f'}` (at most) are available. -/
theorem reach_fwd {s : Nat} {R R' : List (Nat × Bool)} {a n f f' : Nat} (hf : (f, false) ∈ R)
    (hlt : f < f') (hR : ∀ r ∈ R', r = (f', false) ∨ r ∈ R) (h : Reach s R' a n) :
    Reach s R a (n + (f' - f)) :=
  Reach_iff.2 (Plans.reach_fwd mP_priceHyp hf hlt hR (fun _ _ _ => trivial) (Reach_iff.1 h))

/-- **A forward over one step that stores its adjoint dependency data** in a unit: afterwards the
resources `R ∪ {state f+1, data of step f}` (at most) are available, and no state at `f`. -/
theorem reach_fwd_dep {s : Nat} {R R' : List (Nat × Bool)} {a n f : Nat} (hf : (f, false) ∈ R)
    (hR : ∀ r ∈ R', r = (f + 1, false) ∨ r = (f, true) ∨ r ∈ R) (hnf : (f, false) ∉ R')
    (h : Reach s R' a n) : Reach s R a (n + 1) :=
  Reach_iff.2 (Plans.reach_fwd_dep mP_priceHyp hf hR hnf (fun _ _ _ => trivial) (Reach_iff.1 h))

/-- **The top step**: with `d = false`, the state `a - 1` is available, the step `a - 1 → a` is taken
(one forward step) and reversed; with `d = true`, the stored data of that step are loaded instead.
Afterwards at most the resources `C` (held in units) are available below `a - 1`. -/
theorem reach_top {s : Nat} {R R' C : List (Nat × Bool)} {a n : Nat} (d : Bool) (ha : 1 ≤ a)
    (hmem : (a - 1, d) ∈ R) (hC : C.length + (if d = true then 1 else 0) ≤ s)
    (h1 : ∀ r ∈ R', r.1 < a - 1 → r ∈ C) (h2 : ∀ r ∈ C, r ∈ R)
    (h : Reach s R' (a - 1) n) : Reach s R a (n + (if d = true then 0 else 1)) :=
  Reach_iff.2 (Plans.reach_top mP_priceHyp d ha hmem hC h1 h2 (Reach_iff.1 h))

end Ckpt.MX
