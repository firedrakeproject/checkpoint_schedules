import CkptVerif.Model.BasicIter
import CkptVerif.Proofs.CanonObs
/-!
# The iterative twins of basic_schedules.py refine to the `Sched` models

`singleMemoryIter`, `singleDiskIter mv`, `noneIter` (literal transcriptions of the generators after
finalisation, `Model/BasicIter.lean`) yield exactly `first N` followed by `again N` for each further
adjoint calculation of `singleMemorySched`, `singleDiskSched mv`, `noneSched`; they never raise.
-/
namespace Ckpt.On

/-- `k` further adjoint calculations from a state with `_r = 0` -/
theorem smLoop_passes (N : Nat) (hN : 1 ≤ N) (extra : Nat) :
    ∀ (k n : Nat) (ex : Bool) (out : List Ev),
      smLoop N (2 * k + 1 + extra) k ⟨n, 0, ex, out⟩
        = .ok ⟨n, 0, ex, out ++ (List.replicate k [(⟨.reverse N 0 false, n, N⟩ : Ev), ⟨.endReverse, n, 0⟩]).flatten⟩ := by
  intro k
  induction k with
  | zero =>
    intro n ex out
    rw [show 2 * 0 + 1 + extra = extra + 1 by omega]
    simp [smLoop]
  | succ k ih =>
    intro n ex out
    have e : 2 * (k + 1) + 1 + extra = (2 * k + 1 + extra) + 1 + 1 := by omega
    have hN0 : ¬ N = 0 := by omega
    rw [e]
    simp only [smLoop, Nat.add_one_ne_zero, if_false, if_true, BIter.yield, hN0, Nat.add_sub_cancel]
    rw [ih]
    simp [List.replicate_succ]

theorem singleMemoryIter_eq (N k fuel : Nat) (hN : 1 ≤ N) (hk : 1 ≤ k) (hfuel : 2 * k + 1 ≤ fuel) :
    singleMemoryIter N k fuel = singleMemorySched.stream N k := by
  obtain ⟨extra, rfl⟩ := Nat.exists_eq_add_of_le hfuel
  obtain ⟨k', rfl⟩ := Nat.exists_eq_add_of_le hk
  simp only [singleMemoryIter, BIter.start, BIter.yield, smLoop_passes N hN extra]
  simp [Sched.stream, singleMemorySched, Nat.add_comm 1 k', List.replicate_succ]

/-- one iteration of lines 134-145: the adjoint of step `j` -/
theorem sdWhile_step (move : Bool) (N fuel j n : Nat) (ex : Bool) (out : List Ev) (hj : j + 1 ≤ N) :
    sdWhile move N (fuel + 1) ⟨n, N - (j + 1), ex, out⟩
      = sdWhile move N fuel ⟨j, N - j, ex, out ++
          [⟨if move then .move j .disk .work else .copy j .disk .work, j, N - (j + 1)⟩,
           ⟨.reverse (j + 1) j true, j, N - j⟩]⟩ := by
  have h1 : N - (j + 1) < N := by omega
  have h2 : N - (N - (j + 1)) = j + 1 := by omega
  rw [sdWhile, if_pos h1]
  cases move <;> simp [BIter.yield, h2]

/-- lines 134-145 reverse the steps `j-1, …, 0` -/
theorem sdWhile_body (move : Bool) (N : Nat) (extra : Nat) :
    ∀ (j n : Nat) (ex : Bool) (out : List Ev), j ≤ N →
      sdWhile move N (j + 1 + extra) ⟨n, N - j, ex, out⟩
        = .ok ⟨if j = 0 then n else 0, N, ex, out ++ singleDiskBody move N j⟩ := by
  intro j
  induction j with
  | zero =>
    intro n ex out _
    rw [show 0 + 1 + extra = extra + 1 by omega]
    simp [sdWhile, singleDiskBody]
  | succ j ih =>
    intro n ex out hj
    rw [show j + 1 + 1 + extra = (j + 1 + extra) + 1 by omega, sdWhile_step move N _ j n ex out hj,
      ih j ex _ (by omega), singleDiskBody]
    by_cases hj0 : j = 0 <;> simp [hj0]

theorem sdLoop_copy (N : Nat) (hN : 1 ≤ N) (extra : Nat) :
    ∀ (k n : Nat) (ex : Bool) (out : List Ev),
      sdLoop false N (N + k + 1 + extra) k ⟨n, 0, ex, out⟩
        = .ok ⟨if k = 0 then n else 0, 0, ex,
            out ++ (List.replicate k (singleDiskPass false N N)).flatten⟩ := by
  intro k
  induction k with
  | zero =>
    intro n ex out
    rw [show N + 0 + 1 + extra = (N + extra) + 1 by omega]
    simp [sdLoop]
  | succ k ih =>
    intro n ex out
    have e : N + (k + 1) + 1 + extra = (N + k + 1 + extra) + 1 := by omega
    have e2 : N + k + 1 + extra = N + 1 + (k + extra) := by omega
    have hw := sdWhile_body false N (k + extra) N n ex out (le_refl _)
    rw [Nat.sub_self] at hw
    have hN0 : ¬ N = 0 := by omega
    rw [e]
    simp only [sdLoop, Nat.add_one_ne_zero, if_false]
    rw [e2, hw, ← e2]
    simp only [gt_iff_lt, Nat.lt_irrefl, if_false, Bool.false_eq_true, BIter.yield, hN0, Nat.add_sub_cancel]
    rw [ih]
    simp [List.replicate_succ, singleDiskPass_eq]

theorem singleDiskIter_copy_eq (N k fuel : Nat) (hN : 1 ≤ N) (hk : 1 ≤ k) (hfuel : N + k + 1 ≤ fuel) :
    singleDiskIter false N k fuel = (singleDiskSched false).stream N k := by
  obtain ⟨extra, rfl⟩ := Nat.exists_eq_add_of_le hfuel
  obtain ⟨k', rfl⟩ := Nat.exists_eq_add_of_le hk
  simp only [singleDiskIter, BIter.start, BIter.yield, sdLoop_copy N hN extra]
  simp [Sched.stream, singleDiskSched, Nat.add_comm 1 k', List.replicate_succ]

theorem singleDiskIter_move_eq (N k fuel : Nat) (hN : 1 ≤ N) (hk : 1 ≤ k) (hfuel : N + 2 ≤ fuel) :
    singleDiskIter true N k fuel = (singleDiskSched true).stream N 1 := by
  obtain ⟨extra, rfl⟩ := Nat.exists_eq_add_of_le hfuel
  have e : N + 2 + extra = (N + 1 + extra) + 1 := by omega
  have hw := sdWhile_body true N extra N N false [⟨.endForward, N, 0⟩] (le_refl _)
  rw [Nat.sub_self] at hw
  have hk0 : ¬ k = 0 := by omega
  have hN0 : ¬ N = 0 := by omega
  rw [e]
  simp only [singleDiskIter, BIter.start, BIter.yield, sdLoop, hk0, if_false, List.nil_append, hw]
  simp [Sched.stream, singleDiskSched, singleDiskPass_eq, hN0]

theorem sdLoop_move_exhausted (N k extra : Nat) (hk : 1 ≤ k) (s : BIter) (hs : s.r = 0) :
    ∃ s', sdLoop true N (N + 1 + extra + 1) k s = .ok s' ∧ s'.exhausted = true := by
  obtain ⟨n, r, ex, out⟩ := s
  simp only at hs
  subst hs
  have hw := sdWhile_body true N extra N n ex out (le_refl _)
  rw [Nat.sub_self] at hw
  have hk0 : ¬ k = 0 := by omega
  refine ⟨_, by simp only [sdLoop, hk0, if_false, hw, gt_iff_lt, Nat.lt_irrefl, if_true]; rfl, ?_⟩
  simp [BIter.yield]

theorem noneIter_eq (N : Nat) : noneIter N = noneSched.stream N 1 := by
  simp [noneIter, noneIterState, BIter.start, BIter.yield, Sched.stream, noneSched]

theorem noneIter_exhausted (N : Nat) : (noneIterState N).exhausted = true := rfl

theorem singleMemoryIter_eq_default (N k : Nat) (hN : 1 ≤ N) (hk : 1 ≤ k) :
    singleMemoryIter N k (singleMemoryIterFuel k) = singleMemorySched.stream N k :=
  singleMemoryIter_eq N k _ hN hk (le_refl _)

theorem singleDiskIter_eq_default (move : Bool) (N k : Nat) (hN : 1 ≤ N) (hk : 1 ≤ k) :
    singleDiskIter move N k (singleDiskIterFuel N k)
      = (singleDiskSched move).stream N (if move then 1 else k) := by
  cases move
  · exact singleDiskIter_copy_eq N k _ hN hk (by unfold singleDiskIterFuel; omega)
  · exact singleDiskIter_move_eq N k _ hN hk (by unfold singleDiskIterFuel; omega)

example : singleDiskIter false 5 3 10 = (singleDiskSched false).stream 5 3 :=
  singleDiskIter_copy_eq 5 3 10 (by omega) (by omega) (by omega)
example : singleMemoryIter 5 3 7 = singleMemorySched.stream 5 3 :=
  singleMemoryIter_eq 5 3 7 (by omega) (by omega) (by omega)

end Ckpt.On
