import CkptVerif.Proofs.MixedSegLemmas
import CkptVerif.Proofs.Cost
import Mathlib.Tactic
/-!
# The number of forward steps of the Mixed stream, and storage relabelling

`mixed_fwdSteps`: the stream of `MixedCheckpointSchedule(N, s, st)` advances the forward by
exactly `(memoCell N (clampS N s)).cost = optMixedCell N (clampS N s)` steps in total, i.e. the
value published by `optimal_steps_mixed(N, s)`.  `mseg_relabel`: the stream for DISK is the stream
for RAM with the storage label replaced.
-/
namespace Ckpt

def Ev.fwdLen (e : Ev) : Nat :=
  match e.act with
  | .forward n0 n1 _ _ _ => n1 - n0
  | _ => 0

/-- total number of forward steps of a stream: sum of `n1 - n0` over the `Forward` events -/
def fwdSteps (evs : List Ev) : Nat := (evs.map Ev.fwdLen).sum

theorem fwdSteps_nil : fwdSteps [] = 0 := rfl

theorem fwdSteps_cons (e : Ev) (evs : List Ev) : fwdSteps (e :: evs) = e.fwdLen + fwdSteps evs := by
  simp [fwdSteps]

theorem fwdSteps_append (as bs : List Ev) : fwdSteps (as ++ bs) = fwdSteps as + fwdSteps bs := by
  simp [fwdSteps]

/-- the forward steps of a segment are the planner's cost for it -/
theorem mseg_fwdSteps (N : Nat) (plan : Planner) (st : Storage) (hp : PlanHyp plan)
    (hcost : PlanCost plan) :
    ∀ (fuel : Nat) (spine reuse : Bool) (lo hi k : Nat),
      hi - lo ≤ fuel → lo < hi → (hi - lo = 1 ∨ 1 ≤ k) →
      (reuse = true → ∃ c, plan (hi - lo) k = some c ∧ c.kind = stWriteIcs) →
      ∃ evs c, mseg N plan st fuel lo hi k spine reuse = some evs ∧
        plan (hi - lo) k = some c ∧ fwdSteps evs = c.cost := by
  intro fuel
  induction fuel with
  | zero => intro _ _ lo hi _ h1 h2; exact absurd (Nat.sub_pos_of_lt h2) (Nat.not_lt.2 h1)
  | succ fuel ih =>
    intro spine reuse lo hi k hfuel hlt hvalid hreuse
    -- the reuse flag is only ever set for a WRITE_ICS cell
    have hru : ∀ c, plan (hi - lo) k = some c → c.kind ≠ stWriteIcs → reuse = false := by
      intro c hc hck
      cases reuse with
      | false => rfl
      | true =>
        obtain ⟨c', hc', hk'⟩ := hreuse rfl
        rw [hc] at hc'
        cases hc'
        exact absurd hk' hck
    by_cases hbase : hi = lo + 1
    · subst hbase
      obtain ⟨c, hc, hck, hcl⟩ := hp.one k
      have hm : lo + 1 - lo = 1 := Nat.add_sub_cancel_left ..
      obtain rfl := hru c (by rw [hm]; exact hc) (by rw [hck]; decide)
      have heq := mseg_FR N plan st fuel lo (lo + 1) k spine c (by rw [hm]; exact hc) hck hm hcl
      refine ⟨_, c, heq, by rw [hm]; exact hc, ?_⟩
      rw [hcost.one k c hc, fwdSteps_append, fwdSteps_append]
      cases spine <;>
        simp only [Bool.false_eq_true, if_true, if_false, fwdSteps_cons, fwdSteps_nil, Ev.fwdLen,
          Nat.add_sub_cancel_left, Nat.add_zero]
    · have hm2 : 2 ≤ hi - lo :=
        Nat.le_sub_of_add_le (by rw [Nat.add_comm]; exact Nat.lt_of_le_of_ne hlt (Ne.symm hbase))
      have hk1 : 1 ≤ k := hvalid.resolve_left fun h => absurd (h ▸ hm2) (by decide)
      have hk0 : k ≠ 0 := Nat.pos_iff_ne_zero.1 hk1
      clear hvalid hbase
      obtain ⟨c, hc, hcase⟩ := hp.big (hi - lo) k hm2 hk1
      rcases hcase with ⟨hck, hcl, hk2⟩ | ⟨hck, hl2, hlm, hlone⟩
      · -- WRITE_ADJ_DEPS
        obtain rfl := hru c hc (by rw [hck]; decide)
        obtain ⟨f1, f2, _, _⟩ := RC.seg_cut (Nat.le_refl 1) hm2 hfuel
        obtain ⟨right, cr, hright, hcr, hfr⟩ := ih spine false (lo + 1) hi (k - 1) f1 f2
          (by
            rw [Nat.sub_add_eq]
            rcases Nat.eq_or_lt_of_le hm2 with h | h
            · exact Or.inl (by rw [← h])
            · exact Or.inr (Nat.le_sub_one_of_lt (hk2 h)))
          (fun h => by cases h)
        have heq := mseg_WAD N plan st fuel lo hi k spine c right hc hck hcl hk0 hm2 hright
        obtain ⟨c', hc', hcc⟩ := hcost.wad (hi - lo) k c hm2 hk1 hc hck
        rw [Nat.sub_add_eq, hc'] at hcr
        cases hcr
        refine ⟨_, c, heq, hc, ?_⟩
        rw [hcc, fwdSteps_append, fwdSteps_append, hfr]
        simp only [fwdSteps_cons, fwdSteps_nil, Ev.fwdLen, Nat.add_sub_cancel_left, Nat.add_zero]
      · -- WRITE_ICS
        have hln : c.len < hi - lo := Nat.lt_of_le_sub_one (Nat.lt_of_lt_of_le Nat.two_pos hm2) hlm
        obtain ⟨c2, hc2, _⟩ := hp.big c.len k hl2 hk1
        obtain ⟨f1, f2, f3, f4⟩ := RC.seg_cut (Nat.le_of_lt hl2) hln hfuel
        obtain ⟨right, cr, hright, hcr, hfr⟩ := ih spine false (lo + c.len) hi (k - 1) f1 f2
          (by
            by_cases hk : k = 1
            · left
              rw [Nat.sub_add_eq, hlone hk]
              exact Nat.sub_sub_self (Nat.le_of_succ_le hm2)
            · exact Or.inr (Nat.le_sub_one_of_lt (Nat.lt_of_le_of_ne hk1 (Ne.symm hk))))
          (fun h => by cases h)
        obtain ⟨left, cl, hleft, hcl, hfl⟩ := ih false (decide (c2.kind = stWriteIcs)) lo
          (lo + c.len) k f3 f4 (Or.inr hk1)
          (by
            intro h
            refine ⟨c2, ?_, of_decide_eq_true h⟩
            rw [Nat.add_sub_cancel_left]; exact hc2)
        have heq := mseg_WICS N plan st fuel lo hi k spine reuse c c2 right left hc hck hl2 hln
          hk0 hright hc2 hleft
        obtain ⟨c1', c2', hc1', hc2', hcc⟩ := hcost.wics (hi - lo) k c hm2 hk1 hc hck
        rw [Nat.sub_add_eq, hc2'] at hcr
        rw [Nat.add_sub_cancel_left, hc1'] at hcl
        cases hcr
        cases hcl
        refine ⟨_, c, heq, hc, ?_⟩
        rw [hcc, fwdSteps_append, fwdSteps_append, fwdSteps_append, hfr, hfl, fwdSteps_cons,
          fwdSteps_cons, fwdSteps_nil]
        -- either way the first event advances `c.len` steps and the load none
        simp only [apply_ite Ev.fwdLen]
        simp only [Ev.fwdLen, ite_self, Nat.add_sub_cancel_left, Nat.add_zero]
        exact Nat.add_right_comm ..

theorem clampS_min (N s : Nat) : clampS N (min s (N - 1)) = clampS N s := by
  unfold clampS; omega

/-- forward steps of the complete stream, for any planner of the right shape -/
theorem mixed_fwdSteps_plan (plan : Planner) (hp : PlanHyp plan) (hcost : PlanCost plan)
    (N s : Nat) (st : Storage) (hN : 1 ≤ N) (hs : min 1 (N - 1) ≤ s) (evs : List Ev)
    (h : mixedEvs plan N s st = .ok evs) :
    ∃ c, plan N (min s (N - 1)) = some c ∧ fwdSteps evs = c.cost := by
  -- for `N ≥ 2` the hypothesis on `s` says `1 ≤ s`
  have hkey : N - 0 = 1 ∨ 1 ≤ min s (N - 1) := by
    rcases Nat.eq_or_lt_of_le hN with h | h
    · exact Or.inl h.symm
    · have h1 : 1 ≤ N - 1 := Nat.le_sub_one_of_lt h
      rw [min_eq_left h1] at hs
      exact Or.inr (le_min hs h1)
  obtain ⟨evs0, c, hseg, hc, hf⟩ := mseg_fwdSteps N plan st hp hcost N true false 0 N
    (min s (N - 1)) (Nat.sub_le N 0) hN hkey (fun h => by cases h)
  unfold mixedEvs at h
  rw [hseg] at h
  cases h
  refine ⟨c, hc, ?_⟩
  rw [fwdSteps_append, hf]
  simp only [fwdSteps_cons, fwdSteps_nil, Ev.fwdLen, Nat.add_zero]

/-- The Mixed schedule performs exactly the planner's number of forward steps. -/
theorem mixed_fwdSteps (N s : Nat) (st : Storage) (hN : 1 ≤ N) (hs : min 1 (N - 1) ≤ s)
    (evs : List Ev) (h : mixedEvs memoPlan N s st = .ok evs) :
    fwdSteps evs = (memoCell N (clampS N s)).cost := by
  obtain ⟨c, hc, hf⟩ := mixed_fwdSteps_plan memoPlan memoPlan_hyp memoPlan_cost N s st hN hs evs h
  rw [memoPlan_valid N (min s (N - 1)) hN (by omega), clampS_min] at hc
  cases hc
  exact hf

/-- … which is the value of `optimal_steps_mixed(N, s)`. -/
theorem mixed_fwdSteps_optMixed (N s : Nat) (st : Storage) (hN : 1 ≤ N) (hs : min 1 (N - 1) ≤ s)
    (evs : List Ev) (h : mixedEvs memoPlan N s st = .ok evs) :
    fwdSteps evs = optMixedCell N (clampS N s) := by
  rw [mixed_fwdSteps N s st hN hs evs h,
    optMixed_eq_memo_cost N (clampS N s) ((validKey_clamp_iff N s).2 ⟨hN, by omega⟩)]

theorem mixed_fwdSteps_optMixedSpec (N s : Nat) (st : Storage) (hN : 1 ≤ N)
    (hs : min 1 (N - 1) ≤ s) (evs : List Ev) (h : mixedEvs memoPlan N s st = .ok evs) :
    optMixedSpec N s = some (fwdSteps evs) := by
  rw [mixed_fwdSteps_optMixed N s st hN hs evs h]
  show (if validKey N (clampS N s) = true then some (optMixedCell N (clampS N s)) else none) = _
  rw [if_pos ((validKey_clamp_iff N s).2 ⟨hN, by omega⟩)]

def relabelAct (g : Storage → Storage) : Action → Action
  | .forward n0 n1 wi wa st => .forward n0 n1 wi wa (g st)
  | .copy n src dst => .copy n (g src) (g dst)
  | .move n src dst => .move n (g src) (g dst)
  | a => a

def relabel (g : Storage → Storage) (e : Ev) : Ev := { e with act := relabelAct g e.act }

def ramToDisk : Storage → Storage
  | .ram => .disk
  | x => x

theorem fwdLen_relabel (g : Storage → Storage) (e : Ev) : (relabel g e).fwdLen = e.fwdLen := by
  obtain ⟨a, n, r⟩ := e
  cases a <;> rfl

theorem fwdSteps_relabel (g : Storage → Storage) (evs : List Ev) :
    fwdSteps (evs.map (relabel g)) = fwdSteps evs := by
  induction evs with
  | nil => rfl
  | cons e es ih => rw [List.map_cons, fwdSteps_cons, fwdSteps_cons, ih, fwdLen_relabel]

/-- the stream for storage `g st` is the stream for `st`, relabelled (for any planner, also on
failing runs) -/
theorem mseg_relabel (g : Storage → Storage) (hg : g .work = .work) (N : Nat) (plan : Planner)
    (st : Storage) :
    ∀ (fuel lo hi k : Nat) (spine reuse : Bool),
      mseg N plan (g st) fuel lo hi k spine reuse =
        (mseg N plan st fuel lo hi k spine reuse).map (List.map (relabel g)) := by
  intro fuel
  induction fuel with
  | zero => intro lo hi k spine reuse; rfl
  | succ fuel ih =>
    intro lo hi k spine reuse
    rw [mseg, mseg]
    cases hp : plan (hi - lo) k with
    | none => rfl
    | some c =>
      simp only [ih]
      by_cases h1 : c.kind = stForwardReverse
      · rw [if_pos h1, if_pos h1]
        by_cases hg1 : hi - lo ≠ 1 ∨ c.len ≠ 1 ∨ reuse = true
        · rw [if_pos hg1]; rfl
        · rw [if_neg hg1]
          cases spine <;>
            simp only [Option.map_some, List.map_append, List.map_cons, List.map_nil, relabel,
              relabelAct, hg, Bool.false_eq_true, if_true, if_false]
      · rw [if_neg h1, if_neg h1]
        by_cases h2 : c.kind = stWriteAdjDeps
        · rw [if_pos h2, if_pos h2]
          by_cases hg1 : c.len ≠ 1 ∨ reuse = true ∨ k = 0 ∨ hi - lo < 2
          · rw [if_pos hg1, if_pos hg1]; rfl
          · rw [if_neg hg1, if_neg hg1]
            cases mseg N plan st fuel (lo + 1) hi (k - 1) spine false with
            | none => rfl
            | some right =>
              simp only [Option.map_some, List.map_append, List.map_cons, List.map_nil, relabel,
                relabelAct, hg]
        · rw [if_neg h2, if_neg h2]
          by_cases h3 : c.kind = stWriteIcs
          · rw [if_pos h3, if_pos h3]
            by_cases hg1 : c.len < 2 ∨ hi - lo ≤ c.len ∨ k = 0
            · rw [if_pos hg1, if_pos hg1]; rfl
            · rw [if_neg hg1, if_neg hg1]
              cases mseg N plan st fuel (lo + c.len) hi (k - 1) spine false with
              | none => rfl
              | some right =>
                cases plan c.len k with
                | none => rfl
                | some c2 =>
                  dsimp only [Option.map_some]
                  generalize decide (c2.kind = stWriteIcs) = b
                  cases mseg N plan st fuel lo (lo + c.len) k false b with
                  | none => rfl
                  | some left =>
                    cases reuse <;> cases b <;>
                      simp only [Option.map_some, List.map_append, List.map_cons, List.map_nil,
                        relabel, relabelAct, hg, Bool.false_eq_true, if_true, if_false]
          · rw [if_neg h3, if_neg h3]
            rfl

theorem mixedEvs_relabel (g : Storage → Storage) (hg : g .work = .work) (plan : Planner)
    (N s : Nat) (st : Storage) :
    mixedEvs plan N s (g st) = (mixedEvs plan N s st).map (List.map (relabel g)) := by
  unfold mixedEvs
  rw [mseg_relabel g hg]
  cases mseg N plan st N 0 N (min s (N - 1)) true false with
  | none => rfl
  | some evs => simp [Except.map, relabel, relabelAct]

/-- the DISK stream is the RAM stream with the label replaced … -/
theorem mixedEvs_disk (plan : Planner) (N s : Nat) :
    mixedEvs plan N s .disk = (mixedEvs plan N s .ram).map (List.map (relabel ramToDisk)) :=
  mixedEvs_relabel ramToDisk rfl plan N s .ram

/-- … hence both storages give the same number of forward steps -/
theorem mixed_fwdSteps_disk_eq_ram (plan : Planner) (N s : Nat) (er ed : List Ev)
    (hr : mixedEvs plan N s .ram = .ok er) (hd : mixedEvs plan N s .disk = .ok ed) :
    fwdSteps ed = fwdSteps er := by
  rw [mixedEvs_disk, hr] at hd
  cases hd
  exact fwdSteps_relabel _ _

end Ckpt
