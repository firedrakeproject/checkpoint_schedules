import CkptVerif.Model.NAdv
import Mathlib.Data.Nat.Choose.Basic
import Mathlib.Tactic.SplitIfs
import Mathlib.Order.Basic
/-! Facts about the model of `n_advance`: the loop invariant (the three running values are binomial
coefficients), termination within the fuel, the three branches of `nAdvance` as equations
(`nAdvance_clamp_one`, `nAdvance_full`, `nAdvance_loop` with the final choice `advPick`), and the range
of the result. -/
namespace Ckpt
open Nat

/-- exact division identity used by the loop update -/
theorem choose_step (s t : Nat) :
    (choose (s + t) t * (s + (t+1))) / (t+1) = choose (s + (t+1)) (t+1) := by
  have h := Nat.add_one_mul_choose_eq (s + t) t
  -- (s+t+1) * choose (s+t) t = choose (s+t+1) (t+1) * (t+1)
  have : choose (s + t) t * (s + (t+1)) = choose (s + (t+1)) (t+1) * (t+1) := by
    have e : s + (t+1) = (s+t) + 1 := by omega
    rw [e, Nat.mul_comm]; exact h
  rw [this]; exact Nat.mul_div_cancel _ (by omega)

theorem choose_strict (s t : Nat) (hs : 1 ≤ s) : choose (s + t) t < choose (s + (t+1)) (t+1) := by
  have : choose (s + (t+1)) (t+1) = choose (s+t) t + choose (s+t) (t+1) := by
    have e : s + (t+1) = (s+t) + 1 := by omega
    rw [e, Nat.choose_succ_succ]
  have h2 : 1 ≤ choose (s+t) (t+1) := Nat.choose_pos (by omega)
  omega

theorem choose_ge (s t : Nat) (hs : 1 ≤ s) : t + 1 ≤ choose (s + t) t := by
  induction t with
  | zero => simp
  | succ t ih =>
    have := choose_strict s t hs
    omega

structure LoopInv (n s t b2 b1 b0 : Nat) : Prop where
  t2 : 2 ≤ t
  e0 : b0 = choose (s + t) t
  e1 : b1 = choose (s + (t-1)) (t-1)
  e2 : b2 = choose (s + (t-2)) (t-2)
  lt : b1 < n

/-- the loop is entered at `t = 2` with `β(s,0) = 1`, `β(s,1) = s + 1`, `β(s,2) = (s+1)(s+2)/2` -/
theorem LoopInv.init (n s : Nat) (h : s + 1 < n) :
    LoopInv n s 2 1 (s + 1) (((s + 1) * (s + 2)) / 2) := by
  refine ⟨le_refl _, ?_, ?_, ?_, h⟩
  · have := choose_step s 1
    have e1 : choose (s + 1) 1 = s + 1 := by simp
    rw [e1] at this
    simpa using this
  · simp
  · simp

theorem advLoop_spec (fuel n s t b2 b1 b0 : Nat) (hs : 1 ≤ s)
    (inv : LoopInv n s t b2 b1 b0) (hf : n + 2 ≤ fuel + t) :
    ∃ t' c2 c1 c0, advLoop fuel n s t b2 b1 b0 = some (t', c2, c1, c0) ∧
      LoopInv n s t' c2 c1 c0 ∧ n ≤ c0 := by
  induction fuel generalizing t b2 b1 b0 with
  | zero =>
    exfalso
    have := choose_ge s (t-1) hs
    have h1 := inv.e1; have h2 := inv.lt; have := inv.t2
    omega
  | succ fuel ih =>
    unfold advLoop
    by_cases hc : b1 ≥ n ∨ n > b0
    · simp only [hc, if_true]
      have hb0 : n > b0 := by
        rcases hc with h | h
        · have := inv.lt; omega
        · exact h
      have hge := choose_ge s t hs
      have he0 := inv.e0
      apply ih
      · refine ⟨by have := inv.t2; omega, ?_, ?_, ?_, ?_⟩
        · rw [inv.e0]; exact choose_step s t
        · simpa using inv.e0
        · have : t + 1 - 2 = t - 1 := by have := inv.t2; omega
          rw [this]; exact inv.e1
        · exact hb0
      · omega
    · simp only [hc, if_false]
      refine ⟨t, b2, b1, b0, rfl, inv, ?_⟩
      have : ¬ (n > b0) := fun h => hc (Or.inr h)
      omega

theorem choose_lower (a b : Nat) (ha : 1 ≤ a) :
    (choose (a + b) b * a) / (a + b) = choose (a - 1 + b) b := by
  have h := Nat.choose_mul_succ_eq (a - 1 + b) b
  have e : a - 1 + b + 1 = a + b := by omega
  rw [e] at h
  have e2 : a + b - b = a := by omega
  rw [e2] at h
  rw [← h]; exact Nat.mul_div_cancel _ (by omega)

/-- what the choice after the loop uses of the running values:
`1 ≤ β(s,t-2) < β(s,t-1) < n` and `β(s-1,t-1) ≤ β(s,t-1)` -/
theorem LoopInv.order {n s t b2 b1 b0 : Nat} (inv : LoopInv n s t b2 b1 b0) (hs : 1 ≤ s) :
    1 ≤ b2 ∧ b2 < b1 ∧ b1 < n ∧ b1 * s / (s + t - 1) ≤ b1 := by
  have ht := inv.t2
  refine ⟨?_, ?_, inv.lt, ?_⟩
  · rw [inv.e2]; exact Nat.choose_pos (by omega)
  · rw [inv.e2, inv.e1]
    have := choose_strict s (t - 2) hs
    rwa [show t - 2 + 1 = t - 1 by omega] at this
  · apply Nat.div_le_of_le_mul
    rw [Nat.mul_comm]
    exact Nat.mul_le_mul_right _ (by omega)

/-! ## the three branches of `nAdvance` -/

/-- at most one unit after the clamp (`k = 1` or `n ≤ 2`): advance to the last step -/
theorem nAdvance_clamp_one (n k : Nat) (traj : Traj) (hn : 1 ≤ n) (hk : 1 ≤ k)
    (h : min k (n - 1) ≤ 1) : nAdvance n k traj = some (n - 1) := by
  have hs : max (min k (n - 1)) 1 = 1 := by omega
  unfold nAdvance
  rw [if_neg (by omega), if_neg (by omega)]
  dsimp only
  rw [hs, if_pos rfl]

/-- more fuel does not change the result of the loop -/
theorem advLoop_fuel_mono (n s : Nat) : ∀ (fuel k t b2 b1 b0 : Nat) (r : Nat × Nat × Nat × Nat),
    advLoop fuel n s t b2 b1 b0 = some r → advLoop (fuel + k) n s t b2 b1 b0 = some r := by
  intro fuel
  induction fuel with
  | zero => intro k t b2 b1 b0 r h; simp [advLoop] at h
  | succ fuel ih =>
    intro k t b2 b1 b0 r h
    have e : fuel + 1 + k = (fuel + k) + 1 := by omega
    rw [e]
    unfold advLoop at h ⊢
    by_cases hc : b1 ≥ n ∨ n > b0
    · rw [if_pos hc] at h ⊢
      exact ih k _ _ _ _ r h
    · rw [if_neg hc] at h ⊢
      exact h

/-- `n_advance` raises `ValueError` without steps or without units -/
theorem nAdvance_eq_none (n s : Nat) (traj : Traj) (h : n = 0 ∨ s = 0) : nAdvance n s traj = none := by
  unfold nAdvance
  by_cases h1 : n < 1
  · rw [if_pos h1]
  · rw [if_neg h1, if_pos (by omega)]

theorem nAdvance_one (n : Nat) (traj : Traj) (hn : 1 ≤ n) : nAdvance n 1 traj = some (n - 1) :=
  nAdvance_clamp_one n 1 traj hn (Nat.le_refl 1) (by omega)

/-- a unit for every step but the last (`k ≥ n - 1 ≥ 2`): advance one step -/
theorem nAdvance_full (n k : Nat) (traj : Traj) (hn : 3 ≤ n) (hk : n - 1 ≤ k) :
    nAdvance n k traj = some 1 := by
  have hs : max (min k (n - 1)) 1 = n - 1 := by omega
  unfold nAdvance
  rw [if_neg (by omega), if_neg (by omega)]
  dsimp only
  rw [hs, if_neg (by omega), if_pos rfl]

/-- the choice made after the loop, from its `t`, `β(s,t-2)` and `β(s,t-1)` -/
def advPick (traj : Traj) (n s t b2 b1 : Nat) : Nat :=
  let x1 := (b1 * s) / (s + t - 1)
  let x2 := (x1 * (s - 1)) / (s + t - 2)
  let x3 := (b2 * s) / (s + t - 2)
  match traj with
  | .maximum =>
    if n ≤ b1 + x3 then n - b1 + b2
    else if n ≤ b1 + x2 + x3 then b2 + x3
    else if n ≤ b1 + x1 + x2 then n - x1 - x2
    else b1
  | .revolve =>
    if n ≤ b1 + x2 then b2
    else if n < b1 + x1 + x2 then n - x1 - x2
    else b1

theorem some_ite (p : Prop) [Decidable p] (a b : Nat) :
    (if p then some a else some b) = some (if p then a else b) := by
  split <;> rfl

/-- the main branch (`2 ≤ k ≤ n - 2`, nothing is clamped): the loop, then the choice -/
theorem nAdvance_loop (n k : Nat) (traj : Traj) (h2 : 2 ≤ k) (hk : k + 2 ≤ n) :
    nAdvance n k traj =
      (advLoop (n + 1) n k 2 1 (k + 1) (((k + 1) * (k + 2)) / 2)).map
        fun r => advPick traj n k r.1 r.2.1 r.2.2.1 := by
  have hs : max (min k (n - 1)) 1 = k := by omega
  unfold nAdvance
  rw [if_neg (by omega), if_neg (by omega)]
  dsimp only
  rw [hs, if_neg (by omega), if_neg (by omega)]
  cases advLoop (n + 1) n k 2 1 (k + 1) (((k + 1) * (k + 2)) / 2) with
  | none => rfl
  | some r =>
    obtain ⟨t, b2, b1, b0⟩ := r
    cases traj <;> dsimp only [advPick, Option.map] <;> simp only [some_ite]

theorem advPick_range (traj : Traj) (n s t b2 b1 : Nat) (h2 : 1 ≤ b2) (h21 : b2 < b1) (h1 : b1 < n)
    (hx' : b1 * s / (s + t - 1) ≤ b1) :
    1 ≤ advPick traj n s t b2 b1 ∧ advPick traj n s t b2 b1 ≤ n - 1 := by
  unfold advPick
  dsimp only
  generalize (b1 * s) / (s + t - 1) = x1 at hx' ⊢
  generalize (x1 * (s - 1)) / (s + t - 2) = x2
  generalize (b2 * s) / (s + t - 2) = x3
  cases traj <;> dsimp only <;> split_ifs <;> omega

theorem nAdvance_range (n s : Nat) (traj : Traj) (hn : 2 ≤ n) (hs : 1 ≤ s) :
    ∃ a, nAdvance n s traj = some a ∧ 1 ≤ a ∧ a ≤ n - 1 := by
  by_cases c1 : min s (n - 1) ≤ 1
  · exact ⟨_, nAdvance_clamp_one n s traj (by omega) hs c1, by omega, Nat.le_refl _⟩
  by_cases c2 : n - 1 ≤ s
  · exact ⟨_, nAdvance_full n s traj (by omega) c2, Nat.le_refl _, by omega⟩
  obtain ⟨t, b2, b1, b0, hl, inv, -⟩ :=
    advLoop_spec (n + 1) n s 2 1 (s + 1) _ hs (.init n s (by omega)) (by omega)
  obtain ⟨h2, h21, h1n, hx'⟩ := inv.order hs
  rw [nAdvance_loop n s traj (by omega) (by omega), hl]
  exact ⟨_, rfl, advPick_range traj n s t b2 b1 h2 h21 h1n hx'⟩
end Ckpt
