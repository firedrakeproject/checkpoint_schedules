import CkptVerif.Model.Online
/-!
# Facts about the step machine, for arbitrary histories of `next()` / `finalize(n)` calls
-/
namespace Ckpt

/-- A call a client can make on a schedule object. -/
inductive Op
  | next
  | fin (k : Int)
deriving Repr

/-- Apply one call, dropping its output. -/
def Sched.exec (s : Sched) (m : MSt) : Op → MSt
  | .next => (s.next m).1
  | .fin k => (finalize m k).1

/-- `m` is the state of the object after some history of calls. -/
def Reach (s : Sched) (m : MSt) : Prop := ∃ ops : List Op, ops.foldl s.exec s.init = m

theorem Reach.init (s : Sched) : Reach s s.init := ⟨[], rfl⟩

theorem Reach.step {s : Sched} {m : MSt} (h : Reach s m) (op : Op) : Reach s (s.exec m op) := by
  obtain ⟨ops, rfl⟩ := h
  exact ⟨ops ++ [op], by simp [List.foldl_append]⟩

theorem Reach.induct {s : Sched} {P : MSt → Prop} (h0 : P s.init)
    (hstep : ∀ m op, Reach s m → P m → P (s.exec m op)) : ∀ {m}, Reach s m → P m := by
  have key : ∀ (ops : List Op) (m0 : MSt), Reach s m0 → P m0 → P (ops.foldl s.exec m0) := by
    intro ops
    induction ops with
    | nil => intro m0 _ h; exact h
    | cons op ops ih =>
      intro m0 hr h
      exact ih _ (hr.step op) (hstep m0 op hr h)
  intro m ⟨ops, h⟩
  subst h
  exact key ops _ (Reach.init s) h0

theorem finalize_lt (m : MSt) (k : Int) (h : k < 1) : finalize m k = (m, .valueError) := by
  unfold finalize; rw [if_pos h]

theorem finalize_none_ge (m : MSt) (k : Int) (h1 : 1 ≤ k) (h : m.maxN = none)
    (h2 : k ≤ m.n) :
    finalize m k = ({ m with n := k.toNat, maxN := some k.toNat }, .ok) := by
  unfold finalize; rw [if_neg (by omega)]; simp only [h]; rw [if_pos (by omega)]

theorem finalize_none_lt (m : MSt) (k : Int) (h : m.maxN = none)
    (h2 : (m.n : Int) < k) : finalize m k = (m, .runtimeError) := by
  unfold finalize; rw [if_neg (by omega)]; simp only [h]; rw [if_neg (by omega)]

theorem finalize_some_eq (m : MSt) (k : Int) (M : Nat) (h1 : 1 ≤ k) (h : m.maxN = some M)
    (h2 : (m.n : Int) = k) (h3 : (M : Int) = k) : finalize m k = (m, .ok) := by
  unfold finalize; rw [if_neg (by omega)]; simp only [h]; rw [if_neg (by omega)]

theorem finalize_some_ne (m : MSt) (k : Int) (M : Nat) (h1 : 1 ≤ k) (h : m.maxN = some M)
    (h2 : (m.n : Int) ≠ k ∨ (M : Int) ≠ k) : finalize m k = (m, .runtimeError) := by
  unfold finalize; rw [if_neg (by omega)]; simp only [h]; rw [if_pos h2]

/-- an accepted `finalize(k)` while `max_n` is unknown sets `max_n = n = k`, nothing else -/
theorem finalize_ok_state (m : MSt) (k : Int) (h : m.maxN = none) (hok : (finalize m k).2 = .ok) :
    (finalize m k).1 = { m with n := k.toNat, maxN := some k.toNat } := by
  by_cases h1 : k < 1
  · rw [finalize_lt m k h1] at hok; cases hok
  · by_cases h2 : k ≤ m.n
    · rw [finalize_none_ge m k (by omega) h h2]
    · rw [finalize_none_lt m k h (by omega)] at hok; cases hok

theorem finalize_frame (m : MSt) (k : Int) :
    (finalize m k).1.phase = m.phase ∧ (finalize m k).1.exhausted = m.exhausted ∧
    (finalize m k).1.started = m.started ∧ (finalize m k).1.r = m.r := by
  unfold finalize
  split
  · exact ⟨rfl, rfl, rfl, rfl⟩
  · split <;> split <;> exact ⟨rfl, rfl, rfl, rfl⟩

theorem finalize_known (m : MSt) (k : Int) (M : Nat) (h : m.maxN = some M) :
    (finalize m k).1 = m := by
  unfold finalize
  split
  · rfl
  · rw [h]; dsimp only; split <;> rfl

example : (finalize (⟨7, 0, none, true, false, .fwd⟩ : MSt) 5).2 = .ok := by decide

/-! ## `next`: one equation per branch of `__next__` -/

/-- the `done` counter after `e` was emitted -/
def afterDone (e : Ev) (done : Nat) : Nat := if e.act = .endReverse then done + 1 else done

/-- does the generator return right after `e`? -/
def Sched.afterFin (s : Sched) (e : Ev) (done : Nat) : Bool :=
  match s.passes with
  | none => false
  | some 0 => e.act = .endForward
  | some k => decide (k ≤ afterDone e done)

theorem after_eq (s : Sched) (N : Nat) (e : Ev) (rest : List Ev) (d : Nat) :
    s.after N e rest d =
      if s.afterFin e d then (.stopped, true)
      else match rest with
        | [] => (.run (s.again N) (afterDone e d), false)
        | _ => (.run rest (afterDone e d), false) := rfl

theorem after_flag (s : Sched) (N : Nat) (e : Ev) (rest : List Ev) (d : Nat) :
    (s.after N e rest d).2 = true ↔ (s.after N e rest d).1 = .stopped := by
  rw [after_eq]
  cases s.afterFin e d
  · cases rest
    · exact ⟨fun h => (by cases h), fun h => (by cases h)⟩
    · exact ⟨fun h => (by cases h), fun h => (by cases h)⟩
  · exact ⟨fun _ => rfl, fun _ => rfl⟩

/-- After the generator has stopped: StopIteration forever, state otherwise unchanged. -/
theorem next_of_stopped (s : Sched) (m : MSt) (h : m.phase = .stopped) :
    s.next m = ({ m with started := true }, .stop) := by
  unfold Sched.next; simp only [h]

theorem next_fwd_none (s : Sched) (m : MSt) (h : m.phase = .fwd) (hn : m.maxN = none) :
    s.next m = ({ m with started := true, n := (s.fwdEv m.n).n, r := (s.fwdEv m.n).r,
                         phase := .fwd, exhausted := false },
                .act ⟨(s.fwdEv m.n).act, (s.fwdEv m.n).n, (s.fwdEv m.n).r, none, false, true⟩) := by
  unfold Sched.next; simp only [h, hn]

theorem next_fwd_err (s : Sched) (m : MSt) (N : Nat) (err : Err) (h : m.phase = .fwd)
    (hn : m.maxN = some N) (hf : s.first N = .error err) :
    s.next m = ({ m with started := true, phase := .stopped }, .raised err) := by
  unfold Sched.next; simp only [h, hn, hf]

theorem next_fwd_nil (s : Sched) (m : MSt) (N : Nat) (h : m.phase = .fwd)
    (hn : m.maxN = some N) (hf : s.first N = .ok []) :
    s.next m = ({ m with started := true, phase := .stopped }, .stop) := by
  unfold Sched.next; simp only [h, hn, hf]

theorem next_fwd_cons (s : Sched) (m : MSt) (N : Nat) (e : Ev) (rest : List Ev)
    (h : m.phase = .fwd) (hn : m.maxN = some N) (hf : s.first N = .ok (e :: rest)) :
    s.next m = ({ m with started := true, n := e.n, r := e.r,
                         phase := (s.after N e rest 0).1, exhausted := (s.after N e rest 0).2 },
                .act ⟨e.act, e.n, e.r, some N, (s.after N e rest 0).2, true⟩) := by
  unfold Sched.next; simp only [h, hn, hf]

theorem next_run_nil (s : Sched) (m : MSt) (d : Nat) (h : m.phase = .run [] d) :
    s.next m = ({ m with started := true, phase := .stopped }, .stop) := by
  unfold Sched.next; simp only [h]

theorem next_run_cons (s : Sched) (m : MSt) (e : Ev) (rest : List Ev) (d : Nat)
    (h : m.phase = .run (e :: rest) d) :
    s.next m = ({ m with started := true, n := e.n, r := e.r,
                         phase := (s.after (m.maxN.getD 0) e rest d).1,
                         exhausted := (s.after (m.maxN.getD 0) e rest d).2 },
                .act ⟨e.act, e.n, e.r, m.maxN, (s.after (m.maxN.getD 0) e rest d).2, true⟩) := by
  unfold Sched.next; simp only [h]

/-- All branches of `next` at once: either the generator ends (StopIteration or an exception;
only `started` and `phase` change), or an event `e` is emitted. -/
theorem next_cases (s : Sched) (m : MSt) :
    (∃ out, (out = .stop ∨ ∃ e, out = .raised e) ∧
      s.next m = ({ m with started := true, phase := .stopped }, out)) ∨
    (∃ (e : Ev) (ph : Phase) (exh : Bool), (exh = true ↔ ph = .stopped) ∧
      s.next m = ({ m with started := true, n := e.n, r := e.r, phase := ph, exhausted := exh },
                  .act ⟨e.act, e.n, e.r, m.maxN, exh, true⟩)) := by
  cases hp : m.phase with
  | stopped =>
    refine .inl ⟨.stop, .inl rfl, ?_⟩
    rw [next_of_stopped s m hp, ← hp]
  | fwd =>
    cases hn : m.maxN with
    | none =>
      refine .inr ⟨s.fwdEv m.n, .fwd, false, ⟨fun h => (by cases h), fun h => (by cases h)⟩, ?_⟩
      rw [next_fwd_none s m hp hn, hn]
    | some N =>
      cases hf : s.first N with
      | error err => exact .inl ⟨.raised err, .inr ⟨err, rfl⟩, by rw [next_fwd_err s m N err hp hn hf, hn]⟩
      | ok l =>
        cases l with
        | nil => exact .inl ⟨.stop, .inl rfl, by rw [next_fwd_nil s m N hp hn hf, hn]⟩
        | cons e rest =>
          exact .inr ⟨e, _, _, after_flag s N e rest 0, by rw [next_fwd_cons s m N e rest hp hn hf, hn]⟩
  | run todo d =>
    cases todo with
    | nil => exact .inl ⟨.stop, .inl rfl, next_run_nil s m d hp⟩
    | cons e rest =>
      exact .inr ⟨e, _, _, after_flag s _ e rest d, next_run_cons s m e rest d hp⟩

theorem next_started (s : Sched) (m : MSt) : (s.next m).1.started = true := by
  rcases next_cases s m with ⟨out, _, h⟩ | ⟨e, ph, exh, _, h⟩ <;> rw [h]

theorem next_maxN (s : Sched) (m : MSt) : (s.next m).1.maxN = m.maxN := by
  rcases next_cases s m with ⟨out, _, h⟩ | ⟨e, ph, exh, _, h⟩ <;> rw [h]

theorem init_started (s : Sched) : s.init.started = false := rfl
theorem init_exhausted (s : Sched) : s.init.exhausted = false := rfl

/-- `is_running` is never reset. -/
theorem exec_started (s : Sched) (m : MSt) (op : Op) (h : m.started = true) :
    (s.exec m op).started = true := by
  cases op with
  | next => exact next_started s m
  | fin k => exact (finalize_frame m k).2.2.1.trans h

theorem foldl_exec_started (s : Sched) (ops : List Op) (m : MSt) (h : m.started = true) :
    (ops.foldl s.exec m).started = true := by
  induction ops generalizing m with
  | nil => exact h
  | cons op ops ih => exact ih _ (exec_started s m op h)

theorem next_of_stopped_idem (s : Sched) (m : MSt) (h : m.phase = .stopped) :
    s.next (s.next m).1 = s.next m := by
  rw [next_of_stopped s m h]
  exact next_of_stopped s _ h

theorem next_act_flags (s : Sched) (m m' : MSt) (o : Obs) (h : s.next m = (m', .act o)) :
    o.exhausted = m'.exhausted ∧ o.running = true ∧
    (m'.exhausted = true ↔ m'.phase = .stopped) ∧
    o.n = m'.n ∧ o.r = m'.r ∧ o.maxN = m'.maxN := by
  rcases next_cases s m with ⟨out, ho, h'⟩ | ⟨e, ph, exh, hfl, h'⟩
  · rw [h'] at h
    rcases ho with rfl | ⟨e, rfl⟩ <;> cases h
  · rw [h'] at h
    cases h
    exact ⟨rfl, rfl, hfl, rfl, rfl, rfl⟩

/-- The invariant behind monotonicity of `is_exhausted`. -/
def ExhInv (m : MSt) : Prop := m.exhausted = true → m.phase = .stopped

theorem exhInv_init (s : Sched) : ExhInv s.init := fun h => by cases h

theorem exhInv_exec (s : Sched) (m : MSt) (op : Op) (h : ExhInv m) : ExhInv (s.exec m op) := by
  cases op with
  | fin k =>
    intro hx
    have hf := finalize_frame m k
    show (finalize m k).1.phase = .stopped
    rw [hf.1]; exact h (hf.2.1.symm.trans hx)
  | next =>
    show ExhInv (s.next m).1
    rcases next_cases s m with ⟨out, _, h'⟩ | ⟨e, ph, exh, hfl, h'⟩
    · rw [h']; intro _; rfl
    · rw [h']; exact hfl.1

theorem exhInv_of_reach {s : Sched} {m : MSt} (hr : Reach s m) : ExhInv m :=
  Reach.induct (exhInv_init s) (fun m op _ h => exhInv_exec s m op h) hr

/-- `is_exhausted` is monotone: once true it stays true (for every state satisfying the
invariant, in particular every reachable one). -/
theorem exec_exhausted_of_inv (s : Sched) (m : MSt) (op : Op) (hi : ExhInv m)
    (h : m.exhausted = true) : (s.exec m op).exhausted = true := by
  cases op with
  | fin k => exact (finalize_frame m k).2.1.trans h
  | next =>
    show (s.next m).1.exhausted = true
    rw [next_of_stopped s m (hi h)]; exact h

theorem exec_exhausted (s : Sched) (m : MSt) (op : Op) (hr : Reach s m)
    (h : m.exhausted = true) : (s.exec m op).exhausted = true :=
  exec_exhausted_of_inv s m op (exhInv_of_reach hr) h

theorem foldl_exec_exhausted (s : Sched) (ops : List Op) (m : MSt) (hr : Reach s m)
    (h : m.exhausted = true) : (ops.foldl s.exec m).exhausted = true := by
  induction ops generalizing m with
  | nil => exact h
  | cons op ops ih => exact ih _ (hr.step op) (exec_exhausted s m op hr h)

/-- Once exhausted (reachable state), every `next()` is StopIteration. -/
theorem next_of_exhausted (s : Sched) (m : MSt) (hr : Reach s m) (h : m.exhausted = true) :
    s.next m = ({ m with started := true }, .stop) :=
  next_of_stopped s m (exhInv_of_reach hr h)

theorem reach_unknown_phase {s : Sched} {m : MSt} (hr : Reach s m) :
    m.maxN = none → m.phase = .fwd := by
  refine Reach.induct (P := fun m => m.maxN = none → m.phase = .fwd) (fun _ => rfl) ?_ hr
  intro m op _ ih
  cases op with
  | fin k =>
    intro hN
    show (finalize m k).1.phase = .fwd
    rw [(finalize_frame m k).1]
    apply ih
    cases hm : m.maxN with
    | none => rfl
    | some M =>
      have : (finalize m k).1.maxN = none := hN
      rw [finalize_known m k M hm, hm] at this; cases this
  | next =>
    show (s.next m).1.maxN = none → (s.next m).1.phase = .fwd
    intro hN
    rw [next_maxN] at hN
    rw [next_fwd_none s m (ih hN) hN]

/-- For an online schedule (`max_n` not given to the constructor), as long as
`max_n` is unknown the generator is in its forward loop.  (The hypothesis `_hs` is not needed:
`reach_unknown_phase` holds for every schedule.) -/
theorem reach_online_phase {s : Sched} (_hs : s.maxN0 = none) {m : MSt} (hr : Reach s m) :
    m.maxN = none → m.phase = .fwd := reach_unknown_phase hr

/-- After an accepted `finalize(k)` of an online schedule in its forward loop, `next()` emits the
head of `first k`. -/
theorem finalize_then_next (s : Sched) (m : MSt) (k : Int) (e : Ev) (rest : List Ev)
    (hN : m.maxN = none) (hp : m.phase = .fwd) (hok : (finalize m k).2 = .ok)
    (hf : s.first k.toNat = .ok (e :: rest)) :
    ∃ m' o, s.next (finalize m k).1 = (m', .act o) ∧ o.act = e.act ∧ o.n = e.n ∧ o.r = e.r ∧
      o.maxN = some k.toNat := by
  have hst := finalize_ok_state m k hN hok
  have h := next_fwd_cons s (finalize m k).1 k.toNat e rest
    (by rw [hst]; exact hp) (by rw [hst]) hf
  exact ⟨_, _, h, rfl, rfl, rfl, rfl⟩

theorem finalize_then_next_reach (s : Sched) (m : MSt) (k : Int) (e : Ev)
    (rest : List Ev) (hr : Reach s m) (hN : m.maxN = none) (hok : (finalize m k).2 = .ok)
    (hf : s.first k.toNat = .ok (e :: rest)) :
    ∃ m' o, s.next (finalize m k).1 = (m', .act o) ∧ o.act = e.act ∧ o.n = e.n ∧ o.r = e.r ∧
      o.maxN = some k.toNat :=
  finalize_then_next s m k e rest hN (reach_unknown_phase hr hN) hok hf

/-- "The next action after an accepted finalize is EndForward", for every reachable state of an
online schedule whose `first` starts with EndForward. -/
theorem endForward_after_finalize (s : Sched)
    (hfirst : ∀ N l, s.first N = .ok l → ∃ rest, l = ⟨.endForward, N, 0⟩ :: rest)
    (hex : ∀ N, ∃ l, s.first N = .ok l)
    (m : MSt) (k : Int) (hr : Reach s m) (hN : m.maxN = none) (hok : (finalize m k).2 = .ok) :
    ∃ m' o, s.next (finalize m k).1 = (m', .act o) ∧ o.act = .endForward ∧ o.n = k.toNat ∧
      o.r = 0 ∧ o.maxN = some k.toNat := by
  obtain ⟨l, hl⟩ := hex k.toNat
  obtain ⟨rest, rfl⟩ := hfirst _ _ hl
  exact finalize_then_next_reach s m k _ rest hr hN hok hl

theorem none_endForward_after_finalize (m : MSt) (k : Int)
    (hr : Reach noneSched m) (hN : m.maxN = none) (hok : (finalize m k).2 = .ok) :
    ∃ m' o, noneSched.next (finalize m k).1 = (m', .act o) ∧ o.act = .endForward ∧
      o.n = k.toNat ∧ o.r = 0 ∧ o.maxN = some k.toNat :=
  finalize_then_next_reach noneSched m k _ _ hr hN hok rfl

theorem twoLevel_ok (p b : Nat) (st : Storage) (traj : Traj) (s : Sched)
    (h : twoLevelSched p b st traj = .ok s) :
    1 ≤ p ∧ (st = .ram ∨ st = .disk) ∧
    s = { maxN0 := none
          fwdEv := fun n => ⟨.forward n (n + p) true false .disk, n + p, 0⟩
          first := fun N =>
            match twoLevelBlocks N p b st traj ((N + p - 1) / p) with
            | some _ => .ok (⟨.endForward, N, 0⟩ :: twoLevelPass N p b st traj)
            | none => .error (.later "Invalid checkpointing state")
          again := fun N => twoLevelPass N p b st traj
          passes := none
          uses := fun s => some (s = .disk || s = st) } := by
  unfold twoLevelSched at h
  split at h
  · cases h
  · split at h
    · cases h
    · rename_i h1 h2
      simp only [Except.ok.injEq] at h
      exact ⟨by omega, Decidable.of_not_not h2, h.symm⟩

theorem twoLevel_maxN0 (p b : Nat) (st : Storage) (traj : Traj) (s : Sched)
    (h : twoLevelSched p b st traj = .ok s) : s.maxN0 = none := by
  obtain ⟨_, _, rfl⟩ := twoLevel_ok p b st traj s h
  rfl

theorem twoLevel_first_head (p b : Nat) (st : Storage) (traj : Traj) (s : Sched)
    (h : twoLevelSched p b st traj = .ok s) (N : Nat) (l : List Ev) (hl : s.first N = .ok l) :
    ∃ rest, l = ⟨.endForward, N, 0⟩ :: rest := by
  obtain ⟨_, _, rfl⟩ := twoLevel_ok p b st traj s h
  simp only at hl
  split at hl
  · cases hl; exact ⟨_, rfl⟩
  · cases hl

theorem offline_init_maxN (N : Nat) (evs : Except Err (List Ev)) (uses : Storage → Option Bool) :
    (offlineSched N evs uses).init.maxN = some N := rfl

theorem reach_known_maxN {s : Sched} {N : Nat} (hs : s.maxN0 = some N) {m : MSt}
    (hr : Reach s m) : m.maxN = some N := by
  refine Reach.induct (P := fun m => m.maxN = some N) hs ?_ hr
  intro m op _ ih
  cases op with
  | fin k => exact (congrArg MSt.maxN (finalize_known m k N ih)).trans ih
  | next => exact (next_maxN s m).trans ih

theorem offline_reach_maxN (N : Nat) (evs : Except Err (List Ev)) (uses : Storage → Option Bool)
    {m : MSt} (hr : Reach (offlineSched N evs uses) m) : m.maxN = some N :=
  reach_known_maxN rfl hr

example : ∃ m, Reach singleMemorySched m ∧ m.maxN = none ∧ (finalize m 3).2 = .ok :=
  ⟨_, ⟨[.next], rfl⟩, rfl, by decide⟩

example : ∃ s, twoLevelSched 2 1 .ram .maximum = .ok s ∧ ∃ l, s.first 5 = .ok l := by
  refine ⟨_, rfl, ?_⟩
  have h : (twoLevelBlocks 5 2 1 .ram .maximum ((5 + 2 - 1) / 2)).isSome = true := by decide
  simp only
  cases hb : twoLevelBlocks 5 2 1 .ram .maximum ((5 + 2 - 1) / 2) with
  | none => rw [hb] at h; cases h
  | some v => exact ⟨_, rfl⟩

example : ∃ m, Reach (offlineSched 2 (.ok [⟨.forward 0 2 false false .none, 2, 0⟩,
      ⟨.endForward, 2, 0⟩]) (fun _ => some false)) m ∧ (finalize m 2).2 = .ok :=
  ⟨_, ⟨[.next], rfl⟩, by decide⟩

/-- a reachable exhausted state (NoneCheckpointSchedule after `next, finalize(5), next`) -/
example : ∃ m, Reach noneSched m ∧ m.exhausted = true ∧ m.phase = .stopped :=
  ⟨_, ⟨[.next, .fin 5, .next], rfl⟩, rfl, rfl⟩

/-- `next_act_flags` applies: the first `next()` of SingleMemory emits an action -/
example : ∃ m' o, singleMemorySched.next singleMemorySched.init = (m', .act o) := ⟨_, _, rfl⟩

end Ckpt

section AxiomCheck
open Ckpt
#print axioms reach_online_phase
#print axioms finalize_then_next
#print axioms next_act_flags
#print axioms exec_exhausted
#print axioms exec_started
end AxiomCheck
