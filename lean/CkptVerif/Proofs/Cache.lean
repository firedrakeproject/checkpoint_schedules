import CkptVerif.Model.Cache
import CkptVerif.Proofs.MixedDP
/-!
# Memoisation through `cache_step` is observationally pure (C15)

Whatever the cache contains, as long as every entry is correct (`CacheOK`; true of the empty cache and
of every cache filled by earlier calls), a call
`wrapped_fn(n, s)` on a valid key returns `fixDP F n (clampS n s)`: the value of the recursive
specification; it only extends the cache, with correct entries.  Hence the answers of any sequence
of calls do not depend on the history.

The argument is generic in the body: `Sim FM F` says that the cache-passing body `FM` returns what
the pure body `F` returns whenever its getter returns what the pure accessor returns, and that it
preserves any cache predicate preserved by the getter.
-/
namespace Ckpt

/-- `m` returns `v`, preserves `P`, and only extends the cache -/
def Returns {α β : Type} (P : Cache α → Prop) (m : CM α β) (v : β) : Prop :=
  ∀ c, P c → (m c).2 = v ∧ P (m c).1 ∧ ∀ x, x ∈ c → x ∈ (m c).1

/-- the cache-passing body `FM` simulates the pure body `F` on valid keys -/
def Sim {α : Type} (FM : Nat → Nat → Getter α → CM α α)
    (F : Nat → Nat → (Nat → Nat → α) → α) : Prop :=
  ∀ (P : Cache α → Prop) (n s : Nat) (get : Getter α) (g : Nat → Nat → α),
    validKey n s = true →
    (∀ i j, i < n → validKey i (clampS i j) = true → Returns P (get i j) (g i (clampS i j))) →
    Returns P (FM n s get) (F n s g)

theorem Returns_pure {α β : Type} (P : Cache α → Prop) (v : β) :
    Returns P (fun c => (c, v)) v :=
  fun _ hc => ⟨rfl, hc, fun _ hx => hx⟩

/-- a loop whose every iteration returns the pure step -/
theorem foldM_returns {α β : Type} (P : Cache α → Prop) (l : List Nat)
    (stepM : Cache α × β → Nat → Cache α × β) (stepP : β → Nat → β)
    (h : ∀ i, i ∈ l → ∀ b, Returns P (fun c => stepM (c, b) i) (stepP b i))
    (b : β) : Returns P (fun c => l.foldl stepM (c, b)) (l.foldl stepP b) := by
  induction l generalizing b with
  | nil => exact Returns_pure P b
  | cons x xs ih =>
    intro c hc
    obtain ⟨h1, h2, h3⟩ := h x (List.mem_cons_self ..) b c hc
    obtain ⟨k1, k2, k3⟩ := ih (fun i hi => h i (List.mem_cons_of_mem _ hi)) (stepP b x) _ h2
    show ((x :: xs).foldl stepM (c, b)).2 = (x :: xs).foldl stepP b ∧
      P ((x :: xs).foldl stepM (c, b)).1 ∧ ∀ y, y ∈ c → y ∈ ((x :: xs).foldl stepM (c, b)).1
    rw [List.foldl_cons, List.foldl_cons,
      show stepM (c, b) x = ((stepM (c, b) x).1, stepP b x) from Prod.ext rfl h1]
    exact ⟨k1, k2, fun y hy => k3 y (h3 y hy)⟩

/-- two wrapped calls in sequence, combined by `f` -/
theorem Returns_two {α β : Type} (P : Cache α → Prop) (m1 m2 : CM α α) (v1 v2 : α)
    (h1 : Returns P m1 v1) (h2 : Returns P m2 v2) (f : α → α → β) :
    Returns P (fun c => ((m2 (m1 c).1).1, f (m1 c).2 (m2 (m1 c).1).2)) (f v1 v2) := by
  intro c hc
  obtain ⟨a1, a2, a3⟩ := h1 c hc
  obtain ⟨b1, b2, b3⟩ := h2 (m1 c).1 a2
  refine ⟨?_, b2, fun x hx => b3 x (a3 x hx)⟩
  show f (m1 c).2 (m2 (m1 c).1).2 = f v1 v2
  rw [a1, b1]

/-- a decision that does not depend on the cache, taken alike by the body and its specification -/
theorem Returns.ite {α β : Type} {P : Cache α → Prop} {p : Prop} [Decidable p] {A B : CM α β}
    {v w : β} (hA : p → Returns P A v) (hB : ¬ p → Returns P B w) :
    Returns P (fun c => if p then A c else B c) (if p then v else w) := by
  by_cases hp : p
  · simpa only [if_pos hp] using hA hp
  · simpa only [if_neg hp] using hB hp

/-! ## the three bodies -/

/-- the two wrapped calls for the split candidate `i` (keys `(i, s)` and `(n - i, s - 1)`, both
valid when `2 ≤ s`), combined by `f` -/
theorem splitCalls_returns {α β : Type} (P : Cache α → Prop) (n s : Nat) (get : Getter α)
    (g : Nat → Nat → α)
    (hget : ∀ i j, i < n → validKey i (clampS i j) = true → Returns P (get i j) (g i (clampS i j)))
    (hs : 2 ≤ s) (i : Nat) (h1 : 1 ≤ i) (hi : i < n) (f : α → α → β) :
    Returns P
      (fun c => ((get (n - i) (s - 1) (get i s c).1).1,
        f (get i s c).2 (get (n - i) (s - 1) (get i s c).1).2))
      (f (g i (clampS i s)) (g (n - i) (clampS (n - i) (s - 1)))) :=
  Returns_two P _ _ _ _ (hget i s hi ((validKey_clamp_iff i s).2 ⟨h1, by omega⟩))
    (hget (n - i) (s - 1) (by omega)
      ((validKey_clamp_iff (n - i) (s - 1)).2 ⟨by omega, by omega⟩)) f

theorem memoFM_sim : Sim memoFM memoF := by
  intro P n s get g hv hget
  rw [validKey_iff] at hv
  rw [memoF_def]
  unfold memoFM
  refine .ite (fun _ => Returns_pure P _) fun h1 => .ite (fun _ => Returns_pure P _) fun h2 =>
    .ite (fun _ => Returns_pure P _) fun h3 => ?_
  have hloop := foldM_returns P (List.range' 2 (n - 2)) (memoStepM n s get)
    (memoStep (splitCand n s (fun i j => (g i j).cost)))
    (fun i hi b => by
      rw [List.mem_range'_1] at hi
      exact splitCalls_returns P n s get g hget (by omega) i (by omega) (by omega)
        (fun x y => memoStep (fun _ => i + x.cost + y.cost) b i))
    none
  have rlast := hget (n - 1) (s - 1) (by omega)
    ((validKey_clamp_iff (n - 1) (s - 1)).2 ⟨by omega, by omega⟩)
  intro c hc
  obtain ⟨l1, l2, l3⟩ := hloop c hc
  dsimp only at l1 l2 l3 ⊢
  -- `st`: cache and accumulator after the loop; then the `WRITE_ADJ_DEPS` candidate
  generalize (List.range' 2 (n - 2)).foldl (memoStepM n s get) (c, none) = st at l1 l2 l3 ⊢
  obtain ⟨c', acc⟩ := st
  rw [← l1]
  cases acc with
  | none => exact ⟨rfl, l2, l3⟩
  | some cc =>
    obtain ⟨q1, q2, q3⟩ := rlast c' l2
    refine ⟨?_, q2, fun x hx => q3 x (l3 x hx)⟩
    show (if 1 + (get (n - 1) (s - 1) c').2.cost < cc.cost then _ else cc) = _
    rw [q1]
    rfl

theorem extraFM_sim : Sim extraFM extraF := by
  intro P n s get g hv hget
  rw [validKey_iff] at hv
  rw [extraF_def]
  unfold extraFM
  refine .ite (fun _ => Returns_pure P _) fun h1 => .ite (fun _ => Returns_pure P _) fun h3 => ?_
  have hloop := foldM_returns P (List.range' 1 (n - 1)) (extraStepM n s get)
    (extraStep (splitCand n s g))
    (fun i hi b => by
      rw [List.mem_range'_1] at hi
      exact splitCalls_returns P n s get g hget (by omega) i (by omega) (by omega)
        (fun x y => extraStep (fun _ => i + x + y) b i))
    none
  intro c hc
  obtain ⟨l1, l2, l3⟩ := hloop c hc
  exact ⟨congrArg (Option.getD · 0) l1, l2, l3⟩

theorem optMixedFM_sim : Sim optMixedFM optMixedF := by
  intro P n s get g hv hget
  rw [validKey_iff] at hv
  rw [optMixedF_def]
  unfold optMixedFM
  refine .ite (fun _ => Returns_pure P _) fun h2 => .ite (fun _ => Returns_pure P _) fun h3 => ?_
  have hloop := foldM_returns P (List.range' 2 (n - 2)) (optMixedStepM n s get)
    (fun m i => min m (splitCand n s g i))
    (fun i hi b => by
      rw [List.mem_range'_1] at hi
      exact splitCalls_returns P n s get g hget (by omega) i (by omega) (by omega)
        (fun x y => min b (i + x + y)))
  have rlast := hget (n - 1) (s - 1) (by omega)
    ((validKey_clamp_iff (n - 1) (s - 1)).2 ⟨by omega, by omega⟩)
  intro c hc
  obtain ⟨q1, q2, q3⟩ := rlast c hc
  obtain ⟨l1, l2, l3⟩ := hloop (1 + (get (n - 1) (s - 1) c).2) _ q2
  refine ⟨?_, l2, fun x hx => l3 x (q3 x hx)⟩
  rw [← q1]
  exact l1

/-! ## the wrapper -/

/-- every entry of the cache is the value of the specification at a valid key -/
def CacheOK {α : Type} [Inhabited α] (F : Nat → Nat → (Nat → Nat → α) → α) (c : Cache α) : Prop :=
  ∀ k v, (k, v) ∈ c → v = fixDP F k.1 k.2 ∧ validKey k.1 k.2 = true

theorem CacheOK_nil {α : Type} [Inhabited α] (F : Nat → Nat → (Nat → Nat → α) → α) :
    CacheOK F ([] : Cache α) := by
  intro k v h; cases h

theorem cacheLookup_mem {α : Type} (c : Cache α) (k : Nat × Nat) (v : α)
    (h : cacheLookup c k = some v) : (k, v) ∈ c := by
  induction c with
  | nil => cases h
  | cons x xs ih =>
    obtain ⟨k', v'⟩ := x
    by_cases hk : k' = k
    · have h' : (if k' = k then some v' else cacheLookup xs k) = some v := h
      rw [if_pos hk] at h'
      cases h'; subst hk
      exact List.mem_cons_self ..
    · have h' : (if k' = k then some v' else cacheLookup xs k) = some v := h
      rw [if_neg hk] at h'
      exact List.mem_cons_of_mem _ (ih h')

/-- `wrapped_fn(n, s)` returns the value of the recursive specification at the clamped key,
from any cache that satisfies `CacheOK` (every entry is the value of the specification at a valid key);
it only adds such entries. -/
theorem cachedCall_returns {α : Type} [Inhabited α]
    (FM : Nat → Nat → Getter α → CM α α) (F : Nat → Nat → (Nat → Nat → α) → α)
    (hsim : Sim FM F) (hF : Local F) (fuel n s : Nat) (hfuel : n < fuel)
    (hv : validKey n (clampS n s) = true) :
    Returns (CacheOK F) (cachedCall FM fuel n s) (fixDP F n (clampS n s)) := by
  induction fuel generalizing n s with
  | zero => omega
  | succ fuel ih =>
    intro c hc
    cases hl : cacheLookup c (n, clampS n s) with
    | some v =>
      have e : cachedCall FM (fuel + 1) n s c = (c, v) := by
        show (match cacheLookup c (n, clampS n s) with
          | some v => (c, v)
          | none => _) = _
        rw [hl]
      rw [e]
      exact ⟨(hc _ _ (cacheLookup_mem c _ v hl)).1, hc, fun _ hx => hx⟩
    | none =>
      have e : cachedCall FM (fuel + 1) n s c =
          (cacheInsert (FM n (clampS n s) (cachedCall FM fuel) c).1 (n, clampS n s)
            (FM n (clampS n s) (cachedCall FM fuel) c).2,
           (FM n (clampS n s) (cachedCall FM fuel) c).2) := by
        show (match cacheLookup c (n, clampS n s) with
          | some v => (c, v)
          | none => _) = _
        rw [hl]
      rw [e]
      have hbody := hsim (CacheOK F) n (clampS n s) (cachedCall FM fuel) (fun i j => fixDP F i j)
        hv (fun i j hi hvij => ih i j (by omega) hvij)
      rw [← fixDP_eq F hF] at hbody
      obtain ⟨b1, b2, b3⟩ := hbody c hc
      refine ⟨b1, ?_, fun x hx => List.mem_cons_of_mem _ (b3 x hx)⟩
      intro k v hkv
      rcases List.mem_cons.1 hkv with h | h
      · cases h
        exact ⟨b1, hv⟩
      · exact b2 k v h

/-- the answers of a sequence of calls on valid keys are the values of the specification -/
theorem runCalls_returns {α : Type} [Inhabited α]
    (FM : Nat → Nat → Getter α → CM α α) (F : Nat → Nat → (Nat → Nat → α) → α)
    (hsim : Sim FM F) (hF : Local F) (calls : List (Nat × Nat))
    (hv : ∀ k, k ∈ calls → validKey k.1 (clampS k.1 k.2) = true) :
    Returns (CacheOK F) (runCalls FM calls)
      (calls.map (fun k => fixDP F k.1 (clampS k.1 k.2))) := by
  induction calls with
  | nil => exact Returns_pure _ _
  | cons k rest ih =>
    intro c hc
    obtain ⟨a1, a2, a3⟩ := cachedCall_returns FM F hsim hF (k.1 + 1) k.1 k.2 (by omega)
      (hv k (List.mem_cons_self ..)) c hc
    obtain ⟨b1, b2, b3⟩ := ih (fun k' hk' => hv k' (List.mem_cons_of_mem _ hk')) _ a2
    refine ⟨?_, b2, fun x hx => b3 x (a3 x hx)⟩
    show (cachedCall FM (k.1 + 1) k.1 k.2 c).2 ::
        (runCalls FM rest (cachedCall FM (k.1 + 1) k.1 k.2 c).1).2 = _
    rw [a1, b1]; rfl

/-- History independence: after ANY sequence of earlier calls (on valid keys) from the empty
cache, a call returns the value of the specification. -/
theorem cachedCall_history_independent {α : Type} [Inhabited α]
    (FM : Nat → Nat → Getter α → CM α α) (F : Nat → Nat → (Nat → Nat → α) → α)
    (hsim : Sim FM F) (hF : Local F) (history : List (Nat × Nat))
    (hh : ∀ k, k ∈ history → validKey k.1 (clampS k.1 k.2) = true)
    (fuel n s : Nat) (hfuel : n < fuel) (hv : validKey n (clampS n s) = true) :
    (cachedCall FM fuel n s (runCalls FM history []).1).2 = fixDP F n (clampS n s) :=
  (cachedCall_returns FM F hsim hF fuel n s hfuel hv _
    (runCalls_returns FM F hsim hF history hh [] (CacheOK_nil F)).2.1).1

/-! ## instances for the three kernels -/

theorem memoCached_returns (fuel n s : Nat) (hfuel : n < fuel)
    (hv : validKey n (clampS n s) = true) :
    Returns (CacheOK memoF) (cachedCall memoFM fuel n s) (memoCell n (clampS n s)) :=
  cachedCall_returns memoFM memoF memoFM_sim memoF_local fuel n s hfuel hv

theorem extraCached_returns (fuel n s : Nat) (hfuel : n < fuel)
    (hv : validKey n (clampS n s) = true) :
    Returns (CacheOK extraF) (cachedCall extraFM fuel n s) (extraCell n (clampS n s)) :=
  cachedCall_returns extraFM extraF extraFM_sim extraF_local fuel n s hfuel hv

theorem optMixedCached_returns (fuel n s : Nat) (hfuel : n < fuel)
    (hv : validKey n (clampS n s) = true) :
    Returns (CacheOK optMixedF) (cachedCall optMixedFM fuel n s) (optMixedCell n (clampS n s)) :=
  cachedCall_returns optMixedFM optMixedF optMixedFM_sim optMixedF_local fuel n s hfuel hv

/-- C15 for `mixed_step_memoization`: every answer in any sequence of calls from the empty cache
is `memoSpec`'s -/
theorem memoCalls_pure (calls : List (Nat × Nat))
    (hv : ∀ k, k ∈ calls → validKey k.1 (clampS k.1 k.2) = true) :
    (runCalls memoFM calls []).2 = calls.map (fun k => memoCell k.1 (clampS k.1 k.2)) :=
  (runCalls_returns memoFM memoF memoFM_sim memoF_local calls hv [] (CacheOK_nil memoF)).1

theorem extraCalls_pure (calls : List (Nat × Nat))
    (hv : ∀ k, k ∈ calls → validKey k.1 (clampS k.1 k.2) = true) :
    (runCalls extraFM calls []).2 = calls.map (fun k => extraCell k.1 (clampS k.1 k.2)) :=
  (runCalls_returns extraFM extraF extraFM_sim extraF_local calls hv [] (CacheOK_nil extraF)).1

theorem optMixedCalls_pure (calls : List (Nat × Nat))
    (hv : ∀ k, k ∈ calls → validKey k.1 (clampS k.1 k.2) = true) :
    (runCalls optMixedFM calls []).2 = calls.map (fun k => optMixedCell k.1 (clampS k.1 k.2)) :=
  (runCalls_returns optMixedFM optMixedF optMixedFM_sim optMixedF_local calls hv []
    (CacheOK_nil optMixedF)).1

end Ckpt
