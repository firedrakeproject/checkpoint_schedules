import CkptVerif.Proofs.DiskOneReadG
/-!
# Gap sequences for the one-read-disk lower bound

A plan cuts `[0, a)` at bases `b_1 < b_2 < …`; a base is *consuming* when the state it stands for is
held in a RAM unit while the gaps above it are reversed.  `XiG k s a` prices the gaps of the
sequence `s` of (base, consuming) pairs, the first gap having `k` units.
-/
namespace Ckpt.LB7
open Ckpt.GW

variable (uf wr : Nat)

/-- price of the gaps; a consuming base lowers the unit count of everything above it -/
noncomputable def XiG : Nat → List (Nat × Bool) → Nat → Nat
  | _, [], _ => 0
  | k, [p], a => Gd uf wr k (a - p.1)
  | k, p :: q :: rest, a => Gd uf wr k (q.1 - p.1) + XiG (if p.2 then k - 1 else k) (q :: rest) a

/-- bases increase and stay below `a`; a consuming base that is not the last needs a unit -/
def SeqOk : Nat → List (Nat × Bool) → Nat → Prop
  | _, [], _ => True
  | _, [p], a => p.1 < a
  | k, p :: q :: rest, a => p.1 < q.1 ∧ (p.2 = true → 1 ≤ k) ∧ SeqOk (if p.2 then k - 1 else k) (q :: rest) a

theorem XiG_cons_cons (k : Nat) (p q : Nat × Bool) (rest : List (Nat × Bool)) (a : Nat) :
    XiG uf wr k (p :: q :: rest) a =
      Gd uf wr k (q.1 - p.1) + XiG uf wr (if p.2 then k - 1 else k) (q :: rest) a := rfl

theorem SeqOk_cons_cons (k : Nat) (p q : Nat × Bool) (rest : List (Nat × Bool)) (a : Nat) :
    SeqOk k (p :: q :: rest) a ↔
      p.1 < q.1 ∧ (p.2 = true → 1 ≤ k) ∧ SeqOk (if p.2 then k - 1 else k) (q :: rest) a := Iff.rfl

def nextB (rest : List (Nat × Bool)) (a : Nat) : Nat :=
  match rest with | [] => a | q :: _ => q.1

theorem XiG_cons (k : Nat) (p : Nat × Bool) (rest : List (Nat × Bool)) (a : Nat) :
    XiG uf wr k (p :: rest) a =
      Gd uf wr k (nextB rest a - p.1) + XiG uf wr (if p.2 then k - 1 else k) rest a := by
  cases rest with
  | nil => simp [XiG, nextB]
  | cons q rest => rfl

theorem SeqOk_cons (k : Nat) (p : Nat × Bool) (rest : List (Nat × Bool)) (a : Nat) :
    SeqOk k (p :: rest) a ↔
      p.1 < nextB rest a ∧ (p.2 = true → rest ≠ [] → 1 ≤ k) ∧
        SeqOk (if p.2 then k - 1 else k) rest a := by
  cases rest with
  | nil => simp [SeqOk, nextB]
  | cons q rest => simp [SeqOk, nextB]

theorem SeqOk_lt : ∀ (s : List (Nat × Bool)) (k a : Nat), SeqOk k s a → ∀ p ∈ s, p.1 < a := by
  intro s
  induction s with
  | nil => intro k a _ p hp; cases hp
  | cons q rest ih =>
    intro k a h p hp
    rw [SeqOk_cons] at h
    obtain ⟨h1, _, h3⟩ := h
    rcases List.mem_cons.mp hp with rfl | hp'
    · cases rest with
      | nil => exact h1
      | cons r rest' =>
        have := ih _ a h3 r (List.mem_cons_self ..)
        simp only [nextB] at h1
        omega
    · exact ih _ a h3 p hp'

theorem nextB_le (rest : List (Nat × Bool)) (k a : Nat) (h : SeqOk k rest a) : nextB rest a ≤ a := by
  cases rest with
  | nil => exact le_refl _
  | cons q rest => exact le_of_lt (SeqOk_lt _ k a h q (List.mem_cons_self ..))

/-! ## monotonicity: more units, fewer consuming bases -/

/-- same bases, and every consuming base of the first list is consuming in the second -/
inductive FlagLe : List (Nat × Bool) → List (Nat × Bool) → Prop
  | nil : FlagLe [] []
  | cons (b : Nat) (c' c : Bool) (s' s : List (Nat × Bool)) (hc : c' = true → c = true)
      (h : FlagLe s' s) : FlagLe ((b, c') :: s') ((b, c) :: s)

theorem FlagLe.refl : ∀ s : List (Nat × Bool), FlagLe s s := by
  intro s
  induction s with
  | nil => exact FlagLe.nil
  | cons p s ih => exact FlagLe.cons p.1 p.2 p.2 s s (fun h => h) ih

theorem flagLe_append {A' A C' C : List (Nat × Bool)} (h1 : FlagLe A' A) (h2 : FlagLe C' C) :
    FlagLe (A' ++ C') (A ++ C) := by
  induction h1 with
  | nil => exact h2
  | cons b c' c s' s hc _ ih => exact FlagLe.cons b c' c _ _ hc ih

theorem FlagLe.nextB {s' s : List (Nat × Bool)} (h : FlagLe s' s) (a : Nat) : nextB s' a = nextB s a := by
  cases h <;> rfl

theorem FlagLe.ne_nil {s' s : List (Nat × Bool)} (h : FlagLe s' s) : s' ≠ [] → s ≠ [] := by
  cases h <;> simp

theorem XiG_mono : ∀ (s s' : List (Nat × Bool)) (k k' a : Nat), k ≤ k' → FlagLe s' s → SeqOk k s a →
    SeqOk k' s' a ∧ XiG uf wr k' s' a ≤ XiG uf wr k s a := by
  intro s
  induction s with
  | nil =>
    intro s' k k' a _ hf _
    cases hf
    exact ⟨trivial, le_refl _⟩
  | cons p rest ih =>
    intro s' k k' a hk hf hs
    cases hf with
    | cons b c' c rest' _ hc hrest =>
      rw [SeqOk_cons] at hs
      obtain ⟨h1, h2, h3⟩ := hs
      have hk2 : (if c then k - 1 else k) ≤ (if c' then k' - 1 else k') := by
        by_cases h' : c' = true
        · rw [if_pos h', if_pos (hc h')]; omega
        · rw [if_neg h']; split <;> omega
      obtain ⟨ih1, ih2⟩ := ih rest' _ _ a hk2 hrest h3
      rw [SeqOk_cons, XiG_cons, XiG_cons, hrest.nextB a]
      refine ⟨⟨h1, ?_, ih1⟩, ?_⟩
      · intro hc' hne
        have := h2 (hc hc') (hrest.ne_nil hne)
        omega
      · have := Gd_anti' uf wr hk (nextB rest a - b) (by simp only at h1; omega)
        simp only at ih2 ⊢
        omega

theorem XiG_mono_k (s : List (Nat × Bool)) (k k' a : Nat) (hk : k ≤ k') (h : SeqOk k s a) :
    SeqOk k' s a ∧ XiG uf wr k' s a ≤ XiG uf wr k s a :=
  XiG_mono uf wr s s k k' a hk (FlagLe.refl s) h

/-- A statement about suffixes that start at the same base lifts through any prefix. -/
theorem seq_prefix (d : Nat) (s s' : List (Nat × Bool)) (a : Nat)
    (hnb : ∀ a, nextB s a = nextB s' a) (hne : s = [] ↔ s' = [])
    (h : ∀ k, SeqOk k s a → SeqOk k s' a ∧ XiG uf wr k s' a ≤ XiG uf wr k s a + d) :
    ∀ (A : List (Nat × Bool)) (k : Nat), SeqOk k (A ++ s) a →
      SeqOk k (A ++ s') a ∧ XiG uf wr k (A ++ s') a ≤ XiG uf wr k (A ++ s) a + d := by
  intro A
  induction A with
  | nil => intro k hk; exact h k hk
  | cons p A ih =>
    intro k hk
    rw [List.cons_append, SeqOk_cons] at hk
    obtain ⟨h1, h2, h3⟩ := hk
    obtain ⟨ih1, ih2⟩ := ih _ h3
    have enb : nextB (A ++ s) a = nextB (A ++ s') a := by
      cases A with
      | nil => exact hnb a
      | cons q A' => rfl
    have ene : A ++ s ≠ [] ↔ A ++ s' ≠ [] := by
      cases A with
      | nil => simp only [List.nil_append]; exact not_congr hne
      | cons q A' => simp
    rw [List.cons_append, List.cons_append, SeqOk_cons, XiG_cons, XiG_cons, ← enb]
    refine ⟨⟨h1, fun hc hn => h2 hc (ene.mpr hn), ih1⟩, ?_⟩
    omega

/-- The base `x` after the base `b` goes: the RAM merge `Gd_P1` if `b` is consuming, else the disk merge
`Gd_P2`, which costs a disk checkpoint. -/
theorem XiG_remove (k b x : Nat) (c c2 : Bool) (R : List (Nat × Bool)) (a : Nat)
    (h : SeqOk k ((b, c) :: (x, c2) :: R) a) :
    SeqOk k ((b, c) :: R) a ∧
      XiG uf wr k ((b, c) :: R) a ≤
        XiG uf wr k ((b, c) :: (x, c2) :: R) a + ((if c then 0 else wr) + uf * (x - b)) := by
  rw [SeqOk_cons_cons, SeqOk_cons] at h
  obtain ⟨hbx, hk, hx, _, hR⟩ := h
  simp only at hbx hk hx hR
  obtain ⟨hR1, hR2⟩ := XiG_mono_k uf wr R _ (if c then k - 1 else k) a (by split <;> omega) hR
  have hnb := nextB_le R _ a hR
  rw [SeqOk_cons, XiG_cons, XiG_cons_cons, XiG_cons]
  refine ⟨⟨by omega, fun hc _ => hk hc, hR1⟩, ?_⟩
  have e : nextB R a - b - (x - b) = nextB R a - x := by omega
  cases c with
  | false =>
    have hp := Gd_P2 uf wr k (nextB R a - b) (x - b) (by omega) (by omega)
    rw [e] at hp
    simp only [Bool.false_eq_true, if_false] at hR2 ⊢
    omega
  | true =>
    obtain ⟨k0, rfl⟩ : ∃ k0, k = k0 + 1 := ⟨k - 1, by have := hk rfl; omega⟩
    have hp := Gd_P1 uf wr k0 (nextB R a - b) (x - b) (by omega) (by omega)
    rw [e] at hp
    simp only [if_true, Nat.add_sub_cancel] at hR2 ⊢
    omega

theorem XiG_bubble_step (k x y : Nat) (R : List (Nat × Bool)) (a : Nat)
    (h : SeqOk k ((x, true) :: (y, false) :: R) a) :
    SeqOk k ((x, false) :: (y, true) :: R) a ∧
      XiG uf wr k ((x, false) :: (y, true) :: R) a ≤ XiG uf wr k ((x, true) :: (y, false) :: R) a := by
  rw [SeqOk_cons_cons] at h
  obtain ⟨hxy, hk, hrest⟩ := h
  have hk1 : 1 ≤ k := hk rfl
  simp only [if_true] at hxy hrest
  rw [SeqOk_cons] at hrest
  obtain ⟨hy, _, hR⟩ := hrest
  simp only [Bool.false_eq_true, if_false] at hR hy
  rw [SeqOk_cons_cons, XiG_cons_cons, XiG_cons_cons, SeqOk_cons, XiG_cons, XiG_cons]
  simp only [Bool.false_eq_true, if_false, if_true]
  refine ⟨⟨hxy, by simp, hy, fun _ _ => hk1, hR⟩, ?_⟩
  have hnb := nextB_le R _ a hR
  have := Gd_anti' uf wr (show k - 1 ≤ k by omega) (nextB R a - y) (by omega)
  omega

/-- a consuming flag moves up past non-consuming bases -/
theorem XiG_bubble : ∀ (M : List (Nat × Bool)), (∀ p ∈ M, p.2 = false) →
    ∀ (k x y : Nat) (R : List (Nat × Bool)) (a : Nat),
    SeqOk k ((x, true) :: M ++ (y, false) :: R) a →
    SeqOk k ((x, false) :: M ++ (y, true) :: R) a ∧
      XiG uf wr k ((x, false) :: M ++ (y, true) :: R) a ≤
        XiG uf wr k ((x, true) :: M ++ (y, false) :: R) a := by
  intro M
  induction M with
  | nil =>
    intro _ k x y R a h
    exact XiG_bubble_step uf wr k x y R a h
  | cons m M ih =>
    intro hM k x y R a h
    obtain ⟨mb, mc⟩ := m
    have hmc : mc = false := hM (mb, mc) (List.mem_cons_self ..)
    subst hmc
    -- first step: swap with `m`
    have h1 := XiG_bubble_step uf wr k x mb (M ++ (y, false) :: R) a (by simpa using h)
    -- then continue from `m`
    have hok := h1.1
    rw [SeqOk_cons_cons] at hok
    obtain ⟨hx, _, hrest⟩ := hok
    simp only [Bool.false_eq_true, if_false] at hrest hx
    obtain ⟨i1, i2⟩ := ih (fun p hp => hM p (List.mem_cons_of_mem _ hp)) k mb y R a
      (by rw [List.cons_append]; exact hrest)
    rw [List.cons_append] at i1 i2
    rw [List.cons_append] at i2
    have e1 : (x, false) :: ((mb, false) :: M) ++ (y, true) :: R
        = (x, false) :: (mb, false) :: (M ++ (y, true) :: R) := by simp
    have e2 : (x, true) :: ((mb, false) :: M) ++ (y, false) :: R
        = (x, true) :: (mb, false) :: (M ++ (y, false) :: R) := by simp
    rw [e1, e2]
    have h1b := h1.2
    rw [XiG_cons_cons] at h1b ⊢
    rw [SeqOk_cons_cons]
    simp only [Bool.false_eq_true, if_false] at h1b ⊢
    refine ⟨⟨hx, by simp, i1⟩, ?_⟩
    omega

/-! ## one more single step on top -/

def countT (s : List (Nat × Bool)) : Nat := s.countP (fun p => p.2)

theorem countT_cons (p : Nat × Bool) (s : List (Nat × Bool)) :
    countT (p :: s) = (if p.2 then 1 else 0) + countT s := by
  unfold countT
  rw [List.countP_cons, Nat.add_comm]

theorem XiG_snoc : ∀ (s : List (Nat × Bool)) (k a : Nat), 1 ≤ a → SeqOk k s (a - 1) → countT s ≤ k →
    SeqOk k (s ++ [(a - 1, true)]) a ∧
      XiG uf wr k (s ++ [(a - 1, true)]) a = XiG uf wr k s (a - 1) + uf := by
  intro s
  induction s with
  | nil =>
    intro k a ha _ _
    refine ⟨by show a - 1 < a; omega, ?_⟩
    show Gd uf wr k (a - (a - 1)) = 0 + uf
    have : a - (a - 1) = 1 := by omega
    rw [this, Gd_one]; omega
  | cons p rest ih =>
    intro k a ha hs hc
    rw [SeqOk_cons] at hs
    obtain ⟨h1, h2, h3⟩ := hs
    rw [countT_cons] at hc
    have hc' : countT rest ≤ (if p.2 then k - 1 else k) := by
      by_cases hp : p.2 = true
      · rw [if_pos hp] at hc ⊢; omega
      · rw [if_neg hp] at hc ⊢; omega
    obtain ⟨i1, i2⟩ := ih _ a ha h3 hc'
    have enb : nextB (rest ++ [(a - 1, true)]) a = nextB rest (a - 1) := by
      cases rest <;> rfl
    rw [List.cons_append, SeqOk_cons, XiG_cons, XiG_cons, enb, i2]
    refine ⟨⟨h1, ?_, i1⟩, by omega⟩
    intro hp _
    rw [if_pos hp] at hc
    omega

end Ckpt.LB7
