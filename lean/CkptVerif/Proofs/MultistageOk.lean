import CkptVerif.Model.Multistage
import CkptVerif.Proofs.SegOk
import CkptVerif.Proofs.NAdv
/-!
# MultistageCheckpointSchedule: the model stream is accepted by the specification executor

for every `N ≥ 1`, every storage tuple (any RAM/DISK labelling whose counts respect the declared
budgets), both trajectories — no violation of any tag, and the stream is complete.
-/
namespace Ckpt

theorem countSt_le_of_labelled (alloc : Nat → Storage) (storage : List Storage)
    (halloc : ∀ i, i < storage.length → alloc i = storage.getD i .none) (s : Storage) :
    ∀ stack : List Cp, Labelled alloc stack → stack.length ≤ storage.length →
      countSt stack s ≤ (storage.take stack.length).count s := by
  intro stack
  induction stack with
  | nil => intro _ _; simp [countSt]
  | cons c rest ih =>
    intro hl hlen
    obtain ⟨hc, hrest⟩ := hl
    have hlen' : rest.length < storage.length := by simp at hlen; omega
    have ih' := ih hrest (by omega)
    have hget : storage.getD rest.length .none = storage[rest.length] := by
      simp [List.getD, hlen']
    have htake : storage.take (rest.length + 1) = storage.take rest.length ++ [storage[rest.length]] := by
      rw [List.take_add_one]; simp [hlen']
    simp only [List.length_cons, htake, List.count_append, countSt, List.filter_cons] at ih' ⊢
    rw [halloc _ hlen', hget] at hc
    by_cases hs : c.st = s
    · have hcnt : List.count s [storage[rest.length]] = 1 := by
        rw [← hc, hs]; simp
      rw [hcnt]
      simp only [hs, decide_true, if_true, List.length_cons]
      omega
    · simp only [hs, decide_false]
      simp only [Bool.false_eq_true, if_false]
      omega

theorem multistage_clean (cfg : Cfg) (N : Nat) (storage : List Storage) (traj : Traj)
    (hN : cfg.N = N) (hp : cfg.passes = some 1) (hon : cfg.online = false)
    (h1 : 1 ≤ N) (hunits : 2 ≤ N → 1 ≤ storage.length)
    (hst : ∀ x ∈ storage, x.isStore = true)
    (hram : withinOpt cfg.ram (storage.count .ram) = true)
    (hdisk : withinOpt cfg.disk (storage.count .disk) = true) :
    ∃ evs sn, multistageSeg N storage.length (fun d => storage.getD d .none) traj = some (evs ++ [⟨.endReverse, 1, N⟩]) ∧
      Clean cfg (XS.init cfg)
        (evs.map (Ev.obs · N) ++ [⟨.endReverse, 1, N, some N, true, true⟩])
        (X (some 1) N none none [] true 1 sn) := by
  have H : SegHyp cfg N (fun m k => nAdvance m k traj) storage.length (fun d => storage.getD d .none) [] 0 N 0 := {
    hN := hN
    alive := alive_one hp
    range := fun m k hm hk => nAdvance_range m k traj hm hk
    one := fun m hm => nAdvance_one m traj (by omega)
    store := by
      intro i hi
      have : storage.getD i .none = storage[i] := by simp [List.getD, hi]
      rw [this]; exact hst _ (List.getElem_mem hi)
    budget := by
      intro stack hl hlen
      have hr := countSt_le_of_labelled (fun d => storage.getD d .none) storage (fun _ _ => rfl) .ram stack hl hlen
      have hd := countSt_le_of_labelled (fun d => storage.getD d .none) storage (fun _ _ => rfl) .disk stack hl hlen
      have hr' := (List.take_sublist stack.length storage).count_le .ram
      have hd' := (List.take_sublist stack.length storage).count_le .disk
      simp only [withinBudget, List.append_nil, Bool.and_eq_true]
      constructor
      · revert hram; unfold withinOpt; cases cfg.ram <;> simp; omega
      · revert hdisk; unfold withinOpt; cases cfg.disk <;> simp; omega
    base := by intro c hc; simp at hc
  }
  obtain ⟨evs, sn', hseg, _, hclean⟩ := segWith_ok false H N false true 0 N 0 [] 0 (some 0) []
    none none (by simp) (by omega) (by omega) (le_refl _) (le_refl _) (le_refl _) (fun _ => ⟨rfl, rfl⟩) (by simp)
    (by intro c hc; simp at hc) trivial rfl (by intro h; have := hunits (by omega); omega) (fun _ => rfl) (by simp)
  refine ⟨evs, sn', by unfold multistageSeg; rw [hseg]; rfl, Clean.whole hN hp hon (Or.inr rfl) ?_⟩
  simpa using hclean

end Ckpt
