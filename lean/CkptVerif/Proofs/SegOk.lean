import CkptVerif.Proofs.SegWith
import CkptVerif.Proofs.ExecLemmas
/-!
# Acceptance of the generic binomial segment by the specification executor

`segWith_ok`: for ANY split function `σ` with `1 ≤ σ m k ≤ m-1` (for `m ≥ 2`, `k ≥ 1`) and
`σ m 1 = m-1`, any labelling `alloc` of the stack positions by RAM/DISK that respects the budgets,
and any set `base` of other checkpoints whose keys lie outside the region, the stream
`segWith … lo hi d` runs through the executor without a single violation (of any tag) and takes
the state "adjoint at `hi`, stack of depth `d`" to "adjoint at `lo`, same stack".
No bound on `N`, the number of units, or the depth.
-/
namespace Ckpt

structure SegHyp (cfg : Cfg) (N : Nat) (σ : Nat → Nat → Option Nat) (S : Nat) (alloc : Nat → Storage)
    (base : List Cp) (lo0 hi0 dn : Nat) : Prop where
  hN : cfg.N = N
  alive : Alive cfg dn
  range : ∀ m k, 2 ≤ m → 1 ≤ k → ∃ a, σ m k = some a ∧ 1 ≤ a ∧ a ≤ m - 1
  one : ∀ m, 2 ≤ m → σ m 1 = some (m - 1)
  store : ∀ i, i < S → (alloc i).isStore = true
  budget : ∀ stack : List Cp, Labelled alloc stack → stack.length ≤ S → withinBudget cfg (stack ++ base) = true
  base : Outside base lo0 hi0

/-- the checkpoint for `lo` at stack depth `d` covering `k` steps -/
def topCp (alloc : Nat → Storage) (lo d k : Nat) : Cp := ⟨lo, alloc d, k, 0⟩

theorem segWith_ok {cfg : Cfg} {N : Nat} {σ : Nat → Nat → Option Nat} {S : Nat} {alloc : Nat → Storage}
    {base : List Cp} {lo0 hi0 dn : Nat} (persist : Bool) (H : SegHyp cfg N σ S alloc base lo0 hi0 dn) :
    ∀ (fuel : Nat) (stored spine : Bool) (lo hi d : Nat) (rest : List Cp) (k : Nat) (f : Option Nat) (sn : List Cp)
      (wi wd : Option (Nat × Nat)),
      (stored = true → wi = none ∧ wd = none) →
      hi - lo ≤ fuel → lo < hi → hi ≤ N → lo0 ≤ lo → hi ≤ hi0 →
      (spine = true → hi = N ∧ stored = false) →
      (persist = true → d = 0 → stored = true) →
      Below rest lo → Labelled alloc rest → rest.length = d →
      (lo + 2 ≤ hi → d + 1 ≤ S) →
      (stored = false → f = some lo) →
      (stored = true → hi ≤ lo + k ∧ 0 < k ∧ d < S) →
      ∃ evs sn', segWith N σ S alloc persist fuel stored spine lo hi d = some evs ∧
        (spine = false → sn' = sn) ∧
        Clean cfg
          (X f (N - hi) wi wd ((if stored then topCp alloc lo d k :: rest else rest) ++ base) (!spine) dn sn)
          (evs.map (Ev.obs · N))
          (X (some (lo + 1)) (N - lo) none none
            ((if persist ∧ d = 0 then topCp alloc lo d k :: rest else rest) ++ base) true dn sn') := by
  intro fuel
  induction fuel with
  | zero => intro _ _ lo hi _ _ _ _ _ _ _ _ h1 h2; omega
  | succ fuel ih =>
    intro stored spine lo hi d rest k f sn wi wd hw hfuel hlt hN hlo0 hhi0 hspine hpers hbelow hlab hlen hd hf hk
    have hcN := H.hN
    have hal := H.alive
    have hnsp : stored = true → spine = false := by
      intro hs; cases spine
      · rfl
      · rw [(hspine rfl).2] at hs; cases hs
    by_cases hbase : hi = lo + 1
    · -- unit segment: (re-load,) advance, reverse
      subst hbase
      have hturn := fun sp h wi wd cps sn => turn_clean hcN hal lo sp wi wd cps sn hN h
      cases stored with
      | false =>
        obtain rfl := hf rfl
        have hnp : ¬ (persist = true ∧ d = 0) := fun ⟨hp, hd0⟩ => by cases hpers hp hd0
        refine ⟨_, if spine then rest ++ base else sn, segWith_unit N σ S alloc persist fuel false spine lo d,
          fun h => by rw [h]; rfl, ?_⟩
        simpa only [Bool.false_eq_true, if_false, hnp, List.nil_append] using
          hturn spine (fun h => (hspine h).1) wi wd (rest ++ base) sn
      | true =>
        obtain rfl := hnsp rfl
        obtain ⟨hk1, hk2, hdS⟩ := hk rfl
        obtain ⟨rfl, rfl⟩ := hw rfl
        have hstd : (alloc d).isStore = true := H.store d hdS
        refine ⟨_, sn, segWith_unit N σ S alloc persist fuel true false lo d, fun _ => rfl, ?_⟩
        have ht := hturn false (fun h => by cases h) (some (lo, lo + k)) none
        have hload := fun keep => seg_reload hcN hal keep base lo0 hi0 f lo k (lo + 1) (alloc d) rest sn hstd
          hk1 hlt hN hbelow H.base hlo0 (Nat.lt_of_lt_of_le hlt hhi0)
        simp only [Bool.false_eq_true, if_false, List.append_nil, Bool.not_false, List.cons_append,
          List.nil_append, List.map_cons, if_true] at ht ⊢
        by_cases hp : persist = true ∧ d = 0
        · rw [if_pos hp, if_pos hp]
          exact Clean.cons (hload true) (ht _ sn)
        · rw [if_neg hp, if_neg hp]
          exact Clean.cons (hload false) (ht _ sn)
    · -- write (or find) the checkpoint at `lo`, reverse `[lo + a, hi)`, re-load, reverse `[lo, lo + a)`
      obtain ⟨m, rfl⟩ : ∃ m, hi = lo + m := ⟨hi - lo, (Nat.add_sub_of_le hlt.le).symm⟩
      rw [Nat.add_sub_cancel_left] at hfuel
      have hm2 : 2 ≤ m := by omega
      have hlo1 : lo < hi0 := Nat.lt_of_lt_of_le hlt hhi0
      have hdS : d < S := hd (Nat.add_le_add_left hm2 lo)
      have hunits : 1 ≤ S - d := Nat.sub_pos_of_lt hdS
      obtain ⟨a, ha, ha1, ha2⟩ := H.range m (S - d) hm2 hunits
      have hstd : (alloc d).isStore = true := H.store d hdS
      -- with a single unit left the split leaves one step to the right
      have hright_units : lo + a + 2 ≤ lo + m → (d + 1) + 1 ≤ S := fun h => by
        have := seg_units_right H.one hm2 hunits ha (Nat.le_of_add_le_add_left h); omega
      -- the split point lies strictly inside the segment
      have hmid : lo < lo + a := Nat.lt_add_of_pos_right ha1
      have hmid' : lo + a < lo + m :=
        Nat.add_lt_add_left (Nat.lt_of_le_sub_one (Nat.lt_of_lt_of_le Nat.two_pos hm2) ha2) lo
      have hmidN : lo + a ≤ N := hmid'.le.trans hN
      clear ha2
      have hlab' : ∀ kk, Labelled alloc (topCp alloc lo d kk :: rest) := fun kk =>
        ⟨by rw [hlen]; rfl, hlab⟩
      obtain ⟨kk, hkk, hkeep, hfirst⟩ : ∃ kk, a ≤ kk ∧ (stored = true → kk = k) ∧
          Clean cfg
            (X f (N - (lo + m)) wi wd ((if stored then topCp alloc lo d k :: rest else rest) ++ base) (!spine) dn sn)
            ((if stored = true then
                [(⟨.copy lo (alloc d) .work, lo, N - (lo + m)⟩ : Ev),
                  ⟨.forward lo (lo + a) false false .work, lo + a, N - (lo + m)⟩]
              else [⟨.forward lo (lo + a) true false (alloc d), lo + a, N - (lo + m)⟩]).map (Ev.obs · N))
            (X (some (lo + a)) (N - (lo + m)) none none ((topCp alloc lo d kk :: rest) ++ base) (!spine) dn sn) := by
        cases stored with
        | false =>
          obtain rfl := hf rfl
          exact ⟨a, le_refl _, (fun h => by cases h), Clean.single (seg_write hcN hal (alloc d) base lo0 hi0 lo a
            (lo + m) wi wd rest (!spine) sn hmid'.le hN ha1 hstd hbelow H.base hlo0 hlo1
            (H.budget (topCp alloc lo d a :: rest) (hlab' a) (by rw [List.length_cons, hlen]; exact hdS)))⟩
        | true =>
          obtain ⟨hk1, _, _⟩ := hk rfl
          obtain ⟨rfl, rfl⟩ := hw rfl
          obtain rfl := hnsp rfl
          exact ⟨k, Nat.le_of_add_le_add_left (hmid'.le.trans hk1), fun _ => rfl, Clean.cons
            (seg_reload hcN hal true base lo0 hi0 f lo k (lo + m) (alloc d) rest sn hstd hk1 hlt hN hbelow
              H.base hlo0 hlo1)
            (Clean.single (seg_plain hcN hal lo a (lo + m) _ none _ true sn hmid'.le hN ha1))⟩
      obtain ⟨right, sn1, hright, hsn1, hrun_right⟩ := ih false spine (lo + a) (lo + m) (d + 1)
        (topCp alloc lo d kk :: rest) 0 (some (lo + a)) sn none none (by simp)
        (Nat.sub_le_of_le_add (by omega)) hmid' hN (Nat.le_add_right_of_le hlo0) hhi0
        (fun h => ⟨(hspine h).1, rfl⟩) (fun _ h => absurd h (Nat.succ_ne_zero d))
        (hbelow.cons rfl hmid) (hlab' kk) (by rw [List.length_cons, hlen])
        hright_units (fun _ => rfl) (by simp)
      obtain ⟨left, sn2, hleft, hsn2, hrun_left⟩ := ih true false lo (lo + a) d rest kk (some (lo + a + 1)) sn1
        none none (fun _ => ⟨rfl, rfl⟩)
        (Nat.sub_le_of_le_add (by omega)) hmid hmidN hlo0 (hmid'.le.trans hhi0) (by simp) (fun _ _ => rfl)
        hbelow hlab hlen (fun _ => hdS) (by simp)
        (fun _ => ⟨Nat.add_le_add_left hkk lo, Nat.lt_of_lt_of_le ha1 hkk, hdS⟩)
      refine ⟨_, sn2, segWith_split N σ S alloc persist fuel stored spine lo (lo + m) d a right left hbase
        (by rw [Nat.add_sub_cancel_left]; exact ha) hright hleft, fun h => by rw [hsn2 rfl, hsn1 h], ?_⟩
      rw [List.map_append, List.map_append]
      simp only [Bool.false_eq_true, if_false, Nat.add_one_ne_zero, and_false] at hrun_right
      simp only [if_true, Bool.not_false] at hrun_left
      have h12 := Clean.append hfirst hrun_right
      -- a checkpoint that persists is the one the segment was entered with
      by_cases hp : persist = true ∧ d = 0
      · obtain rfl : kk = k := hkeep (hpers hp.1 hp.2)
        rw [if_pos hp] at hrun_left ⊢
        exact Clean.append h12 hrun_left
      · rw [if_neg hp] at hrun_left ⊢
        exact Clean.append h12 hrun_left
end Ckpt
