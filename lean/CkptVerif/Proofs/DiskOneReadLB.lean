import CkptVerif.Proofs.DiskOneReadPlans
import CkptVerif.Proofs.DiskCounterexamples
/-!
# DiskRevolve is optimal among all one-read streams

`diskOneReadOptimal`: every stream of observations that the checking executor accepts for
`cfgDiskRevolve cm N` (offline, `cm` RAM units, unbounded disk, one adjoint calculation), that is
complete, writes restart data only, and lies in the class `OneRead` (no `Copy` out of DISK, no
`Copy`/`Move` into DISK) costs at least the Disk-Revolve table value `optInfVal N cm c`.

Proof: backward induction along the stream with the potential of `Proofs/DiskOneReadPlans.lean`.
-/
namespace Ckpt.LB7
open Ckpt.GW Ckpt.RC Ckpt.Mean

/-- the tags under which forward states are available in an executor state -/
def AvX (x : XS) : Tag → Prop
  | .ram e => ∃ c ∈ x.cps, c.n = e ∧ c.st = .ram
  | .disk e => ∃ c ∈ x.cps, c.n = e ∧ c.st = .disk
  | .work e => x.fwd = some e

/-- the tag under which a checkpoint kept in storage `s` is available -/
def stTag (s : Storage) (e : Nat) : Tag :=
  match s with
  | .ram => .ram e
  | .disk => .disk e
  | _ => .work e

theorem stTag_pos (s : Storage) (e : Nat) : (stTag s e).pos = e := by cases s <;> rfl

theorem Tag.eq_stTag_or_work (t : Tag) :
    (∃ s e, s.isStore = true ∧ t = stTag s e) ∨ ∃ e, t = .work e := by
  cases t with
  | ram e => exact Or.inl ⟨.ram, e, rfl, rfl⟩
  | disk e => exact Or.inl ⟨.disk, e, rfl, rfl⟩
  | work e => exact Or.inr ⟨e, rfl⟩

theorem avX_stTag {x : XS} {s : Storage} (hs : s.isStore = true) (e : Nat) :
    AvX x (stTag s e) ↔ ∃ c ∈ x.cps, c.n = e ∧ c.st = s := by
  cases s with
  | ram => exact Iff.rfl
  | disk => exact Iff.rfl
  | work => cases hs
  | none => cases hs

theorem stTag_inj {s s' : Storage} {e e' : Nat} (hs : s.isStore = true) (h : stTag s e = stTag s' e') :
    s = s' ∧ e = e' := by
  cases s <;> cases s' <;> simp_all [stTag, Storage.isStore]

theorem stTag_ne_work {s : Storage} (hs : s.isStore = true) (e e' : Nat) : stTag s e ≠ .work e' :=
  fun h => by cases s <;> simp_all [stTag, Storage.isStore]

structure CfgD (cfg : Cfg) (cm : Nat) : Prop where
  ram : cfg.ram = some cm
  passes : cfg.passes = some 1
  keeps : cfg.keepsAllDeps = false
  offline : cfg.online = false

/-- invariant of the accepted prefixes -/
structure InvD (cfg : Cfg) (cm : Nat) (x : XS) : Prop where
  fin : x.fin = true
  r_le : x.r ≤ cfg.N
  cps : ∀ c ∈ x.cps, c.deps = 0 ∧ c.st.isStore = true
  ram : countSt x.cps .ram ≤ cm
  keys : (x.cps.map (fun c => (c.n, c.st))).Nodup
  deps : x.wDeps = none ∨ ∃ p, x.wDeps = some (p, p + 1) ∧ cfg.N - x.r ≤ p + 1 ∧
    (cfg.N - x.r = p + 1 → x.fwd = some (p + 1))
  done : 1 ≤ x.done → x.r = cfg.N ∧ x.cps = []

/-- the potential: a plan for the current state, the reads of the disk checkpoints still stored, and
the backward steps still to come, cost at most `n` -/
def PotD (cfg : Cfg) (cm : Nat) (c : Costs) (x : XS) (n : Nat) : Prop :=
  ∃ m, m + c.rd * countSt x.cps .disk + c.ub * (cfg.N - x.r) ≤ n ∧
    (Flagged cfg x → DReach c.uf (c.wd + c.rd) cm (AvX x) (cfg.N - x.r - 1) m) ∧
    (¬ Flagged cfg x → DReach c.uf (c.wd + c.rd) cm (AvX x) (cfg.N - x.r) m)

def ramTags (x : XS) : List Tag := (x.cps.filter (fun c => c.st = .ram)).map (fun c => Tag.ram c.n)

theorem ramTags_length (x : XS) : (ramTags x).length = countSt x.cps .ram := by
  unfold ramTags countSt; rw [List.length_map]

theorem mem_ramTags {x : XS} {e : Nat} (h : AvX x (.ram e)) : Tag.ram e ∈ ramTags x := by
  obtain ⟨c, hc, hn, hs⟩ := h
  unfold ramTags
  exact List.mem_map.mpr ⟨c, List.mem_filter.mpr ⟨hc, by simp [hs]⟩, by rw [hn]⟩

theorem planOk_tag_pos {cm a : Nat} {Av : Tag → Prop} {P : List Ent} (hP : PlanOk cm a Av P) :
    ∀ t ∈ tags P, t.pos < a := by
  intro t ht
  obtain ⟨A, E, C, rfl, hE⟩ := exists_of_tag_mem ht
  have hb := bases_lt hP.seq E (by simp)
  have hs := (srcLe_of_tag hE).mp (hP.src E (by simp))
  omega

theorem dreach_restrict {uf wr cm a n : Nat} {Av : Tag → Prop} (h : DReach uf wr cm Av a n) :
    DReach uf wr cm (fun t => Av t ∧ t.pos < a) a n := by
  obtain ⟨P, hP, hv⟩ := h
  exact ⟨P, { hP with avail := fun t ht => ⟨hP.avail t ht, planOk_tag_pos hP t ht⟩ }, hv⟩

theorem AvX_of_eq {x x' : XS} (hc : x'.cps = x.cps) (hf : x'.fwd = x.fwd) (t : Tag) (ht : AvX x' t) :
    AvX x t := by
  rcases t.eq_stTag_or_work with ⟨s, e, hs, rfl⟩ | ⟨e, rfl⟩
  · rw [avX_stTag hs] at ht ⊢
    rwa [hc] at ht
  · exact Eq.trans hf.symm ht

theorem InvD.frame {cfg : Cfg} {cm : Nat} {x : XS} (h : InvD cfg cm x) :
    Frame (fun f q => f = some q) cfg x := ⟨h.fin, h.r_le, h.deps, fun hd => (h.done hd).1⟩

theorem potD_iff {cfg : Cfg} {cm : Nat} {c : Costs} {x : XS} {n : Nat} :
    PotD cfg cm c x n ↔ ∃ m, m + c.rd * countSt x.cps .disk + c.ub * (cfg.N - x.r) ≤ n ∧
      DReach c.uf (c.wd + c.rd) cm (AvX x) (adjPos cfg x) m :=
  exists_congr fun m => and_congr_right fun _ =>
    flagged_split (Q := fun a => DReach c.uf (c.wd + c.rd) cm (AvX x) a m)

/-- The potential reads the state through the position of the adjoint, the number of disk checkpoints
and what is available only. -/
theorem PotD.anti {cfg : Cfg} {cm : Nat} {c : Costs} {x x' : XS} {cost : Nat} (hr : x'.r = x.r)
    (hadj : adjPos cfg x' = adjPos cfg x)
    (hdisk : c.rd * countSt x.cps .disk ≤ c.rd * countSt x'.cps .disk + cost)
    (hav : ∀ a m, DReach c.uf (c.wd + c.rd) cm (AvX x') a m → DReach c.uf (c.wd + c.rd) cm (AvX x) a m)
    {n : Nat} (hp : PotD cfg cm c x' n) : PotD cfg cm c x (n + cost) := by
  rw [potD_iff] at hp ⊢
  obtain ⟨m, hm, hd⟩ := hp
  rw [hr] at hm
  rw [hadj] at hd
  exact ⟨m, by omega, hav _ _ hd⟩

/-- one backward step: the plan for what is left stays, the step is paid -/
theorem PotD.reverse {cfg : Cfg} {cm : Nat} {c : Costs} {x x' : XS} (hr : x'.r = x.r + 1) (hlt : x.r < cfg.N)
    (hadj : adjPos cfg x' = adjPos cfg x) (hcps : x'.cps = x.cps) (hfwd : x'.fwd = x.fwd)
    {n : Nat} (hp : PotD cfg cm c x' n) : PotD cfg cm c x (n + c.ub) := by
  rw [potD_iff] at hp ⊢
  obtain ⟨m, hm, hd⟩ := hp
  rw [hr, hcps] at hm
  rw [hadj] at hd
  refine ⟨m, ?_, dreach_mono _ _ (AvX_of_eq hcps hfwd) hd⟩
  have e2 : c.ub * (cfg.N - x.r) = c.ub * (cfg.N - (x.r + 1)) + c.ub := by
    rw [← Nat.mul_succ]; congr 1; omega
  omega

theorem tag_mem_of_mem {P : List Ent} {E : Ent} {t : Tag} (hE : E ∈ P) (ht : E.tag? = some t) : t ∈ tags P := by
  unfold tags; exact List.mem_filterMap.mpr ⟨E, hE, ht⟩

theorem no_dskN_of_own {cm a : Nat} {Av : Tag → Prop} {A C : List Ent} {e b : Nat}
    (hP : PlanOk cm a Av (A ++ .ownD (.disk e) b :: C)) :
    ∀ b', Ent.dskN e b' ∉ A ++ .ownD (.disk e) b :: C := by
  intro b' hm
  have hnd := hP.nodup
  rw [tags_replace] at hnd
  simp only [Ent.tag?, List.singleton_append] at hnd
  rw [List.nodup_append] at hnd
  obtain ⟨_, h2, h3⟩ := hnd
  rw [List.nodup_cons] at h2
  simp only [List.mem_append, List.mem_cons] at hm
  rcases hm with h | h | h
  · exact h3 (.disk e) (tag_mem_of_mem h rfl) (.disk e) (by simp) rfl
  · cases h
  · exact h2.1 (tag_mem_of_mem h rfl)

/-- **A forward** from the state in working storage at `f` to `f'`; the state `f` may be written to
RAM or to disk (tag `t1`). -/
theorem dreach_fwd {uf wr cm a m : Nat} {Av Av' : Tag → Prop} (f f' : Nat) (hff : f ≤ f') (t1 : Tag)
    (ht1 : t1.pos = f) (hne : t1 ≠ .work f') (h0 : Av (.work f))
    (hsub : ∀ t, Av' t → t = t1 ∨ t = .work f' ∨ (Av t ∧ t ≠ .work f))
    (h : DReach uf wr cm Av' a m) :
    DReach uf wr cm Av a (m + uf * (f' - f) + (if t1 = .disk f then wr else 0)) := by
  obtain ⟨P, hP, hv⟩ := h
  -- a disk checkpoint at `f` that is read at its turn is read at once instead
  have hstep : ∃ P₂, PlanOk cm a Av' P₂ ∧
      val uf wr cm P₂ a ≤ val uf wr cm P a + (if t1 = .disk f then wr else 0) ∧
      (∀ e b, Ent.dskN e b ∈ P₂ → Tag.disk e ≠ t1) := by
    by_cases hd : t1 = .disk f
    · by_cases hex : ∃ b, Ent.dskN f b ∈ P
      · obtain ⟨b, hb⟩ := hex
        obtain ⟨A, C, rfl⟩ := List.append_of_mem hb
        obtain ⟨q1, q2⟩ := dskN_to_ownD uf wr A C f b hP
        refine ⟨_, q1, by rw [if_pos hd]; exact q2, ?_⟩
        intro e b' hm heq
        rw [hd] at heq
        simp only [Tag.disk.injEq] at heq
        subst heq
        exact no_dskN_of_own q1 b' hm
      · refine ⟨P, hP, by omega, ?_⟩
        intro e b hm heq
        rw [hd] at heq
        simp only [Tag.disk.injEq] at heq
        subst heq
        exact hex ⟨b, hm⟩
    · -- a disk tag at `f` would be `disk f`
      refine ⟨P, hP, by omega, fun e b _ heq => hd ?_⟩
      rw [← heq] at ht1 ⊢
      exact congrArg Tag.disk ht1
  obtain ⟨P₂, p1, p2, p3⟩ := hstep
  obtain ⟨P₃, r1, r2⟩ := merge_two uf wr (Av := Av) (.work f) t1 (.work f') (by rw [ht1]; rfl)
    (by rw [ht1]; exact hff) h0 hne P₂ p1
    (fun t ht => hsub t (p1.avail t ht))
    (fun e b hm => ⟨p3 e b hm, by simp⟩)
  refine ⟨P₃, r1, ?_⟩
  simp only [Tag.pos] at r2
  omega

/-- **The turn-around**: the step below the adjoint is taken together with its adjoint data.  Afterwards
the RAM checkpoints are the only RAM tags. -/
theorem PotD.turn {cfg : Cfg} {cm : Nat} {c : Costs} {x x' : XS} (hram : countSt x.cps .ram ≤ cm)
    (hr : x'.r = x.r) (hcps : x'.cps = x.cps) (ha : 1 ≤ cfg.N - x.r)
    (hfwd : x.fwd = some (cfg.N - x.r - 1)) (hfwd' : x'.fwd = some (cfg.N - x.r))
    (hadj : adjPos cfg x = cfg.N - x.r) (hadj' : adjPos cfg x' = cfg.N - x.r - 1)
    {n : Nat} (hp : PotD cfg cm c x' n) : PotD cfg cm c x (n + c.uf) := by
  rw [potD_iff] at hp ⊢
  obtain ⟨m, hm, hr1⟩ := hp
  rw [hr, hcps] at hm
  rw [hadj'] at hr1
  rw [hadj]
  have hturn := dreach_turn c.uf (c.wd + c.rd) (Av := AvX x) (a := cfg.N - x.r) ha hfwd
    (ramTags x) (by rw [ramTags_length]; exact hram) ?_ (dreach_restrict hr1)
  · exact ⟨m + c.uf, by omega, hturn⟩
  · rintro t ⟨hav, hpos⟩
    rcases t.eq_stTag_or_work with ⟨s, e, hs, rfl⟩ | ⟨e, rfl⟩
    · have hx : AvX x (stTag s e) := by
        rw [avX_stTag hs] at hav ⊢
        rwa [hcps] at hav
      refine ⟨hx, ?_, stTag_ne_work hs e _⟩
      cases s with
      | ram => exact Or.inr (mem_ramTags hx)
      | disk => exact Or.inl rfl
      | work => cases hs
      | none => cases hs
    · exfalso
      have : x'.fwd = some e := hav
      rw [hfwd', Option.some.injEq] at this
      have hpos' : e < cfg.N - x.r - 1 := hpos
      omega

/-- **An ordinary forward** from `n0` to `n1`; the state `n0` is written to `st` if that is a store. -/
theorem PotD.forward {cfg : Cfg} {cm : Nat} {c : Costs} {x x' : XS} {n0 n1 : Nat} {st : Storage}
    (hlt : n0 < n1) (hr : x'.r = x.r) (hfwd : x.fwd = some n0) (hfwd' : x'.fwd = some n1)
    (hcps : ∀ c' ∈ x'.cps, c' ∈ x.cps ∨ (st.isStore = true ∧ c'.n = n0 ∧ c'.st = st))
    (hcd : countSt x'.cps .disk = (if st = .disk then 1 else 0) + countSt x.cps .disk)
    (hadj : adjPos cfg x = cfg.N - x.r) (hadj' : adjPos cfg x' = cfg.N - x.r)
    {n : Nat} (hp : PotD cfg cm c x' n) :
    PotD cfg cm c x (n + ((n1 - n0) * c.uf + (if st = .disk then c.wd else 0))) := by
  rw [potD_iff] at hp ⊢
  obtain ⟨m, hm, hr2⟩ := hp
  rw [hr, hcd] at hm
  rw [hadj'] at hr2
  rw [hadj]
  -- the state `n0` is stored under the tag `stTag st n0`, if at all
  have hsub : ∀ t, AvX x' t → t = stTag st n0 ∨ t = .work n1 ∨ (AvX x t ∧ t ≠ .work n0) := by
    intro t ht
    rcases t.eq_stTag_or_work with ⟨s, e, hs, rfl⟩ | ⟨e, rfl⟩
    · obtain ⟨c', hc', hn, hst⟩ := (avX_stTag hs e).mp ht
      rcases hcps c' hc' with hold | ⟨_, h1, h2⟩
      · exact Or.inr (Or.inr ⟨(avX_stTag hs e).mpr ⟨c', hold, hn, hst⟩, stTag_ne_work hs e n0⟩)
      · left; rw [← hn, ← hst, h1, h2]
    · have : x'.fwd = some e := ht
      rw [hfwd', Option.some.injEq] at this
      exact Or.inr (Or.inl (by rw [this]))
  have hfw := dreach_fwd (uf := c.uf) (wr := c.wd + c.rd) (Av := AvX x) n0 n1 (by omega) (stTag st n0)
    (stTag_pos st n0)
    (fun h => by have : n0 = n1 := (stTag_pos st n0).symm.trans (congrArg Tag.pos h); omega)
    hfwd hsub hr2
  refine ⟨_, ?_, hfw⟩
  have e2 : c.uf * (n1 - n0) = (n1 - n0) * c.uf := Nat.mul_comm _ _
  by_cases hdisk : st = .disk
  · rw [if_pos (by rw [hdisk]; rfl)]
    rw [if_pos hdisk, Nat.mul_add, Nat.mul_one] at hm
    rw [if_pos hdisk]
    omega
  · rw [if_neg (fun h => hdisk (stTag_inj (s := .disk) rfl h.symm).1.symm)]
    rw [if_neg hdisk, Nat.zero_add] at hm
    rw [if_neg hdisk]
    omega

theorem step_forward_D {cfg : Cfg} {cm : Nat} (H : CfgD cfg cm) (c : Costs) {x : XS}
    (hinv : InvD cfg cm x) {n0 n1 : Nat} {wi wa : Bool} {st : Storage}
    (h : actViols cfg x (.forward n0 n1 wi wa st) = [])
    (hnd : storesDeps (.forward n0 n1 wi wa st) = false) :
    InvD cfg cm (nextState cfg x (.forward n0 n1 wi wa st)) ∧
    ∀ n, PotD cfg cm c (nextState cfg x (.forward n0 n1 wi wa st)) n →
      PotD cfg cm c x (n + actCost c (.forward n0 n1 wi wa st)) := by
  obtain ⟨hlt, hfwd, hle, hstore, hwork⟩ := forward_clean hinv.fin h
  obtain ⟨hfr, hadj, hturn, hplain⟩ := frame_forward (fun _ _ h => Option.some.inj h) (fun _ => rfl)
    H.keeps hinv.frame (wi := wi) hlt hfwd hle hwork
  generalize hx' : nextState cfg x (.forward n0 n1 wi wa st) = x' at hfr hturn hplain ⊢
  have e_fwd : x'.fwd = some n1 := by rw [← hx', nextState_forward hinv.fin]
  have e_r : x'.r = x.r := by rw [← hx', nextState_forward hinv.fin]
  have e_done : x'.done = x.done := by rw [← hx', nextState_forward hinv.fin]
  have e_cps : x'.cps = if st.isStore = true
      then { n := n0, st := st, ics := if wi = true then n1 - n0 else 0,
             deps := if wa = true then n1 - n0 else 0 } :: x.cps else x.cps := by
    rw [← hx', nextState_forward hinv.fin]
  have hstore_false : st.isStore = true → wa = false := by
    intro hs
    simp only [storesDeps, hs, Bool.and_true] at hnd
    exact hnd
  have hcps : ∀ c' ∈ x'.cps, c' ∈ x.cps ∨ (st.isStore = true ∧ c'.n = n0 ∧ c'.st = st) := by
    intro c' hc'
    rw [e_cps] at hc'
    split at hc'
    · rcases List.mem_cons.mp hc' with rfl | h
      · exact Or.inr ⟨‹_›, rfl, rfl⟩
      · exact Or.inl h
    · exact Or.inl hc'
  have hInv : InvD cfg cm x' := by
    refine ⟨hfr.fin, hfr.r_le, ?_, ?_, ?_, hfr.deps, ?_⟩
    · intro c' hc'
      rw [e_cps] at hc'
      by_cases hs : st.isStore = true
      · rw [if_pos hs] at hc'
        rcases List.mem_cons.mp hc' with rfl | hc'
        · exact ⟨by simp [hstore_false hs], hs⟩
        · exact hinv.cps c' hc'
      · rw [if_neg hs] at hc'
        exact hinv.cps c' hc'
    · rw [e_cps]
      by_cases hs : st.isStore = true
      · rw [if_pos hs]
        have hb := (hstore hs).2.2.2.2
        rw [Mean.withinBudget_iff] at hb
        have := hb.1 cm H.ram
        rw [countSt_cons] at this ⊢
        exact this
      · rw [if_neg hs]; exact hinv.ram
    · rw [e_cps]
      by_cases hs : st.isStore = true
      · rw [if_pos hs, List.map_cons, List.nodup_cons]
        exact ⟨keys_findCp_none (hstore hs).2.2.2.1, hinv.keys⟩
      · rw [if_neg hs]; exact hinv.keys
    · rw [e_done]
      intro hd
      have := (hinv.done hd).1
      omega
  refine ⟨hInv, fun n hp => ?_⟩
  by_cases hw : st = .work ∧ wa = true
  · -- the turn-around
    obtain ⟨h1, h2, hadj'⟩ := hturn hw
    have hns : ¬ st.isStore = true := by rw [hw.1]; decide
    have ha : cfg.N - x.r = n0 + 1 := by rw [← h2, h1]
    have hcost : actCost c (.forward n0 n1 wi wa st) = c.uf := by
      rw [actCost, if_neg (by rw [hw.1]; decide), h1, Nat.add_sub_cancel_left, Nat.one_mul, Nat.add_zero]
    rw [hcost]
    exact PotD.turn hinv.ram e_r (by rw [e_cps, if_neg hns]) (by rw [ha]; exact Nat.succ_pos _)
      (by rw [ha, Nat.add_sub_cancel]; exact hfwd) (by rw [e_fwd, h2]) hadj
      (by rw [hadj', ha, Nat.add_sub_cancel]) hp
  · -- an ordinary forward
    have hcd : countSt x'.cps .disk = (if st = .disk then 1 else 0) + countSt x.cps .disk := by
      rw [e_cps]
      by_cases hst : st.isStore = true
      · rw [if_pos hst, countSt_cons]
      · rw [if_neg hst, if_neg (fun h => hst (by rw [h]; rfl)), Nat.zero_add]
    exact PotD.forward hlt e_r hfwd e_fwd hcps hcd hadj (hplain hw) hp


theorem step_reverse_D {cfg : Cfg} {cm : Nat} (c : Costs) {x : XS} (hinv : InvD cfg cm x)
    {n1 n0 : Nat} {cl : Bool} (h : actViols cfg x (.reverse n1 n0 cl) = []) :
    InvD cfg cm (nextState cfg x (.reverse n1 n0 cl)) ∧
    ∀ n, PotD cfg cm c (nextState cfg x (.reverse n1 n0 cl)) n →
      PotD cfg cm c x (n + actCost c (.reverse n1 n0 cl)) := by
  obtain ⟨hfr, hadj, e_r, hlt⟩ := frame_reverse_step hinv.frame h
  -- one step is reversed
  have hcost : actCost c (.reverse n1 n0 cl) = c.ub := by
    have : x.r + (n1 - n0) = x.r + 1 := e_r
    rw [actCost, show n1 - n0 = 1 by omega, Nat.one_mul]
  rw [hcost]
  refine ⟨⟨hfr.fin, hfr.r_le, hinv.cps, hinv.ram, hinv.keys, hfr.deps, fun hd => ?_⟩,
    fun n hp => PotD.reverse e_r hlt hadj rfl rfl hp⟩
  have := (hinv.done hd).1
  omega

theorem step_endForward_D {cfg : Cfg} {cm : Nat} (c : Costs) {x : XS} (hinv : InvD cfg cm x) :
    InvD cfg cm (nextState cfg x .endForward) ∧
    ∀ n, PotD cfg cm c (nextState cfg x .endForward) n → PotD cfg cm c x (n + actCost c .endForward) :=
  ⟨⟨hinv.fin, hinv.r_le, hinv.cps, hinv.ram, hinv.keys, hinv.deps, hinv.done⟩, fun _ hp => hp⟩

theorem step_endReverse_D {cfg : Cfg} {cm : Nat} (H : CfgD cfg cm) (c : Costs) {x : XS}
    (hinv : InvD cfg cm x) (h : actViols cfg x .endReverse = []) :
    InvD cfg cm (nextState cfg x .endReverse) ∧
    ∀ n, PotD cfg cm c (nextState cfg x .endReverse) n → PotD cfg cm c x (n + actCost c .endReverse) := by
  obtain ⟨e, hfr⟩ := frame_endReverse H.passes hinv.frame h
  rw [e]
  -- with one adjoint calculation no checkpoint may be left at its end
  simp only [actViols, List.append_eq_nil_iff, chk_nil_iff, decide_eq_true_eq] at h
  obtain ⟨⟨_, hr⟩, he⟩ := h
  rw [H.passes] at he
  simp only [chk_nil_iff, List.isEmpty_iff] at he
  exact ⟨⟨hfr.fin, hfr.r_le, hinv.cps, hinv.ram, hinv.keys, hfr.deps, fun _ => ⟨hr, he⟩⟩, fun _ hp => hp⟩


theorem dreach_merge {uf wr cm a m : Nat} {Av Av' : Tag → Prop} (t0 t1 t2 : Tag)
    (h01 : t0.pos = t1.pos) (h12 : t1.pos ≤ t2.pos) (h0 : Av t0) (hne : t1 ≠ t2)
    (hsub : ∀ t, Av' t → t = t1 ∨ t = t2 ∨ (Av t ∧ t ≠ t0))
    (hN : ∀ e, Av' (.disk e) → Tag.disk e ≠ t1 ∧ Tag.disk e ≠ t2)
    (h : DReach uf wr cm Av' a m) : DReach uf wr cm Av a (m + uf * (t2.pos - t0.pos)) := by
  obtain ⟨P, hP, hv⟩ := h
  obtain ⟨P₁, r1, r2⟩ := merge_two uf wr (Av := Av) t0 t1 t2 h01 h12 h0 hne P hP
    (fun t ht => hsub t (hP.avail t ht))
    (fun e b hm => hN e (hP.avail _ (tag_mem_of_mem hm rfl)))
  exact ⟨P₁, r1, by omega⟩

theorem countSt_erase_other (cps : List Cp) (n : Nat) (s s' : Storage) (h : s ≠ s') :
    countSt (eraseCp cps n s) s' = countSt cps s' := by
  induction cps with
  | nil => rfl
  | cons c cps ih =>
    unfold eraseCp at ih ⊢
    rw [List.filter_cons]
    by_cases hc : c.n = n ∧ c.st = s
    · have : c.st ≠ s' := by rw [hc.2]; exact h
      simp only [hc, and_self, not_true_eq_false, decide_false, Bool.false_eq_true, if_false]
      rw [countSt_cons, if_neg this, ih]; omega
    · simp only [hc, not_false_eq_true, decide_true, if_true]
      rw [countSt_cons, countSt_cons, ih]

theorem countSt_erase_self : ∀ (cps : List Cp) (n : Nat) (s : Storage),
    (cps.map (fun c => (c.n, c.st))).Nodup → (∃ c ∈ cps, c.n = n ∧ c.st = s) →
    countSt (eraseCp cps n s) s + 1 = countSt cps s := by
  intro cps
  induction cps with
  | nil => intro n s _ ⟨c, hc, _⟩; cases hc
  | cons d cps ih =>
    intro n s hnd hex
    rw [List.map_cons, List.nodup_cons] at hnd
    unfold eraseCp
    rw [List.filter_cons]
    by_cases hd : d.n = n ∧ d.st = s
    · simp only [hd, and_self, not_true_eq_false, decide_false, Bool.false_eq_true, if_false]
      have hall : cps.filter (fun c => decide ¬(c.n = n ∧ c.st = s)) = cps := by
        rw [List.filter_eq_self]
        intro c hc
        simp only [decide_not, Bool.not_eq_eq_eq_not, Bool.not_true, decide_eq_false_iff_not]
        intro hcn
        apply hnd.1
        rw [hd.1, hd.2]
        exact List.mem_map.mpr ⟨c, hc, by rw [hcn.1, hcn.2]⟩
      rw [hall, countSt_cons, if_pos hd.2]; omega
    · simp only [hd, not_false_eq_true, decide_true, if_true]
      obtain ⟨c, hc, hcn⟩ := hex
      have hc' : c ∈ cps := by
        rcases List.mem_cons.mp hc with rfl | h
        · exact absurd hcn hd
        · exact h
      have := ih n s hnd.2 ⟨c, hc', hcn⟩
      unfold eraseCp at this
      rw [countSt_cons, countSt_cons]
      omega

theorem not_of_mem_eraseCp {cps : List Cp} {n : Nat} {s : Storage} {c : Cp} (h : c ∈ eraseCp cps n s) :
    ¬ (c.n = n ∧ c.st = s) :=
  of_decide_eq_true (List.mem_filter.mp h).2

theorem avX_load {x : XS} {n : Nat} {cp : Cp} {dst : Storage} {cps0 : List Cp} (hcn : cp.n = n)
    (hsub : ∀ c' ∈ cps0, c' ∈ x.cps) {t : Tag} (ht : AvX (loadState x n cp dst cps0) t) :
    t = stTag dst n ∨ AvX x t := by
  rcases t.eq_stTag_or_work with ⟨s, e, hs, rfl⟩ | ⟨e, rfl⟩
  · obtain ⟨c', hc', hn, hst⟩ := (avX_stTag hs e).mp ht
    rw [loadState_cps] at hc'
    rcases mem_loadCps hc' with ⟨_, rfl⟩ | hc0
    · left; rw [← hst, ← hn, ← hcn]
    · exact Or.inr ((avX_stTag hs e).mpr ⟨c', hsub c' hc0, hn, hst⟩)
  · have hf : (loadState x n cp dst cps0).fwd = some e := ht
    rw [loadState_fwd] at hf
    by_cases hdw : dst = .work
    · rw [if_pos hdw] at hf
      split at hf
      · left; rw [hdw, ← Option.some.inj hf]; rfl
      · cases hf
    · rw [if_neg hdw] at hf
      exact Or.inr hf

/-- `Copy` and `Move` at once: `cps0` is what is left of the stored checkpoints.  A load out of disk
leaves no disk checkpoint of that step behind (`hgone`), and pays for the read (`hcost`). -/
theorem step_load_D {cfg : Cfg} {cm : Nat} (H : CfgD cfg cm) (c : Costs) {x : XS} (hinv : InvD cfg cm x)
    {n : Nat} {src dst : Storage} {cp : Cp} (hcm : cp ∈ x.cps) (hcn : cp.n = n) (hcs : cp.st = src)
    (hdd : dst ≠ .disk) (hwork : dst = .work → x.wDeps = none)
    (hstore : dst.isStore = true → findCp x.cps n dst = none ∧
      withinBudget cfg ({ cp with st := dst } :: x.cps) = true)
    (cps0 : List Cp) (hsub : ∀ c' ∈ cps0, c' ∈ x.cps) (hcount : ∀ s', countSt cps0 s' ≤ countSt x.cps s')
    (hkeys : (cps0.map (fun c => (c.n, c.st))).Nodup)
    (hgone : src = .disk → ∀ c' ∈ cps0, ¬ (c'.n = n ∧ c'.st = .disk))
    (cost : Nat) (hcost : c.rd * countSt x.cps .disk ≤ c.rd * countSt cps0 .disk + cost) :
    InvD cfg cm (loadState x n cp dst cps0) ∧
      ∀ m, PotD cfg cm c (loadState x n cp dst cps0) m → PotD cfg cm c x (m + cost) := by
  obtain ⟨hd0, hcpst⟩ := hinv.cps cp hcm
  have hss : src.isStore = true := hcs ▸ hcpst
  have hcps0 : ∀ c' ∈ cps0, c'.deps = 0 ∧ c'.st.isStore = true := fun c' hc' => hinv.cps c' (hsub c' hc')
  obtain ⟨e_r, e_fin, e_done, _⟩ := loadState_same x n cp dst cps0
  have e_cps := loadState_cps x n cp dst cps0
  have e_fwd := loadState_fwd x n cp dst cps0
  have e_deps := loadState_wDeps x n cp dst cps0
  rw [if_neg (by omega : ¬ cp.deps > 0)] at e_deps
  have hmem : ∀ {c'}, c' ∈ (loadState x n cp dst cps0).cps →
      (dst.isStore = true ∧ c' = { cp with st := dst }) ∨ c' ∈ cps0 :=
    fun h => mem_loadCps (loadState_cps x n cp dst cps0 ▸ h)
  have hav := @avX_load x n cp dst cps0 hcn hsub
  generalize loadState x n cp dst cps0 = x' at *
  have hdeps : (x'.wDeps = x.wDeps ∧ x'.fwd = x.fwd) ∨ (x'.wDeps = none ∧ x.wDeps = none) := by
    rw [e_deps, e_fwd]
    by_cases hdw : dst = .work
    · rw [if_pos hdw]; exact Or.inr ⟨rfl, hwork hdw⟩
    · rw [if_neg hdw, if_neg hdw]; exact Or.inl ⟨rfl, rfl⟩
  obtain ⟨hfr, hadj⟩ := frame_same hinv.frame e_r e_done e_fin hdeps
  have hInv : InvD cfg cm x' := by
    refine ⟨hfr.fin, hfr.r_le, ?_, ?_, ?_, hfr.deps, ?_⟩
    · intro c' hc'
      rcases hmem hc' with ⟨hs, rfl⟩ | hc0
      · exact ⟨hd0, hs⟩
      · exact hcps0 c' hc0
    · rw [e_cps, loadCps]
      split
      · have hb := (Mean.withinBudget_iff.mp (hstore ‹_›).2).1 cm H.ram
        rw [countSt_cons] at hb ⊢
        have := hcount .ram
        omega
      · exact le_trans (hcount .ram) hinv.ram
    · rw [e_cps, loadCps]
      split
      · rw [List.map_cons, List.nodup_cons]
        refine ⟨fun hm => ?_, hkeys⟩
        obtain ⟨c', hc', heq⟩ := List.mem_map.mp hm
        exact keys_findCp_none (hstore ‹_›).1 (List.mem_map.mpr ⟨c', hsub c' hc', by rw [heq, hcn]⟩)
      · exact hkeys
    · rw [e_done]
      intro hd
      rw [(hinv.done hd).2] at hcm
      cases hcm
  refine ⟨hInv, fun m => PotD.anti e_r hadj ?_ ?_⟩
  · have hnew : countSt x'.cps .disk = countSt cps0 .disk := by
      rw [e_cps, loadCps]
      split
      · rw [countSt_cons, if_neg hdd, Nat.zero_add]
      · rfl
    rw [hnew]
    exact hcost
  · -- the tags of the source and of the destination stand at the same place: a merge at no cost
    intro a m1 hr
    have h0 : AvX x (stTag src n) := (avX_stTag hss n).mpr ⟨cp, hcm, hcn, hcs⟩
    have hne : stTag src n ≠ stTag dst n := by
      intro h
      obtain ⟨hsd, _⟩ := stTag_inj hss h
      exact findCp_eq_none_iff.mp (hstore (hsd ▸ hss)).1 cp hcm ⟨hcn, hcs.trans hsd⟩
    have hm := dreach_merge (Av := AvX x) (stTag src n) (stTag src n) (stTag dst n) rfl
      (le_of_eq (by rw [stTag_pos, stTag_pos])) h0 hne ?_ ?_ hr
    · rw [stTag_pos, stTag_pos, Nat.sub_self, Nat.mul_zero] at hm
      exact hm
    · intro t ht
      by_cases hts : t = stTag src n
      · exact Or.inl hts
      · rcases hav ht with h | h
        · exact Or.inr (Or.inl h)
        · exact Or.inr (Or.inr ⟨h, hts⟩)
    · intro e he
      refine ⟨fun heq => ?_, fun heq => hdd (stTag_inj (s := .disk) rfl heq).1.symm⟩
      obtain ⟨hsd, hen⟩ := stTag_inj (s := .disk) rfl heq
      obtain ⟨c', hc', hn, hs⟩ := he
      rcases hmem hc' with ⟨_, rfl⟩ | hc0
      · exact hdd hs
      · exact hgone hsd.symm c' hc0 ⟨hn.trans hen, hs⟩

theorem step_copy_D {cfg : Cfg} {cm : Nat} (H : CfgD cfg cm) (c : Costs) {x : XS} (hinv : InvD cfg cm x)
    {n : Nat} {src dst : Storage} (h : actViols cfg x (.copy n src dst) = [])
    (h1 : copiesFromDisk (.copy n src dst) = false) (h2 : transfersToDisk (.copy n src dst) = false) :
    InvD cfg cm (nextState cfg x (.copy n src dst)) ∧
    ∀ m, PotD cfg cm c (nextState cfg x (.copy n src dst)) m →
      PotD cfg cm c x (m + actCost c (.copy n src dst)) := by
  obtain ⟨_, cp, hf, _, _, _, _, hwork, hstore⟩ :=
    load_checks (show actViols.loadViols cfg x n src dst = [] from h)
  obtain ⟨hcm, hcn, hcs⟩ := findCp_some hf
  have hsd : src ≠ .disk := of_decide_eq_false h1
  have hdd : dst ≠ .disk := of_decide_eq_false h2
  rw [nextState_copy hf, show actCost c (.copy n src dst) = 0 from if_neg hsd]
  exact step_load_D H c hinv hcm hcn hcs hdd (fun hd => (hwork hd).2) hstore x.cps (fun _ h => h) (fun _ => le_refl _)
    hinv.keys (fun h => absurd h hsd) 0 (le_refl _)

theorem step_move_D {cfg : Cfg} {cm : Nat} (H : CfgD cfg cm) (c : Costs) {x : XS} (hinv : InvD cfg cm x)
    {n : Nat} {src dst : Storage} (h : actViols cfg x (.move n src dst) = [])
    (h2 : transfersToDisk (.move n src dst) = false) :
    InvD cfg cm (nextState cfg x (.move n src dst)) ∧
    ∀ m, PotD cfg cm c (nextState cfg x (.move n src dst)) m →
      PotD cfg cm c x (m + actCost c (.move n src dst)) := by
  obtain ⟨_, cp, hf, _, _, _, _, hwork, hstore⟩ :=
    load_checks (show actViols.loadViols cfg x n src dst = [] from h)
  obtain ⟨hcm, hcn, hcs⟩ := findCp_some hf
  have hdd : dst ≠ .disk := of_decide_eq_false h2
  rw [nextState_move hf]
  refine step_load_D H c hinv hcm hcn hcs hdd (fun hd => (hwork hd).2) hstore (eraseCp x.cps n src) (fun _ h => mem_eraseCp h)
    (fun s' => countSt_eraseCp_le _ _ _ _) (hinv.keys.sublist (keys_eraseCp_sublist _ _ _))
    (fun hsd c' hc' => hsd ▸ not_of_mem_eraseCp hc') _ ?_
  -- the read is paid for by the disk checkpoint that goes
  show c.rd * countSt x.cps .disk ≤ c.rd * countSt (eraseCp x.cps n src) .disk + if src = .disk then c.rd else 0
  by_cases hsd : src = .disk
  · rw [if_pos hsd, hsd, ← countSt_erase_self x.cps n .disk hinv.keys ⟨cp, hcm, hcn, hcs.trans hsd⟩,
      Nat.mul_add, Nat.mul_one]
  · rw [if_neg hsd, countSt_erase_other x.cps n src .disk hsd]
    exact Nat.le_add_right _ _

theorem step_pot_D {cfg : Cfg} {cm : Nat} (H : CfgD cfg cm) (c : Costs) {x : XS} (hinv : InvD cfg cm x)
    (o : Obs) (hclean : stepViols cfg x o = []) (hnd : storesDeps o.act = false)
    (h1 : copiesFromDisk o.act = false) (h2 : transfersToDisk o.act = false) :
    InvD cfg cm (nextState cfg x o.act) ∧
    ∀ m, PotD cfg cm c (nextState cfg x o.act) m → PotD cfg cm c x (m + actCost c o.act) := by
  unfold stepViols at hclean
  simp only [List.append_eq_nil_iff] at hclean
  obtain ⟨⟨_, hact⟩, _⟩ := hclean
  cases ho : o.act with
  | forward n0 n1 wi wa st =>
    rw [ho] at hact hnd
    exact step_forward_D H c hinv hact hnd
  | reverse n1 n0 cl =>
    rw [ho] at hact
    exact step_reverse_D c hinv hact
  | copy n src dst =>
    rw [ho] at hact h1 h2
    exact step_copy_D H c hinv hact h1 h2
  | move n src dst =>
    rw [ho] at hact h2
    exact step_move_D H c hinv hact h2
  | endForward => exact step_endForward_D c hinv
  | endReverse =>
    rw [ho] at hact
    exact step_endReverse_D H c hinv hact

theorem run_pot_D {cfg : Cfg} {cm : Nat} (H : CfgD cfg cm) (c : Costs) (os : List Obs) :
    ∀ (i : Nat) (x : XS), InvD cfg cm x → (runFrom cfg i x os).2 = [] →
      finished cfg (runFrom cfg i x os).1 = true → (∀ o ∈ os, storesDeps o.act = false) →
      (∀ o ∈ os, copiesFromDisk o.act = false ∧ transfersToDisk o.act = false) →
      PotD cfg cm c x (obsCost c os) := by
  intro i x hinv hclean hfin
  revert hinv
  refine runFrom_induction (motive := fun x os => InvD cfg cm x →
    (∀ o ∈ os, storesDeps o.act = false) →
    (∀ o ∈ os, copiesFromDisk o.act = false ∧ transfersToDisk o.act = false) →
    PotD cfg cm c x (obsCost c os)) ?_ ?_ os i x hclean hfin
  · -- at the end nothing is left: no step to reverse, no disk checkpoint to read
    intro x hfin hinv _ _
    obtain ⟨hr, hc⟩ := hinv.done ((finished_iff_done H.passes x).mp hfin)
    rw [potD_iff, frame_finished hinv.frame H.passes hfin, hc, hr, Nat.sub_self]
    exact ⟨0, Nat.le_refl _, dreach_final _ _ _ _⟩
  · intro x o os hclean ih hinv hnd hor
    obtain ⟨hinv', hstep⟩ := step_pot_D H c hinv o hclean (hnd o (List.mem_cons_self ..))
      (hor o (List.mem_cons_self ..)).1 (hor o (List.mem_cons_self ..)).2
    rw [obsCost_cons, Nat.add_comm]
    exact hstep _ (ih hinv' (fun o' ho' => hnd o' (List.mem_cons_of_mem _ ho'))
      (fun o' ho' => hor o' (List.mem_cons_of_mem _ ho')))

theorem inv_init_D {cfg : Cfg} {cm : Nat} (H : CfgD cfg cm) : InvD cfg cm (XS.init cfg) :=
  have hfr : Frame (fun f q => f = some q) cfg (XS.init cfg) := frame_init H.offline
  ⟨hfr.fin, hfr.r_le, fun _ hc => absurd hc List.not_mem_nil, Nat.zero_le _, List.nodup_nil, hfr.deps,
    fun h => absurd h (Nat.not_succ_le_zero 0)⟩

/-- **The lower bound** for every complete accepted one-read stream -/
theorem lowerBound_D {cfg : Cfg} {cm : Nat} (H : CfgD cfg cm) (c : Costs) (hN : 1 ≤ cfg.N) (os : List Obs)
    (hclean : (run cfg os).2 = []) (hdone : finished cfg (run cfg os).1 = true)
    (hnd : ∀ o ∈ os, storesDeps o.act = false) (hor : OneRead os) :
    cfg.N * c.ub + Gd c.uf (c.wd + c.rd) cm cfg.N ≤ obsCost c os := by
  have hp := run_pot_D H c os 0 (XS.init cfg) (inv_init_D H) hclean hdone hnd hor
  rw [potD_iff, adjPos_init] at hp
  obtain ⟨m, hm, hr⟩ := hp
  have hg := dreach_init c.uf (c.wd + c.rd) hN (Av := AvX (XS.init cfg)) ?_ hr
  · have : c.ub * (cfg.N - (XS.init cfg).r) = cfg.N * c.ub := Nat.mul_comm _ _
    omega
  · -- only the state `0` in working storage is available
    intro t ht
    rcases t.eq_stTag_or_work with ⟨s, e, hs, rfl⟩ | ⟨e, rfl⟩
    · obtain ⟨c', hc', _⟩ := (avX_stTag hs e).mp ht
      cases hc'
    · exact congrArg Tag.work (Option.some.inj ht).symm

theorem cfgD_diskRevolve (cm N : Nat) : CfgD (cfgDiskRevolve cm N) cm := ⟨rfl, rfl, rfl, rfl⟩

/-- **In the class `OneRead` the Disk-Revolve table is a lower bound**: DiskRevolve attains the optimum
of that class (`diskRevolve_attains`). -/
theorem diskOneReadOptimal : DiskOneReadOptimal := by
  intro N cm c os hN hcm _ hacc hor
  obtain ⟨hclean, hdone, hnd⟩ := hacc
  have h1 := lowerBound_D (cfgD_diskRevolve cm N) c hN os hclean hdone hnd hor
  have h2 := optInf_le_Gd N cm c.uf c.ub (c.wd + c.rd) hN hcm
  have e : (cfgDiskRevolve cm N).N = N := rfl
  rw [e] at h1
  unfold optInfVal
  omega


end Ckpt.LB7

#print axioms Ckpt.LB7.diskOneReadOptimal
