import CkptVerif.Proofs.MixedDP
/-!
# Facts about `optimal_steps_mixed`

`mP n k = optMixedCell n k` (`optimal_steps_mixed(n, k)` before the clamp of `cache_step`): the number
of forward steps the mixed dynamic program needs for `n` steps and `k` units.  What the lower bound
`Proofs/MixedLowerBound.lean` needs of it: the two recurrence inequalities (`mP_dep`, `mP_rec`),
that more units never hurt (`mP_anti`), and `n ≤ mP n k`.
-/
namespace Ckpt.MX
open Ckpt

/-- `optimal_steps_mixed(n, k)`, the clamp of `cache_step` left to the caller -/
def mP (n k : Nat) : Nat := optMixedCell n k

theorem mP_small {n k : Nat} (h : n ≤ k + 1) : mP n k = n := by
  unfold mP; rw [optMixedCell_eq n k, optMixedF_def, if_pos h]

theorem mP_one (k : Nat) : mP 1 k = 1 := mP_small (by omega)

theorem mP_k1 {n : Nat} (h : 3 ≤ n) : mP n 1 = n * (n + 1) / 2 - 1 := by
  unfold mP; rw [optMixedCell_eq n 1, optMixedF_def, if_neg (by omega), if_pos rfl]

/-- the clamp of `cache_step` does not change the value -/
theorem mP_clamp {n : Nat} (k : Nat) : mP n (clampS n k) = mP n k := by
  by_cases h : k ≤ n - 1
  · have : clampS n k = k := clampS_of_le h
    rw [this]
  · have : clampS n k = n - 1 := clampS_of_ge (by omega)
    rw [this, mP_small (by omega), mP_small (by omega)]

theorem mP_unfold {n k : Nat} (h1 : k + 1 < n) (h2 : 2 ≤ k) :
    mP n k = minFold (fun i => i + mP i k + mP (n - i) (k - 1)) (1 + mP (n - 1) (k - 1))
      (List.range' 2 (n - 2)) := by
  have e : mP n k = minFold (splitCand n k optMixedCell)
      (1 + optMixedCell (n - 1) (clampS (n - 1) (k - 1))) (List.range' 2 (n - 2)) := by
    unfold mP minFold
    rw [optMixedCell_eq n k, optMixedF_def, if_neg (by omega), if_neg (by omega)]
  rw [e]
  have e1 : optMixedCell (n - 1) (clampS (n - 1) (k - 1)) = mP (n - 1) (k - 1) :=
    mP_clamp (k - 1)
  rw [e1]
  unfold minFold
  apply foldl_congr_mem
  intro a i hi
  rw [List.mem_range'_1] at hi
  show min a (splitCand n k optMixedCell i) = min a (i + mP i k + mP (n - i) (k - 1))
  have e2 : splitCand n k optMixedCell i = i + mP i k + mP (n - i) (k - 1) := by
    unfold splitCand
    have := mP_clamp (n := i) k
    have := mP_clamp (n := n - i) (k - 1)
    unfold mP at *
    omega
  rw [e2]

/-! ## the inequalities -/

/-- at least the first sweep -/
theorem mP_ge : ∀ (n k : Nat), (1 ≤ k ∨ n = 1) → n ≤ mP n k := by
  intro n
  induction n using Nat.strongRecOn with
  | _ n ih =>
    intro k hk
    by_cases h1 : n ≤ k + 1
    · rw [mP_small h1]; exact Nat.le_refl _
    · by_cases h2 : k = 1
      · subst h2
        rw [mP_k1 (by omega)]
        have := tri_ge n (by omega)
        omega
      · have hk2 : 2 ≤ k := by omega
        rw [mP_unfold (by omega) hk2]
        apply minFold_ge
        · have := ih (n - 1) (by omega) (k - 1) (by omega)
          omega
        · intro i hi
          rw [List.mem_range'_1] at hi
          have := ih (n - i) (by omega) (k - 1) (by omega)
          show n ≤ i + mP i k + mP (n - i) (k - 1)
          omega

/-- **storing the dependencies of the first step** -/
theorem mP_dep {m k : Nat} (hm : 2 ≤ m) (hk : 1 ≤ k) (h1 : k = 1 → m = 2) :
    mP m k ≤ 1 + mP (m - 1) (k - 1) := by
  by_cases hs : m ≤ k + 1
  · rw [mP_small hs, mP_small (by omega)]; omega
  · have hk2 : 2 ≤ k := by omega
    rw [mP_unfold (by omega) hk2]
    exact minFold_le_init _ _ _

/-- the one-unit values obey the recurrence with equality -/
theorem mP_k1_succ {i : Nat} (hi : 2 ≤ i) : mP (i + 1) 1 = i + mP i 1 + 1 := by
  rw [mP_k1 (by omega), tri_succ]
  rcases Nat.eq_or_lt_of_le hi with rfl | hi3
  · rw [mP_small (by omega)]
  · rw [mP_k1 (by omega)]
    have := tri_ge i (by omega)
    omega

/-- **storing a restart checkpoint and advancing `i` steps** -/
theorem mP_rec {m k i : Nat} (hk : 1 ≤ k) (hi1 : 1 ≤ i) (hi2 : i < m) (h1 : k = 1 → m - i = 1) :
    mP m k ≤ i + mP i k + mP (m - i) (k - 1) := by
  by_cases hs : m ≤ k + 1
  · rw [mP_small hs]
    have := mP_ge (m - i) (k - 1) (by
      rcases Nat.eq_or_lt_of_le hk with h | h
      · right; exact h1 h.symm
      · left; omega)
    omega
  · rcases Nat.eq_or_lt_of_le hk with hk1 | hk2
    · subst hk1
      have hmi := h1 rfl
      obtain rfl : m = i + 1 := by omega
      rw [hmi, mP_one, mP_k1_succ (by omega)]
      exact Nat.le_refl _
    · rcases Nat.eq_or_lt_of_le hi1 with rfl | hi
      · have := mP_dep (m := m) (k := k) (by omega) hk (by omega)
        rw [mP_one]
        omega
      · rw [mP_unfold (by omega) hk2]
        exact minFold_le_mem (fun i => i + mP i k + mP (m - i) (k - 1)) _ _ i
          (by rw [List.mem_range'_1]; omega)

/-- **more units never hurt** -/
theorem mP_anti : ∀ (m k : Nat), 1 ≤ m → (1 ≤ k ∨ m = 1) → mP m (k + 1) ≤ mP m k := by
  intro m
  induction m using Nat.strongRecOn with
  | _ m ih =>
    intro k hm hk
    by_cases hs : m ≤ k + 2
    · rw [mP_small (by omega)]
      exact mP_ge m k hk
    · have hk1 : 1 ≤ k := by omega
      rcases Nat.eq_or_lt_of_le hk1 with rfl | hk2
      · -- one unit against two
        obtain ⟨j, rfl⟩ : ∃ j, m = j + 1 := ⟨m - 1, by omega⟩
        have h1 := mP_rec (m := j + 1) (k := 2) (i := j) (by omega) (by omega) (by omega) (by omega)
        have e : j + 1 - j = 1 := by omega
        rw [e, mP_one] at h1
        have h2 : mP j 2 ≤ mP j 1 := ih j (by omega) 1 (by omega) (by omega)
        have h3 := mP_k1_succ (i := j) (by omega)
        show mP (j + 1) 2 ≤ mP (j + 1) 1
        omega
      · -- both sides are minima over the same splits, compared candidate by candidate
        rw [mP_unfold (n := m) (k := k + 1) (by omega) (by omega),
          mP_unfold (n := m) (k := k) (by omega) hk2, Nat.add_sub_cancel]
        have e : k - 1 + 1 = k := Nat.sub_add_cancel hk1
        apply minFold_mono
        · have h2 := ih (m - 1) (by omega) (k - 1) (by omega) (by omega)
          rw [e] at h2
          omega
        · intro i hi
          rw [List.mem_range'_1] at hi
          have h2 := ih i (by omega) k (by omega) (by omega)
          have h3 := ih (m - i) (by omega) (k - 1) (by omega) (by omega)
          rw [e] at h3
          show i + mP i (k + 1) + mP (m - i) k ≤ i + mP i k + mP (m - i) (k - 1)
          omega

end Ckpt.MX
