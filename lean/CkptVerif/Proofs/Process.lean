import CkptVerif.Model.Process
import CkptVerif.Proofs.Cache
/-!
# C15 at process level: projection onto one object commutes with running a history

`Model/Process.lean` models a Python process: the three module-level memo tables of `cache_step`
and all live schedule objects; a history (`List POp`) interleaves constructions, `next()` /
`finalize(n)` on any object, observer reads and direct calls of the cached helpers.

* `CachesOK p`: every entry of each of the three memo tables is the value of the recursive
  specification at its (clamped, valid) key.  `CachesOK_init`, `CachesOK_step`, `CachesOK_run`:
  it holds initially and is preserved by every operation.
* `mixResume_oneCall`: a resumption of the lazy Mixed generator calls the planner at most once, and
  the answer alone decides the outcome.  Hence (`mixResume_spec`, `objStep_spec`) under `CachesOK`
  what an object does (new object state and answer) does not depend on the contents of the memo
  table: it is what the same object does with the planner `specPlanner` (a mathematical function)
  and no table at all.
* `C15_process`: for ANY history `pre ++ construct spec :: post`, the answers to the operations
  addressed to the object built by that `construct` are the answers the same operations get in a
  fresh process in which nothing else ever happens (`soloHistory`).
* `C15_equal_params`: two objects built with equal parameters, at any two points of any two (or the
  same) histories, and driven by the same own sequence of `next` / `finalize` / observer
  operations, give the same answers.
* `C15_observers`, `C15_observer_erase`: observer reads (`n, r, max_n, is_exhausted, is_running`,
  `uses_storage_type`) leave the process state unchanged, so inserting or deleting them anywhere
  in a history changes no other answer.
* `C15_helpers_pure`: the three helper functions answer with the recursive specification, after
  any history.

Everything is by induction over arbitrary histories; there are no bounds.
-/
namespace Ckpt.Proc
open Ckpt

/-! ## the wrapped functions answer with the specification -/

/-- `planM` answers like the function `plan` on every table satisfying `OK`, and preserves `OK` -/
def PlanMSpec (planM : PlanM) (plan : Planner) (OK : Cache Cell → Prop) : Prop :=
  ∀ a b c, OK c → (planM a b c).2 = plan a b ∧ OK (planM a b c).1

/-- the specification of a call from outside: ValueError on invalid keys -/
def specOpt {α : Type} [Inhabited α] (F : Nat → Nat → (Nat → Nat → α) → α) (n s : Nat) :
    Option α :=
  if validKey n (clampS n s) then some (fixDP F n (clampS n s)) else none

theorem cachedOpt_spec {α : Type} [Inhabited α]
    (FM : Nat → Nat → Getter α → CM α α) (F : Nat → Nat → (Nat → Nat → α) → α)
    (hsim : Sim FM F) (hF : Local F) (n s : Nat) (c : Cache α) (hc : CacheOK F c) :
    (cachedOpt FM n s c).2 = specOpt F n s ∧ CacheOK F (cachedOpt FM n s c).1 := by
  unfold cachedOpt specOpt
  by_cases hv : validKey n (clampS n s) = true
  · obtain ⟨h1, h2, _⟩ := cachedCall_returns FM F hsim hF (n + 1) n s (by omega) hv c hc
    simp only [hv, if_true]
    exact ⟨by rw [h1], h2⟩
  · simp only [hv]
    exact ⟨rfl, hc⟩

theorem specPlanner_eq (n s : Nat) : specPlanner n s = specOpt memoF n s := rfl

theorem memoQuery_spec : PlanMSpec memoQuery specPlanner (CacheOK memoF) := by
  intro a b c hc
  rw [specPlanner_eq]
  exact cachedOpt_spec memoFM memoF memoFM_sim memoF_local a b c hc

theorem purePlanM_spec (plan : Planner) (OK : Cache Cell → Prop) :
    PlanMSpec (purePlanM plan) plan OK :=
  fun _ _ _ hc => ⟨rfl, hc⟩

/-! ## the lazy Mixed object does not see the contents of the table -/

section
variable {planM : PlanM} {plan : Planner} {OK : Cache Cell → Prop}

theorem innerStep_pos (planM : PlanM) (N S : Nat) (st : Storage) (σ : MixSt) (t : Nat)
    (c : Cache Cell) (hlt : σ.n < N - σ.r) :
    innerStep planM N S st σ t c =
      ((planM (N - σ.r - σ.n)
          (S - σ.snapshots.length + (if σ.snapshotN.contains σ.n then 1 else 0)) c).1,
       innerAfter S st σ (planM (N - σ.r - σ.n)
          (S - σ.snapshots.length + (if σ.snapshotN.contains σ.n then 1 else 0)) c).2) := by
  unfold innerStep; rw [if_pos hlt]

theorem innerStep_neg (planM : PlanM) (N S : Nat) (st : Storage) (σ : MixSt) (t : Nat)
    (c : Cache Cell) (hlt : ¬ σ.n < N - σ.r) :
    innerStep planM N S st σ t c = (c, turnStep N σ t) := by
  unfold innerStep; rw [if_neg hlt]

/-- what a resumption does with the planner: nothing, or one call whose answer alone decides the
outcome -/
inductive OneCall (m : PlanM → CM Cell (MixPC × GenOut)) : Prop
  | pure (X : MixPC × GenOut) (h : ∀ planM c, m planM c = (c, X))
  | call (a b : Nat) (f : Option Cell → MixPC × GenOut)
      (h : ∀ planM c, m planM c = ((planM a b c).1, f (planM a b c).2))

theorem OneCall.congr {m m' : PlanM → CM Cell (MixPC × GenOut)}
    (h : ∀ planM c, m planM c = m' planM c) (hm : OneCall m') : OneCall m := by
  rw [show m = m' from funext fun planM => funext (h planM)]
  exact hm

theorem innerStep_oneCall (N S : Nat) (st : Storage) (σ : MixSt) (t : Nat) :
    OneCall (fun planM => innerStep planM N S st σ t) := by
  by_cases hlt : σ.n < N - σ.r
  · exact .call _ _ (innerAfter S st σ) fun planM c => innerStep_pos planM N S st σ t c hlt
  · exact .pure _ fun planM c => innerStep_neg planM N S st σ t c hlt

theorem reloadStep_oneCall (N S : Nat) (st : Storage) (σ : MixSt) :
    OneCall (fun planM => reloadStep planM N S st σ) := by
  unfold reloadStep
  split
  · split
    · exact .pure _ fun _ _ => rfl
    · exact .pure _ fun _ _ => rfl
  · split
    · exact .pure _ fun _ _ => rfl
    · rename_i cpStepType cpN x rest heq
      split
      · exact .pure _ fun _ _ => rfl
      · exact .call _ _ (reloadAfter N st σ cpStepType cpN rest) fun _ _ => rfl

theorem mixResume_icsPost (planM : PlanM) (N S : Nat) (st : Storage) (σ : MixSt) (n0 t : Nat)
    (c : Cache Cell) :
    mixResume planM N S st (.icsPost σ n0 t) c =
      if σ.snapshots.length > S - 1 then (c, (.dead, .raise mixErrE))
      else innerStep planM N S st
        { σ with snapshotN := n0 :: σ.snapshotN, snapshots := (stWriteIcs, n0, σ.n) :: σ.snapshots }
        t c := rfl

theorem mixResume_oneCall (N S : Nat) (st : Storage) (pc : MixPC) :
    OneCall (fun planM => mixResume planM N S st pc) := by
  cases pc with
  | inner σ t => exact innerStep_oneCall N S st σ t
  | fr2 σ n1 t => exact .pure _ fun _ _ => rfl
  | rev σ => exact .pure _ fun _ _ => rfl
  | icsPost σ n0 t =>
    by_cases hgt : σ.snapshots.length > S - 1
    · exact .pure _ fun planM c => by rw [mixResume_icsPost, if_pos hgt]
    · exact (innerStep_oneCall N S st _ t).congr fun planM c => by
        rw [mixResume_icsPost, if_neg hgt]
  | reload σ => exact reloadStep_oneCall N S st σ
  | final => exact .pure _ fun _ _ => rfl
  | dead => exact .pure _ fun _ _ => rfl

/-- with a planner that answers like `plan` on good tables, the outcome is that of `plan` itself,
whatever the table; good tables stay good -/
theorem OneCall.spec {m : PlanM → CM Cell (MixPC × GenOut)} (hm : OneCall m)
    (h : PlanMSpec planM plan OK) (c c' : Cache Cell) (hc : OK c) :
    (m planM c).2 = (m (purePlanM plan) c').2 ∧ OK (m planM c).1 := by
  rcases hm with ⟨X, hX⟩ | ⟨a, b, f, hf⟩
  · rw [hX, hX]; exact ⟨rfl, hc⟩
  · rw [hf, hf]
    exact ⟨congrArg f (h a b c hc).1, (h a b c hc).2⟩

/-- a planner that is a function leaves the table alone -/
theorem OneCall.pure_cache {m : PlanM → CM Cell (MixPC × GenOut)} (hm : OneCall m)
    (plan : Planner) (c : Cache Cell) : (m (purePlanM plan) c).1 = c := by
  rcases hm with ⟨X, hX⟩ | ⟨a, b, f, hf⟩
  · rw [hX]
  · rw [hf]; rfl

theorem mixResume_spec (h : PlanMSpec planM plan OK) (N S : Nat) (st : Storage) (pc : MixPC)
    (c c' : Cache Cell) (hc : OK c) :
    (mixResume planM N S st pc c).2 = (mixResume (purePlanM plan) N S st pc c').2 ∧
      OK (mixResume planM N S st pc c).1 :=
  (mixResume_oneCall N S st pc).spec h c c' hc

theorem mixNext_spec (h : PlanMSpec planM plan OK) (N S : Nat) (st : Storage) (m : MSt)
    (pc : MixPC) (c c' : Cache Cell) (hc : OK c) :
    (mixNext planM N S st m pc c).2 = (mixNext (purePlanM plan) N S st m pc c').2 ∧
      OK (mixNext planM N S st m pc c).1 := by
  obtain ⟨h1, h2⟩ := mixResume_spec h N S st pc c c' hc
  refine ⟨?_, h2⟩
  show mixNextOf m _ = mixNextOf m _
  rw [h1]

/-- **An object step does not depend on the table.**  With any table satisfying the invariant, an
operation on an object has the result (new object state, answer) it has with the planner given as
a function and an arbitrary other table; the invariant is preserved. -/
theorem objStep_spec (h : PlanMSpec planM plan OK) (o : ObjSt) (op : OOp)
    (c c' : Cache Cell) (hc : OK c) :
    (o.step planM op c).2 = (o.step (purePlanM plan) op c').2 ∧ OK (o.step planM op c).1 := by
  cases o with
  | failed e => exact ⟨rfl, hc⟩
  | plain s m => cases op <;> exact ⟨rfl, hc⟩
  | mixed N S st m pc =>
    cases op with
    | next =>
      obtain ⟨h1, h2⟩ := mixNext_spec h N S st m pc c c' hc
      refine ⟨?_, h2⟩
      show (ObjSt.mixed N S st (mixNext planM N S st m pc c).2.1 (mixNext planM N S st m pc c).2.2.1,
          POut.next (mixNext planM N S st m pc c).2.2.2) = _
      rw [h1]; rfl
    | finalize k => exact ⟨rfl, hc⟩
    | observe => exact ⟨rfl, hc⟩
    | usesStorage x => exact ⟨rfl, hc⟩

end

/-- two tables satisfying the invariant are indistinguishable for an object -/
theorem objStep_indep (o : ObjSt) (op : OOp) (c c' : Cache Cell)
    (hc : CacheOK memoF c) (hc' : CacheOK memoF c') :
    (o.step memoQuery op c).2 = (o.step memoQuery op c').2 := by
  rw [(objStep_spec memoQuery_spec o op c [] hc).1, (objStep_spec memoQuery_spec o op c' [] hc').1]

/-- observer reads change neither the object nor the table -/
theorem objStep_observer (planM : PlanM) (o : ObjSt) (op : OOp) (h : op.isObserver = true)
    (c : Cache Cell) : (o.step planM op c).1 = c ∧ (o.step planM op c).2.1 = o := by
  cases o <;> cases op <;> first | exact ⟨rfl, rfl⟩ | cases h

/-! ## the invariant -/

/-- every entry of each memo table is the value of the recursive specification at its key, and the
key is a valid clamped key -/
structure CachesOK (p : Proc) : Prop where
  memo : CacheOK memoF p.memo
  extra : CacheOK extraF p.extra
  optMixed : CacheOK optMixedF p.optMixed

theorem CachesOK_init : CachesOK Proc.init :=
  ⟨CacheOK_nil _, CacheOK_nil _, CacheOK_nil _⟩

theorem step_obj_none (p : Proc) (i : Nat) (oop : OOp) (h : p.objs[i]? = none) :
    p.step (.obj i oop) = (p, .noObject) := by
  show (match p.objs[i]? with
    | none => (p, POut.noObject)
    | some o => _) = _
  rw [h]

theorem step_obj_some (p : Proc) (i : Nat) (oop : OOp) (o : Obj) (h : p.objs[i]? = some o) :
    p.step (.obj i oop) =
      ({ p with memo := (o.st.step memoQuery oop p.memo).1,
                objs := p.objs.set i { o with st := (o.st.step memoQuery oop p.memo).2.1 } },
       (o.st.step memoQuery oop p.memo).2.2) := by
  show (match p.objs[i]? with
    | none => (p, POut.noObject)
    | some o => _) = _
  rw [h]

theorem CachesOK_step (p : Proc) (op : POp) (h : CachesOK p) : CachesOK (p.step op).1 := by
  cases op with
  | construct spec => exact ⟨h.memo, h.extra, h.optMixed⟩
  | obj i oop =>
    cases hi : p.objs[i]? with
    | none => rw [step_obj_none p i oop hi]; exact h
    | some o =>
      rw [step_obj_some p i oop o hi]
      exact ⟨(objStep_spec memoQuery_spec o.st oop p.memo [] h.memo).2, h.extra, h.optMixed⟩
  | optimalExtraSteps n s =>
    exact ⟨h.memo, (cachedOpt_spec extraFM extraF extraFM_sim extraF_local n s _ h.extra).2,
      h.optMixed⟩
  | optimalStepsMixed n s =>
    exact ⟨h.memo, h.extra,
      (cachedOpt_spec optMixedFM optMixedF optMixedFM_sim optMixedF_local n s _ h.optMixed).2⟩
  | mixedStepMemo n s =>
    exact ⟨(cachedOpt_spec memoFM memoF memoFM_sim memoF_local n s _ h.memo).2, h.extra,
      h.optMixed⟩

theorem CachesOK_run (ops : List POp) (p : Proc) (h : CachesOK p) : CachesOK (p.run ops).1 := by
  induction ops generalizing p with
  | nil => exact h
  | cons op rest ih => exact ih _ (CachesOK_step p op h)

/-! ## generalities about `run` -/

theorem run_nil (p : Proc) : p.run [] = (p, []) := rfl

theorem run_cons (p : Proc) (op : POp) (rest : List POp) :
    p.run (op :: rest) = (((p.step op).1.run rest).1, (p.step op).2 :: ((p.step op).1.run rest).2) :=
  rfl

theorem run_append (p : Proc) (a b : List POp) :
    p.run (a ++ b) = (((p.run a).1.run b).1, (p.run a).2 ++ ((p.run a).1.run b).2) := by
  induction a generalizing p with
  | nil => rfl
  | cons op rest ih =>
    rw [List.cons_append, run_cons, ih, run_cons]
    rfl

theorem run_length (p : Proc) (ops : List POp) : (p.run ops).2.length = ops.length := by
  induction ops generalizing p with
  | nil => rfl
  | cons op rest ih => rw [run_cons]; simp [ih]

/-! ## simulation of the big process by the one-object process -/

/-- object `i` of `p` is object `0` of `q`, and both have good tables -/
structure SimAt (i : Nat) (p q : Proc) : Prop where
  okp : CachesOK p
  okq : CachesOK q
  same : ∃ o, p.objs[i]? = some o ∧ q.objs[0]? = some o

/-- an operation on another object, a construction or a helper call keeps the relation -/
theorem SimAt_other (i : Nat) (p q : Proc) (h : SimAt i p q) (op : POp)
    (hop : ∀ oop, op ≠ .obj i oop) : SimAt i (p.step op).1 q := by
  refine ⟨CachesOK_step p op h.okp, h.okq, ?_⟩
  obtain ⟨o, ho, hq⟩ := h.same
  refine ⟨o, ?_, hq⟩
  cases op with
  | construct spec =>
    show (p.objs ++ [mkObj spec])[i]? = some o
    rw [List.getElem?_append_left (List.getElem?_eq_some_iff.1 ho).1]; exact ho
  | obj j oop =>
    have hji : j ≠ i := fun e => hop oop (by rw [e])
    cases hj : p.objs[j]? with
    | none => rw [step_obj_none p j oop hj]; exact ho
    | some o' =>
      rw [step_obj_some p j oop o' hj]
      show (p.objs.set j _)[i]? = some o
      rw [List.getElem?_set_ne hji]; exact ho
  | optimalExtraSteps n s => exact ho
  | optimalStepsMixed n s => exact ho
  | mixedStepMemo n s => exact ho

/-- the same operation on the shared object gives the same answer and keeps the relation -/
theorem SimAt_own (i : Nat) (p q : Proc) (h : SimAt i p q) (oop : OOp) :
    (p.step (.obj i oop)).2 = (q.step (.obj 0 oop)).2 ∧
      SimAt i (p.step (.obj i oop)).1 (q.step (.obj 0 oop)).1 := by
  obtain ⟨o, ho, hq⟩ := h.same
  have e := objStep_indep o.st oop p.memo q.memo h.okp.memo h.okq.memo
  have hp : p.step (.obj i oop) =
      ({ p with memo := (o.st.step memoQuery oop p.memo).1,
                objs := p.objs.set i { o with st := (o.st.step memoQuery oop p.memo).2.1 } },
       (o.st.step memoQuery oop p.memo).2.2) := step_obj_some p i oop o ho
  have hq' : q.step (.obj 0 oop) =
      ({ q with memo := (o.st.step memoQuery oop q.memo).1,
                objs := q.objs.set 0 { o with st := (o.st.step memoQuery oop q.memo).2.1 } },
       (o.st.step memoQuery oop q.memo).2.2) := step_obj_some q 0 oop o hq
  refine ⟨by rw [hp, hq', e], CachesOK_step p _ h.okp, CachesOK_step q _ h.okq, ?_⟩
  rw [hp, hq']
  refine ⟨{ o with st := (o.st.step memoQuery oop p.memo).2.1 }, ?_, ?_⟩
  · show (p.objs.set i _)[i]? = _
    rw [List.getElem?_set_self (List.getElem?_eq_some_iff.1 ho).1]
  · show (q.objs.set 0 _)[0]? = _
    rw [List.getElem?_set_self (List.getElem?_eq_some_iff.1 hq).1, e]

theorem ownOps_own (i : Nat) (oop : OOp) (rest : List POp) :
    ownOps i (.obj i oop :: rest) = oop :: ownOps i rest :=
  if_pos rfl

theorem ownOuts_own (i : Nat) (oop : OOp) (rest : List POp) (x : POut) (xs : List POut) :
    ownOuts i (.obj i oop :: rest) (x :: xs) = x :: ownOuts i rest xs :=
  if_pos rfl

theorem ownOps_other (i : Nat) (op : POp) (rest : List POp) (h : ∀ oop, op ≠ .obj i oop) :
    ownOps i (op :: rest) = ownOps i rest := by
  cases op with
  | obj j oop => exact if_neg (fun e => h oop (by rw [e]))
  | _ => rfl

theorem ownOuts_other (i : Nat) (op : POp) (rest : List POp) (h : ∀ oop, op ≠ .obj i oop)
    (x : POut) (xs : List POut) : ownOuts i (op :: rest) (x :: xs) = ownOuts i rest xs := by
  cases op with
  | obj j oop => exact if_neg (fun e => h oop (by rw [e]))
  | _ => rfl

/-- **Projection commutes with running**, from any pair of related states. -/
theorem proj_run (i : Nat) (post : List POp) (p q : Proc) (h : SimAt i p q) :
    ownOuts i post (p.run post).2 = (q.run ((ownOps i post).map (POp.obj 0))).2 := by
  induction post generalizing p q with
  | nil => rfl
  | cons op rest ih =>
    rw [run_cons]
    by_cases hop : ∃ oop, op = .obj i oop
    · obtain ⟨oop, rfl⟩ := hop
      obtain ⟨e, hs⟩ := SimAt_own i p q h oop
      rw [ownOps_own, ownOuts_own, List.map_cons, run_cons, ih _ _ hs, e]
    · have hne : ∀ oop, op ≠ .obj i oop := fun oop e => hop ⟨oop, e⟩
      rw [ownOps_other i op rest hne, ownOuts_other i op rest hne,
        ih _ _ (SimAt_other i p q h op hne)]

/-- the number of objects is the number of constructions -/
theorem objs_length_run (p : Proc) (ops : List POp) :
    (p.run ops).1.objs.length =
      p.objs.length + (ops.filter (fun op => match op with | .construct _ => true | _ => false)).length := by
  induction ops generalizing p with
  | nil => rfl
  | cons op rest ih =>
    rw [run_cons]
    show ((p.step op).1.run rest).1.objs.length = _
    rw [ih]
    cases op with
    | construct spec => simp [Proc.step]; omega
    | obj j oop =>
      cases hj : p.objs[j]? with
      | none => rw [step_obj_none p j oop hj]; simp
      | some o => rw [step_obj_some p j oop o hj]; simp
    | optimalExtraSteps n s => simp [Proc.step]
    | optimalStepsMixed n s => simp [Proc.step]
    | mixedStepMemo n s => simp [Proc.step]

/-- right after a construction, in any process and in a fresh one, the new objects are related -/
theorem SimAt_construct (p : Proc) (hp : CachesOK p) (spec : Spec) :
    SimAt p.objs.length (p.step (.construct spec)).1 (Proc.init.step (.construct spec)).1 := by
  refine ⟨CachesOK_step p _ hp, CachesOK_step _ _ CachesOK_init, mkObj spec, ?_, ?_⟩
  · show (p.objs ++ [mkObj spec])[p.objs.length]? = _
    simp
  · rfl

/-! ## the main theorems -/

/-- **C15, process level.**  Take ANY history that builds an object with `construct spec` at some
point (`pre` before it, `post` after it; the object gets index `i` = the number of objects built
in `pre`).  The answers to the operations of `post` addressed to that object — `next`, `finalize`, and
the reads of `n, r, max_n, is_exhausted, is_running, uses_storage_type` — are the answers these operations
get in the history in which that object is alone in a fresh process and receives the same own operations
(the constructor's own answer is not among them: `ownOuts` skips it, the right side drops it; it is
`C15_process_constructor`).  `pre` and the rest of `post` are arbitrary:
constructions and iterations of other schedules of any class (including other Mixed objects that
fill the shared memo table), interleaved in any way, and direct calls of the cached helpers. -/
theorem C15_process (pre post : List POp) (spec : Spec) :
    let i := (Proc.init.run pre).1.objs.length
    ownOuts i (.construct spec :: post)
        ((Proc.init.run (pre ++ .construct spec :: post)).2.drop pre.length)
      = (Proc.init.run (soloHistory spec (ownOps i post))).2.tail := by
  intro i
  have hp : CachesOK (Proc.init.run pre).1 := CachesOK_run pre _ CachesOK_init
  rw [run_append, List.drop_left' (run_length _ _), run_cons]
  show ownOuts i post _ = _
  rw [proj_run i post _ _ (SimAt_construct _ hp spec)]
  rfl

/-- the same, the constructor's answer included -/
theorem C15_process_constructor (pre post : List POp) (spec : Spec) :
    ((Proc.init.run (pre ++ .construct spec :: post)).2.drop pre.length).head? =
      (Proc.init.run (soloHistory spec (ownOps (Proc.init.run pre).1.objs.length post))).2.head? := by
  rw [run_append, List.drop_left' (run_length _ _)]
  rfl

/-- the index of the object built after `pre` is the number of `construct`s in `pre` -/
theorem C15_index (pre : List POp) :
    (Proc.init.run pre).1.objs.length =
      (pre.filter (fun op => match op with | .construct _ => true | _ => false)).length := by
  rw [objs_length_run]; simp [Proc.init]

/-- **C15, equal parameters.**  Two schedule objects built with equal parameters at any two points
of any two histories (in particular of the same history: take `pre₂ = pre₁ ++ construct spec ::
mid`), and receiving the same own sequence of `next` / `finalize` / observer operations, give the
same answers, whatever else happens before, between and concurrently. -/
theorem C15_equal_params (pre₁ post₁ pre₂ post₂ : List POp) (spec : Spec)
    (hown : ownOps (Proc.init.run pre₁).1.objs.length post₁ =
            ownOps (Proc.init.run pre₂).1.objs.length post₂) :
    ownOuts (Proc.init.run pre₁).1.objs.length (.construct spec :: post₁)
        ((Proc.init.run (pre₁ ++ .construct spec :: post₁)).2.drop pre₁.length)
      = ownOuts (Proc.init.run pre₂).1.objs.length (.construct spec :: post₂)
        ((Proc.init.run (pre₂ ++ .construct spec :: post₂)).2.drop pre₂.length) := by
  have h1 := C15_process pre₁ post₁ spec
  have h2 := C15_process pre₂ post₂ spec
  simp only at h1 h2
  rw [h1, h2, hown]

/-- **C15, observers.**  Reading `n, r, max_n, is_exhausted, is_running` or calling
`uses_storage_type` on any object leaves the whole process state unchanged. -/
theorem C15_observers (p : Proc) (i : Nat) (oop : OOp) (h : oop.isObserver = true) :
    (p.step (.obj i oop)).1 = p := by
  cases hi : p.objs[i]? with
  | none => rw [step_obj_none p i oop hi]
  | some o =>
    rw [step_obj_some p i oop o hi]
    obtain ⟨h1, h2⟩ := objStep_observer memoQuery o.st oop h p.memo
    show ({ p with memo := (o.st.step memoQuery oop p.memo).1,
                   objs := p.objs.set i { o with st := (o.st.step memoQuery oop p.memo).2.1 } } : Proc) = p
    obtain ⟨hl, rfl⟩ := List.getElem?_eq_some_iff.1 hi
    rw [h1, h2, List.set_getElem_self hl]

/-- … hence an observer read can be inserted into (or deleted from) any history, at any place,
without changing any other answer or the final state. -/
theorem C15_observer_erase (p : Proc) (a b : List POp) (i : Nat) (oop : OOp)
    (h : oop.isObserver = true) :
    (p.run (a ++ .obj i oop :: b)).1 = (p.run (a ++ b)).1 ∧
      ((p.run (a ++ .obj i oop :: b)).2).eraseIdx a.length = (p.run (a ++ b)).2 := by
  rw [run_append, run_append p a b, run_cons, C15_observers _ i oop h]
  refine ⟨rfl, ?_⟩
  show ((p.run a).2 ++ _ :: _).eraseIdx a.length = _
  rw [← run_length p a, List.eraseIdx_append_of_length_le (Nat.le_refl _)]
  simp

/-- **C15, helper functions.**  After any history, `optimal_extra_steps`, `optimal_steps_mixed`
and `mixed_step_memoization` answer with the value of their recursive specification (`none`:
ValueError), i.e. independently of the history. -/
theorem C15_helpers_pure (history : List POp) (n s : Nat) :
    ((Proc.init.run history).1.step (.optimalExtraSteps n s)).2 = .helperNat (specOpt extraF n s) ∧
    ((Proc.init.run history).1.step (.optimalStepsMixed n s)).2 = .helperNat (specOpt optMixedF n s) ∧
    ((Proc.init.run history).1.step (.mixedStepMemo n s)).2 = .helperCell (specOpt memoF n s) := by
  have hp : CachesOK (Proc.init.run history).1 := CachesOK_run history _ CachesOK_init
  refine ⟨?_, ?_, ?_⟩
  · show POut.helperNat (cachedOpt extraFM n s _).2 = _
    rw [(cachedOpt_spec extraFM extraF extraFM_sim extraF_local n s _ hp.extra).1]
  · show POut.helperNat (cachedOpt optMixedFM n s _).2 = _
    rw [(cachedOpt_spec optMixedFM optMixedF optMixedFM_sim optMixedF_local n s _ hp.optMixed).1]
  · show POut.helperCell (cachedOpt memoFM n s _).2 = _
    rw [(cachedOpt_spec memoFM memoF memoFM_sim memoF_local n s _ hp.memo).1]

/-! ## non-vacuity: a concrete interleaved history

Two Mixed objects with equal parameters on the memoisation path (indices 0 and 2) and a Multistage
object (index 1), iterated in an interleaved way, with helper calls and observer reads in
between.  The examples are evaluated by the kernel (`decide +kernel`): the elaborator's own evaluator
is several times slower on a history of this length. -/

def exHistory : List POp :=
  [.construct (.MX 5 2 .disk false), .construct (.MS 4 1 1 .maximum), .next 0,
   .mixedStepMemo 7 3, .construct (.MX 5 2 .disk false), .next 1, .next 0, .observe 0, .next 2,
   .optimalExtraSteps 6 2, .next 0, .next 2, .next 2, .usesStorage 2 .disk, .next 1, .next 0,
   .next 2, .finalize 0 5, .next 0, .next 0, .optimalStepsMixed 9 2, .next 2, .next 2, .next 1,
   .next 0, .next 2, .next 0, .next 0, .next 2, .observe 2, .next 0, .next 2]

/-- the first Mixed object emits real actions: the first four answers it gives -/
example : (ownOuts 0 exHistory (Proc.init.run exHistory).2).take 4 =
    [.next (.act ⟨.forward 0 3 true false .disk, 3, 0, some 5, false, true⟩),
     .next (.act ⟨.forward 3 4 false true .disk, 4, 0, some 5, false, true⟩),
     .obs 4 0 (some 5) false true,
     .next (.act ⟨.forward 4 5 false true .work, 5, 0, some 5, false, true⟩)] := by decide +kernel

/-- the shared table really is shared and filled lazily: after the first `next()` of object 0 it
has entries, and the second Mixed object's first `next()` adds none -/
example : (Proc.init.run (exHistory.take 2)).1.memo.length = 0 ∧
    (Proc.init.run (exHistory.take 3)).1.memo.length = 7 := by decide +kernel
example : (Proc.init.run (exHistory.take 8)).1.memo.length
        = (Proc.init.run (exHistory.take 9)).1.memo.length := by decide +kernel

/-- the instance of `C15_process` for object 0 of this history, checked by evaluation -/
example : ownOuts 0 (exHistory.drop 1) ((Proc.init.run exHistory).2.drop 1) =
    (Proc.init.run (soloHistory (.MX 5 2 .disk false) (ownOps 0 (exHistory.drop 1)))).2.tail := by
  decide +kernel

/-- the two Mixed objects receive the same number of `next()` calls up to the 7th, and answer
them equally although their calls are interleaved with each other and with everything else -/
example :
    ((ownOuts 0 exHistory (Proc.init.run exHistory).2).filter (fun o => match o with | .next _ => true | _ => false)).take 7 =
    ((ownOuts 2 exHistory (Proc.init.run exHistory).2).filter (fun o => match o with | .next _ => true | _ => false)).take 7 := by
  decide +kernel

/-- the Multistage object in the middle is not disturbed either -/
example : ownOuts 1 (exHistory.drop 2) ((Proc.init.run exHistory).2.drop 2) =
    (Proc.init.run (soloHistory (.MS 4 1 1 .maximum) (ownOps 1 (exHistory.drop 2)))).2.tail := by
  decide +kernel

#print axioms CachesOK_step
#print axioms C15_process
#print axioms C15_equal_params
#print axioms C15_observers
#print axioms C15_observer_erase
#print axioms C15_helpers_pure

end Ckpt.Proc
