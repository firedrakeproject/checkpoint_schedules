import CkptVerif.Proofs.MixedPlanner
/-!
# The tabulated planner coincides with the memoised one (C16)

`mixedTab n s` (the loops of `mixed_steps_tabulation`, with in-place updates) never fails for
`n ≥ 1`, and every cell `(ni, si)`, `ni ≤ n`, `si ≤ s`, of the final table holds the answer of
`mixed_step_memoization(ni, si)` (through `cache_step`, i.e. `memoSpec ni si`), or the unset cell
`tNone` when that call raises.
-/
namespace Ckpt

/-! ## `tabGet` / `tabSet` -/

theorem tabGet_eq (t : Array (Array TCell)) (ni si : Nat) :
    tabGet t ni si = ((t[ni]?.getD #[])[si]?).getD tNone := by
  unfold tabGet
  rw [Array.getD_eq_getD_getElem?, Array.getD_eq_getD_getElem?]

theorem tabSet_row (t : Array (Array TCell)) (a b : Nat) (c : TCell) (ni : Nat) :
    (tabSet t a b c)[ni]? =
      if a = ni then t[ni]?.map (fun row => row.setIfInBounds b c) else t[ni]? :=
  Array.getElem?_modify

/-- the cell `(ni, si)` exists in the table -/
def InB (t : Array (Array TCell)) (ni si : Nat) : Prop :=
  ∃ row, t[ni]? = some row ∧ si < row.size

theorem InB_tabSet (t : Array (Array TCell)) (a b : Nat) (c : TCell) (ni si : Nat)
    (h : InB t ni si) : InB (tabSet t a b c) ni si := by
  obtain ⟨row, hr, hs⟩ := h
  by_cases hani : a = ni
  · refine ⟨row.setIfInBounds b c, ?_, ?_⟩
    · rw [tabSet_row, if_pos hani, hr, Option.map_some]
    · rw [Array.size_setIfInBounds]; exact hs
  · exact ⟨row, by rw [tabSet_row, if_neg hani, hr], hs⟩

theorem tabGet_tabSet_same (t : Array (Array TCell)) (a b : Nat) (c : TCell) (h : InB t a b) :
    tabGet (tabSet t a b c) a b = c := by
  obtain ⟨row, hr, hs⟩ := h
  rw [tabGet_eq, tabSet_row, if_pos rfl, hr, Option.map_some, Option.getD_some,
    Array.getElem?_setIfInBounds_self_of_lt hs, Option.getD_some]

theorem tabGet_tabSet_ne (t : Array (Array TCell)) (a b : Nat) (c : TCell) (ni si : Nat)
    (h : ¬ (ni = a ∧ si = b)) : tabGet (tabSet t a b c) ni si = tabGet t ni si := by
  rw [tabGet_eq, tabGet_eq, tabSet_row]
  by_cases hani : a = ni
  · rw [if_pos hani]
    have hb : b ≠ si := fun e => h ⟨hani.symm, e.symm⟩
    cases hrow : t[ni]? with
    | none => rfl
    | some row =>
      rw [Option.map_some, Option.getD_some, Option.getD_some,
        Array.getElem?_setIfInBounds_ne hb]
  · rw [if_neg hani]

/-! ## the initial table -/

theorem tabGet_replicate (n s ni si : Nat) :
    tabGet (Array.replicate (n + 1) (Array.replicate (s + 1) tNone)) ni si = tNone := by
  rw [tabGet_eq, Array.getElem?_replicate]
  by_cases h1 : ni < n + 1
  · rw [if_pos h1, Option.getD_some, Array.getElem?_replicate]
    by_cases h2 : si < s + 1
    · rw [if_pos h2, Option.getD_some]
    · rw [if_neg h2]; rfl
  · rw [if_neg h1]; rfl

theorem InB_replicate (n s ni si : Nat) (h1 : ni ≤ n) (h2 : si ≤ s) :
    InB (Array.replicate (n + 1) (Array.replicate (s + 1) tNone)) ni si := by
  refine ⟨Array.replicate (s + 1) tNone, ?_, ?_⟩
  · rw [Array.getElem?_replicate, if_pos (by omega)]
  · rw [Array.size_replicate]; omega

def tFR : TCell := ⟨stForwardReverse, 1, 1⟩

/-! ## filling the first `k` cells of a row -/

theorem InB_fillRow (t : Array (Array TCell)) (a : Nat) (c : TCell) (k ni si : Nat)
    (h : InB t ni si) : InB ((List.range k).foldl (fun t si => tabSet t a si c) t) ni si := by
  induction k with
  | zero => exact h
  | succ k ih =>
    rw [List.range_succ, List.foldl_append]
    exact InB_tabSet _ _ _ _ _ _ ih

theorem tabGet_fillRow (t : Array (Array TCell)) (a : Nat) (c : TCell) (k : Nat)
    (hin : ∀ si, si < k → InB t a si) (ni si : Nat) :
    tabGet ((List.range k).foldl (fun t si => tabSet t a si c) t) ni si =
      if ni = a ∧ si < k then c else tabGet t ni si := by
  induction k with
  | zero => rw [if_neg (by omega)]; rfl
  | succ k ih =>
    rw [List.range_succ, List.foldl_append]
    show tabGet (tabSet _ a k c) ni si = _
    by_cases he : ni = a ∧ si = k
    · rw [he.1, he.2, tabGet_tabSet_same _ _ _ _ (InB_fillRow t a c k a k (hin k (by omega))),
        if_pos ⟨rfl, by omega⟩]
    · rw [tabGet_tabSet_ne _ _ _ _ _ _ he, ih (fun si h => hin si (by omega))]
      by_cases h : ni = a ∧ si < k
      · rw [if_pos h, if_pos ⟨h.1, by omega⟩]
      · rw [if_neg h, if_neg (by omega)]

/-! ## the expected content of a cell -/

def toT (c : Cell) : TCell := ⟨c.kind, c.len, (c.cost : Int)⟩

/-- what cell `(ni, si)` of the final table holds: the answer of `mixed_step_memoization(ni, si)`
through `cache_step`, unset where that call raises -/
def expect (ni si : Nat) : TCell :=
  match memoSpec ni si with
  | some c => toT c
  | none => tNone

theorem expect_eq (ni si : Nat) :
    expect ni si =
      if validKey ni (clampS ni si) = true then toT (memoCell ni (clampS ni si)) else tNone := by
  unfold expect memoSpec
  dsimp only
  by_cases hv : validKey ni (clampS ni si) = true
  · rw [if_pos hv, if_pos hv]
  · rw [if_neg hv, if_neg hv]

theorem expect_valid (ni si : Nat) (h1 : 1 ≤ ni) (h2 : ni = 1 ∨ 1 ≤ si) :
    expect ni si = toT (memoCell ni (clampS ni si)) := by
  rw [expect_eq, if_pos ((validKey_clamp_iff ni si).2 ⟨h1, h2⟩)]

theorem expect_invalid (ni si : Nat) (h : ni = 0 ∨ (2 ≤ ni ∧ si = 0)) : expect ni si = tNone := by
  rw [expect_eq, if_neg]
  rw [validKey_clamp_iff]
  omega

theorem expect_one (si : Nat) : expect 1 si = tFR := by
  rw [expect_valid 1 si (Nat.le_refl 1) (Or.inl rfl), memoCell_one]; rfl

theorem expect_small (a b : Nat) (ha : 2 ≤ a) (hab : a ≤ b + 1) :
    expect a b = ⟨stWriteAdjDeps, 1, (a : Int)⟩ := by
  rw [expect_valid a b (by omega) (Or.inr (by omega)),
    memoCell_small a (clampS a b) ha (by rw [clampS_of_ge (by omega)]; omega)]
  rfl

theorem expect_s_one (a : Nat) (ha : 3 ≤ a) :
    expect a 1 = ⟨stWriteIcs, a - 1, ((a * (a + 1) / 2 - 1 : Nat) : Int)⟩ := by
  have hc : clampS a 1 = 1 := clampS_one (by omega)
  rw [expect_valid a 1 (by omega) (Or.inr (Nat.le_refl 1)), hc, memoCell_s_one a ha]
  rfl

/-! ## the inner loop `tabCell` against the planner's loop -/

def tabStep (f : Nat → Int) (cur : TCell) (i : Nat) : TCell :=
  if cur.cost < 0 ∨ f i ≤ cur.cost then ⟨stWriteIcs, i, f i⟩ else cur

def tabFinish (m1 : Int) (cur : TCell) : Option TCell :=
  if cur.cost < 0 then none else some (if m1 < cur.cost then ⟨stWriteAdjDeps, 1, m1⟩ else cur)

theorem tabCell_def (t : Array (Array TCell)) (ni si : Nat) :
    tabCell t ni si = tabFinish (1 + (tabGet t (ni - 1) (si - 1)).cost)
      ((List.range' 2 (ni - 2)).foldl
        (tabStep (fun (i : Nat) => (i : Int) + (tabGet t i si).cost + (tabGet t (ni - i) (si - 1)).cost))
        (tabGet t ni si)) := rfl

/-- the `int64` accumulator (cost `< 0` = unset) against the `Option Cell` accumulator -/
def TRel (cur : TCell) (m : Option Cell) : Prop :=
  match m with
  | none => cur.cost < 0
  | some c => cur = toT c

theorem tabStep_rel (f : Nat → Int) (cand : Nat → Nat) (x : Nat) (hf : f x = (cand x : Int))
    (cur : TCell) (m : Option Cell) (h : TRel cur m) :
    TRel (tabStep f cur x) (memoStep cand m x) := by
  cases m with
  | none =>
    have h' : cur.cost < 0 := h
    show TRel (if cur.cost < 0 ∨ f x ≤ cur.cost then _ else _) (some ⟨stWriteIcs, x, cand x⟩)
    rw [if_pos (Or.inl h'), hf]
    rfl
  | some c =>
    have h' : cur = toT c := h
    subst h'
    have hc : (toT c).cost = (c.cost : Int) := rfl
    rw [memoStep_some]
    unfold tabStep
    by_cases hx : cand x ≤ c.cost
    · rw [if_pos hx, if_pos (Or.inr (by rw [hf, hc]; omega)), hf]
      rfl
    · rw [if_neg hx, if_neg (by rw [hf, hc]; omega)]
      rfl

theorem tabStep_fold_rel (f : Nat → Int) (cand : Nat → Nat) (l : List Nat)
    (hf : ∀ i, i ∈ l → f i = (cand i : Int)) (cur : TCell) (m : Option Cell) (h : TRel cur m) :
    TRel (l.foldl (tabStep f) cur) (l.foldl (memoStep cand) m) := by
  induction l generalizing cur m with
  | nil => exact h
  | cons x xs ih =>
    rw [List.foldl_cons, List.foldl_cons]
    exact ih (fun i hi => hf i (List.mem_cons_of_mem _ hi)) _ _
      (tabStep_rel f cand x (hf x (List.mem_cons_self ..)) cur m h)

theorem tabFinish_toT (m1 : Nat) (c : Cell) :
    tabFinish (m1 : Int) (toT c) = some (toT (memoFinish m1 (some c))) := by
  have hc : (toT c).cost = (c.cost : Int) := rfl
  unfold tabFinish
  rw [if_neg (by rw [hc]; omega), memoFinish_some, hc]
  by_cases hlt : m1 < c.cost
  · rw [if_pos hlt, if_pos (by omega)]; rfl
  · rw [if_neg hlt, if_neg (by omega)]

/-- the general branch: if the cells read by `tabCell` are final, it computes `memoCell a b` -/
theorem tabCell_correct (t : Array (Array TCell)) (a b : Nat) (hb : 2 ≤ b) (hab : b + 1 < a)
    (hcur : tabGet t a b = tNone)
    (hL : ∀ i, 2 ≤ i → i < a → (tabGet t i b).cost = ((memoCell i (clampS i b)).cost : Int))
    (hR : ∀ i, 1 ≤ i → i < a →
      (tabGet t (a - i) (b - 1)).cost = ((memoCell (a - i) (clampS (a - i) (b - 1))).cost : Int)) :
    tabCell t a b = some (toT (memoCell a b)) := by
  rw [tabCell_def, memoCell_eq, memoF_def, if_neg (by omega), if_neg (by omega),
    if_neg (by omega)]
  have hf : ∀ i, i ∈ List.range' 2 (a - 2) →
      (fun (i : Nat) => (i : Int) + (tabGet t i b).cost + (tabGet t (a - i) (b - 1)).cost) i =
        ((splitCand a b (fun i j => (memoCell i j).cost) i : Nat) : Int) := by
    intro i hi
    rw [List.mem_range'_1] at hi
    show (i : Int) + (tabGet t i b).cost + (tabGet t (a - i) (b - 1)).cost = _
    rw [hL i (by omega) (by omega), hR i (by omega) (by omega)]
    show _ = ((i + (memoCell i (clampS i b)).cost
      + (memoCell (a - i) (clampS (a - i) (b - 1))).cost : Nat) : Int)
    omega
  have hrel := tabStep_fold_rel _ _ (List.range' 2 (a - 2)) hf tNone none
    (show tNone.cost < 0 by decide)
  obtain ⟨c', hc', _⟩ := memoStep_fold_none_inv
    (splitCand a b (fun i j => (memoCell i j).cost)) (fun _ => True) (List.range' 2 (a - 2))
    ((List.range'_ne_nil_iff 2).2 (by omega)) (fun _ _ => trivial)
  rw [hc'] at hrel
  have hrel' : (List.range' 2 (a - 2)).foldl
      (tabStep (fun (i : Nat) => (i : Int) + (tabGet t i b).cost + (tabGet t (a - i) (b - 1)).cost))
      tNone = toT c' := hrel
  have hm1 : (1 : Int) + (tabGet t (a - 1) (b - 1)).cost =
      ((1 + (memoCell (a - 1) (clampS (a - 1) (b - 1))).cost : Nat) : Int) := by
    rw [hR 1 (by omega) (by omega)]; omega
  rw [hcur, hrel', hc', hm1]
  exact tabFinish_toT _ _

/-! ## the loop invariant -/

/-- columns `< b` are final, column `b` is final in rows `< a`; rows `0, 1` and column `0`
are final from the start; everything else is still unset -/
structure TabInv (n s a b : Nat) (t : Array (Array TCell)) : Prop where
  inb : ∀ ni si, ni ≤ n → si ≤ s → InB t ni si
  done : ∀ ni si, ni ≤ n → si ≤ s → (ni ≤ 1 ∨ si = 0 ∨ si < b ∨ (si = b ∧ ni < a)) →
    tabGet t ni si = expect ni si
  todo : ∀ ni si, ni ≤ n → si ≤ s → ¬ (ni ≤ 1 ∨ si = 0 ∨ si < b ∨ (si = b ∧ ni < a)) →
    tabGet t ni si = tNone

theorem TabInv_set (n s a b : Nat) (t : Array (Array TCell)) (c : TCell)
    (inv : TabInv n s a b t) (han : a ≤ n) (hbs : b ≤ s)
    (hc : c = expect a b) : TabInv n s (a + 1) b (tabSet t a b c) where
  inb := fun ni si h1 h2 => InB_tabSet _ _ _ _ _ _ (inv.inb ni si h1 h2)
  done := by
    intro ni si h1 h2 h
    by_cases he : ni = a ∧ si = b
    · rw [he.1, he.2, tabGet_tabSet_same _ _ _ _ (inv.inb a b han hbs), hc]
    · rw [tabGet_tabSet_ne _ _ _ _ _ _ he]
      exact inv.done ni si h1 h2 (by omega)
  todo := by
    intro ni si h1 h2 h
    rw [tabGet_tabSet_ne _ _ _ _ _ _ (by omega)]
    exact inv.todo ni si h1 h2 (by omega)

theorem TabInv_next_col (n s b : Nat) (t : Array (Array TCell)) (inv : TabInv n s (n + 1) b t) :
    TabInv n s 2 (b + 1) t where
  inb := inv.inb
  done := fun ni si h1 h2 h => inv.done ni si h1 h2 (by omega)
  todo := fun ni si h1 h2 h => inv.todo ni si h1 h2 (by omega)

/-- body of the two nested loops -/
def tabStepCell (si : Nat) (ot : Option (Array (Array TCell))) (ni : Nat) :
    Option (Array (Array TCell)) :=
  match ot with
  | none => none
  | some t =>
    if ni ≤ si + 1 then some (tabSet t ni si ⟨stWriteAdjDeps, 1, ni⟩)
    else if si = 1 then
      some (tabSet t ni si ⟨stWriteIcs, ni - 1, (ni * (ni + 1) / 2 - 1 : Nat)⟩)
    else match tabCell t ni si with
      | none => none
      | some c => some (tabSet t ni si c)

theorem mixedTab_def (n s : Nat) :
    mixedTab n s =
      if n < 1 then none else
      (List.range' 1 s).foldl (fun ot si => (List.range' 2 (n - 1)).foldl (tabStepCell si) ot)
        (some ((List.range (s + 1)).foldl (fun t si => tabSet t 1 si tFR)
          (Array.replicate (n + 1) (Array.replicate (s + 1) tNone)))) := rfl

theorem tabStepCell_spec (n s a b : Nat) (t : Array (Array TCell))
    (inv : TabInv n s a b t) (ha : 2 ≤ a) (han : a ≤ n) (hb : 1 ≤ b) (hbs : b ≤ s) :
    ∃ t', tabStepCell b (some t) a = some t' ∧ TabInv n s (a + 1) b t' := by
  by_cases h1 : a ≤ b + 1
  · refine ⟨_, ?_, TabInv_set n s a b t _ inv han hbs (expect_small a b ha h1).symm⟩
    show (if a ≤ b + 1 then _ else _) = _
    rw [if_pos h1]
  · by_cases h2 : b = 1
    · subst h2
      refine ⟨_, ?_, TabInv_set n s a 1 t _ inv han hbs (expect_s_one a (by omega)).symm⟩
      show (if a ≤ 1 + 1 then _ else _) = _
      rw [if_neg h1, if_pos rfl]
    · have hcost : ∀ i j, 1 ≤ i → i < a → j ≤ b → (i = 1 ∨ 1 ≤ j) → (j < b ∨ j = b) →
          (tabGet t i j).cost = ((memoCell i (clampS i j)).cost : Int) := by
        intro i j hi1 hia hjb hv hj
        rw [inv.done i j (by omega) (by omega) (by omega), expect_valid i j hi1 hv]
        rfl
      have hcell : tabCell t a b = some (toT (memoCell a b)) := by
        apply tabCell_correct t a b (by omega) (by omega)
        · exact inv.todo a b han hbs (by omega)
        · intro i hi2 hia
          exact hcost i b (by omega) hia (Nat.le_refl _) (by omega) (Or.inr rfl)
        · intro i hi1 hia
          exact hcost (a - i) (b - 1) (by omega) (by omega) (by omega) (by omega)
            (Or.inl (by omega))
      have hexp : toT (memoCell a b) = expect a b := by
        have hc : clampS a b = b := clampS_of_le (by omega)
        rw [expect_valid a b (by omega) (Or.inr hb), hc]
      refine ⟨_, ?_, TabInv_set n s a b t _ inv han hbs hexp⟩
      show (if a ≤ b + 1 then _ else if b = 1 then _ else
        match tabCell t a b with
        | none => none
        | some c => some (tabSet t a b c)) = _
      rw [if_neg h1, if_neg h2, hcell]

/-- the inner loop over rows `a … n` of column `b` -/
theorem tabCol_spec (n s b : Nat) (hb : 1 ≤ b) (hbs : b ≤ s) (k a : Nat) (ha : 2 ≤ a)
    (hak : a + k = n + 1) (t : Array (Array TCell)) (inv : TabInv n s a b t) :
    ∃ t', (List.range' a k).foldl (tabStepCell b) (some t) = some t' ∧
      TabInv n s (n + 1) b t' := by
  induction k generalizing a t with
  | zero =>
    have : a = n + 1 := by omega
    subst this
    exact ⟨t, rfl, inv⟩
  | succ k ih =>
    rw [List.range'_succ, List.foldl_cons]
    obtain ⟨t1, h1, inv1⟩ := tabStepCell_spec n s a b t inv ha (by omega) hb hbs
    rw [h1]
    exact ih (a + 1) (by omega) (by omega) t1 inv1

/-- the outer loop over columns `b … s` -/
theorem tabCols_spec (n s : Nat) (hn : 1 ≤ n) (k b : Nat) (hb : 1 ≤ b) (hbk : b + k = s + 1)
    (t : Array (Array TCell)) (inv : TabInv n s 2 b t) :
    ∃ t', (List.range' b k).foldl
        (fun ot si => (List.range' 2 (n - 1)).foldl (tabStepCell si) ot) (some t) = some t' ∧
      TabInv n s 2 (s + 1) t' := by
  induction k generalizing b t with
  | zero =>
    have : b = s + 1 := by omega
    subst this
    exact ⟨t, rfl, inv⟩
  | succ k ih =>
    rw [List.range'_succ, List.foldl_cons]
    obtain ⟨t1, h1, inv1⟩ := tabCol_spec n s b hb (by omega) (n - 1) 2 (Nat.le_refl 2)
      (by omega) t inv
    rw [h1]
    exact ih (b + 1) (by omega) (by omega) t1 (TabInv_next_col n s b t1 inv1)

/-- after the first loop (row `1` is `FORWARD_REVERSE`) the invariant holds at its start -/
theorem tabInit_inv (n s : Nat) (hn : 1 ≤ n) :
    TabInv n s 2 1 ((List.range (s + 1)).foldl (fun t si => tabSet t 1 si tFR)
      (Array.replicate (n + 1) (Array.replicate (s + 1) tNone))) := by
  have hget : ∀ ni si, tabGet ((List.range (s + 1)).foldl (fun t si => tabSet t 1 si tFR)
      (Array.replicate (n + 1) (Array.replicate (s + 1) tNone))) ni si =
        if ni = 1 ∧ si < s + 1 then tFR else tNone := by
    intro ni si
    rw [tabGet_fillRow _ _ _ _ (fun si h => InB_replicate n s 1 si hn (by omega)),
      tabGet_replicate]
  refine ⟨fun ni si h1 h2 => InB_fillRow _ _ _ _ _ _ (InB_replicate n s ni si h1 h2), ?_, ?_⟩
  · intro ni si h1 h2 h
    rw [hget]
    by_cases hni : ni = 1
    · rw [if_pos ⟨hni, by omega⟩, hni, expect_one]
    · rw [if_neg (fun h => hni h.1), expect_invalid ni si (by omega)]
  · intro ni si h1 h2 h
    rw [hget, if_neg (by omega)]

/-! ## the main statements -/

theorem mixedTab_zero (s : Nat) : mixedTab 0 s = none := by
  rw [mixedTab_def, if_pos (by omega)]

/-- `mixedTab` succeeds and every cell in range holds `expect ni si` -/
theorem mixedTab_expect (n s : Nat) (hn : 1 ≤ n) :
    ∃ t, mixedTab n s = some t ∧ ∀ ni si, ni ≤ n → si ≤ s → tabGet t ni si = expect ni si := by
  rw [mixedTab_def, if_neg (by omega)]
  obtain ⟨t, ht, inv⟩ := tabCols_spec n s hn s 1 (Nat.le_refl 1) (by omega) _ (tabInit_inv n s hn)
  exact ⟨t, ht, fun ni si h1 h2 => inv.done ni si h1 h2 (by omega)⟩

/-- C16: the tabulated planner never fails for `n ≥ 1`, and every cell of its table is the answer
of the memoised planner through the cached entry point `memoSpec` (`none` = `ValueError`: the cell
is unset) -/
theorem mixedTab_memoSpec (n s : Nat) (hn : 1 ≤ n) :
    ∃ t, mixedTab n s = some t ∧ ∀ ni si, ni ≤ n → si ≤ s →
      tabGet t ni si = (match memoSpec ni si with
        | some c => toT c
        | none => tNone) :=
  mixedTab_expect n s hn

/-! ## the planners of `Model/Planners.lean` -/

/-- `tabPlanner`, for a successfully built table -/
def tabPlan (t : Array (Array TCell)) : Planner :=
  fun m k =>
    let c := tabGet t m k
    if c.kind = stNone ∨ c.cost < 0 then none else some ⟨c.kind, c.len, c.cost.toNat⟩

/-- `memoPlanner` of the driver, with the table replaced by the function it tabulates
(`dpGet_memoTable`) -/
def memoPlan : Planner :=
  fun m k =>
    let s := clampS m k
    if validKey m s then some (memoCell m s) else none

theorem tabPlan_toT (t : Array (Array TCell)) (m k : Nat) (c : Cell)
    (h : tabGet t m k = toT c) (hk : c.kind ≠ stNone) : tabPlan t m k = some c := by
  show (if (tabGet t m k).kind = stNone ∨ (tabGet t m k).cost < 0 then none
    else some ⟨(tabGet t m k).kind, (tabGet t m k).len, (tabGet t m k).cost.toNat⟩) = some c
  rw [h]
  have h1 : (toT c).kind = c.kind := rfl
  have h2 : (toT c).cost = (c.cost : Int) := rfl
  have h3 : (toT c).len = c.len := rfl
  rw [if_neg (by rw [h1, h2]; omega), h1, h2, h3, Int.toNat_natCast]

/-- on a successfully built table the two planners of the driver agree on every key in range
(on invalid keys both answer `none`) -/
theorem tabPlan_eq_memoPlan (n s : Nat) (t : Array (Array TCell)) (ht : mixedTab n s = some t)
    (m k : Nat) (hmn : m ≤ n) (hks : k ≤ s) : tabPlan t m k = memoPlan m k := by
  have hn : 1 ≤ n := by
    rcases Nat.eq_zero_or_pos n with rfl | h
    · rw [mixedTab_zero] at ht; cases ht
    · exact h
  obtain ⟨t', ht', h⟩ := mixedTab_expect n s hn
  rw [ht] at ht'
  cases ht'
  have hcell := h m k hmn hks
  rw [expect_eq] at hcell
  show _ = (if validKey m (clampS m k) = true then some (memoCell m (clampS m k)) else none)
  by_cases hv : validKey m (clampS m k) = true
  · rw [if_pos hv] at hcell ⊢
    apply tabPlan_toT t m k _ hcell
    have hk := (memoCell_kind_only m (clampS m k) hv).1
    intro h0
    rw [h0] at hk
    revert hk
    decide
  · rw [if_neg hv] at hcell ⊢
    show (if (tabGet t m k).kind = stNone ∨ (tabGet t m k).cost < 0 then none else _) = none
    rw [hcell, if_pos (Or.inl (show tNone.kind = stNone from rfl))]

end Ckpt
