import CkptVerif.Proofs.HRevolveLBTab
/-!
# Stack plans: the potential for LIFO (top-restart) schedules

Abstract state: a stack `S` of stored checkpoints (most recent first; position and level), the
position of the forward state in working storage (if any), and the adjoint position `a` (steps
`[0, a)` are still to be reversed).

A *plan* cuts `[0, a)` into consecutive pieces, one for each stored checkpoint that is used (in stack
order) and possibly a last piece for the state in working storage.  The piece of a stored checkpoint
`(e, level)` is reversed by a *group* of lazy loads: each item loads the checkpoint (cost `rd` from
DISK), advances to its base, and reverses the steps up to the next base by a hierarchical strategy
(`HLB.A`) that uses the units that are free at that time: ALL stored checkpoints below count as
occupied (in a LIFO schedule they cannot be touched before their turn), and the checkpoint itself is
occupied except during its lowest (last) item.

`Reach … n`: some plan costs at most `n`.  The lemmas `reach_*` are the moves of a LIFO schedule.
`RT … n`: the same for some alive sub-stack of the stored checkpoints.
-/
namespace Ckpt.HLB

/-- a stored checkpoint: its position, and its level (`true` = DISK, `false` = RAM) -/
abbrev Src := Nat × Bool

/-- number of checkpoints in RAM, on DISK -/
def nR (S : List Src) : Nat := (S.filter (fun s => !s.2)).length
def nD (S : List Src) : Nat := (S.filter (fun s => s.2)).length

theorem nR_cons_ram (e : Nat) (S : List Src) : nR ((e, false) :: S) = nR S + 1 := by
  simp [nR]
theorem nR_cons_disk (e : Nat) (S : List Src) : nR ((e, true) :: S) = nR S := by
  simp [nR]
theorem nD_cons_ram (e : Nat) (S : List Src) : nD ((e, false) :: S) = nD S := by
  simp [nD]
theorem nD_cons_disk (e : Nat) (S : List Src) : nD ((e, true) :: S) = nD S + 1 := by
  simp [nD]
theorem nR_nil : nR [] = 0 := rfl
theorem nD_nil : nD [] = 0 := rfl

/-- cost of loading a checkpoint of the given level -/
def ldc (c : Costs) (d : Bool) : Nat := if d then c.rd else 0
/-- units that are free for the upper items of a group: the checkpoint itself is occupied -/
def kUp (d : Bool) (k : Nat) : Nat := if d then k else k - 1
def mUp (d : Bool) (m : Nat) : Nat := if d then m - 1 else m

theorem kUp_cons (c0 e : Nat) (d : Bool) (S : List Src) : c0 - nR ((e, d) :: S) = kUp d (c0 - nR S) := by
  cases d
  · rw [nR_cons_ram]; simp only [kUp, Bool.false_eq_true, if_false]; omega
  · rw [nR_cons_disk]; simp [kUp]
theorem mUp_cons (c1 e : Nat) (d : Bool) (S : List Src) : c1 - nD ((e, d) :: S) = mUp d (c1 - nD S) := by
  cases d
  · rw [nD_cons_ram]; simp [mUp]
  · rw [nD_cons_disk]; simp only [mUp, if_true]; omega

/-- the upper items of a group: bases `lo < … < hi`, each item loads the checkpoint at `e` again -/
inductive Upper (c : Costs) (e : Nat) (d : Bool) (k m : Nat) : Nat → Nat → Nat → Prop
  | nil (lo : Nat) : Upper c e d k m lo lo 0
  | cons (lo b hi v n : Nat) (hlt : lo < b) (hv : A c false (kUp d k) (b - lo) (mUp d m) v)
      (hrest : Upper c e d k m b hi n) : Upper c e d k m lo hi (ldc c d + (lo - e) * c.uf + v + n)

theorem Upper_le {c : Costs} {e : Nat} {d : Bool} {k m lo hi n : Nat} (h : Upper c e d k m lo hi n) :
    lo ≤ hi := by
  induction h with
  | nil => exact le_refl _
  | cons lo b hi v n hlt _ _ ih => omega

theorem Upper_snoc {c : Costs} {e : Nat} {d : Bool} {k m lo hi n : Nat} (h : Upper c e d k m lo hi n)
    (hi' v : Nat) (hlt : hi < hi') (hv : A c false (kUp d k) (hi' - hi) (mUp d m) v) :
    Upper c e d k m lo hi' (n + (ldc c d + (hi - e) * c.uf + v)) := by
  induction h with
  | nil lo =>
    have := Upper.cons (c := c) (e := e) (d := d) (k := k) (m := m) lo hi' hi' v 0 hlt hv (Upper.nil hi')
    simpa using this
  | cons lo b hi v0 n0 hlt0 hv0 _ ih =>
    have := Upper.cons (c := c) (e := e) (d := d) (k := k) (m := m) lo b hi' v0 _ hlt0 hv0 (ih hlt hv)
    have e1 : ldc c d + (lo - e) * c.uf + v0 + (n0 + (ldc c d + (hi - e) * c.uf + v)) =
        ldc c d + (lo - e) * c.uf + v0 + n0 + (ldc c d + (hi - e) * c.uf + v) := by omega
    rw [e1] at this
    exact this

/-- the group of a stored checkpoint `(e, level)`: covers `[lo, hi)`, base resources `(k, m)` -/
inductive Grp (c : Costs) : Src → Nat → Nat → Nat → Nat → Nat → Prop
  | lazy (e : Nat) (d : Bool) (k m lo b hi v n : Nat) (he : e ≤ lo) (hlt : lo < b)
      (hv : A c false k (b - lo) m v) (hup : Upper c e d k m b hi n) :
      Grp c (e, d) k m lo hi (ldc c d + (lo - e) * c.uf + v + n)
  | stay (e k m b hi v n : Nat) (hlt : e < b) (hv : A c true k (b - e) m v)
      (hup : Upper c e true k m b hi n) : Grp c (e, true) k m e hi (c.rd + v + n)

theorem Grp_bounds {c : Costs} {t : Src} {k m lo hi n : Nat} (h : Grp c t k m lo hi n) :
    t.1 ≤ lo ∧ lo < hi := by
  cases h with
  | lazy e d k m lo b hi v n he hlt hv hup => exact ⟨he, by have := Upper_le hup; omega⟩
  | stay e k m b hi v n hlt hv hup => exact ⟨le_refl _, by have := Upper_le hup; omega⟩

theorem Grp_snoc {c : Costs} {e : Nat} {d : Bool} {k m lo hi n : Nat} (h : Grp c (e, d) k m lo hi n)
    (hi' v : Nat) (hlt : hi < hi') (hv : A c false (kUp d k) (hi' - hi) (mUp d m) v) :
    Grp c (e, d) k m lo hi' (n + (ldc c d + (hi - e) * c.uf + v)) := by
  cases h with
  | lazy _ _ _ _ _ b _ v0 n0 he hlt0 hv0 hup =>
    have := Grp.lazy e d k m lo b hi' v0 _ he hlt0 hv0 (Upper_snoc hup hi' v hlt hv)
    have e1 : ldc c d + (lo - e) * c.uf + v0 + (n0 + (ldc c d + (hi - e) * c.uf + v)) =
        ldc c d + (lo - e) * c.uf + v0 + n0 + (ldc c d + (hi - e) * c.uf + v) := by omega
    rw [e1] at this
    exact this
  | stay _ _ _ b _ v0 n0 hlt0 hv0 hup =>
    have := Grp.stay e k m b hi' v0 _ hlt0 hv0 (Upper_snoc hup hi' v hlt hv)
    have e1 : c.rd + v0 + (n0 + (ldc c true + (hi - e) * c.uf + v)) =
        c.rd + v0 + n0 + (ldc c true + (hi - e) * c.uf + v) := by omega
    rw [e1] at this
    exact this

/-- the stored checkpoints `S` (most recent first) cover `[0, hi)` at cost `n` -/
inductive Cover (c : Costs) (c0 c1 : Nat) : List Src → Nat → Nat → Prop
  | nil : Cover c c0 c1 [] 0 0
  | skip (t : Src) (S : List Src) (hi n : Nat) (h : Cover c c0 c1 S hi n) : Cover c c0 c1 (t :: S) hi n
  | use (t : Src) (S : List Src) (mid hi n1 n2 : Nat) (h : Cover c c0 c1 S mid n1)
      (hg : Grp c t (c0 - nR S) (c1 - nD S) mid hi n2) : Cover c c0 c1 (t :: S) hi (n1 + n2)

theorem Cover_zero (c : Costs) (c0 c1 : Nat) (S : List Src) : Cover c c0 c1 S 0 0 := by
  induction S with
  | nil => exact Cover.nil
  | cons t S ih => exact Cover.skip t S 0 0 ih

/-- some plan for the stack `S`, the forward state `W` and the adjoint at `a` costs at most `n` -/
def Reach (c : Costs) (c0 c1 : Nat) (S : List Src) (W : Option Nat) (a n : Nat) : Prop :=
  (∃ n', Cover c c0 c1 S a n' ∧ n' ≤ n) ∨
  (∃ f bw n1 v, W = some f ∧ f ≤ bw ∧ bw < a ∧ Cover c c0 c1 S bw n1 ∧
      A c false (c0 - nR S) (a - bw) (c1 - nD S) v ∧ n1 + (bw - f) * c.uf + v ≤ n)

section
variable {c : Costs} {c0 c1 : Nat}

theorem reach_final (S : List Src) (W : Option Nat) : Reach c c0 c1 S W 0 0 :=
  Or.inl ⟨0, Cover_zero c c0 c1 S, le_refl _⟩

theorem reach_weaken {S : List Src} {W : Option Nat} {a n n' : Nat} (h : Reach c c0 c1 S W a n)
    (hn : n ≤ n') : Reach c c0 c1 S W a n' := by
  rcases h with ⟨m, hc, hle⟩ | ⟨f, bw, n1, v, hW, h1, h2, hc, hv, hle⟩
  · exact Or.inl ⟨m, hc, by omega⟩
  · exact Or.inr ⟨f, bw, n1, v, hW, h1, h2, hc, hv, by omega⟩

theorem reach_noW {S : List Src} {W : Option Nat} {a n : Nat} (h : Reach c c0 c1 S none a n) :
    Reach c c0 c1 S W a n := by
  rcases h with ⟨m, hc, hle⟩ | ⟨f, bw, n1, v, hW, _⟩
  · exact Or.inl ⟨m, hc, hle⟩
  · cases hW

/-- a forward state at or beyond the adjoint is useless -/
theorem reach_dead {S : List Src} {f a n : Nat} (h : Reach c c0 c1 S (some f) a n) (hf : a ≤ f) :
    Reach c c0 c1 S none a n := by
  rcases h with ⟨m, hc, hle⟩ | ⟨f', bw, n1, v, hW, h1, h2, _⟩
  · exact Or.inl ⟨m, hc, hle⟩
  · simp only [Option.some.injEq] at hW; omega

theorem reach_init {N n : Nat} (hN : 1 ≤ N) (h : Reach c c0 c1 [] (some 0) N n) :
    ∃ v, v ≤ n ∧ A c false c0 N c1 v := by
  rcases h with ⟨m, hc, hle⟩ | ⟨f, bw, n1, v, hW, h1, h2, hc, hv, hle⟩
  · cases hc; omega
  · cases hc
    rw [nR_nil, nD_nil] at hv
    exact ⟨v, by omega, hv⟩

theorem reach_adv {S : List Src} {f f' a n : Nat} (hff : f ≤ f')
    (h : Reach c c0 c1 S (some f') a n) : Reach c c0 c1 S (some f) a (n + (f' - f) * c.uf) := by
  rcases h with ⟨m, hc, hle⟩ | ⟨g, bw, n1, v, hW, h1, h2, hc, hv, hle⟩
  · exact Or.inl ⟨m, hc, by omega⟩
  · simp only [Option.some.injEq] at hW
    subst hW
    refine Or.inr ⟨f, bw, n1, v, rfl, by omega, h2, hc, hv, ?_⟩
    have : (bw - f) * c.uf = (bw - f') * c.uf + (f' - f) * c.uf := by
      rw [← Nat.add_mul, show bw - f' + (f' - f) = bw - f by omega]
    omega

/-- **the turn-around**: the forward state stands at `a - 1`; one forward step, one reversed step -/
theorem reach_turn {S : List Src} {a n : Nat} (ha : 1 ≤ a) (h : Reach c c0 c1 S none (a - 1) n) :
    Reach c c0 c1 S (some (a - 1)) a (n + c.uf) := by
  rcases h with ⟨m, hc, hle⟩ | ⟨f, bw, n1, v, hW, _⟩
  · refine Or.inr ⟨a - 1, a - 1, m, c.uf, rfl, le_refl _, by omega, hc, ?_, ?_⟩
    · have e : a - (a - 1) = 1 := by omega
      rw [e]; exact A.t_one _ _
    · simp; omega
  · cases hW

/-- **loading the top checkpoint** (it stays stored) -/
theorem reach_loadCopy {S : List Src} {W : Option Nat} {e : Nat} {d : Bool} {a n : Nat}
    (h : Reach c c0 c1 ((e, d) :: S) (some e) a n) :
    Reach c c0 c1 ((e, d) :: S) W a (n + ldc c d) := by
  rcases h with ⟨m, hc, hle⟩ | ⟨f, bw, n1, v, hW, h1, h2, hc, hv, hle⟩
  · exact Or.inl ⟨m, hc, by omega⟩
  · simp only [Option.some.injEq] at hW
    subst hW
    rw [kUp_cons, mUp_cons] at hv
    cases hc with
    | skip _ _ _ _ hc' =>
      have hk : kUp d (c0 - nR S) ≤ c0 - nR S := by unfold kUp; split <;> omega
      have hm : mUp d (c1 - nD S) ≤ c1 - nD S := by unfold mUp; split <;> omega
      obtain ⟨v', hv', hA⟩ := A_mono hv _ _ hk hm
      have hg := Grp.lazy e d (c0 - nR S) (c1 - nD S) bw a a v' 0 h1 h2 hA (Upper.nil a)
      exact Or.inl ⟨_, Cover.use (e, d) S bw a n1 _ hc' hg, by omega⟩
    | use _ _ mid _ n1' n2 hc' hg =>
      have hg' := Grp_snoc hg a v h2 hv
      exact Or.inl ⟨_, Cover.use (e, d) S mid a n1' _ hc' hg', by omega⟩

/-- **loading the top checkpoint and removing it** -/
theorem reach_loadMove {S : List Src} {W : Option Nat} {e : Nat} {d : Bool} {a n : Nat}
    (h : Reach c c0 c1 S (some e) a n) : Reach c c0 c1 ((e, d) :: S) W a (n + ldc c d) := by
  rcases h with ⟨m, hc, hle⟩ | ⟨f, bw, n1, v, hW, h1, h2, hc, hv, hle⟩
  · exact Or.inl ⟨m, Cover.skip (e, d) S a m hc, by omega⟩
  · simp only [Option.some.injEq] at hW
    subst hW
    have hg := Grp.lazy e d (c0 - nR S) (c1 - nD S) bw a a v 0 h1 h2 hv (Upper.nil a)
    exact Or.inl ⟨_, Cover.use (e, d) S bw a n1 _ hc hg, by omega⟩

/-! ## storing the forward state: the group of the new checkpoint collapses into one item -/

/-- a RAM group collapses (repeated use of the RAM recurrence inequality) -/
theorem collapse_ram {f k m b hi n : Nat} (hk : 1 ≤ k) (h : Upper c f false k m b hi n) :
    ∀ lo v0, f ≤ lo → lo < b → A c false k (b - lo) m v0 →
      ∃ v, A c false k (hi - lo) m v ∧ v ≤ v0 + n := by
  induction h with
  | nil b => intro lo v0 _ _ hv0; exact ⟨v0, hv0, by omega⟩
  | cons b b' hi v1 n' hlt hv1 _ ih =>
    intro lo v0 hf hlo hv0
    simp only [kUp, mUp, Bool.false_eq_true, if_false] at hv1
    have e1 : b' - lo - (b - lo) = b' - b := by omega
    obtain ⟨v0', hv0', hle⟩ := star c (b' - lo) k m (b - lo) v0 v1 hk (by omega) (by omega) hv0
      (by rw [e1]; exact hv1)
    obtain ⟨v, hv, hle'⟩ := ih lo v0' hf (by omega) hv0'
    refine ⟨v, hv, ?_⟩
    have : (b - lo) * c.uf ≤ (b - f) * c.uf := Nat.mul_le_mul_right _ (by omega)
    simp only [ldc, Bool.false_eq_true, if_false]
    omega

/-- a DISK group collapses (the recurrence of the level-1 table, one read per item) -/
theorem collapse_disk {f k m b hi n : Nat} (h : Upper c f true k m b hi n) :
    ∀ lo p0, f ≤ lo → lo < b → A c true k (b - lo) m p0 →
      ∃ p, A c true k (hi - lo) m p ∧ p ≤ p0 + n := by
  induction h with
  | nil b => intro lo p0 _ _ hp0; exact ⟨p0, hp0, by omega⟩
  | cons b b' hi v1 n' hlt hv1 _ ih =>
    intro lo p0 hf hlo hp0
    simp only [kUp, mUp, if_true] at hv1
    obtain ⟨p0', hp0', hle⟩ := p_split_le hp0 hv1
    have e1 : b - lo + (b' - b) = b' - lo := by omega
    rw [e1] at hp0'
    obtain ⟨p, hp, hle'⟩ := ih lo p0' hf (by omega) hp0'
    refine ⟨p, hp, ?_⟩
    have : (b - lo) * c.uf ≤ (b - f) * c.uf := Nat.mul_le_mul_right _ (by omega)
    simp only [ldc, if_true]
    omega

/-- the group of a checkpoint that was just written from the forward state at `f`, together with the
item of the forward state above it, costs at least as much as a single item of the forward state -/
theorem collapse_grp {f : Nat} {d : Bool} {k m lo hi n2 : Nat} (hk : d = false → 1 ≤ k)
    (hm1 : d = true → 1 ≤ m) (hg : Grp c (f, d) k m lo hi n2) :
    (∃ v, A c false k (hi - lo) m v ∧ (lo - f) * c.uf + v ≤ n2 + (if d then c.wd else 0)) ∧
    (∀ a vw, hi < a → A c false (kUp d k) (a - hi) (mUp d m) vw →
      ∃ v, A c false k (a - lo) m v ∧
        (lo - f) * c.uf + v ≤ n2 + (hi - f) * c.uf + vw + (if d then c.wd else 0)) := by
  cases d with
  | false =>
    have hk1 := hk rfl
    cases hg with
    | lazy _ _ _ _ _ b _ v0 n0 he hlt hv0 hup =>
      simp only [ldc, Bool.false_eq_true, if_false]
      constructor
      · obtain ⟨v, hv, hle⟩ := collapse_ram hk1 hup lo v0 he hlt hv0
        exact ⟨v, hv, by omega⟩
      · intro a vw ha hvw
        have hup' := Upper_snoc hup a vw ha hvw
        obtain ⟨v, hv, hle⟩ := collapse_ram hk1 hup' lo v0 he hlt hv0
        simp only [ldc, Bool.false_eq_true, if_false] at hle
        exact ⟨v, hv, by omega⟩
  | true =>
    -- the price of the first item as a `T'` value
    have key : ∃ b p0 n0, lo < b ∧ A c true k (b - lo) m p0 ∧ Upper c f true k m b hi n0 ∧
        c.rd + (lo - f) * c.uf + p0 + n0 ≤ n2 ∧ f ≤ lo := by
      cases hg with
      | lazy _ _ _ _ _ b _ v0 n0 he hlt hv0 hup =>
        have hm : 1 ≤ m := hm1 rfl
        obtain ⟨p0, hp0, hA⟩ := prime_le hv0 hm
        refine ⟨b, p0, n0, hlt, hA, hup, ?_, he⟩
        simp only [ldc, if_true]
        omega
      | stay _ _ _ b _ v0 n0 hlt hv0 hup =>
        exact ⟨b, v0, n0, hlt, hv0, hup, by simp, le_refl _⟩
    obtain ⟨b, p0, n0, hlt, hp0, hup, hcost, he⟩ := key
    obtain ⟨hm, _⟩ := A_true_inv hp0
    obtain ⟨p, hp, hle⟩ := collapse_disk hup lo p0 he hlt hp0
    simp only [if_true]
    constructor
    · exact ⟨c.wd + p, A.t_disk k (hi - lo) m p hm hp, by omega⟩
    · intro a vw ha hvw
      simp only [kUp, mUp, if_true] at hvw
      obtain ⟨p', hp', hle'⟩ := p_split_le hp hvw
      have hhi := Upper_le hup
      have e1 : hi - lo + (a - hi) = a - lo := by omega
      rw [e1] at hp'
      refine ⟨c.wd + p', A.t_disk k (a - lo) m p' hm hp', ?_⟩
      have : (hi - lo) * c.uf ≤ (hi - f) * c.uf := Nat.mul_le_mul_right _ (by omega)
      omega

/-- **storing the forward state** at its position `f` (a new top checkpoint) -/
theorem reach_store {S : List Src} {f a n : Nat} {d : Bool}
    (hcap : if d then nD S + 1 ≤ c1 else nR S + 1 ≤ c0)
    (h : Reach c c0 c1 ((f, d) :: S) (some f) a n) :
    Reach c c0 c1 S (some f) a (n + (if d then c.wd else 0)) := by
  have hk : d = false → 1 ≤ c0 - nR S := by
    intro hd; subst hd; simp only [Bool.false_eq_true, if_false] at hcap; omega
  have hm1 : d = true → 1 ≤ c1 - nD S := by
    intro hd; subst hd; simp only [if_true] at hcap; omega
  rcases h with ⟨m, hc, hle⟩ | ⟨f', bw, n1, v, hW, h1, h2, hc, hv, hle⟩
  · cases hc with
    | skip _ _ _ _ hc' => exact Or.inl ⟨m, hc', by omega⟩
    | use _ _ mid _ n1 n2 hc' hg =>
      obtain ⟨hb1, hb2⟩ := Grp_bounds hg
      obtain ⟨⟨v, hv, hle'⟩, _⟩ := collapse_grp hk hm1 hg
      exact Or.inr ⟨f, mid, n1, v, rfl, hb1, hb2, hc', hv, by omega⟩
  · simp only [Option.some.injEq] at hW
    subst hW
    rw [kUp_cons, mUp_cons] at hv
    cases hc with
    | skip _ _ _ _ hc' =>
      have hk' : kUp d (c0 - nR S) ≤ c0 - nR S := by unfold kUp; split <;> omega
      have hm' : mUp d (c1 - nD S) ≤ c1 - nD S := by unfold mUp; split <;> omega
      obtain ⟨v', hv', hA⟩ := A_mono hv _ _ hk' hm'
      exact Or.inr ⟨f, bw, n1, v', rfl, h1, h2, hc', hA, by omega⟩
    | use _ _ mid _ n1' n2 hc' hg =>
      obtain ⟨hb1, hb2⟩ := Grp_bounds hg
      obtain ⟨_, hcol⟩ := collapse_grp hk hm1 hg
      obtain ⟨v', hv', hle'⟩ := hcol a v h2 hv
      exact Or.inr ⟨f, mid, n1', v', rfl, hb1, by omega, hc', hv', by omega⟩

end

/-! ## plans over the alive, used checkpoints

In `Reach` EVERY entry of the stack counts as occupied.  `RT … stk W a n` lets the plan choose any
sub-stack `L` of the stored checkpoints (in the order of the stack) whose entries are still *alive*
(position below the adjoint): checkpoints that are not chosen do not occupy a unit (they can be deleted
at once).  This makes the potential closed under the deletion of an arbitrary stored checkpoint, under
stale checkpoints (position at or above the adjoint) lying anywhere in the stack, and under loading the
most recent checkpoint that is still alive. -/

def RT (c : Costs) (c0 c1 : Nat) (stk : List Src) (W : Option Nat) (a n : Nat) : Prop :=
  ∃ L : List Src, L.Sublist stk ∧ (∀ s ∈ L, s.1 < a) ∧ Reach c c0 c1 L W a n

section
variable {c : Costs} {c0 c1 : Nat}

theorem rt_final (stk : List Src) (W : Option Nat) : RT c c0 c1 stk W 0 0 :=
  ⟨[], List.nil_sublist _, fun _ h => absurd h List.not_mem_nil, reach_final _ _⟩

theorem rt_weaken {stk : List Src} {W : Option Nat} {a n n' : Nat} (h : RT c c0 c1 stk W a n)
    (hn : n ≤ n') : RT c c0 c1 stk W a n' := by
  obtain ⟨L, h1, h2, h3⟩ := h
  exact ⟨L, h1, h2, reach_weaken h3 hn⟩

/-- a larger stack (in the sense of sub-lists) is at least as good -/
theorem rt_mono {stk stk' : List Src} {W : Option Nat} {a n : Nat} (hs : stk'.Sublist stk)
    (h : RT c c0 c1 stk' W a n) : RT c c0 c1 stk W a n := by
  obtain ⟨L, h1, h2, h3⟩ := h
  exact ⟨L, h1.trans hs, h2, h3⟩

theorem rt_noW {stk : List Src} {W : Option Nat} {a n : Nat} (h : RT c c0 c1 stk none a n) :
    RT c c0 c1 stk W a n := by
  obtain ⟨L, h1, h2, h3⟩ := h
  exact ⟨L, h1, h2, reach_noW h3⟩

theorem rt_dead {stk : List Src} {f a n : Nat} (h : RT c c0 c1 stk (some f) a n) (hf : a ≤ f) :
    RT c c0 c1 stk none a n := by
  obtain ⟨L, h1, h2, h3⟩ := h
  exact ⟨L, h1, h2, reach_dead h3 hf⟩

theorem rt_adv {stk : List Src} {f f' a n : Nat} (hff : f ≤ f') (h : RT c c0 c1 stk (some f') a n) :
    RT c c0 c1 stk (some f) a (n + (f' - f) * c.uf) := by
  obtain ⟨L, h1, h2, h3⟩ := h
  exact ⟨L, h1, h2, reach_adv hff h3⟩

theorem rt_turn {stk : List Src} {a n : Nat} (ha : 1 ≤ a) (h : RT c c0 c1 stk none (a - 1) n) :
    RT c c0 c1 stk (some (a - 1)) a (n + c.uf) := by
  obtain ⟨L, h1, h2, h3⟩ := h
  exact ⟨L, h1, fun s hs => by have := h2 s hs; omega, reach_turn ha h3⟩

theorem rt_init {N n : Nat} (hN : 1 ≤ N) (h : RT c c0 c1 [] (some 0) N n) :
    ∃ v, v ≤ n ∧ A c false c0 N c1 v := by
  obtain ⟨L, h1, _, h3⟩ := h
  have : L = [] := List.eq_nil_of_sublist_nil h1
  subst this
  exact reach_init hN h3

/-- **storing the forward state** (a new most recent checkpoint) -/
theorem rt_store {stk : List Src} {f a n : Nat} {d : Bool}
    (hcap : if d then nD stk + 1 ≤ c1 else nR stk + 1 ≤ c0)
    (h : RT c c0 c1 ((f, d) :: stk) (some f) a n) :
    RT c c0 c1 stk (some f) a (n + (if d then c.wd else 0)) := by
  obtain ⟨L, h1, h2, h3⟩ := h
  cases h1 with
  | cons _ h1' => exact ⟨L, h1', h2, reach_weaken h3 (by omega)⟩
  | cons_cons _ h1' =>
    rename_i L0
    have hcap' : if d then nD L0 + 1 ≤ c1 else nR L0 + 1 ≤ c0 := by
      have hr : nR L0 ≤ nR stk := (h1'.filter _).length_le
      have hd : nD L0 ≤ nD stk := (h1'.filter _).length_le
      cases d
      · simp only [Bool.false_eq_true, if_false] at hcap ⊢; omega
      · simp only [if_true] at hcap ⊢; omega
    exact ⟨L0, h1', fun s hs => h2 s (List.mem_cons_of_mem _ hs), reach_store hcap' h3⟩

theorem sublist_drop_prefix {α : Type} {P : α → Prop} :
    ∀ (pre rest L : List α), L.Sublist (pre ++ rest) → (∀ s ∈ pre, ¬ P s) → (∀ s ∈ L, P s) →
      L.Sublist rest := by
  intro pre
  induction pre with
  | nil => intro rest L h _ _; simpa using h
  | cons p pre ih =>
    intro rest L h hpre hL
    rw [List.cons_append] at h
    cases h with
    | cons _ h' => exact ih rest L h' (fun s hs => hpre s (List.mem_cons_of_mem _ hs)) hL
    | cons_cons _ h' =>
      exact absurd (hL p (List.mem_cons_self ..)) (hpre p (List.mem_cons_self ..))

/-- **loading the most recent alive checkpoint**, which stays stored -/
theorem rt_loadCopy {pre post : List Src} {W : Option Nat} {e : Nat} {d : Bool} {a n : Nat}
    (hpre : ∀ s ∈ pre, ¬ s.1 < a) (he : e < a)
    (h : RT c c0 c1 (pre ++ (e, d) :: post) (some e) a n) :
    RT c c0 c1 (pre ++ (e, d) :: post) W a (n + ldc c d) := by
  obtain ⟨L, h1, h2, h3⟩ := h
  have h1' := sublist_drop_prefix (P := fun s : Src => s.1 < a) pre _ L h1 hpre h2
  have hsub : ((e, d) :: post).Sublist (pre ++ (e, d) :: post) := List.sublist_append_right _ _
  cases h1' with
  | cons _ h1'' =>
    refine ⟨(e, d) :: L, (h1''.cons_cons _).trans hsub, ?_, reach_loadMove h3⟩
    intro s hs
    rcases List.mem_cons.mp hs with rfl | hs
    · exact he
    · exact h2 s hs
  | cons_cons _ h1'' =>
    rename_i L0
    exact ⟨(e, d) :: L0, (h1''.cons_cons _).trans hsub, h2, reach_loadCopy h3⟩

/-- **loading the most recent alive checkpoint and removing it** -/
theorem rt_loadMove {pre post : List Src} {W : Option Nat} {e : Nat} {d : Bool} {a n : Nat}
    (hpre : ∀ s ∈ pre, ¬ s.1 < a) (he : e < a)
    (h : RT c c0 c1 (pre ++ post) (some e) a n) :
    RT c c0 c1 (pre ++ (e, d) :: post) W a (n + ldc c d) := by
  obtain ⟨L, h1, h2, h3⟩ := h
  have h1' := sublist_drop_prefix (P := fun s : Src => s.1 < a) pre _ L h1 hpre h2
  have hsub : ((e, d) :: post).Sublist (pre ++ (e, d) :: post) := List.sublist_append_right _ _
  refine ⟨(e, d) :: L, (h1'.cons_cons _).trans hsub, ?_, reach_loadMove h3⟩
  intro s hs
  rcases List.mem_cons.mp hs with rfl | hs
  · exact he
  · exact h2 s hs

end

end Ckpt.HLB

#print axioms Ckpt.HLB.reach_store
#print axioms Ckpt.HLB.reach_loadCopy
#print axioms Ckpt.HLB.rt_store
#print axioms Ckpt.HLB.rt_loadCopy
#print axioms Ckpt.HLB.rt_loadMove
