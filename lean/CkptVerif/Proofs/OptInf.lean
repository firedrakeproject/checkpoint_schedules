import CkptVerif.Model.Revolve
import CkptVerif.Proofs.Opt0
import Mathlib.Tactic
/-!
# The one-read-disk cost table `optInfTable` satisfies its recurrence

`tinf[0] = ub`, `tinf[1] = uf + 2ub` (`cm ≥ 1`), and for `l ≥ 2`
`tinf[l] = min (opt0[cm][l]) (min_{1 ≤ j ≤ l-1} (wr + j·uf + tinf[l-j] + opt0[cm][j-1]))`;
hence `tinf[l] ≤ opt0[cm][l]`: with a disk the optimal cost can only go down.
-/
namespace Ckpt.RC

/-- the candidates "write a DISK checkpoint, advance `j` steps" for `tinf[l]`, reading earlier
entries from `tab` -/
def optInfCands (cm uf wr : Nat) (t0 : Array (Array Nat)) (tab : Array Nat) (l : Nat) : List Nat :=
  (List.range' 1 (l - 1)).map (fun j => wr + j * uf + tab.getD (l - j) 0 + opt0Get t0 cm (j - 1))

theorem optInfTable_eq (lmax cm uf ub wr : Nat) (t0 : Array (Array Nat)) :
    optInfTable lmax cm uf ub wr t0 = (List.range' 2 (lmax - 1)).foldl (fun tab l =>
      tab.push (min (opt0Get t0 cm l)
        ((optInfCands cm uf wr t0 tab l).foldl min ((optInfCands cm uf wr t0 tab l).headD 0))))
      #[ub, if cm = 0 then wr + uf + 2 * ub else uf + 2 * ub] := rfl

theorem optInfCands_congr (cm uf wr : Nat) (t0 : Array (Array Nat)) (tab tab' : Array Nat) (l : Nat)
    (h : ∀ j, j < l → tab[j]? = tab'[j]?) :
    optInfCands cm uf wr t0 tab l = optInfCands cm uf wr t0 tab' l := by
  unfold optInfCands
  apply List.map_congr_left
  intro j hj
  have := List.mem_range'_1.1 hj
  simp only [Array.getD_eq_getD_getElem?]
  rw [h (l - j) (by omega)]

theorem optInfTable_spec (lmax cm uf ub wr : Nat) (t0 : Array (Array Nat)) :
    (optInfTable lmax cm uf ub wr t0).getD 0 0 = ub ∧
    (1 ≤ cm → (optInfTable lmax cm uf ub wr t0).getD 1 0 = uf + 2 * ub) ∧
    (cm = 0 → (optInfTable lmax cm uf ub wr t0).getD 1 0 = wr + uf + 2 * ub) ∧
    ∀ l, 2 ≤ l → l ≤ lmax → (optInfTable lmax cm uf ub wr t0).getD l 0 =
      min (opt0Get t0 cm l)
        ((optInfCands cm uf wr t0 (optInfTable lmax cm uf ub wr t0) l).foldl min
          ((optInfCands cm uf wr t0 (optInfTable lmax cm uf ub wr t0) l).headD 0)) := by
  obtain ⟨h0, h1, h2⟩ := pushFold2_fix 0 (fun tab l => min (opt0Get t0 cm l)
    ((optInfCands cm uf wr t0 tab l).foldl min ((optInfCands cm uf wr t0 tab l).headD 0)))
    ub (if cm = 0 then wr + uf + 2 * ub else uf + 2 * ub) lmax _ (optInfTable_eq lmax cm uf ub wr t0)
    (fun tab tab' l _ h => by rw [optInfCands_congr cm uf wr t0 tab tab' l h])
  exact ⟨h0, fun hcm => by rw [h1, if_neg (by omega)], fun hcm => by rw [h1, if_pos hcm], h2⟩

/-- the recurrence with the candidate list written out as in the model -/
theorem optInf_rec (lmax cm uf ub wr : Nat) (t0 : Array (Array Nat)) (l : Nat) (hl2 : 2 ≤ l)
    (hl : l ≤ lmax) :
    let tinf := optInfTable lmax cm uf ub wr t0
    let cands := (List.range' 1 (l - 1)).map (fun j =>
      wr + j * uf + tinf.getD (l - j) 0 + opt0Get t0 cm (j - 1))
    tinf.getD l 0 = min (opt0Get t0 cm l) (cands.foldl min (cands.headD 0)) :=
  (optInfTable_spec lmax cm uf ub wr t0).2.2.2 l hl2 hl

/-- `tinf[l] ≤ opt0[cm][l]`: DiskRevolve's table is never above Revolve's -/
theorem optInf_le_opt0 (lmax lmax0 mmax cm uf ub wr : Nat) (hcm1 : 1 ≤ cm) (hcm : cm ≤ mmax)
    (l : Nat) (hl : l ≤ lmax) :
    (optInfTable lmax cm uf ub wr (opt0Table lmax0 mmax uf ub)).getD l 0
      ≤ opt0Get (opt0Table lmax0 mmax uf ub) cm l := by
  obtain ⟨h0, h1, _, h2⟩ := optInfTable_spec lmax cm uf ub wr (opt0Table lmax0 mmax uf ub)
  rcases Nat.lt_or_ge l 2 with hlt | hge
  · rcases Nat.eq_zero_or_pos l with rfl | hpos
    · rw [h0, opt0Get_zero _ _ _ _ _ hcm]
    · have : l = 1 := by omega
      subst this
      rw [h1 hcm1, opt0Get_one _ _ _ _ _ hcm1 hcm]
  · rw [h2 l hge hl]; exact Nat.min_le_left _ _

/-- The recurrence at the choice DiskRevolve makes for `l + 1` steps: if a DISK checkpoint beats the
memory-only value, `tinf[l]` is the candidate at the split position `j` (`argminO`: the last minimal
one); otherwise,
and always for `l < 2`, it is the memory-only value. -/
theorem optInf_bellman (lmax lmax0 mmax cm uf ub wr : Nat) (hcm1 : 1 ≤ cm) (hcm : cm ≤ mmax)
    (t0 : Array (Array Nat)) (tinf : Array Nat) (ht0 : t0 = opt0Table lmax0 mmax uf ub)
    (htinf : tinf = optInfTable lmax cm uf ub wr t0) (l : Nat) (hl : l ≤ lmax) :
    (2 ≤ l ∧ (optInfCands cm uf wr t0 tinf l).foldl min ((optInfCands cm uf wr t0 tinf l).headD 0) <
        opt0Get t0 cm l →
      ∃ j, argminO ((optInfCands cm uf wr t0 tinf l).map some) = j ∧ 1 ≤ j ∧ j ≤ l - 1 ∧
        tinf.getD l 0 = wr + j * uf + tinf.getD (l - j) 0 + opt0Get t0 cm (j - 1)) ∧
    (¬ (2 ≤ l ∧ (optInfCands cm uf wr t0 tinf l).foldl min
        ((optInfCands cm uf wr t0 tinf l).headD 0) < opt0Get t0 cm l) →
      tinf.getD l 0 = opt0Get t0 cm l) := by
  obtain ⟨I0, I1, _, Irec⟩ := optInfTable_spec lmax cm uf ub wr t0
  rw [← htinf] at I0 I1 Irec
  constructor
  · rintro ⟨hl2, hmin⟩
    obtain ⟨hj1, hj2, hg⟩ := argminO_range'_map_some (fun j =>
      wr + j * uf + tinf.getD (l - j) 0 + opt0Get t0 cm (j - 1)) (l - 1) (by omega)
    refine ⟨_, rfl, hj1, hj2, ?_⟩
    rw [Irec l hl2 hl, Nat.min_eq_right (Nat.le_of_lt hmin)]
    exact hg.symm
  · intro hcond
    rcases Nat.lt_or_ge l 2 with hlt2 | hge2
    · rw [ht0]
      rcases Nat.eq_zero_or_pos l with rfl | hpos
      · rw [I0, opt0Get_zero _ _ _ _ _ hcm]
      · obtain rfl : l = 1 := by omega
        rw [I1 hcm1, opt0Get_one _ _ _ _ _ hcm1 hcm]
    · rw [Irec l hge2 hl]
      exact Nat.min_eq_left (Nat.le_of_not_lt fun hh => hcond ⟨hge2, hh⟩)

example : (optInfTable 8 1 1 1 2 (opt0Table 8 1 1 1)).getD 8 0 = 27 ∧
    opt0Get (opt0Table 8 1 1 1) 1 8 = 45 := by decide +kernel

end Ckpt.RC
