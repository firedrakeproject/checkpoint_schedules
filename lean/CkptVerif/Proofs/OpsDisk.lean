import CkptVerif.Proofs.OpsRevolve
/-!
# Refinement for DiskRevolve: the twin's stream is the recursive stream model `diskSeg`
-/
namespace Ckpt.Ops

def diskCands (t0 : Array (Array Nat)) (tinf : Array Nat) (cm uf wr l : Nat) : List Nat :=
  (List.range' 1 (l - 1)).map (fun j => wr + j * uf + tinf.getD (l - j) 0 + opt0Get t0 cm (j - 1))

/-- `disk_revolve(l, cm)` at offset `lo`, in block form -/
def diskOpsAt (t0 : Array (Array Nat)) (tinf : Array Nat) (cm uf wr : Nat) :
    (fuel lo l : Nat) → Option (List Op)
  | 0, _, _ => none
  | fuel+1, lo, l =>
    if l = 0 then some (turnOps lo)
    else if l = 1 then
      if cm = 0 then
        some ([Op.wd lo, Op.fwd lo (lo + 1)] ++ turnOps (lo + 1) ++ [Op.rd lo] ++ turnOps lo ++
          [Op.dd lo])
      else some ([Op.wm lo, Op.fwd lo (lo + 1)] ++ turnOps (lo + 1) ++ qLoop lo 0)
    else
      if (diskCands t0 tinf cm uf wr l).foldl min ((diskCands t0 tinf cm uf wr l).headD 0)
          < opt0Get t0 cm l then
        match diskOpsAt t0 tinf cm uf wr fuel
            (lo + argminO ((diskCands t0 tinf cm uf wr l).map some))
            (l - argminO ((diskCands t0 tinf cm uf wr l).map some)) with
        | none => none
        | some right =>
          match revOpsAt t0 uf (argminO ((diskCands t0 tinf cm uf wr l).map some)) lo
              (argminO ((diskCands t0 tinf cm uf wr l).map some) - 1) cm with
          | none => none
          | some left =>
            some ([Op.wd lo, Op.fwd lo (lo + argminO ((diskCands t0 tinf cm uf wr l).map some))] ++
              right ++ [Op.rd lo] ++ left)
      else revOpsAt t0 uf (l + 1) lo l cm

theorem shiftOp_dd (s n : Nat) : shiftOp s (Op.dd n) = Op.dd (s + n) := by
  simp [shiftOp, Op.dd, Nat.add_comm]

theorem shiftOps_diskRevolveOps (t0 : Array (Array Nat)) (tinf : Array Nat) (cm uf wr : Nat) :
    ∀ (fuel lo l : Nat),
      (diskRevolveOps t0 tinf cm uf wr fuel l).map (shiftOps lo) =
        diskOpsAt t0 tinf cm uf wr fuel lo l := by
  intro fuel
  induction fuel with
  | zero => intro lo l; rfl
  | succ fuel ih =>
    intro lo l
    rw [diskRevolveOps, diskOpsAt]
    by_cases h0 : l = 0
    · rw [if_pos h0, if_pos h0, Option.map_some]
      simp [shiftOps, turnOps, shiftOp_wfm, shiftOp_fwd, shiftOp_bwd, shiftOp_dfm]
    rw [if_neg h0, if_neg h0]
    by_cases h1 : l = 1
    · rw [if_pos h1, if_pos h1]
      by_cases hc : cm = 0
      · rw [if_pos hc, if_pos hc, Option.map_some]
        simp [shiftOps, turnOps, shiftOp_wfm, shiftOp_fwd, shiftOp_bwd, shiftOp_dfm, shiftOp_wd,
          shiftOp_rd, shiftOp_dd]
      · rw [if_neg hc, if_neg hc, Option.map_some]
        simp [shiftOps, turnOps, qLoop, shiftOp_wfm, shiftOp_fwd, shiftOp_bwd, shiftOp_dfm,
          shiftOp_wm, shiftOp_rm, shiftOp_dm]
    rw [if_neg h1, if_neg h1]
    show Option.map (shiftOps lo)
      (if (diskCands t0 tinf cm uf wr l).foldl min ((diskCands t0 tinf cm uf wr l).headD 0)
          < opt0Get t0 cm l then
        match diskRevolveOps t0 tinf cm uf wr fuel
            (l - argminO ((diskCands t0 tinf cm uf wr l).map some)) with
        | none => none
        | some right =>
          match revolveOps t0 uf (argminO ((diskCands t0 tinf cm uf wr l).map some))
              (argminO ((diskCands t0 tinf cm uf wr l).map some) - 1) cm with
          | none => none
          | some left =>
            some ([Op.wd 0, Op.fwd 0 (argminO ((diskCands t0 tinf cm uf wr l).map some))] ++
              shiftOps (argminO ((diskCands t0 tinf cm uf wr l).map some)) right ++ [Op.rd 0] ++ left)
      else revolveOps t0 uf (l + 1) l cm) = _
    by_cases hcond : (diskCands t0 tinf cm uf wr l).foldl min
        ((diskCands t0 tinf cm uf wr l).headD 0) < opt0Get t0 cm l
    · rw [if_pos hcond, if_pos hcond]
      generalize argminO ((diskCands t0 tinf cm uf wr l).map some) = j
      rw [← ih (lo + j) (l - j), ← shiftOps_revolveOps t0 uf j lo (j - 1) cm]
      cases diskRevolveOps t0 tinf cm uf wr fuel (l - j) with
      | none => rfl
      | some right =>
        cases revolveOps t0 uf j (j - 1) cm with
        | none => rfl
        | some left =>
          simp only [Option.map_some]
          rw [shiftOps_append, shiftOps_append, shiftOps_append, shiftOps_shiftOps]
          simp [shiftOps, shiftOp_wd, shiftOp_fwd, shiftOp_rd]
    · rw [if_neg hcond, if_neg hcond]
      exact shiftOps_revolveOps t0 uf (l + 1) lo l cm

theorem diskSeg_succ (N : Nat) (t0 : Array (Array Nat)) (tinf : Array Nat) (cm uf wr fuel : Nat)
    (spine : Bool) (lo hi : Nat) :
    diskSeg N t0 tinf cm uf wr (fuel + 1) spine lo hi =
      if hi - lo - 1 ≥ 2 ∧ (diskCands t0 tinf cm uf wr (hi - lo - 1)).foldl min
          ((diskCands t0 tinf cm uf wr (hi - lo - 1)).headD 0) < opt0Get t0 cm (hi - lo - 1) then
        match diskSeg N t0 tinf cm uf wr fuel spine
            (lo + argminO ((diskCands t0 tinf cm uf wr (hi - lo - 1)).map some)) hi with
        | none => none
        | some right =>
          match revSeg N t0 uf cm false lo
              (lo + argminO ((diskCands t0 tinf cm uf wr (hi - lo - 1)).map some)) with
          | none => none
          | some left =>
            some ([⟨.forward lo (lo + argminO ((diskCands t0 tinf cm uf wr (hi - lo - 1)).map some))
                true false .disk, lo + argminO ((diskCands t0 tinf cm uf wr (hi - lo - 1)).map some),
                N - hi⟩] ++ right ++
              [⟨.move lo .disk .work, lo,
                N - (lo + argminO ((diskCands t0 tinf cm uf wr (hi - lo - 1)).map some))⟩] ++ left)
      else revSeg N t0 uf cm spine lo hi := by
  rw [diskSeg]
  rfl

/-- the memory-only segment: `revolve(l, cm)` at offset `lo` against `revSeg`; the events do not
depend on what follows the block -/
theorem revSeg_block (N : Nat) (t0 : Array (Array Nat)) (uf cm lo l fuelO : Nat) (hcm : 1 ≤ cm)
    (hf : l < fuelO) :
    ∃ ops, revOpsAt t0 uf fuelO lo l cm = some ops ∧ OpsFacts lo (lo + l + 1) True ops ∧ ops ≠ [] ∧
      ∀ (spine : Bool), lo + l + 1 ≤ N → (spine = true ↔ lo + l + 1 = N) →
        ∃ evs, revSeg N t0 uf cm spine lo (lo + l + 1) = some evs ∧
          ∀ (tail : List Op) (wrap : Option Op) (S : List (Option Storage × Nat)),
            TailOk lo tail → SnapOk lo S →
            ∀ pos prev, Conv N wrap pos prev ops tail lo (N - (lo + l + 1)) S evs (lo + 1) (N - lo) S := by
  obtain ⟨ops, hops, hfacts, hne, hb⟩ := revolve_block N t0 uf fuelO lo l cm hcm hf
  refine ⟨ops, hops, hfacts, hne, fun spine hN hsp => ?_⟩
  have hb' := fun tail wrap S htail hS =>
    (hb cm 0 (lo + l + 1 - lo + 1) spine tail wrap S hN rfl (by omega) hsp htail hS).1
  obtain ⟨evs, hseg, _⟩ := hb' [] none [] (TailOk.nil lo) (by intro k hk; cases hk)
  refine ⟨evs, hseg, fun tail wrap S htail hS => ?_⟩
  obtain ⟨evs', hseg', hconv⟩ := hb' tail wrap S htail hS
  rw [hseg] at hseg'
  cases hseg'
  exact hconv

theorem convAct_dd (n : Nat) : convAct (Op.dd n) = .ok ⟨.discardDisk, n, none, some .disk⟩ := rfl
theorem opKeyOf_rd (n : Nat) : opKeyOf (Op.rd n) = (some .disk, n) := rfl
theorem opKeyOf_wd (n : Nat) : opKeyOf (Op.wd n) = (some .disk, n) := rfl

theorem facts_wd (lo hi : Nat) (hlt : lo < hi) : OpsFacts lo hi False [Op.wd lo] :=
  OpsFacts.single _ ⟨_, convAct_wd lo⟩ (fun _ => ⟨le_refl _, hlt, fun h => h.elim⟩)

theorem facts_rd (lo hi : Nat) (hlt : lo < hi) : OpsFacts lo hi False [Op.rd lo] :=
  OpsFacts.single _ ⟨_, convAct_rd lo⟩ (fun _ => ⟨le_refl _, hlt, fun h => h.elim⟩)

/-- a block that touches RAM checkpoints only never reads `(DISK, lo)` -/
theorem lastRd_disk_of_ram (lo hi : Nat) (L tail : List Op) (hL : OpsFacts lo hi True L)
    (htail : TailOk lo tail) : lastRd (some Storage.disk, lo) (L ++ tail) = true :=
  lastRd_noTouch_tail lo _ _ tail (fun o ho ht he => by
    have := hL.ram trivial o ho ht
    rw [he] at this
    cases this) htail

/-- what is proved about a block `disk_revolve(l, cm)` at offset `lo` -/
structure DiskBlock (N : Nat) (t0 : Array (Array Nat)) (tinf : Array Nat) (cm uf wr lo l : Nat)
    (ops : List Op) : Prop where
  facts : OpsFacts lo (lo + l + 1) False ops
  ne : ops ≠ []
  conv : ∀ (fuelS : Nat) (spine : Bool) (tail : List Op) (wrap : Option Op)
    (S : List (Option Storage × Nat)),
    lo + l + 1 ≤ N → l + 1 ≤ fuelS → (spine = true ↔ lo + l + 1 = N) → TailOk lo tail → SnapOk lo S →
    ∃ evs, diskSeg N t0 tinf cm uf wr fuelS spine lo (lo + l + 1) = some evs ∧
      ∀ pos prev, Conv N wrap pos prev ops tail lo (N - (lo + l + 1)) S evs (lo + 1) (N - lo) S

theorem lo_succ_sub (lo l : Nat) : lo + l + 1 - lo - 1 = l := by
  rw [Nat.add_assoc, Nat.add_sub_cancel_left, Nat.add_sub_cancel]

/-- where `disk_revolve` falls back on `revolve`, `diskSeg` falls back on `revSeg` -/
theorem diskBlock_of_rev (N : Nat) (t0 : Array (Array Nat)) (tinf : Array Nat) (cm uf wr lo l : Nat)
    (hcm : 1 ≤ cm) (ops : List Op) (hops : revOpsAt t0 uf (l + 1) lo l cm = some ops)
    (hcond : ¬ (l ≥ 2 ∧ (diskCands t0 tinf cm uf wr l).foldl min
      ((diskCands t0 tinf cm uf wr l).headD 0) < opt0Get t0 cm l)) :
    DiskBlock N t0 tinf cm uf wr lo l ops := by
  obtain ⟨ops', hops', hfacts, hne, hb⟩ := revSeg_block N t0 uf cm lo l (l + 1) hcm (Nat.lt_succ_self l)
  rw [hops] at hops'
  cases hops'
  refine ⟨hfacts.mono (le_refl _) (le_refl _) (fun h => h.elim), hne, ?_⟩
  intro fuelS spine tail wrap S hN hf hsp htail hS
  obtain ⟨f, rfl⟩ := exists_add_one_of_le hf
  obtain ⟨evs, hseg, hconv⟩ := hb spine hN hsp
  refine ⟨evs, ?_, hconv tail wrap S htail hS⟩
  rw [diskSeg_succ, lo_succ_sub lo l, if_neg hcond]
  exact hseg

theorem disk_block (N : Nat) (t0 : Array (Array Nat)) (tinf : Array Nat) (cm uf wr : Nat)
    (hcm : 1 ≤ cm) :
    ∀ (fuel lo l : Nat), l < fuel →
      ∃ ops, diskOpsAt t0 tinf cm uf wr fuel lo l = some ops ∧ DiskBlock N t0 tinf cm uf wr lo l ops := by
  intro fuel
  induction fuel with
  | zero => intro lo l h; exact absurd h (Nat.not_lt_zero l)
  | succ fuel ih =>
    intro lo l hfuel
    rw [diskOpsAt]
    by_cases h0 : l = 0
    · subst h0
      rw [if_pos rfl]
      refine ⟨_, rfl, facts_turn _ _ lo _, List.cons_ne_nil _ _, ?_⟩
      intro fuelS spine tail wrap S hN hf hsp htail hS
      obtain ⟨f, rfl⟩ := exists_add_one_of_le hf
      refine ⟨_, ?_, fun pos prev => turn_block N wrap pos prev tail lo S hN⟩
      rw [diskSeg_succ, lo_succ_sub lo 0, if_neg (fun h => Nat.not_succ_le_zero 1 h.1)]
      unfold revSeg
      rw [show lo + 0 + 1 - lo + 1 = 1 + 1 by rw [Nat.add_assoc, Nat.add_sub_cancel_left]]
      exact segWith_turn N (revolveSplit t0 uf) cm (fun _ => Storage.ram) false 1 spine (lo + 0) 0 hsp
    rw [if_neg h0]
    by_cases h1 : l = 1
    · subst h1
      rw [if_pos rfl, if_neg (Nat.ne_of_gt hcm)]
      have hrev : revOpsAt t0 uf (1 + 1) lo 1 cm =
          some ([Op.wm lo, Op.fwd lo (lo + 1)] ++ turnOps (lo + 1) ++ qLoop lo 0) := by
        rw [revOpsAt, if_neg Nat.one_ne_zero, if_neg (Nat.ne_of_gt hcm), if_pos (Or.inl rfl)]
      exact ⟨_, rfl, diskBlock_of_rev N t0 tinf cm uf wr lo 1 hcm _ hrev (fun h => Nat.not_succ_le_self 1 h.1)⟩
    rw [if_neg h1]
    have hl2 : 2 ≤ l :=
      (Nat.two_le_iff l).2 ⟨h0, h1⟩
    by_cases hcond : (diskCands t0 tinf cm uf wr l).foldl min
        ((diskCands t0 tinf cm uf wr l).headD 0) < opt0Get t0 cm l
    · -- a disk split
      rw [if_pos hcond]
      have hlen : (diskCands t0 tinf cm uf wr l).length = l - 1 := by
        rw [diskCands, List.length_map, List.length_range']
      have hne : diskCands t0 tinf cm uf wr l ≠ [] :=
        List.ne_nil_of_length_pos (by rw [hlen]; exact Nat.sub_pos_of_lt hl2)
      have hrange := argminO_map_some_range _ hne
      rw [hlen] at hrange
      generalize hj : argminO ((diskCands t0 tinf cm uf wr l).map some) = j at hrange ⊢
      obtain ⟨hj1, hj2⟩ := hrange
      replace hj2 : j + 1 ≤ l := Nat.add_le_of_le_sub (Nat.le_of_succ_le hl2) hj2
      clear hlen hne
      have hjl : j ≤ l := Nat.le_of_succ_le hj2
      have hlj : l - j < l := Nat.sub_lt_of_pos_le hj1 hjl
      obtain ⟨R, hR, hRf, hRne, hRb⟩ := ih (lo + j) (l - j) (hlj.trans_le (Nat.le_of_lt_succ hfuel))
      obtain ⟨L, hL, hLf, hLne, hLb⟩ := revSeg_block N t0 uf cm lo (j - 1) j hcm
        (Nat.sub_lt hj1 Nat.one_pos)
      rw [hR, hL]
      dsimp only
      rw [show lo + j + (l - j) + 1 = lo + l + 1 by rw [Nat.add_assoc lo, Nat.add_sub_cancel' hjl]]
        at hRf hRb
      rw [show lo + (j - 1) + 1 = lo + j by rw [Nat.add_assoc, Nat.sub_add_cancel hj1]] at hLf hLb
      have hloj : lo < lo + j := Nat.lt_add_of_pos_right hj1
      have hLf' : OpsFacts lo (lo + j) False (Op.rd lo :: L) :=
        (facts_rd lo _ hloj).append (hLf.mono (le_refl _) (le_refl _) (fun h => h.elim))
      have hlist : [Op.wd lo, Op.fwd lo (lo + j)] ++ R ++ [Op.rd lo] ++ L =
          Op.wd lo :: Op.fwd lo (lo + j) :: (R ++ (Op.rd lo :: L)) := by
        rw [List.append_assoc, List.append_assoc]; rfl
      rw [hlist]
      refine ⟨_, rfl, ?_, List.cons_ne_nil _ _, ?_⟩
      · show OpsFacts _ _ _ ([Op.wd lo] ++ [Op.fwd lo (lo + j)] ++ (R ++ (Op.rd lo :: L)))
        exact ((facts_wd lo _ (Nat.lt_succ_of_le (Nat.le_add_right lo l))).append
            (facts_fwd _ _ _ _ _ hloj)).append
          ((hRf.mono hloj.le (le_refl _) id).append
            (hLf'.mono (le_refl _) ((Nat.add_le_add_left hjl lo).trans (Nat.le_succ _)) id))
      · intro fuelS spine tail wrap S hN hf hsp htail hS
        obtain ⟨f, rfl⟩ := exists_add_one_of_le hf
        have hkey := snap_key lo S hS (some Storage.disk)
        have hjN : lo + j < N :=
          (Nat.add_lt_add_left hj2 lo).trans_le ((Nat.le_succ _).trans hN)
        obtain ⟨evsR, hsegR, hconvR⟩ := hRb f spine ((Op.rd lo :: L) ++ tail) wrap
          ((some .disk, lo) :: S) hN ((Nat.succ_le_of_lt hlj).trans (Nat.le_of_succ_le_succ hf)) hsp
          ((TailOk.of_keys hLf'.keys (le_refl _)).append (htail.mono hloj.le))
          (hS.cons hloj _)
        obtain ⟨evsL, hsegL, hconvL⟩ := hLb false hjN.le
          ⟨fun h => (by cases h), fun h => absurd h (Nat.ne_of_lt hjN)⟩
        refine ⟨[⟨.forward lo (lo + j) true false .disk, lo + j, N - (lo + l + 1)⟩] ++ evsR ++
          [⟨.move lo .disk .work, lo, N - (lo + j)⟩] ++ evsL, ?_, fun pos prev => ?_⟩
        · rw [diskSeg_succ, lo_succ_sub lo l, if_pos ⟨hl2, hcond⟩, hj, hsegR, hsegL]
        · -- `Write_disk lo; Forward`, the right part, `Read_disk lo` for the last time, the left part
          refine Conv.evs (Conv.write_prefix
            (evsY := evsR ++ (⟨.move lo .disk .work, lo, N - (lo + j)⟩ :: evsL)) (Op.wd lo) _ .disk lo j
            _ (convAct_wd lo) rfl rfl rfl hj1 (Nat.ne_of_lt hjN) hkey (fun pos prev => ?_) pos prev)
            (by rw [List.append_assoc, List.append_assoc]; rfl)
          exact Conv.append hRne (hconvR _ _)
            (Conv.move_prefix (Op.rd lo) _ .disk lo _ (convAct_rd lo) rfl rfl rfl hkey
              (lastRd_disk_of_ram lo _ L tail hLf htail) (hconvL tail wrap S htail hS) _ _ _)
    · rw [if_neg hcond]
      obtain ⟨ops, hops, _⟩ := revSeg_block N t0 uf cm lo l (l + 1) hcm (Nat.lt_succ_self l)
      exact ⟨ops, hops, diskBlock_of_rev N t0 tinf cm uf wr lo l hcm ops hops (fun h => hcond h.2)⟩

/-- **Refinement for DiskRevolve**: the twin (`disk_revolve(N-1, cm, …)` converted by `_iterator`)
yields exactly the stream of the recursive model. -/
theorem diskRevolveTwin_eq (N cm : Nat) (c : Costs) (hN : 1 ≤ N) (hcm : 1 ≤ cm) :
    diskRevolveTwin N cm c = diskRevolveEvs N cm c := by
  obtain ⟨ops, hops, hfacts, _, hblock⟩ := disk_block N (opt0Table (N - 1) cm c.uf c.ub)
    (optInfTable (N - 1) cm c.uf c.ub (c.wd + c.rd) (opt0Table (N - 1) cm c.uf c.ub)) cm c.uf
    (c.wd + c.rd) hcm N 0 (N - 1) (by omega)
  obtain ⟨evs, hseg, hconv⟩ := hblock (N + 1) true [] ops.getLast? []
    (by omega) (by omega) (by constructor <;> intro _ <;> [omega; rfl])
    (TailOk.nil 0) (by intro k hk; cases hk)
  have hhi : 0 + (N - 1) + 1 = N := by omega
  rw [hhi] at hseg hconv
  have htop : diskRevolveOpsTop N cm c = some ops := by
    unfold diskRevolveOpsTop
    dsimp only
    have := shiftOps_diskRevolveOps (opt0Table (N - 1) cm c.uf c.ub)
      (optInfTable (N - 1) cm c.uf c.ub (c.wd + c.rd) (opt0Table (N - 1) cm c.uf c.ub)) cm c.uf
      (c.wd + c.rd) N 0 (N - 1)
    rw [hops] at this
    cases hd : diskRevolveOps (opt0Table (N - 1) cm c.uf c.ub)
        (optInfTable (N - 1) cm c.uf c.ub (c.wd + c.rd) (opt0Table (N - 1) cm c.uf c.ub)) cm c.uf
        (c.wd + c.rd) N (N - 1) with
    | none => rw [hd] at this; cases this
    | some x =>
      rw [hd, Option.map_some] at this
      rw [shiftOps_zero] at this
      exact this
  have h1 : diskRevolveTwin N cm c = .ok (evs ++ [⟨.endReverse, 1, N⟩]) := by
    unfold diskRevolveTwin twinOf
    rw [htop]
    exact convertOps_of_conv N ops hfacts.wf evs (0 + 1) (N - 0)
      (Conv.congr (hconv 0 none) rfl (by omega) rfl rfl rfl)
  have h2 : diskRevolveEvs N cm c = .ok (evs ++ [⟨.endReverse, 1, N⟩]) := by
    unfold diskRevolveEvs
    dsimp only
    rw [hseg]
  rw [h1, h2]

end Ckpt.Ops
