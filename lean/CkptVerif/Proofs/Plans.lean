import Mathlib.Data.List.Induction
import Mathlib.Data.List.Nodup
import Mathlib.Data.List.Perm.Subperm
import Mathlib.Tactic
/-!
# Plans: the potential behind the lower bounds, over an arbitrary price function

State of a reversal in progress: the adjoint stands at `a` (steps `[0, a)` are still to be reversed);
the *resources* are forward states at some positions (restart checkpoints and the state in working
storage; written `(e, false)`) and stored adjoint dependency data of single steps (`(d, true)` = the
data of the step `d → d+1`).  A *plan* is a list of items that tile `[0, a)` from the bottom:

* a base `⟨e, b, false⟩`: the state available at `e ≤ b` is carried to `b` (at the price `b - e`),
  and the gap from `b` to the next item is reversed with the units that the items below do not hold;
* a dependency item `⟨d, d, true⟩`: the step `d → d+1` is reversed from stored data, for free.

Item number `l` (from `0`) disposes of `s - l` units, its own included; a base with `k` units and a gap
of length `m` costs `T m k`; a base with no unit (state in working storage only) must be the last item,
with a gap of one step.  Distinct items use distinct resources.

`Reach T s R a n`: some plan for the resources `R` and the adjoint position `a` costs at most `n`.
The lemmas `reach_*` say how the cheapest plan can change under the moves of an executable schedule.
What they use of `T` is `PriceHyp T D`; `D` says whether dependency items may occur (storing the
dependency data of a step is a move of the mixed problem only).  `Proofs/MixedPlans.lean` reads the
development with `optimal_steps_mixed`, `Proofs/LBPlans.lean` with the optimum of Griewank & Walther
and no dependency item.

The file has three namespaces because the names of what it collects are those the two lower-bound
developments use: the list lemmas are `Ckpt.GW.*`; the notions that do not mention the price (`nxt`,
`XiOk`, `It`, `PlanShape`, `PlanOk`, `fee`) are those of the mixed problem, `Ckpt.MX.*`; only what is
generic in the price function is `Ckpt.Plans.*`.
-/
namespace Ckpt.GW

/-! ## lists with an element taken out -/

section
variable {α β : Type}

theorem mem_insert {A B : List α} {t w : α} : w ∈ A ++ t :: B ↔ w = t ∨ w ∈ A ++ B := by
  rw [List.mem_append, List.mem_cons, List.mem_append]
  exact or_left_comm

/-- two different elements of a list, in the order in which they stand -/
theorem split_two {P : List α} {p y : α} (hp : p ∈ P) (hy : y ∈ P) (hne : p ≠ y) :
    ∃ A Mid B, P = A ++ p :: (Mid ++ y :: B) ∨ P = A ++ y :: (Mid ++ p :: B) := by
  obtain ⟨A, B, rfl⟩ := List.append_of_mem hp
  rcases mem_insert.mp hy with h | h
  · exact absurd h.symm hne
  · rcases List.mem_append.mp h with h | h
    · obtain ⟨A1, A2, rfl⟩ := List.append_of_mem h
      exact ⟨A1, A2, B, Or.inr (by rw [List.append_assoc, List.cons_append])⟩
    · obtain ⟨B0, B1, rfl⟩ := List.append_of_mem h
      exact ⟨A, B0, B1, Or.inl rfl⟩

/-- distinct keys: the other elements have other keys than `q` -/
theorem nodup_remove {g : α → β} {A B : List α} {q : α} (h : ((A ++ q :: B).map g).Nodup) :
    (∀ z ∈ A ++ B, g z ≠ g q) ∧ ((A ++ B).map g).Nodup := by
  simp only [List.map_append, List.map_cons] at h ⊢
  obtain ⟨h1, h2⟩ := List.nodup_cons.mp (List.nodup_middle.mp h)
  refine ⟨fun z hz hzq => h1 ?_, h2⟩
  rw [← hzq, ← List.map_append]
  exact List.mem_map.mpr ⟨z, hz, rfl⟩

/-- distinct keys: the elements outside `p … y` have other keys than these two -/
theorem nodup_remove_two {g : α → β} {A Mid B : List α} {p y : α}
    (h : ((A ++ p :: (Mid ++ y :: B)).map g).Nodup) :
    ∀ z ∈ A ++ B, z ∈ A ++ p :: (Mid ++ y :: B) ∧ g z ≠ g p ∧ g z ≠ g y := by
  intro z hz
  have hzB : z ∈ A ++ (Mid ++ y :: B) := by
    rcases List.mem_append.mp hz with hz | hz
    · exact List.mem_append_left _ hz
    · exact List.mem_append_right _ (List.mem_append_right _ (List.mem_cons_of_mem _ hz))
  obtain ⟨h1, h2⟩ := nodup_remove h
  rw [← List.append_assoc] at h2
  refine ⟨mem_insert.mpr (Or.inr hzB), h1 z hzB, (nodup_remove h2).1 z ?_⟩
  rcases List.mem_append.mp hz with hz | hz
  · exact List.mem_append_left _ (List.mem_append_left _ hz)
  · exact List.mem_append_right _ hz

end

end Ckpt.GW

namespace Ckpt.MX

/-- where the next item starts (`a` if there is none) -/
def nxt (rest : List (Nat × Bool)) (a : Nat) : Nat :=
  match rest with
  | [] => a
  | q :: _ => q.1

/-- the items increase and stay below `a`; a dependency item covers exactly one step and holds a unit;
a base without unit is the last item and covers one step -/
def XiOk : Nat → List (Nat × Bool) → Nat → Prop
  | _, [], _ => True
  | k, q :: rest, a =>
    q.1 < nxt rest a ∧ (1 ≤ k ∨ (q.2 = false ∧ rest = [] ∧ a = q.1 + 1)) ∧
      (q.2 = true → nxt rest a = q.1 + 1) ∧ XiOk (k - 1) rest a

theorem XiOk_cons (k : Nat) (q : Nat × Bool) (rest : List (Nat × Bool)) (a : Nat) :
    XiOk k (q :: rest) a ↔
      q.1 < nxt rest a ∧ (1 ≤ k ∨ (q.2 = false ∧ rest = [] ∧ a = q.1 + 1)) ∧
        (q.2 = true → nxt rest a = q.1 + 1) ∧ XiOk (k - 1) rest a := Iff.rfl

theorem nxt_cons (q : Nat × Bool) (rest : List (Nat × Bool)) (a : Nat) : nxt (q :: rest) a = q.1 := rfl

theorem nxt_append_cons (l : List (Nat × Bool)) (q q' : Nat × Bool) (r r' : List (Nat × Bool))
    (a a' : Nat) (h : q.1 = q'.1) : nxt (l ++ q :: r) a = nxt (l ++ q' :: r') a' := by
  cases l with
  | nil => exact h
  | cons x l' => rfl

theorem nxt_snoc (l : List (Nat × Bool)) (q : Nat × Bool) (a : Nat) :
    nxt (l ++ [q]) a = nxt l q.1 := by
  cases l with
  | nil => rfl
  | cons x l' => rfl

/-- all items lie below `a` and not below the first one -/
theorem XiOk_bounds : ∀ (B : List (Nat × Bool)) (k a : Nat), XiOk k B a →
    nxt B a ≤ a ∧ ∀ q ∈ B, nxt B a ≤ q.1 ∧ q.1 < a := by
  intro B
  induction B with
  | nil => intro k a _; exact ⟨Nat.le_refl _, fun q hq => absurd hq List.not_mem_nil⟩
  | cons c rest ih =>
    intro k a h
    obtain ⟨h1, _, _, h4⟩ := h
    obtain ⟨i1, i2⟩ := ih (k - 1) a h4
    rw [nxt_cons]
    refine ⟨by omega, ?_⟩
    intro q hq
    rcases List.mem_cons.mp hq with rfl | hq
    · exact ⟨Nat.le_refl _, by omega⟩
    · have := i2 q hq
      omega

/-- nothing is left to reverse: no item -/
theorem XiOk_zero (k : Nat) (B : List (Nat × Bool)) (h : XiOk k B 0) : B = [] := by
  cases B with
  | nil => rfl
  | cons b rest =>
    have := ((XiOk_bounds _ k 0 h).2 b (List.mem_cons_self ..)).2
    omega

theorem XiOk_pairwise : ∀ (B : List (Nat × Bool)) (k a : Nat), XiOk k B a →
    B.Pairwise (fun x y => x.1 < y.1) := by
  intro B
  induction B with
  | nil => intro k a _; exact List.Pairwise.nil
  | cons c rest ih =>
    intro k a h
    obtain ⟨h1, _, _, h4⟩ := h
    refine List.Pairwise.cons ?_ (ih (k - 1) a h4)
    intro q hq
    have := ((XiOk_bounds rest (k - 1) a h4).2 q hq).1
    omega

/-! ## plans -/

/-- an item of a plan: the resource at `e` serves the position `b`; `d`: a dependency item -/
structure It where
  e : Nat
  b : Nat
  d : Bool
deriving DecidableEq, Repr

def It.shape (t : It) : Nat × Bool := (t.b, t.d)
def It.res (t : It) : Nat × Bool := (t.e, t.d)

/-- the part of the definition of a plan that does not mention the available resources -/
structure PlanShape (s a : Nat) (P : List It) : Prop where
  ok : XiOk s (P.map It.shape) a
  head : nxt (P.map It.shape) a = 0
  le : ∀ t ∈ P, t.e ≤ t.b ∧ (t.d = true → t.e = t.b)
  nodup : (P.map It.res).Nodup

/-- a plan for the adjoint at `a` and the resources `R` -/
def PlanOk (s : Nat) (R : List (Nat × Bool)) (a : Nat) (P : List It) : Prop :=
  PlanShape s a P ∧ ∀ t ∈ P, t.res ∈ R

/-- forward steps spent on carrying the available states to the bases -/
def fee (P : List It) : Nat := (P.map (fun t => t.b - t.e)).sum

theorem fee_append (A B : List It) : fee (A ++ B) = fee A + fee B := by
  unfold fee; rw [List.map_append, List.sum_append]

theorem fee_cons (p : It) (B : List It) : fee (p :: B) = (p.b - p.e) + fee B := by
  unfold fee; rw [List.map_cons, List.sum_cons]

theorem plan_bounds {s a : Nat} {P : List It} (h : PlanShape s a P) :
    ∀ t ∈ P, t.e ≤ t.b ∧ t.b < a := by
  intro t ht
  exact ⟨(h.le t ht).1,
    ((XiOk_bounds _ _ _ h.ok).2 t.shape (List.mem_map.mpr ⟨t, ht, rfl⟩)).2⟩

/-- the items below lie below -/
theorem plan_order {s a : Nat} {A B : List It} {q : It} (h : PlanShape s a (A ++ q :: B)) :
    (∀ z ∈ A, z.b < q.b) ∧ (∀ z ∈ B, q.b < z.b) := by
  have hp := XiOk_pairwise _ _ _ h.ok
  simp only [List.map_append, List.map_cons] at hp
  rw [List.pairwise_append] at hp
  obtain ⟨_, h2, h3⟩ := hp
  refine ⟨fun z hz => ?_, fun z hz => ?_⟩
  · exact h3 z.shape (List.mem_map.mpr ⟨z, hz, rfl⟩) q.shape (List.mem_cons_self ..)
  · exact (List.pairwise_cons.mp h2).1 z.shape (List.mem_map.mpr ⟨z, hz, rfl⟩)


end Ckpt.MX

namespace Ckpt.Plans
open Ckpt.MX
open Ckpt.GW (mem_insert split_two nodup_remove nodup_remove_two)

/-- what the development uses of the price `T len k` of reversing a gap of `len` steps with `k`
units: a single step costs one forward step; more units never hurt; splitting off the first `i`
steps behind a restart checkpoint, or storing the dependency data of the first step -/
structure PriceHyp (T : Nat → Nat → Nat) (D : Prop) : Prop where
  one : ∀ k, T 1 k = 1
  anti : ∀ m k, 1 ≤ m → (1 ≤ k ∨ m = 1) → T m (k + 1) ≤ T m k
  split : ∀ {m k i : Nat}, 1 ≤ k → 1 ≤ i → i < m → (k = 1 → m - i = 1) →
    T m k ≤ i + T i k + T (m - i) (k - 1)
  dep : D → ∀ {m k : Nat}, 2 ≤ m → 1 ≤ k → (k = 1 → m = 2) → T m k ≤ 1 + T (m - 1) (k - 1)

variable {T : Nat → Nat → Nat}

/-- price of one item: stored dependency data are free, a base with `k` units costs `T len k` -/
def price (T : Nat → Nat → Nat) (d : Bool) (len k : Nat) : Nat := if d then 0 else T len k

/-- price of reversing the steps from the position of the first item up to `a`, tiled by the items, the
first one disposing of `k` units -/
def Xi (T : Nat → Nat → Nat) : Nat → List (Nat × Bool) → Nat → Nat
  | _, [], _ => 0
  | k, q :: rest, a => price T q.2 (nxt rest a - q.1) k + Xi T (k - 1) rest a

def planVal (T : Nat → Nat → Nat) (s a : Nat) (P : List It) : Nat :=
  fee P + Xi T s (P.map It.shape) a

/-- some plan costs at most `n` -/
def Reach (T : Nat → Nat → Nat) (s : Nat) (R : List (Nat × Bool)) (a n : Nat) : Prop :=
  ∃ P, PlanOk s R a P ∧ planVal T s a P ≤ n

theorem Xi_cons (k : Nat) (q : Nat × Bool) (rest : List (Nat × Bool)) (a : Nat) :
    Xi T k (q :: rest) a = price T q.2 (nxt rest a - q.1) k + Xi T (k - 1) rest a := rfl

variable {D : Prop} (hT : PriceHyp T D)
include hT

/-- An item at `p` with gap up to the base `y`, whose gap reaches `n`, are replaced by one base at `p`:
by the recurrences of the optimum this costs at most the distance `y - p` more (`d`: the lower item is
a dependency item, then `y = p + 1`). -/
theorem price_absorb {k p y n : Nat} {d : Bool} (hk : 1 ≤ k) (hpy : p < y) (hyn : y < n)
    (hD : d = true → D) (hdep : d = true → y = p + 1) (hlast : k = 1 → n - y = 1) :
    price T false (n - p) k + p ≤ y + (price T d (y - p) k + price T false (n - y) (k - 1)) := by
  have e : n - p - (y - p) = n - y := Nat.sub_sub_sub_cancel_right (Nat.le_of_lt hpy)
  unfold price
  simp only [Bool.false_eq_true, if_false]
  split
  · have hy1 := hdep ‹_›
    have := hT.dep (hD ‹_›) (m := n - p) (k := k) (by omega) hk (fun h => by have := hlast h; omega)
    rw [show n - p - 1 = n - y by omega] at this
    omega
  · have := hT.split (m := n - p) (k := k) (i := y - p) hk (by omega) (by omega)
      (fun h => by rw [e]; exact hlast h)
    rw [e] at this
    omega

/-- with one more unit the items are still fine, and not more expensive -/
theorem Xi_anti : ∀ (B : List (Nat × Bool)) (k a : Nat), XiOk k B a →
    XiOk (k + 1) B a ∧ Xi T (k + 1) B a ≤ Xi T k B a := by
  intro B
  induction B with
  | nil => intro k a _; exact ⟨trivial, Nat.le_refl _⟩
  | cons c rest ih =>
    intro k a h
    obtain ⟨h1, h2, h3, h4⟩ := h
    have hrest : XiOk k rest a ∧ Xi T k rest a ≤ Xi T (k - 1) rest a := by
      rcases Nat.eq_zero_or_pos k with rfl | hk
      · rcases h2 with h2 | ⟨_, h2, _⟩
        · omega
        · subst h2; exact ⟨trivial, Nat.le_refl _⟩
      · have := ih (k - 1) a h4
        have e : k - 1 + 1 = k := Nat.sub_add_cancel hk
        rw [e] at this
        exact this
    refine ⟨⟨h1, Or.inl (by omega), h3, by rw [Nat.add_sub_cancel]; exact hrest.1⟩, ?_⟩
    rw [Xi_cons, Xi_cons, Nat.add_sub_cancel]
    have hp : price T c.2 (nxt rest a - c.1) (k + 1) ≤ price T c.2 (nxt rest a - c.1) k := by
      unfold price
      split
      · exact Nat.le_refl _
      · apply hT.anti _ _ (by omega)
        rcases h2 with h2 | ⟨_, h2, h2'⟩
        · left; exact h2
        · right; subst h2; show a - c.1 = 1; omega
    have := hrest.2
    omega

/-- **Absorbing a base** `y` into the item below it: that item becomes (or stays) a base whose gap
extends over the gap of `y`; the items above gain a unit.  This costs at most the distance. -/
theorem Xi_absorb : ∀ (pre : List (Nat × Bool)) (k : Nat) (p : Nat × Bool) (y : Nat)
    (post : List (Nat × Bool)) (a : Nat), (p.2 = true → D) →
    XiOk k (pre ++ p :: (y, false) :: post) a →
    XiOk k (pre ++ (p.1, false) :: post) a ∧
      Xi T k (pre ++ (p.1, false) :: post) a + p.1 ≤ y + Xi T k (pre ++ p :: (y, false) :: post) a := by
  intro pre
  induction pre with
  | nil =>
    intro k p y post a hD h
    simp only [List.nil_append] at h ⊢
    obtain ⟨hpy, hk, hdep, hy, hk1, _, hpost⟩ := h
    rw [nxt_cons] at hpy hdep
    have hk : 1 ≤ k := by
      rcases hk with hk | ⟨_, hk, _⟩
      · exact hk
      · cases hk
    simp only at hy hk1 hpy hdep
    -- the items above, with one more unit
    have hpost' : XiOk (k - 1) post a ∧ Xi T (k - 1) post a ≤ Xi T (k - 1 - 1) post a := by
      rcases hk1 with hk1 | ⟨_, hk1, _⟩
      · have := Xi_anti hT post (k - 1 - 1) a hpost
        have e : k - 1 - 1 + 1 = k - 1 := Nat.sub_add_cancel hk1
        rw [e] at this
        exact this
      · subst hk1; exact ⟨trivial, Nat.le_refl _⟩
    refine ⟨⟨by show p.1 < nxt post a; omega, Or.inl hk, (fun h => by cases h), hpost'.1⟩, ?_⟩
    rw [Xi_cons, Xi_cons, Xi_cons, nxt_cons]
    show price T false (nxt post a - p.1) k + Xi T (k - 1) post a + p.1 ≤
      y + (price T p.2 (y - p.1) k + (price T false (nxt post a - y) (k - 1) + Xi T (k - 1 - 1) post a))
    have hlast : k = 1 → nxt post a - y = 1 := by
      intro hk'
      rcases hk1 with hk1 | ⟨_, hk1, hk1'⟩
      · omega
      · subst hk1; show a - y = 1; omega
    have hprice := price_absorb hT (d := p.2) hk hpy hy hD (fun h => by have := hdep h; omega) hlast
    have := hpost'.2
    omega
  | cons q pre' ih =>
    intro k p y post a hD h
    simp only [List.cons_append] at h ⊢
    obtain ⟨h1, h2, h3, h4⟩ := h
    have hk : 1 ≤ k := by
      rcases h2 with h2 | ⟨_, h2, _⟩
      · exact h2
      · cases pre' <;> cases h2
    have en : nxt (pre' ++ p :: (y, false) :: post) a = nxt (pre' ++ (p.1, false) :: post) a :=
      nxt_append_cons _ _ _ _ _ _ _ rfl
    obtain ⟨i1, i2⟩ := ih (k - 1) p y post a hD h4
    refine ⟨⟨by rw [← en]; exact h1, Or.inl hk, by rw [← en]; exact h3, i1⟩, ?_⟩
    rw [Xi_cons, Xi_cons, en]
    omega

/-- **Merging**: everything between the item `p` and the base `y`, and `y` itself, is absorbed into
`p`, which becomes (or stays) a base. -/
theorem Xi_merge (pre : List (Nat × Bool)) (k : Nat) (p : Nat × Bool) (post : List (Nat × Bool))
    (a : Nat) : ∀ (mid : List (Nat × Bool)) (y : Nat), (∀ q ∈ p :: mid, q.2 = true → D) →
    XiOk k (pre ++ p :: (mid ++ (y, false) :: post)) a →
    XiOk k (pre ++ (p.1, false) :: post) a ∧
      Xi T k (pre ++ (p.1, false) :: post) a + p.1 ≤
        y + Xi T k (pre ++ p :: (mid ++ (y, false) :: post)) a := by
  intro mid
  induction mid using List.reverseRecOn with
  | nil =>
    intro y hD h
    exact Xi_absorb hT pre k p y post a (hD p (List.mem_cons_self ..)) h
  | append_singleton mid' t ih =>
    intro y hD h
    have e : pre ++ p :: (mid' ++ [t] ++ (y, false) :: post) =
        (pre ++ p :: mid') ++ t :: (y, false) :: post := by simp
    rw [e] at h ⊢
    obtain ⟨a1, a2⟩ := Xi_absorb hT (pre ++ p :: mid') k t y post a
      (hD t (List.mem_cons_of_mem _ (List.mem_append_right _ (List.mem_singleton_self t)))) h
    have e' : (pre ++ p :: mid') ++ (t.1, false) :: post =
        pre ++ p :: (mid' ++ (t.1, false) :: post) := by simp
    rw [e'] at a1 a2
    obtain ⟨b1, b2⟩ := ih t.1 (fun q hq => hD q
      ((List.mem_cons.1 hq).elim (fun e => e ▸ List.mem_cons_self ..)
        (fun hq => List.mem_cons_of_mem _ (List.mem_append_left _ hq)))) a1
    exact ⟨b1, by omega⟩

/-- a dependency item is replaced by a base that redoes the step -/
theorem Xi_tobase : ∀ (pre : List (Nat × Bool)) (k : Nat) (p : Nat × Bool)
    (post : List (Nat × Bool)) (a : Nat),
    XiOk k (pre ++ p :: post) a →
    XiOk k (pre ++ (p.1, false) :: post) a ∧
      Xi T k (pre ++ (p.1, false) :: post) a ≤
        Xi T k (pre ++ p :: post) a + (if p.2 = true then 1 else 0) := by
  intro pre
  induction pre with
  | nil =>
    intro k p post a h
    simp only [List.nil_append] at h ⊢
    obtain ⟨h1, h2, h3, h4⟩ := h
    refine ⟨⟨h1, ?_, (fun h => by cases h), h4⟩, ?_⟩
    · rcases h2 with h2 | ⟨_, h2, h2'⟩
      · exact Or.inl h2
      · exact Or.inr ⟨rfl, h2, h2'⟩
    · rw [Xi_cons, Xi_cons]
      unfold price
      simp only [Bool.false_eq_true, if_false]
      by_cases hd : p.2 = true
      · rw [if_pos hd, if_pos hd, h3 hd, Nat.add_sub_cancel_left, hT.one]
        omega
      · rw [if_neg hd, if_neg hd]
        omega
  | cons q pre' ih =>
    intro k p post a h
    simp only [List.cons_append] at h ⊢
    obtain ⟨h1, h2, h3, h4⟩ := h
    have en : nxt (pre' ++ p :: post) a = nxt (pre' ++ (p.1, false) :: post) a :=
      nxt_append_cons _ _ _ _ _ _ _ rfl
    obtain ⟨i1, i2⟩ := ih (k - 1) p post a h4
    refine ⟨⟨by rw [← en]; exact h1, ?_, by rw [← en]; exact h3, i1⟩, ?_⟩
    · rcases h2 with h2 | ⟨_, h2, _⟩
      · exact Or.inl h2
      · cases pre' <;> cases h2
    · rw [Xi_cons, Xi_cons, en]
      omega

/-- one more single-step item on top -/
theorem Xi_snoc : ∀ (B : List (Nat × Bool)) (k a : Nat) (d : Bool), XiOk k B a →
    B.length + (if d = true then 1 else 0) ≤ k →
    XiOk k (B ++ [(a, d)]) (a + 1) ∧
      Xi T k (B ++ [(a, d)]) (a + 1) = Xi T k B a + (if d = true then 0 else 1) := by
  intro B
  induction B with
  | nil =>
    intro k a d _ hlen
    simp only [List.nil_append]
    refine ⟨⟨by show a < a + 1; omega, ?_, fun _ => rfl, trivial⟩, ?_⟩
    · cases d
      · exact Or.inr ⟨rfl, rfl, rfl⟩
      · simp only [if_true, List.length_nil] at hlen
        exact Or.inl (by omega)
    · rw [Xi_cons]
      show price T d (a + 1 - a) k + 0 = 0 + _
      rw [Nat.add_sub_cancel_left]
      unfold price
      cases d
      · simp only [Bool.false_eq_true, if_false, hT.one]
      · simp only [if_true]
  | cons b rest ih =>
    intro k a d h hlen
    obtain ⟨h1, h2, h3, h4⟩ := h
    simp only [List.length_cons] at hlen
    have en : nxt (rest ++ [(a, d)]) (a + 1) = nxt rest a := nxt_snoc rest (a, d) (a + 1)
    obtain ⟨i1, i2⟩ := ih (k - 1) a d h4 (by omega)
    simp only [List.cons_append]
    refine ⟨⟨by rw [en]; exact h1, Or.inl (by omega), by rw [en]; exact h3, i1⟩, ?_⟩
    rw [Xi_cons, Xi_cons, en, i2]
    omega


/-- **Merging**: the items from `p` up to the base `y` are replaced by one base at the position of `p`,
served by the resource at `e'`. -/
theorem plan_merge (s a : Nat) (A : List It) (p : It) (Mid : List It) (y : It) (B : List It)
    (e' : Nat) (hy : y.d = false) (he : e' ≤ p.b) (hfresh : (e', false) ∉ (A ++ B).map It.res)
    (hD : ∀ t ∈ p :: Mid, t.d = true → D) (h : PlanShape s a (A ++ p :: (Mid ++ y :: B))) :
    PlanShape s a (A ++ ⟨e', p.b, false⟩ :: B) ∧
      planVal T s a (A ++ ⟨e', p.b, false⟩ :: B) + (p.b - p.e) + (y.b - y.e) + p.b ≤
        planVal T s a (A ++ p :: (Mid ++ y :: B)) + y.b + (p.b - e') := by
  have e1 : (A ++ p :: (Mid ++ y :: B)).map It.shape =
      A.map It.shape ++ (p.b, p.d) :: (Mid.map It.shape ++ (y.b, false) :: B.map It.shape) := by
    simp [It.shape, hy]
  have e2 : (A ++ (⟨e', p.b, false⟩ : It) :: B).map It.shape =
      A.map It.shape ++ (p.b, false) :: B.map It.shape := by
    simp [It.shape]
  have hok := h.ok
  rw [e1] at hok
  obtain ⟨hok', hxi⟩ := Xi_merge hT (A.map It.shape) s (p.b, p.d) (B.map It.shape) a
    (Mid.map It.shape) y.b (fun q hq hq2 => by
      rcases List.mem_cons.1 hq with rfl | hq
      · exact hD p (List.mem_cons_self ..) hq2
      · obtain ⟨t, ht, rfl⟩ := List.mem_map.1 hq
        exact hD t (List.mem_cons_of_mem _ ht) hq2) hok
  have hxi' : Xi T s (A.map It.shape ++ (p.b, false) :: B.map It.shape) a + p.b ≤
      y.b + Xi T s (A.map It.shape ++ (p.b, p.d) ::
        (Mid.map It.shape ++ (y.b, false) :: B.map It.shape)) a := hxi
  refine ⟨⟨by rw [e2]; exact hok', ?_, ?_, ?_⟩, ?_⟩
  · have := h.head
    rw [e1] at this
    rw [e2, ← this]
    exact nxt_append_cons _ _ _ _ _ _ _ rfl
  · intro t ht
    simp only [List.mem_append, List.mem_cons] at ht
    rcases ht with ht | rfl | ht
    · exact h.le t (by simp [ht])
    · exact ⟨he, fun h => by cases h⟩
    · exact h.le t (by simp [ht])
  · have hsub : ((A ++ B).map It.res).Sublist ((A ++ p :: (Mid ++ y :: B)).map It.res) := by
      apply List.Sublist.map
      apply List.Sublist.append (List.Sublist.refl _)
      exact ((List.sublist_cons_self y B).trans (List.sublist_append_right Mid _)).trans
        (List.sublist_cons_self p _)
    have hnd := h.nodup.sublist hsub
    simp only [List.map_append, List.map_cons] at hnd hfresh ⊢
    rw [List.nodup_middle, List.nodup_cons]
    exact ⟨hfresh, hnd⟩
  · unfold planVal
    rw [e1, e2, fee_append, fee_append, fee_cons, fee_cons, fee_append, fee_cons]
    show fee A + (p.b - e' + fee B) + _ + _ + _ + _ ≤ _
    omega

/-- **Replacing** an item by a base at the same position, served by the resource at `e'` -/
theorem plan_replace (s a : Nat) (A : List It) (t : It) (B : List It) (e' : Nat)
    (he : e' ≤ t.b) (hfresh : (e', false) ∉ (A ++ B).map It.res)
    (h : PlanShape s a (A ++ t :: B)) :
    PlanShape s a (A ++ ⟨e', t.b, false⟩ :: B) ∧
      planVal T s a (A ++ ⟨e', t.b, false⟩ :: B) + (t.b - t.e) ≤
        planVal T s a (A ++ t :: B) + (t.b - e') + (if t.d = true then 1 else 0) := by
  have e1 : (A ++ t :: B).map It.shape = A.map It.shape ++ (t.b, t.d) :: B.map It.shape := by
    simp [It.shape]
  have e2 : (A ++ (⟨e', t.b, false⟩ : It) :: B).map It.shape =
      A.map It.shape ++ (t.b, false) :: B.map It.shape := by
    simp [It.shape]
  have hok := h.ok
  rw [e1] at hok
  obtain ⟨hok', hxi⟩ := Xi_tobase hT (A.map It.shape) s (t.b, t.d) (B.map It.shape) a hok
  have hxi' : Xi T s (A.map It.shape ++ (t.b, false) :: B.map It.shape) a ≤
      Xi T s (A.map It.shape ++ (t.b, t.d) :: B.map It.shape) a + (if t.d = true then 1 else 0) := hxi
  refine ⟨⟨by rw [e2]; exact hok', ?_, ?_, ?_⟩, ?_⟩
  · have := h.head
    rw [e1] at this
    rw [e2, ← this]
    exact nxt_append_cons _ _ _ _ _ _ _ rfl
  · intro z hz
    simp only [List.mem_append, List.mem_cons] at hz
    rcases hz with hz | rfl | hz
    · exact h.le z (by simp [hz])
    · exact ⟨he, fun h => by cases h⟩
    · exact h.le z (by simp [hz])
  · have hnd := (nodup_remove h.nodup).2
    simp only [List.map_append, List.map_cons] at hnd hfresh ⊢
    rw [List.nodup_middle, List.nodup_cons]
    exact ⟨hfresh, hnd⟩
  · unfold planVal
    rw [e1, e2, fee_append, fee_append, fee_cons, fee_cons]
    show fee A + (t.b - e' + fee B) + _ + _ ≤ _
    omega

/-! ## how the cheapest plan can change -/

omit hT in
/-- nothing left to reverse -/
theorem reach_final (s : Nat) (R : List (Nat × Bool)) : Reach T s R 0 0 := by
  have hs : PlanShape s 0 [] :=
    { ok := trivial
      head := rfl
      le := fun p hp => absurd hp List.not_mem_nil
      nodup := List.nodup_nil }
  exact ⟨[], ⟨hs, fun p hp => absurd hp List.not_mem_nil⟩, Nat.le_refl _⟩

omit hT in
/-- fewer resources: plans stay plans -/
theorem reach_sub {s : Nat} {R R' : List (Nat × Bool)} {a n : Nat} (hR : ∀ r ∈ R', r ∈ R)
    (h : Reach T s R' a n) : Reach T s R a n := by
  obtain ⟨P, ⟨hs, hsrc⟩, hv⟩ := h
  exact ⟨P, ⟨hs, fun p hp => hR _ (hsrc p hp)⟩, hv⟩

omit hT in
/-- at the very beginning only the state `0` is available: the plan is one base with all `s` units -/
theorem reach_init {s N n : Nat} (hN : 1 ≤ N) (h : Reach T s [(0, false)] N n) : T N s ≤ n := by
  obtain ⟨P, ⟨hs, hsrc⟩, hv⟩ := h
  cases P with
  | nil =>
    have := hs.head
    simp only [List.map_nil] at this
    have : N = 0 := this
    omega
  | cons q rest =>
    have hq := hsrc q (List.mem_cons_self ..)
    rw [List.mem_singleton] at hq
    have hrest : rest = [] := by
      cases rest with
      | nil => rfl
      | cons q' rest' =>
        exfalso
        have hq' := hsrc q' (by simp)
        rw [List.mem_singleton] at hq'
        have := hs.nodup
        simp only [List.map_cons, List.nodup_cons, List.mem_cons, not_or] at this
        exact this.1.1 (by rw [hq, hq'])
    subst hrest
    have hb : q.b = 0 := hs.head
    have he : q.e = 0 := by have := congrArg Prod.fst hq; exact this
    have hd : q.d = false := by have := congrArg Prod.snd hq; exact this
    have : planVal T s N [q] = T N s := by
      show (q.b - q.e + 0) + (price T q.d (N - q.b) s + 0) = T N s
      rw [hb, he, hd]
      simp [price]
    omega

/-- **A forward** from an available state `f` to `f'` (whether or not a restart checkpoint is written
at `f`): afterwards the resources `R ∪ {f'}` (at most) are available. -/
theorem reach_fwd {s : Nat} {R R' : List (Nat × Bool)} {a n f f' : Nat} (hf : (f, false) ∈ R)
    (hlt : f < f') (hR : ∀ r ∈ R', r = (f', false) ∨ r ∈ R) (hRD : ∀ r ∈ R', r.2 = true → D)
    (h : Reach T s R' a n) : Reach T s R a (n + (f' - f)) := by
  obtain ⟨P, ⟨hs, hsrc⟩, hv⟩ := h
  by_cases hu : (f', false) ∈ P.map It.res
  · obtain ⟨q, hq, hqr⟩ := List.mem_map.mp hu
    have hqe : q.e = f' := congrArg Prod.fst hqr
    have hqd : q.d = false := congrArg Prod.snd hqr
    have hqb := (hs.le q hq).1
    by_cases hfu : (f, false) ∈ P.map It.res
    · obtain ⟨z, hz, hzr⟩ := List.mem_map.mp hfu
      have hze : z.e = f := congrArg Prod.fst hzr
      have hzd : z.d = false := congrArg Prod.snd hzr
      have hzb := (hs.le z hz).1
      have hne : z ≠ q := fun h => by rw [h, hqe] at hze; omega
      -- the other items use neither `f` nor `f'`
      have hrest : ∀ {A Mid B : List It} {p y : It}, ((A ++ p :: (Mid ++ y :: B)).map It.res).Nodup →
          (∀ t ∈ A ++ p :: (Mid ++ y :: B), t.res ∈ R') → (p = z ∧ y = q ∨ p = q ∧ y = z) →
          (f, false) ∉ (A ++ B).map It.res ∧ ∀ w ∈ A ++ (⟨f, p.b, false⟩ : It) :: B, w.res ∈ R := by
        intro A Mid B p y hnd hsrc hpy
        have hne' : ∀ w ∈ A ++ B, w.res ∈ R' ∧ w.res ≠ (f, false) ∧ w.res ≠ (f', false) := by
          intro w hw
          obtain ⟨h0, h1, h2⟩ := nodup_remove_two hnd w hw
          rcases hpy with ⟨rfl, rfl⟩ | ⟨rfl, rfl⟩
          · exact ⟨hsrc w h0, hzr ▸ h1, hqr ▸ h2⟩
          · exact ⟨hsrc w h0, hzr ▸ h2, hqr ▸ h1⟩
        refine ⟨fun hmem => ?_, fun w hw => ?_⟩
        · obtain ⟨w, hw, hwr⟩ := List.mem_map.mp hmem
          exact (hne' w hw).2.1 hwr
        · rcases mem_insert.mp hw with rfl | hw
          · exact hf
          · exact (hR _ (hne' w hw).1).resolve_left (hne' w hw).2.2
      obtain ⟨A, Mid, B, rfl | rfl⟩ := split_two hz hq hne
      · -- `f` is used below: merge the base of `f'` into it
        obtain ⟨hfresh, hsrc'⟩ := hrest hs.nodup hsrc (Or.inl ⟨rfl, rfl⟩)
        obtain ⟨hs', hv'⟩ := plan_merge hT s a A z Mid q B f hqd (by omega) hfresh
          (fun t ht h => hRD _ (hsrc t (List.mem_append_right _ ((List.mem_cons.1 ht).elim
          (fun e => e ▸ List.mem_cons_self ..)
          (fun ht => List.mem_cons_of_mem _ (List.mem_append_left _ ht))))) h) hs
        exact ⟨_, ⟨hs', hsrc'⟩, by omega⟩
      · -- `f` is used above: merge that base into the base of `f'`, served from `f`
        obtain ⟨hfresh, hsrc'⟩ := hrest hs.nodup hsrc (Or.inr ⟨rfl, rfl⟩)
        obtain ⟨hs', hv'⟩ := plan_merge hT s a A q Mid z B f hzd (by omega) hfresh
          (fun t ht h => hRD _ (hsrc t (List.mem_append_right _ ((List.mem_cons.1 ht).elim
          (fun e => e ▸ List.mem_cons_self ..)
          (fun ht => List.mem_cons_of_mem _ (List.mem_append_left _ ht))))) h) hs
        exact ⟨_, ⟨hs', hsrc'⟩, by omega⟩
    · -- `f` is not used: serve the base of `f'` from `f`
      obtain ⟨A, B, rfl⟩ := List.append_of_mem hq
      have hfresh : (f, false) ∉ (A ++ B).map It.res := fun hmem => by
        obtain ⟨w, hw, hwr⟩ := List.mem_map.mp hmem
        exact hfu (List.mem_map.mpr ⟨w, mem_insert.mpr (Or.inr hw), hwr⟩)
      obtain ⟨hs', hv'⟩ := plan_replace hT s a A q B f (by omega) hfresh hs
      rw [hqd] at hv'
      simp only [Bool.false_eq_true, if_false] at hv'
      refine ⟨_, ⟨hs', fun w hw => ?_⟩, by omega⟩
      rcases mem_insert.mp hw with rfl | hw
      · exact hf
      · exact (hR _ (hsrc w (mem_insert.mpr (Or.inr hw)))).resolve_left
          (fun h => (nodup_remove hs.nodup).1 w hw (h.trans hqr.symm))
  · refine ⟨P, ⟨hs, ?_⟩, by omega⟩
    intro p hp
    rcases hR _ (hsrc p hp) with h | h
    · exact absurd (by rw [← h]; exact List.mem_map.mpr ⟨p, hp, rfl⟩) hu
    · exact h

/-- **A forward over one step that stores its adjoint dependency data** in a unit: afterwards the
resources `R ∪ {state f+1, data of step f}` (at most) are available, and no state at `f`. -/
theorem reach_fwd_dep {s : Nat} {R R' : List (Nat × Bool)} {a n f : Nat} (hf : (f, false) ∈ R)
    (hR : ∀ r ∈ R', r = (f + 1, false) ∨ r = (f, true) ∨ r ∈ R) (hnf : (f, false) ∉ R')
    (hRD : ∀ r ∈ R', r.2 = true → D) (h : Reach T s R' a n) : Reach T s R a (n + 1) := by
  obtain ⟨P, ⟨hs, hsrc⟩, hv⟩ := h
  have hfresh : ∀ L : List It, (∀ z ∈ L, z ∈ P) → (f, false) ∉ L.map It.res := by
    intro L hL hmem
    obtain ⟨w, hw, hwr⟩ := List.mem_map.mp hmem
    exact hnf (hwr ▸ hsrc w (hL w hw))
  by_cases hd : (f, true) ∈ P.map It.res
  · obtain ⟨t, ht, htr⟩ := List.mem_map.mp hd
    have hte : t.e = f := congrArg Prod.fst htr
    have htd : t.d = true := congrArg Prod.snd htr
    have htb : t.b = f := by rw [← (hs.le t ht).2 htd, hte]
    by_cases hq : (f + 1, false) ∈ P.map It.res
    · obtain ⟨q, hq, hqr⟩ := List.mem_map.mp hq
      have hqe : q.e = f + 1 := congrArg Prod.fst hqr
      have hqd : q.d = false := congrArg Prod.snd hqr
      have hqb := (hs.le q hq).1
      have hne : t ≠ q := fun h => by rw [h, hqd] at htd; cases htd
      obtain ⟨A, Mid, B, rfl | rfl⟩ := split_two ht hq hne
      · -- the data of step `f` and the state `f+1` are both used: one base at `f` instead
        obtain ⟨hs', hv'⟩ := plan_merge hT s a A t Mid q B f hqd (by omega)
          (hfresh _ (fun z hz => (nodup_remove_two hs.nodup z hz).1))
          (fun t ht h => hRD _ (hsrc t (List.mem_append_right _ ((List.mem_cons.1 ht).elim
          (fun e => e ▸ List.mem_cons_self ..)
          (fun ht => List.mem_cons_of_mem _ (List.mem_append_left _ ht))))) h) hs
        refine ⟨_, ⟨hs', fun w hw => ?_⟩, by omega⟩
        rcases mem_insert.mp hw with rfl | hw
        · exact hf
        · obtain ⟨h0, h1, h2⟩ := nodup_remove_two hs.nodup w hw
          rcases hR _ (hsrc w h0) with h | h | h
          · exact absurd (h.trans hqr.symm) h2
          · exact absurd (h.trans htr.symm) h1
          · exact h
      · -- the base served from `f+1` cannot stand below the step `f`
        exfalso
        have := (plan_order hs).2 t (List.mem_append_right _ (List.mem_cons_self ..))
        omega
    · -- only the data of step `f` are used: redo the step
      obtain ⟨A, B, rfl⟩ := List.append_of_mem ht
      have hin : ∀ w ∈ A ++ B, w ∈ A ++ t :: B := fun w hw => mem_insert.mpr (Or.inr hw)
      obtain ⟨hs', hv'⟩ := plan_replace hT s a A t B f (by omega) (hfresh _ hin) hs
      rw [htd] at hv'
      simp only [if_true] at hv'
      refine ⟨_, ⟨hs', fun w hw => ?_⟩, by omega⟩
      rcases mem_insert.mp hw with rfl | hw
      · exact hf
      · rcases hR _ (hsrc w (hin w hw)) with h | h | h
        · exact absurd (List.mem_map.mpr ⟨w, hin w hw, h⟩) hq
        · exact absurd (h.trans htr.symm) ((nodup_remove hs.nodup).1 w hw)
        · exact h
  · -- the data of step `f` are not used: an ordinary forward
    have h1 : Reach T s (P.map It.res) a n :=
      ⟨P, ⟨hs, fun t ht => List.mem_map.mpr ⟨t, ht, rfl⟩⟩, hv⟩
    have := reach_fwd hT (f' := f + 1) hf (by omega) (R' := P.map It.res) (by
      intro r hr
      obtain ⟨w, hw, rfl⟩ := List.mem_map.mp hr
      rcases hR _ (hsrc w hw) with h | h | h
      · exact Or.inl h
      · exact absurd (by rw [← h]; exact List.mem_map.mpr ⟨w, hw, rfl⟩) hd
      · exact Or.inr h)
      (fun r hr h => by
        obtain ⟨w, hw, rfl⟩ := List.mem_map.mp hr
        exact hRD _ (hsrc w hw) h) h1
    rw [Nat.add_sub_cancel_left] at this
    exact this

/-- **The top step**: with `d = false`, the state `a - 1` is available, the step `a - 1 → a` is taken
(one forward step) and reversed; with `d = true`, the stored data of that step are loaded instead.
Afterwards at most the resources `C` (held in units) are available below `a - 1`. -/
theorem reach_top {s : Nat} {R R' C : List (Nat × Bool)} {a n : Nat} (d : Bool) (ha : 1 ≤ a)
    (hmem : (a - 1, d) ∈ R) (hC : C.length + (if d = true then 1 else 0) ≤ s)
    (h1 : ∀ r ∈ R', r.1 < a - 1 → r ∈ C) (h2 : ∀ r ∈ C, r ∈ R)
    (h : Reach T s R' (a - 1) n) : Reach T s R a (n + (if d = true then 0 else 1)) := by
  obtain ⟨P, ⟨hs, hsrc⟩, hv⟩ := h
  have hb := plan_bounds hs
  have hinC : ∀ p ∈ P, p.res ∈ C := fun p hp => h1 _ (hsrc p hp) (by
    have := hb p hp; show p.e < a - 1; omega)
  have hlen : P.length ≤ C.length := by
    have hsub : P.map It.res ⊆ C := by
      intro e he
      obtain ⟨p, hp, rfl⟩ := List.mem_map.mp he
      exact hinC p hp
    have := (hs.nodup.subperm hsub).length_le
    rw [List.length_map] at this
    exact this
  have hsn := Xi_snoc hT (P.map It.shape) s (a - 1) d hs.ok (by rw [List.length_map]; omega)
  have ea : a - 1 + 1 = a := by omega
  rw [ea] at hsn
  have emap : (P ++ [(⟨a - 1, a - 1, d⟩ : It)]).map It.shape = P.map It.shape ++ [(a - 1, d)] := by
    simp [It.shape]
  refine ⟨P ++ [⟨a - 1, a - 1, d⟩], ⟨⟨by rw [emap]; exact hsn.1, ?_, ?_, ?_⟩, ?_⟩, ?_⟩
  · rw [emap, nxt_snoc]
    exact hs.head
  · intro p hp
    rcases List.mem_append.mp hp with hp | hp
    · exact hs.le p hp
    · rw [List.mem_singleton] at hp; subst hp; exact ⟨Nat.le_refl _, fun _ => rfl⟩
  · rw [List.map_append, List.nodup_append]
    refine ⟨hs.nodup, by simp, ?_⟩
    intro x hx y hy
    obtain ⟨p, hp, rfl⟩ := List.mem_map.mp hx
    simp only [List.map_cons, List.map_nil, List.mem_singleton] at hy
    have := hb p hp
    intro hxy
    have : p.e = a - 1 := by rw [hy] at hxy; exact congrArg Prod.fst hxy
    omega
  · intro p hp
    rcases List.mem_append.mp hp with hp | hp
    · exact h2 _ (hinC p hp)
    · rw [List.mem_singleton] at hp; subst hp; exact hmem
  · unfold planVal at hv ⊢
    rw [emap, hsn.2, fee_append]
    have : fee [(⟨a - 1, a - 1, d⟩ : It)] = 0 := by simp [fee]
    omega


end Ckpt.Plans
