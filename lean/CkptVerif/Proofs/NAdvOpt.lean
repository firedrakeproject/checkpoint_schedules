import CkptVerif.Proofs.NAdv
import CkptVerif.Proofs.GW
/-!
# `n_advance` lands in the optimal region

For both trajectories (`maximum`, `revolve`) the step returned by `n_advance(m, k)` attains the minimum
of the recurrence of `optimal_extra_steps` (`nAdvance_attains`).  With `s = min(k, m-1)`, `2 ≤ s ≤ m-2`
and the loop's `t` (`β(s,t-1) < m ≤ β(s,t)`), every branch returns `a` with
`β(s,t-2) ≤ a ≤ β(s,t-1)` and `β(s-1,t-1) ≤ m - a ≤ β(s-1,t)` (`nAdvance_region`), which is the equality
case `extraCell_split_eq` of `Proofs/GW.lean`.
-/
namespace Ckpt.GW
open Nat

/-- `β(s,t) = C(s+t, t)` -/
def bt (s t : Nat) : Nat := choose (s + t) t

theorem bt_pascal (s t : Nat) : bt (s + 1) (t + 1) = bt (s + 1) t + bt s (t + 1) := by
  unfold bt
  have e : s + 1 + (t + 1) = (s + 1 + t) + 1 := by omega
  have e1 : s + (t + 1) = s + 1 + t := by omega
  rw [e, Nat.choose_succ_succ', e1]

theorem bt_pos (s t : Nat) : 1 ≤ bt s t := by
  unfold bt; exact Nat.choose_pos (by omega)

theorem bt_mono (s t : Nat) : bt s t ≤ bt s (t + 1) := by
  unfold bt
  have e : s + (t + 1) = (s + t) + 1 := by omega
  rw [e, Nat.choose_succ_succ']
  omega

/-- how `n_advance` steps down to one unit less -/
theorem bt_lower (s t : Nat) : bt (s + 1) t * (s + 1) / (s + 1 + t) = bt s t :=
  choose_lower (s + 1) t (by omega)

theorem bt_eq_gwP (c t : Nat) : bt (c + 1) t = gwP c (t + 1) := choose_eq_gwP c t

/-- the arithmetic of the branches of `n_advance`: the data are the five binomials -/
structure AdvData (m b2 b1 b0 x1 x2 x3 B Y : Nat) : Prop where
  lt : b1 < m
  le : m ≤ b0
  p0 : b0 = b1 + B          -- β(s,t) = β(s,t-1) + β(s-1,t)
  p1 : b1 = b2 + x1         -- β(s,t-1) = β(s,t-2) + β(s-1,t-1)
  p2 : x1 = x3 + x2         -- β(s-1,t-1) = β(s-1,t-2) + β(s-2,t-1)
  p3 : B = x1 + Y           -- β(s-1,t) = β(s-1,t-1) + β(s-2,t)
  mono : x2 ≤ Y             -- β(s-2,t-1) ≤ β(s-2,t)
  b2pos : 1 ≤ b2
  x1pos : 1 ≤ x1
  x3pos : 1 ≤ x3
  x2pos : 1 ≤ x2

/-- being in the optimal region -/
def InRegion (m a b2 b1 x1 B : Nat) : Prop :=
  1 ≤ a ∧ a < m ∧ b2 ≤ a ∧ a ≤ b1 ∧ x1 + a ≤ m ∧ m ≤ B + a

theorem region_maximum {m b2 b1 b0 x1 x2 x3 B Y : Nat} (D : AdvData m b2 b1 b0 x1 x2 x3 B Y) :
    InRegion m
      (if m ≤ b1 + x3 then m - b1 + b2
       else if m ≤ b1 + x2 + x3 then b2 + x3
       else if m ≤ b1 + x1 + x2 then m - x1 - x2
       else b1) b2 b1 x1 B := by
  obtain ⟨h1, h2, h3, h4, h5, h6, h7, h8, h9, h10, h11⟩ := D
  -- by Pascal's rule all are sums of `b2`, `x2`, `x3`, `Y`
  subst h3 h4 h6 h5
  unfold InRegion
  split_ifs <;> omega

theorem region_revolve {m b2 b1 b0 x1 x2 x3 B Y : Nat} (D : AdvData m b2 b1 b0 x1 x2 x3 B Y) :
    InRegion m
      (if m ≤ b1 + x2 then b2
       else if m < b1 + x1 + x2 then m - x1 - x2
       else b1) b2 b1 x1 B := by
  obtain ⟨h1, h2, h3, h4, h5, h6, h7, h8, h9, h10, h11⟩ := D
  -- by Pascal's rule all are sums of `b2`, `x2`, `x3`, `Y`
  subst h3 h4 h6 h5
  unfold InRegion
  split_ifs <;> omega

/-- The main branch of `n_advance`: for `2 ≤ s ≤ m - 2` units the result lies in the optimal region
`β(s,t-2) ≤ a ≤ β(s,t-1)`, `β(s-1,t-1) ≤ m - a ≤ β(s-1,t)` of the `t` with `β(s,t-1) < m ≤ β(s,t)`;
here `s = c + 2`, `t = u + 2`. -/
theorem nAdvance_region (m c : Nat) (traj : Traj) (hcm : c + 4 ≤ m) :
    ∃ a u, nAdvance m (c + 2) traj = some a ∧ bt (c + 2) (u + 1) < m ∧ m ≤ bt (c + 2) (u + 2) ∧
      InRegion m a (bt (c + 2) u) (bt (c + 2) (u + 1)) (bt (c + 1) (u + 1)) (bt (c + 1) (u + 2)) := by
  obtain ⟨t, b2, b1, b0, hl, inv, hle⟩ :=
    advLoop_spec (m + 1) m (c + 2) 2 1 (c + 2 + 1) _ (by omega) (.init m (c + 2) (by omega))
      (by omega)
  rw [nAdvance_loop m (c + 2) traj (by omega) (by omega), hl]
  obtain ⟨u, rfl⟩ : ∃ u, t = u + 2 := ⟨t - 2, by have := inv.t2; omega⟩
  have e0 : b0 = bt (c + 2) (u + 2) := inv.e0
  have e1 : b1 = bt (c + 2) (u + 1) := by
    have := inv.e1
    have e : u + 2 - 1 = u + 1 := by omega
    rw [e] at this; exact this
  have e2 : b2 = bt (c + 2) u := by
    have := inv.e2
    have e : u + 2 - 2 = u := by omega
    rw [e] at this; exact this
  have hlt := inv.lt
  -- the three derived binomials
  have hx1 : (b1 * (c + 2)) / (c + 2 + (u + 2) - 1) = bt (c + 1) (u + 1) := by
    rw [e1]; exact bt_lower (c + 1) (u + 1)
  have hx3 : (b2 * (c + 2)) / (c + 2 + (u + 2) - 2) = bt (c + 1) u := by
    rw [e2]; exact bt_lower (c + 1) u
  have hx2 : (bt (c + 1) (u + 1) * (c + 2 - 1)) / (c + 2 + (u + 2) - 2) = bt c (u + 1) := by
    have e : c + 2 + (u + 2) - 2 = c + 1 + (u + 1) := by omega
    rw [e]; exact bt_lower c (u + 1)
  have D : AdvData m b2 b1 b0 (bt (c + 1) (u + 1)) (bt c (u + 1)) (bt (c + 1) u)
      (bt (c + 1) (u + 2)) (bt c (u + 2)) := by
    refine ⟨hlt, hle, ?_, ?_, ?_, ?_, bt_mono _ _, ?_, bt_pos _ _, bt_pos _ _, bt_pos _ _⟩
    · rw [e0, e1]; exact bt_pascal (c + 1) (u + 1)
    · rw [e1, e2]; exact bt_pascal (c + 1) u
    · exact bt_pascal c u
    · have := bt_pascal c (u + 1); omega
    · rw [e2]; exact bt_pos _ _
  refine ⟨_, u, rfl, e1 ▸ hlt, e0 ▸ hle, ?_⟩
  show InRegion m (advPick traj m (c + 2) (u + 2) b2 b1) _ _ _ _
  unfold advPick
  dsimp only
  rw [hx1, hx3, hx2]
  subst e0 e1 e2
  cases traj
  · exact region_maximum D
  · exact region_revolve D

/-- **`n_advance` attains the minimum of the recurrence**, for both trajectories. -/
theorem nAdvance_attains (m k : Nat) (traj : Traj) (hm : 2 ≤ m) (hk : 1 ≤ k) :
    ∃ a, nAdvance m k traj = some a ∧ 1 ≤ a ∧ a ≤ m - 1 ∧
      a + extraCell a (clampS a k) + extraCell (m - a) (clampS (m - a) (k - 1)) =
        extraCell m (clampS m k) := by
  rcases (by omega : (m = 2 ∨ k = 1) ∨ (3 ≤ m ∧ 2 ≤ k ∧ m - 1 ≤ k) ∨ (2 ≤ k ∧ k + 2 ≤ m)) with
    c1 | ⟨h3, hk2, hc⟩ | ⟨hk2, hkm⟩
  · -- one unit (or two steps): advance `m - 1`
    have hn := nAdvance_clamp_one m k traj (by omega) hk (by omega)
    refine ⟨m - 1, hn, by omega, le_refl _, ?_⟩
    have e1 : m - (m - 1) = 1 := by omega
    have ec : clampS m k = 1 := by unfold clampS; omega
    rw [e1, extraCell_le_one 1 _ (le_refl _), ec, extraCell_s1 m hm]
    by_cases hm2 : m = 2
    · subst hm2
      rw [extraCell_le_one (2 - 1) _ (by omega)]
    · obtain rfl : k = 1 := by omega
      have ec' : clampS (m - 1) 1 = 1 := clampS_one (by omega)
      rw [ec', extraCell_s1 (m - 1) (by omega)]
      have := tri_succ (m - 1)
      rw [show m - 1 + 1 = m by omega] at this
      omega
  · -- maximal storage: advance one step
    refine ⟨1, nAdvance_full m k traj h3 hc, le_refl _, by omega, ?_⟩
    obtain ⟨c, rfl⟩ : ∃ c, k = c + 2 := ⟨k - 2, by omega⟩
    exact extraCell_split_eq c 0 m 1 (le_refl _) (by omega)
      (by rw [gwP_zero]; omega) (by rw [gwP_one])
      (by rw [gwP_one]; omega) (by rw [gwP_two]; omega)
  · -- the main branch: `2 ≤ k ≤ m - 2`
    obtain ⟨c, rfl⟩ : ∃ c, k = c + 2 := ⟨k - 2, by omega⟩
    obtain ⟨a, u, hn, _, _, h1, h2, hi1, hi2, hr1, hr2⟩ := nAdvance_region m c traj (by omega)
    refine ⟨a, hn, h1, by omega, ?_⟩
    rw [bt_eq_gwP] at hi1 hi2 hr1 hr2
    exact extraCell_split_eq c (u + 1) m a h1 h2 hi1 hi2
      (Nat.le_sub_of_add_le hr1) (Nat.sub_le_iff_le_add.2 hr2)

/-- `n_advance(10, 3)`: both trajectories, the split attains `E(10,3) = 15`. -/
example : ∃ a, nAdvance 10 3 .maximum = some a ∧ 1 ≤ a ∧ a ≤ 9 ∧
    a + extraCell a (clampS a 3) + extraCell (10 - a) (clampS (10 - a) 2) = extraCell 10 (clampS 10 3) :=
  nAdvance_attains 10 3 .maximum (by decide) (by decide)

example : nAdvance 10 3 .maximum = some 4 ∧ nAdvance 10 3 .revolve = some 4 ∧
    nAdvance 25 3 .maximum = some 15 ∧ nAdvance 25 3 .revolve = some 11 := by decide

example : 11 + extraCell 11 3 + extraCell 14 2 = extraCell 25 3 := by
  obtain ⟨a, h, _, _, e⟩ := nAdvance_attains 25 3 .revolve (by decide) (by decide)
  have ha : nAdvance 25 3 .revolve = some 11 := by decide
  rw [ha] at h
  have := Option.some.inj h
  subst this
  exact e

end Ckpt.GW
