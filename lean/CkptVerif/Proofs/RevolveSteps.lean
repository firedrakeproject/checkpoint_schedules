import CkptVerif.Proofs.RevolveCost
import CkptVerif.Proofs.StepCount
import CkptVerif.Proofs.MultistageSteps
import CkptVerif.Proofs.PeriodicOps
import CkptVerif.Proofs.RevolveOk
/-!
# Revolve advances the forward over exactly the Griewank–Walther optimum number of steps (C05)

* `extra_rec_le`, `extra_rec_attained`: the recurrence of `E = optimal_extra_steps`, with the range of
  splits of the cost table;
* `opt0_eq_extra`: the memory-only cost table is the step count,
  `opt0[m][l] = (l+1)·ub + uf · E(l+1, min(m, l))`; `opt0_split` is the step of its induction;
* `revolveSplit_attains`: for `uf > 0` the split chosen by Revolve attains the minimum of the
  recurrence of `E`;
* `revSeg_fwdSteps`, `revolve_fwdSteps`, `periodic_segments_fwdSteps`.
-/
namespace Ckpt.RC
open Ckpt Ckpt.GW

theorem gwT_succ_ge (k : Nat) (hk : 1 ≤ k) : ∀ a, 1 ≤ a → gwT a k + 1 ≤ gwT (a + 1) k := by
  induction k, hk using Nat.le_induction with
  | base =>
    intro a ha
    rcases Nat.eq_or_lt_of_le ha with rfl | h2
    · rw [gwT_one, gwT_two 1 (le_refl _)]
      exact Nat.le_succ 2
    · rw [gwT_k1 a h2, gwT_k1 (a + 1) (Nat.le_succ_of_le h2), Nat.add_sub_cancel, GW.tri_succ a,
        Nat.add_right_comm a _ 1]
      exact Nat.add_le_add_left (Nat.le_add_right _ a) (a + 1)
  | succ k hk ihk =>
    have hk2 : 2 ≤ k + 1 := Nat.succ_le_succ hk
    intro a
    induction a using Nat.strong_induction_on with
    | _ a iha =>
      intro ha
      rcases Nat.eq_or_lt_of_le ha with rfl | h2
      · rw [gwT_one, gwT_two (k + 1) (Nat.le_of_succ_le hk2)]
        exact Nat.le_succ 2
      · obtain ⟨i, hi1, hi2, he⟩ := gwT_rec_attained (a + 1) (k + 1) (Nat.le_succ_of_le h2) hk2
        rw [Nat.add_sub_cancel] at he
        -- write `i = c + 1`; the split `c + 1` of `a + 1` is compared with the split `c` of `a`,
        -- or, where `c = 0`, the split 1 of `a + 1` with the split 1 of `a`
        obtain ⟨c, rfl⟩ := Nat.exists_eq_add_of_le' hi1
        rw [Nat.add_sub_add_right] at he
        rcases Nat.eq_zero_or_pos c with rfl | hc
        · rw [Nat.zero_add, Nat.sub_zero, gwT_one] at he
          have hle := gwT_rec_le a (k + 1) 1 hk2 (le_refl _) h2
          rw [Nat.add_sub_cancel, gwT_one] at hle
          have := ihk (a - 1) (Nat.le_sub_one_of_lt h2)
          rw [Nat.sub_add_cancel ha] at this
          omega
        · have hca : c < a := Nat.lt_of_succ_lt_succ hi2
          have hle := gwT_rec_le a (k + 1) c hk2 hc hca
          rw [Nat.add_sub_cancel] at hle
          have := iha c hca hc
          omega
theorem extra_mono (k n : Nat) (hk : 1 ≤ k) (hn : 1 ≤ n) :
    extraCell n (clampS n k) ≤ extraCell (n + 1) (clampS (n + 1) k) := by
  have := gwT_succ_ge k hk n hn
  unfold gwT at this
  omega

/-- the total of a split in terms of `E` -/
theorem gwT_split_extra (n k i : Nat) (h : i ≤ n) :
    i + gwT i k + gwT (n - i) (k - 1) =
      n + (i + extraCell i (clampS i k) + extraCell (n - i) (clampS (n - i) (k - 1))) := by
  unfold gwT
  omega

/-- the recurrence of `E` in clamped form: every split is an upper bound -/
theorem extra_rec_le (m n i : Nat) (hm : 2 ≤ m) (h1 : 1 ≤ i) (h2 : i < n) :
    extraCell n (clampS n m) ≤
      i + extraCell i (clampS i m) + extraCell (n - i) (clampS (n - i) (m - 1)) := by
  have := gwT_rec_le n m i hm h1 h2
  rw [gwT_split_extra n m i (Nat.le_of_lt h2)] at this
  exact Nat.le_of_add_le_add_left this

/-- of `p + 2` steps, splitting off `p` is no worse than splitting off `p + 1` -/
theorem extra_split_last (m p : Nat) (hm : 2 ≤ m) (hp : 1 ≤ p) :
    p + extraCell p (clampS p m) + extraCell 2 (clampS 2 (m - 1)) ≤
      (p + 1) + extraCell (p + 1) (clampS (p + 1) m) + extraCell 1 (clampS 1 (m - 1)) := by
  have hc : clampS 2 (m - 1) = 1 := clampS_of_ge (Nat.le_sub_one_of_lt hm)
  rw [hc, extraCell_s1 2 (le_refl _), extraCell_le_one 1 _ (le_refl _)]
  have := extra_mono m p (Nat.le_of_succ_le hm) hp
  omega

/-- for `n ≥ 3` the minimum is attained at some split `i ≤ n - 2` (the split `n - 1` never beats
`n - 2`): this is the range of candidates of the cost table -/
theorem extra_rec_attained (m n : Nat) (hm : 2 ≤ m) (hn : 3 ≤ n) :
    ∃ i, 1 ≤ i ∧ i ≤ n - 2 ∧ extraCell n (clampS n m) =
      i + extraCell i (clampS i m) + extraCell (n - i) (clampS (n - i) (m - 1)) := by
  obtain ⟨i, h1, h2, he⟩ := gwT_rec_attained n m (Nat.le_of_succ_le hn) hm
  rw [gwT_split_extra n m i (Nat.le_of_lt h2)] at he
  have he := Nat.add_left_cancel he
  obtain ⟨p, rfl⟩ : ∃ p, n = p + 2 := ⟨n - 2, (Nat.sub_add_cancel (Nat.le_of_succ_le hn)).symm⟩
  rw [Nat.add_sub_cancel]
  rcases Nat.lt_or_ge i (p + 1) with hi | hi
  · exact ⟨i, h1, Nat.le_of_lt_succ hi, he⟩
  · obtain rfl : i = p + 1 := Nat.le_antisymm (Nat.le_of_lt_succ h2) hi
    have hp : 1 ≤ p := Nat.le_of_add_le_add_right (show 1 + 2 ≤ p + 2 from hn)
    refine ⟨p, hp, le_refl _, le_antisymm ?_ ?_⟩
    · exact extra_rec_le m (p + 2) p hm hp (Nat.lt_add_of_pos_right Nat.two_pos)
    · rw [Nat.add_sub_cancel_left, he, Nat.add_sub_add_left]
      exact extra_split_last m p hm hp

/-- the step of the induction for `opt0_eq_extra`: where the entries with fewer steps are step
counts, so is each right-hand side of the table's recurrence (with `j = a + 1`, `l = a + 1 + r`) -/
theorem opt0_split (lmax mmax uf ub l m : Nat)
    (H : ∀ l' < l, ∀ m', l' ≤ lmax → 1 ≤ m' → m' ≤ mmax →
      opt0Get (opt0Table lmax mmax uf ub) m' l' =
        (l' + 1) * ub + uf * extraCell (l' + 1) (clampS (l' + 1) m'))
    (hl : l ≤ lmax) (hm2 : 2 ≤ m) (hm : m ≤ mmax) (j : Nat) (hj1 : 1 ≤ j) (hjl : j ≤ l) :
    j * uf + opt0Get (opt0Table lmax mmax uf ub) (m - 1) (l - j) +
        opt0Get (opt0Table lmax mmax uf ub) m (j - 1) =
      (l + 1) * ub + uf * (j + extraCell j (clampS j m) +
        extraCell (l + 1 - j) (clampS (l + 1 - j) (m - 1))) := by
  obtain ⟨a, rfl⟩ := Nat.exists_eq_add_of_le' hj1
  obtain ⟨r, rfl⟩ := Nat.exists_eq_add_of_le hjl
  have har : a < a + 1 + r := Nat.lt_add_right r (Nat.lt_succ_self a)
  rw [Nat.add_sub_cancel_left, Nat.add_sub_cancel, Nat.add_assoc (a + 1) r 1,
    Nat.add_sub_cancel_left,
    H r (Nat.lt_add_of_pos_left (Nat.succ_pos a)) (m - 1)
      (Nat.le_trans (Nat.le_add_left r (a + 1)) hl) (Nat.le_sub_one_of_lt hm2)
      (Nat.le_trans (Nat.sub_le m 1) hm),
    H a har m (Nat.le_trans (Nat.le_of_lt har) hl) (Nat.le_of_succ_le hm2) hm]
  ring

theorem opt0_eq_extra (lmax mmax uf ub : Nat) : ∀ (l m : Nat), l ≤ lmax → 1 ≤ m → m ≤ mmax →
    opt0Get (opt0Table lmax mmax uf ub) m l =
      (l + 1) * ub + uf * extraCell (l + 1) (clampS (l + 1) m) := by
  intro l
  induction l using Nat.strong_induction_on with
  | _ l ih =>
    intro m hl hm1 hm
    rcases Nat.lt_or_ge l 2 with hl2 | hl2
    · rcases Nat.eq_zero_or_pos l with rfl | hpos
      · rw [opt0Get_zero _ _ _ _ _ hm, extraCell_le_one 1 _ (le_refl _), Nat.mul_zero, Nat.add_zero,
          Nat.zero_add, Nat.one_mul]
      · obtain rfl : l = 1 := Nat.le_antisymm (Nat.le_of_lt_succ hl2) hpos
        have hc : clampS (1 + 1) m = 1 := clampS_of_ge hm1
        rw [opt0Get_one _ _ _ _ _ hm1 hm, hc, extraCell_s1 2 (le_refl _)]
        show uf + 2 * ub = 2 * ub + uf * 1
        rw [Nat.mul_one, Nat.add_comm]
    · have hl1 : 2 ≤ l + 1 := Nat.le_succ_of_le hl2
      rcases Nat.eq_or_lt_of_le hm1 with rfl | hm2
      · rw [opt0Get_row1 _ _ _ _ _ hm hl2 hl, clampS_one hl1, extraCell_s1 (l + 1) hl1,
          Nat.add_sub_cancel, Nat.mul_comm (l + 1) l, Nat.mul_comm _ uf]
      · -- the recurrence of the table against the recurrence of `E`
        have hR := opt0_split lmax mmax uf ub l m ih hl hm2 hm
        have hsub : l - 1 ≤ l := Nat.sub_le l 1
        obtain ⟨hle, j, hj1, hj2, heq⟩ := opt0Get_rec_index lmax mmax uf ub m l hm2 hm hl2 hl
        apply le_antisymm
        · obtain ⟨i, hi1, hi2, hie⟩ := extra_rec_attained m (l + 1) hm2 (Nat.succ_le_succ hl2)
          have := hle i hi1 hi2
          rw [hR i hi1 (Nat.le_trans hi2 hsub), ← hie] at this
          exact this
        · rw [heq, hR j hj1 (Nat.le_trans hj2 hsub)]
          apply Nat.add_le_add_left
          apply Nat.mul_le_mul_left
          exact extra_rec_le m (l + 1) j hm2 hj1 (Nat.lt_succ_of_le (Nat.le_trans hj2 hsub))

/-- in terms of the total: `opt0[m][l] + (l+1)·uf = (l+1)·ub + uf · (optimal number of forward steps)` -/
theorem opt0_eq_gwT (lmax mmax uf ub l m : Nat) (hl : l ≤ lmax) (hm1 : 1 ≤ m) (hm : m ≤ mmax) :
    opt0Get (opt0Table lmax mmax uf ub) m l + (l + 1) * uf = (l + 1) * ub + uf * gwT (l + 1) m := by
  rw [opt0_eq_extra lmax mmax uf ub l m hl hm1 hm]
  unfold gwT
  ring

/-- with one unit, splitting off all but the last step attains `E` -/
theorem extra_one_unit (p s : Nat) (hp : 1 ≤ p) :
    p + extraCell p (clampS p 1) + extraCell 1 s = extraCell (p + 1) (clampS (p + 1) 1) := by
  have hp1 : 2 ≤ p + 1 := Nat.succ_le_succ hp
  rw [extraCell_le_one 1 s (le_refl _), clampS_one hp1, extraCell_s1 (p + 1) hp1,
    Nat.add_sub_cancel, GW.tri_succ p, Nat.add_zero, Nat.add_comm]
  rcases Nat.eq_or_lt_of_le hp with rfl | hp2
  · rw [extraCell_le_one 1 _ (le_refl _)]
  · rw [clampS_one hp2, extraCell_s1 p hp2]

theorem revolveSplit_attains (lmax mmax uf ub m k : Nat) (huf : 0 < uf) (hm : 2 ≤ m)
    (hml : m - 1 ≤ lmax) (hk1 : 1 ≤ k) (hk : k ≤ mmax) :
    ∃ a, revolveSplit (opt0Table lmax mmax uf ub) uf m k = some a ∧ 1 ≤ a ∧ a ≤ m - 1 ∧
      a + extraCell a (clampS a k) + extraCell (m - a) (clampS (m - a) (k - 1)) =
        extraCell m (clampS m k) := by
  obtain ⟨l, rfl⟩ := Nat.exists_eq_add_of_le' (Nat.le_of_succ_le hm)
  obtain ⟨a, ha, _, _⟩ := revolveSplit_range (opt0Table lmax mmax uf ub) uf (l + 1) k hm hk1
  obtain ⟨_, ha1, ha2, hbell⟩ := revolveSplit_bellman lmax mmax uf ub (l + 1) k a hm hml hk ha
  refine ⟨a, ha, ha1, ha2, ?_⟩
  rw [Nat.add_sub_cancel] at ha2 hbell hml
  rcases Nat.eq_or_lt_of_le hk1 with rfl | hk2
  · -- one unit: the split is forced
    have hal := (revolveSplit_one _ uf (l + 1)).symm.trans ha
    rw [Nat.add_sub_cancel] at hal
    obtain rfl : l = a := Option.some.inj hal
    rw [Nat.add_sub_cancel_left]
    exact extra_one_unit l _ ha1
  · -- at least two units: cancel `(l + 1) * ub` and `uf` in the table recurrence
    rw [opt0_eq_extra lmax mmax uf ub l k hml hk1 hk,
      opt0_split lmax mmax uf ub l k (fun l' _ m' => opt0_eq_extra lmax mmax uf ub l' m') hml hk2 hk
        a ha1 ha2] at hbell
    exact (Nat.eq_of_mul_eq_mul_left huf (Nat.add_left_cancel hbell)).symm

/-- each memory-only Revolve segment advances the forward over exactly the optimum number of steps -/
theorem revSeg_fwdSteps (N lmax mmax cm uf ub : Nat) (huf : 0 < uf) (hcm1 : 1 ≤ cm) (hcm : cm ≤ mmax)
    (spine : Bool) (lo hi : Nat) (evs : List Ev)
    (h : revSeg N (opt0Table lmax mmax uf ub) uf cm spine lo hi = some evs)
    (hlt : lo < hi) (hl : hi - lo - 1 ≤ lmax) :
    fwdSteps evs = (hi - lo) + extraCell (hi - lo) (clampS (hi - lo) cm) :=
  -- the part of the table that is used: `m` steps need column `m - 1`, both parts of a split fit
  segWith_fwdSteps_on N (revolveSplit (opt0Table lmax mmax uf ub) uf) cm
    (fun _ => Storage.ram) false (fun m k => m - 1 ≤ lmax ∧ k ≤ mmax)
    (fun m k a hd _ ha => ⟨⟨Nat.le_trans (Nat.sub_le a 1) (Nat.le_trans ha hd.1), hd.2⟩,
      ⟨Nat.le_trans (Nat.sub_le_sub_right (Nat.sub_le m a) 1) hd.1,
        Nat.le_trans (Nat.sub_le k 1) hd.2⟩⟩)
    (fun m k hm hk hd => revolveSplit_attains lmax mmax uf ub m k huf hm hd.1 hk hd.2)
    _ _ _ _ _ 0 evs h hlt (Or.inr hcm1) ⟨hl, hcm⟩

/-- C05 for Revolve -/
theorem revolve_fwdSteps (N cm : Nat) (c : Costs) (hN : 1 ≤ N) (hcm : 1 ≤ cm) (huf : 0 < c.uf)
    (evs : List Ev) (h : revolveEvs N cm c = .ok evs) :
    fwdSteps evs = N + extraCell N (clampS N cm) := by
  unfold revolveEvs at h
  dsimp only at h
  split at h
  · cases h
  · rename_i seg hseg
    injection h with h
    have := revSeg_fwdSteps N (N - 1) cm cm c.uf c.ub huf hcm (le_refl _) true 0 N seg hseg
      hN (le_refl _)
    rw [← h, fwdSteps_append, this]
    -- the closing event is no forward step
    exact Nat.add_zero _

/-- C19: PeriodicDiskRevolve reverses each of its segments (the tail `[q·mx, N)` and every block
`[b·mx, (b+1)·mx)`) with the memory-only Revolve optimum number of forward steps -/
theorem periodic_segments_fwdSteps (N cm : Nat) (c : Costs) (mx : Nat) (evs : List Ev) (hN : 1 ≤ N)
    (hcm : 1 ≤ cm) (huf : 0 < c.uf)
    (hmx : mxrr cm c.uf (c.wd + c.rd) = some mx) (h : periodicEvs N cm c = .ok evs) :
    let q := (N - 2) / mx
    let t0 := opt0Table (max (N - 1) (mx + 1)) cm c.uf c.ub
    (∃ mid, revSeg N t0 c.uf cm true (q * mx) N = some mid ∧
      fwdSteps mid = (N - q * mx) + extraCell (N - q * mx) (clampS (N - q * mx) cm)) ∧
    ∀ b, b < q → ∃ seg, revSeg N t0 c.uf cm false (b * mx) ((b + 1) * mx) = some seg ∧
      fwdSteps seg = mx + extraCell mx (clampS mx cm) := by
  intro q t0
  obtain ⟨hmx1, hq1, _, mid, hmid, hsegs, _⟩ := periodic_structure N cm c mx evs hN hmx h
  constructor
  · exact ⟨mid, hmid, revSeg_fwdSteps N _ cm cm c.uf c.ub huf hcm (le_refl _) true _ _ mid hmid hq1
      (Nat.le_trans (Nat.sub_le_sub_right (Nat.sub_le N _) 1) (Nat.le_max_left _ _))⟩
  · intro b hb
    refine ⟨_, hsegs b hb, ?_⟩
    have e : (b + 1) * mx - b * mx = mx := by rw [Nat.succ_mul, Nat.add_sub_cancel_left]
    have hcol : mx - 1 ≤ max (N - 1) (mx + 1) :=
      Nat.le_trans (Nat.sub_le mx 1) (Nat.le_trans (Nat.le_succ mx) (Nat.le_max_right _ _))
    have := revSeg_fwdSteps N _ cm cm c.uf c.ub huf hcm (le_refl _) false _ _ _ (hsegs b hb)
      (Nat.mul_lt_mul_of_pos_right (Nat.lt_succ_self b) hmx1) (by rw [e]; exact hcol)
    rw [e] at this
    exact this

-- concrete instance: N = 10 steps, 3 RAM units: 10 + E(10,3) = 25 forward steps
example : (match revolveEvs 10 3 ⟨2, 3, 5, 7⟩ with | .ok evs => fwdSteps evs | .error _ => 0) = 25 := by
  decide +kernel

end Ckpt.RC
