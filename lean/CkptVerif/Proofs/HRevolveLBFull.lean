import CkptVerif.Proofs.HRevolveLB
/-!
# C07 for HRevolve with DISK units: the relaxed LIFO discipline `Lifo'`

`Ckpt.LB7.HRevolveOptimalT` (`Proofs/DiskCounterexamples.lean`), the statement

    ∀ N c0 c1 v c os, 1 ≤ N → 1 ≤ c0 → 0 < c.uf →
      (hoptTable (N - 1) c0 c1 0 c.wd 0 c.rd c.ub c.uf).opt 1 (N - 1) c1 = some v →
      Accepted (cfgHRevolve c0 c1 N) os → v + N * c.uf ≤ obsCostT c os

is NOT proved in full generality.  This module proves it (`hrevolveOptimalT_partial2`) for every
accepted stream that obeys the discipline `Lifo'`, a restriction strictly weaker than `Lifo`
(`Proofs/Disciplines.lean`):

* a `Copy`/`Move` into WORK loads the most recently stored checkpoint that is still ALIVE (position
  below the adjoint position); stale checkpoints anywhere in storage are ignored;
* ANY stored checkpoint may be deleted at any time (`Move … → NONE`), and a `Copy … → NONE` is allowed;
* what remains excluded: a `Copy`/`Move` into RAM or DISK (direct transfers between the levels), and
  a restart from a checkpoint while a more recent alive checkpoint is stored.

`lifo'_of_lifo` (`Proofs/HRevolveLBFullLifo.lean`): every accepted `Lifo` stream is `Lifo'`, so
`hrevolveOptimalT_partial` is a corollary.  `exLifo'` is an accepted stream that is `Lifo'` and not `Lifo`.

The potential is `HLB.RT` (a stack plan over an alive sub-stack of the stored checkpoints) of the game
state; it is closed under the basic moves, and under `Copy`/`Move` as far as `Lifo'` allows them.

Not covered, and the reason `HRevolveOptimalT` stays open: streams whose forward sweeps pass over stored
checkpoints that are used later, and direct transfers between RAM and DISK.
`Proofs/HRevolveLBFullGame.lean` reduces the full statement to a purely combinatorial one: every
accepted complete stream is a play of a six-move pebble game (`game_of_accepted`), and
`hrevolveOptimalT_of_gameLB : (∀ c c0 c1, 1 ≤ c0 → GameLB c c0 c1) → HRevolveOptimalT`,
where `GameLB` (not proved) says that every play from the initial state costs at least an achievable
hierarchical cost.  (Stale checkpoints cannot occur in a complete accepted stream — they could never be
removed — so that clause of `Lifo'` only matters for prefixes.)
-/
namespace Ckpt.LB7
open Ckpt.RC Ckpt.GW Ckpt.Mean Ckpt.HLB

/-- the checkpoint lies below the adjoint position -/
def aliveAt (cfg : Cfg) (x : XS) (cp : Cp) : Bool := decide (cp.n < cfg.N - x.r)

/-- `(n, src)` is the most recently stored checkpoint that is still alive -/
def topAlive (cfg : Cfg) (x : XS) (n : Nat) (src : Storage) : Bool :=
  match x.cps.find? (aliveAt cfg x) with
  | some cp => decide (cp.n = n ∧ cp.st = src)
  | none => false

def lifoAct' (cfg : Cfg) (x : XS) : Action → Bool
  | .copy n src dst => !dst.isStore && (decide (dst ≠ .work) || topAlive cfg x n src)
  | .move n src dst => !dst.isStore && (decide (dst ≠ .work) || topAlive cfg x n src)
  | _ => true

def lifoFrom' (cfg : Cfg) : XS → List Obs → Bool
  | _, [] => true
  | x, o :: os => lifoAct' cfg x o.act && lifoFrom' cfg (nextState cfg x o.act) os

/-- every `Copy`/`Move` into WORK loads the most recent alive checkpoint; none goes into RAM or DISK -/
def Lifo' (cfg : Cfg) (os : List Obs) : Prop := lifoFrom' cfg (XS.init cfg) os = true

instance (cfg : Cfg) (os : List Obs) : Decidable (Lifo' cfg os) := by unfold Lifo'; infer_instance

/-- the potential: an alive sub-stack of the stored checkpoints has a stack plan of cost at most `n` -/
def PotT (c : Costs) (c0 c1 : Nat) (g : GState) (n : Nat) : Prop := HLB.RT c c0 c1 g.toks g.W g.a n

theorem potT_moves (c : Costs) (c0 c1 : Nat) : BasicMoves c c0 c1 (PotT c c0 c1) where
  fin := fun toks W => HLB.rt_final toks W
  weaken := fun _ h => HLB.rt_weaken h (Nat.le_add_right _ _)
  adv := fun h1 _ h => HLB.rt_adv h1 h
  store := fun hcap h => HLB.rt_store hcap h
  turn := fun {a} _ _ h => HLB.rt_turn (a := a + 1) (Nat.succ_pos a) (HLB.rt_dead h (Nat.le_succ a))
  drop := fun hs h => HLB.rt_mono hs h

theorem key_unique {pre post : List Cp} {cp : Cp}
    (hk : ((pre ++ cp :: post).map (fun c => (c.n, c.st))).Nodup) :
    ∀ c' ∈ pre ++ post, ¬ (c'.n = cp.n ∧ c'.st = cp.st) := by
  rw [List.map_append, List.map_cons, List.nodup_middle, List.nodup_cons, ← List.map_append] at hk
  intro c' hc' ⟨e1, e2⟩
  apply hk.1
  exact List.mem_map.mpr ⟨c', hc', by rw [e1, e2]⟩

theorem findCp_middle {pre post : List Cp} {cp : Cp}
    (hk : ((pre ++ cp :: post).map (fun c => (c.n, c.st))).Nodup) :
    findCp (pre ++ cp :: post) cp.n cp.st = some cp := by
  have hu := key_unique hk
  unfold findCp
  rw [List.find?_append]
  have h1 : pre.find? (fun c => decide (c.n = cp.n ∧ c.st = cp.st)) = none := by
    rw [List.find?_eq_none]
    intro c' hc'
    have := hu c' (List.mem_append_left _ hc')
    simpa using this
  rw [h1]
  simp

theorem eraseCp_middle {pre post : List Cp} {cp : Cp}
    (hk : ((pre ++ cp :: post).map (fun c => (c.n, c.st))).Nodup) :
    eraseCp (pre ++ cp :: post) cp.n cp.st = pre ++ post := by
  have hu := key_unique hk
  unfold eraseCp
  rw [List.filter_append, List.filter_cons]
  have h0 : decide (¬ (cp.n = cp.n ∧ cp.st = cp.st)) = false := by simp
  rw [h0]
  simp only [Bool.false_eq_true, if_false]
  congr 1
  · rw [List.filter_eq_self]
    intro c' hc'
    have := hu c' (List.mem_append_left _ hc')
    simp only [decide_eq_true_eq]
    exact this
  · rw [List.filter_eq_self]
    intro c' hc'
    have := hu c' (List.mem_append_right _ hc')
    simp only [decide_eq_true_eq]
    exact this

theorem stk_append (x : XS) (pre post : List Cp) (cp : Cp) (h : x.cps = pre ++ cp :: post) :
    stk x = pre.map (fun cp => (cp.n, decide (cp.st = .disk))) ++
      (cp.n, decide (cp.st = .disk)) :: post.map (fun cp => (cp.n, decide (cp.st = .disk))) := by
  unfold stk; rw [h, List.map_append, List.map_cons]

theorem topAlive_split {cfg : Cfg} {x : XS} {n : Nat} {src : Storage} (h : topAlive cfg x n src = true) :
    ∃ pre cp post, x.cps = pre ++ cp :: post ∧ cp.n = n ∧ cp.st = src ∧ cp.n < cfg.N - x.r ∧
      ∀ c' ∈ pre, ¬ c'.n < cfg.N - x.r := by
  unfold topAlive at h
  cases hf : x.cps.find? (aliveAt cfg x) with
  | none => rw [hf] at h; cases h
  | some cp =>
    rw [hf] at h
    simp only [decide_eq_true_eq] at h
    obtain ⟨hal, pre, post, hdec, hpre⟩ := List.find?_eq_some_iff_append.mp hf
    refine ⟨pre, cp, post, hdec, h.1, h.2, by simpa [aliveAt] using hal, ?_⟩
    intro c' hc'
    have := hpre c' hc'
    simpa [aliveAt] using this

theorem lifoAct'_split {cfg : Cfg} {x : XS} {n : Nat} {src dst : Storage}
    (h : (!dst.isStore && (decide (dst ≠ .work) || topAlive cfg x n src)) = true) :
    dst.isStore = false ∧ (dst = .work → topAlive cfg x n src = true) := by
  rw [Bool.and_eq_true, Bool.or_eq_true] at h
  obtain ⟨h1, h2⟩ := h
  refine ⟨by simpa using h1, fun hw => ?_⟩
  rcases h2 with h2 | h2
  · simp [hw] at h2
  · exact h2


/-- `Copy` (`keep = true`) and `Move` as far as `Lifo'` allows them: into WORK from the most recent alive
checkpoint, or to nowhere -/
theorem step_cmT {cfg : Cfg} {c : Costs} {c0 c1 : Nat} {x : XS}
    (hinv : GW.Inv cfg (c0 + c1) x) (hinv2 : Inv2 x)
    (keep : Bool) (n : Nat) (src dst : Storage)
    (h : actViols.loadViols cfg x n src dst = [])
    (hl : lifoAct' cfg x (bif keep then .copy n src dst else .move n src dst) = true) :
    ∀ m, PotT c c0 c1 (gst cfg (nextState cfg x (bif keep then .copy n src dst else .move n src dst))) m →
      PotT c c0 c1 (gst cfg x)
        (m + ((if src = .disk then c.rd else 0) + (if dst = .disk then c.wd else 0))) := by
  obtain ⟨hns, htop⟩ := lifoAct'_split (n := n) (src := src) (by cases keep <;> exact hl)
  obtain ⟨_, cp0, hf0, _, _, _, _, hwork, _⟩ := load_checks h
  rw [nextState_cm hf0 keep]
  obtain ⟨e_r, _, _, _⟩ := loadState_same x n cp0 dst (keptCps x keep n src)
  have e_cps : (loadState x n cp0 dst (keptCps x keep n src)).cps = keptCps x keep n src := by
    rw [loadState_cps, loadCps, hns]; rfl
  have e_fwd := loadState_fwd x n cp0 dst (keptCps x keep n src)
  have e_deps := loadState_wDeps x n cp0 dst (keptCps x keep n src)
  generalize loadState x n cp0 dst (keptCps x keep n src) = x' at e_r e_cps e_fwd e_deps ⊢
  by_cases hdw : dst = .work
  · -- a load of the most recent alive checkpoint
    subst hdw
    obtain ⟨pre, cp, post, hcps, hn, hsrc, halive, hpre⟩ := topAlive_split (htop rfl)
    subst hn; subst hsrc
    have hk : ((pre ++ cp :: post).map (fun c => (c.n, c.st))).Nodup := by rw [← hcps]; exact hinv2.keys
    have hf : findCp x.cps cp.n cp.st = some cp := by rw [hcps]; exact findCp_middle hk
    rw [hf] at hf0
    obtain rfl : cp = cp0 := Option.some.inj hf0
    have hmem : cp ∈ x.cps := by rw [hcps]; simp
    rw [if_pos rfl, if_pos (hinv2.ics cp hmem)] at e_fwd
    rw [if_pos rfl, (hinv.cps cp hmem).1, if_neg (Nat.lt_irrefl 0)] at e_deps
    intro m hp
    unfold PotT gst at hp ⊢
    simp only at hp ⊢
    rw [adjPos_none e_deps, e_r, e_fwd] at hp
    rw [adjPos_none (hwork rfl).2, stk_append x pre post cp hcps]
    have hd : (if cp.st = .disk then c.rd else 0) + (if Storage.work = .disk then c.wd else 0) =
        ldc c (decide (cp.st = .disk)) := by
      unfold ldc; by_cases hd : cp.st = .disk <;> simp [hd]
    rw [hd]
    have hpre' : ∀ s ∈ pre.map (fun cp => (cp.n, decide (cp.st = .disk))),
        ¬ s.1 < cfg.N - x.r := by
      intro s hs
      obtain ⟨c', hc', rfl⟩ := List.mem_map.mp hs
      exact hpre c' hc'
    cases keep with
    | true =>
      have hstk' : stk x' = stk x := by unfold stk; rw [e_cps]; rfl
      rw [hstk', stk_append x pre post cp hcps] at hp
      exact HLB.rt_loadCopy hpre' halive hp
    | false =>
      have hstk' : stk x' = pre.map (fun cp => (cp.n, decide (cp.st = .disk))) ++
          post.map (fun cp => (cp.n, decide (cp.st = .disk))) := by
        unfold stk
        rw [e_cps]
        show List.map _ (eraseCp x.cps cp.n cp.st) = _
        rw [hcps, eraseCp_middle hk, List.map_append]
      rw [hstk'] at hp
      exact HLB.rt_loadMove hpre' halive hp
  · -- nothing is loaded
    rw [if_neg hdw] at e_fwd e_deps
    exact step_drop (potT_moves c c0 c1) (by rw [e_cps]; exact keptCps_sublist x keep n src) e_fwd e_r
      e_deps _

/-- **C07 for HRevolve with DISK units, among all schedules that obey the relaxed LIFO discipline.**
For `N ≥ 1` steps, `c0 ≥ 1` RAM units, `c1` DISK units and any cost vector: the value of the two-level
H-Revolve table (plus the first sweep) is a lower bound for the transfer-aware cost `obsCostT` of EVERY
stream of observations that the checking executor accepts for `cfgHRevolve c0 c1 N`, that completes the
adjoint calculation, whose storage units hold restart data only, and that obeys `Lifo'`: no `Copy`/`Move`
into RAM or DISK, and every `Copy`/`Move` into WORK loads the most recently stored checkpoint that is
still alive.  Checkpoints may be deleted in any order (`Move … → NONE`). -/
theorem hrevolveOptimalT_partial2 :
    ∀ (N c0 c1 v : Nat) (c : Costs) (os : List Obs), 1 ≤ N → 1 ≤ c0 → 0 < c.uf →
      (hoptTable (N - 1) c0 c1 0 c.wd 0 c.rd c.ub c.uf).opt 1 (N - 1) c1 = some v →
      Accepted (cfgHRevolve c0 c1 N) os → Lifo' (cfgHRevolve c0 c1 N) os →
      v + N * c.uf ≤ obsCostT c os := by
  intro N c0 c1 v c os hN hc0 _ hv hacc hlifo
  have hp := run_pot (c := c) (potT_moves c c0 c1) (cfgHyp_h c0 c1 N) rfl rfl
    (ok := fun x a => lifoAct' (cfgHRevolve c0 c1 N) x a = true)
    (L := fun x os => lifoFrom' (cfgHRevolve c0 c1 N) x os = true)
    (fun x o os h => by simpa only [lifoFrom', Bool.and_eq_true] using h)
    (fun x hinv hinv2 keep n src dst => step_cmT hinv hinv2 keep n src dst)
    os 0 (XS.init (cfgHRevolve c0 c1 N)) (inv_init (cfgHyp_h c0 c1 N)) (inv2_init _)
    hacc.1 hacc.2.1 hacc.2.2 hlifo
  rw [gst_init] at hp
  obtain ⟨w, hw, hA⟩ := HLB.rt_init hN hp
  exact lb_of_achievable hN hc0 hv hacc hw hA

/-- the full statement follows for the streams that obey `Lifo'`; what is missing is exactly that
hypothesis -/
theorem hrevolveOptimalT_of_lifo'
    (h : ∀ (c0 c1 N : Nat) (os : List Obs), Accepted (cfgHRevolve c0 c1 N) os →
      Lifo' (cfgHRevolve c0 c1 N) os) : HRevolveOptimalT := by
  intro N c0 c1 v c os hN hc0 huf hv hacc
  exact hrevolveOptimalT_partial2 N c0 c1 v c os hN hc0 huf hv hacc (h c0 c1 N os hacc)

end Ckpt.LB7

#print axioms Ckpt.LB7.hrevolveOptimalT_partial2
#print axioms Ckpt.LB7.hrevolveOptimalT_of_lifo'
