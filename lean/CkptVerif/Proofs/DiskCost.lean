import CkptVerif.Proofs.RevolveCost
import CkptVerif.Proofs.OptInf
/-!
# DiskRevolve: the cost of the model stream is the table value (C07)

`cost (diskSeg … lo hi) = tinf[hi-lo-1] + (hi-lo)·uf` where a DISK write costs `wd`, a DISK read
`rd` (together `wr = wd + rd` per DISK checkpoint), and consequently
`cost(DiskRevolve) ≤ cost(Revolve)` for equal parameters.
-/
namespace Ckpt.RC

theorem diskSeg_cost (c : Costs) (N lmax0 lmax mmax cm : Nat) (hcm1 : 1 ≤ cm) (hcm : cm ≤ mmax)
    (t0 : Array (Array Nat)) (tinf : Array Nat) (ht0 : t0 = opt0Table lmax0 mmax c.uf c.ub)
    (htinf : tinf = optInfTable lmax cm c.uf c.ub (c.wd + c.rd) t0) :
    ∀ (fuel : Nat) (spine : Bool) (lo hi : Nat) (evs : List Ev),
      diskSeg N t0 tinf cm c.uf (c.wd + c.rd) fuel spine lo hi = some evs →
      lo < hi → hi - lo - 1 ≤ lmax → hi - lo - 1 ≤ lmax0 →
      cost c evs = tinf.getD (hi - lo - 1) 0 + (hi - lo) * c.uf := by
  have R0 : ∀ (spine : Bool) (lo hi : Nat) (evs : List Ev),
      revSeg N t0 c.uf cm spine lo hi = some evs → lo < hi → hi - lo - 1 ≤ lmax0 →
      cost c evs = opt0Get t0 cm (hi - lo - 1) + (hi - lo) * c.uf := by
    intro spine lo hi evs h h1 h2
    rw [ht0] at h ⊢
    exact revSeg_cost c N lmax0 mmax cm hcm spine lo hi evs h h1 h2
  intro fuel
  induction fuel with
  | zero => intro _ _ _ _ h; simp [diskSeg] at h
  | succ fuel ih =>
    intro spine lo hi evs h hlt hl hl0
    obtain ⟨B1, B2⟩ := optInf_bellman lmax lmax0 mmax cm c.uf c.ub (c.wd + c.rd) hcm1 hcm t0 tinf
      ht0 htinf (hi - lo - 1) hl
    unfold diskSeg at h
    dsimp only at h
    split at h
    · -- a DISK checkpoint at `lo`, the split at the least candidate `j`
      rename_i hcond
      obtain ⟨j, hj, hj1, hj2, hrec⟩ := B1 hcond
      unfold optInfCands at hj
      rw [hj] at h
      split at h
      · cases h
      · rename_i right hright
        split at h
        · cases h
        · rename_i left hleft
          cases h
          obtain ⟨s1, s2, s3, s4, s5⟩ := seg_split hj1 hj2
          have cr := ih _ _ _ _ hright s1 (by rw [s2]; exact Nat.le_trans (Nat.sub_le _ _) hl)
            (by rw [s2]; exact Nat.le_trans (Nat.sub_le _ _) hl0)
          have cl := R0 _ _ _ _ hleft (Nat.lt_add_of_pos_right hj1)
            (by rw [s3]; exact Nat.le_trans s4 hl0)
          rw [s2] at cr
          rw [s3] at cl
          rw [cost_append, cost_append, cost_append, cr, cl, hrec, s5 c.uf]
          show (lo + j - lo) * c.uf + c.wd + 0 + _ + (c.rd + 0) + _ = _
          rw [s3]
          omega
    · -- no DISK checkpoint: the memory-only segment, and `tinf` is the memory-only value
      rename_i hcond
      rw [R0 _ _ _ _ h hlt hl0, B2 hcond]

/-- C07 for DiskRevolve: the cost of the stream is the `tinf` table entry (plus the `N` steps of the
initial forward sweep) -/
theorem diskRevolve_cost (N cm : Nat) (c : Costs) (hN : 1 ≤ N) (hcm : 1 ≤ cm) (evs : List Ev)
    (h : diskRevolveEvs N cm c = .ok evs) :
    cost c evs =
      (optInfTable (N - 1) cm c.uf c.ub (c.wd + c.rd) (opt0Table (N - 1) cm c.uf c.ub)).getD (N - 1) 0
        + N * c.uf := by
  unfold diskRevolveEvs at h
  dsimp only at h
  split at h
  · cases h
  · rename_i seg hseg
    injection h with h
    have := diskSeg_cost c N (N - 1) (N - 1) cm cm hcm (le_refl _) _ _ rfl rfl _ _ _ _ seg hseg
      (by omega) (by omega) (by omega)
    rw [← h, cost_append, this]
    simp [evCost]

/-- C07: with the same parameters DiskRevolve never costs more than Revolve -/
theorem diskRevolve_le_revolve (N cm : Nat) (c : Costs) (hN : 1 ≤ N) (hcm : 1 ≤ cm)
    (evsD evsR : List Ev) (hD : diskRevolveEvs N cm c = .ok evsD) (hR : revolveEvs N cm c = .ok evsR) :
    cost c evsD ≤ cost c evsR := by
  rw [diskRevolve_cost N cm c hN hcm evsD hD, revolve_cost N cm c hN evsR hR]
  exact Nat.add_le_add_right (optInf_le_opt0 (N - 1) (N - 1) cm cm c.uf c.ub _ hcm (le_refl _)
    (N - 1) (le_refl _)) _

-- a concrete instance where the disk is really used: N = 9, one RAM unit
example : (match diskRevolveEvs 9 1 ⟨1, 1, 1, 1⟩ with | .ok evs => cost ⟨1, 1, 1, 1⟩ evs | .error _ => 0)
    = (optInfTable 8 1 1 1 2 (opt0Table 8 1 1 1)).getD 8 0 + 9 * 1 := by decide +kernel

end Ckpt.RC
