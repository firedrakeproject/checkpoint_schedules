import CkptVerif.Model.Revolve
/-! # The cost of a stream

`uf`/`ub` per forward/backward step, `wd` per checkpoint written to DISK, `rd` per checkpoint read
from DISK; RAM transfers are free (the cost model of the Revolve family). -/
namespace Ckpt.RC

def evCost (c : Costs) (e : Ev) : Nat :=
  match e.act with
  | .forward n0 n1 _ _ st => (n1 - n0) * c.uf + (if st = .disk then c.wd else 0)
  | .reverse n1 n0 _ => (n1 - n0) * c.ub
  | .copy _ src _ => if src = .disk then c.rd else 0
  | .move _ src _ => if src = .disk then c.rd else 0
  | _ => 0

def cost (c : Costs) (evs : List Ev) : Nat := (evs.map (evCost c)).sum

@[simp] theorem cost_nil (c : Costs) : cost c [] = 0 := rfl

@[simp] theorem cost_cons (c : Costs) (e : Ev) (evs : List Ev) :
    cost c (e :: evs) = evCost c e + cost c evs := by
  simp [cost]

@[simp] theorem cost_append (c : Costs) (as bs : List Ev) :
    cost c (as ++ bs) = cost c as + cost c bs := by
  simp [cost]

theorem cost_flatMap (c : Costs) {α : Type} (f : α → List Ev) : ∀ L : List α,
    cost c (L.flatMap f) = (L.map (fun x => cost c (f x))).sum
  | [] => rfl
  | a :: L => by
    rw [List.flatMap_cons, cost_append, cost_flatMap c f L, List.map_cons, List.sum_cons]

theorem cost_ite (c : Costs) (b : Bool) (e : Ev) (h : evCost c e = 0) :
    cost c (if b = true then [e] else []) = 0 := by
  cases b
  · rfl
  · rw [if_pos rfl, cost_cons, h]; rfl

theorem cost_singleton (c : Costs) (e : Ev) : cost c [e] = evCost c e := by simp

/-- The segment `[lo, hi)` split after `j` steps, `1 ≤ j ≤ hi - lo - 2`: the sizes of the two parts
in the forms in which the recursive streams and their tables mention them. -/
theorem seg_split {lo hi j : Nat} (h1 : 1 ≤ j) (h2 : j ≤ hi - lo - 1 - 1) :
    lo + j < hi ∧ hi - (lo + j) - 1 = hi - lo - 1 - j ∧ lo + j - lo = j ∧ j - 1 ≤ hi - lo - 1 ∧
      ∀ u, (hi - lo) * u = j * u + (hi - (lo + j)) * u := by
  refine ⟨by omega, by omega, by omega, by omega, fun u => ?_⟩
  rw [← Nat.add_mul]
  congr 1
  omega

/-- Cutting `a` steps, `1 ≤ a < hi - lo`, off the front of `[lo, hi)` when there is fuel for the
whole: both parts are shorter, non-empty, and within the fuel left. -/
theorem seg_cut {lo hi a fuel : Nat} (h1 : 1 ≤ a) (h2 : a < hi - lo) (hf : hi - lo ≤ fuel + 1) :
    hi - (lo + a) ≤ fuel ∧ lo + a < hi ∧ lo + a - lo ≤ fuel ∧ lo < lo + a := by
  omega

example : cost ⟨3, 5, 7, 11⟩
    [⟨.forward 0 2 true false .disk, 2, 0⟩, ⟨.forward 2 3 false true .work, 3, 0⟩,
     ⟨.reverse 3 2 true, 3, 1⟩, ⟨.move 0 .disk .work, 0, 1⟩] = (2 * 3 + 7) + 3 + 5 + 11 := by decide

end Ckpt.RC
