import CkptVerif.Proofs.Cost
import CkptVerif.Proofs.Opt0
import CkptVerif.Proofs.Argmin
import CkptVerif.Proofs.StepCount
import Mathlib.Tactic
/-!
# Revolve: the cost of the model stream is the table value (C07)

`cost (revSeg … lo hi) = opt0[cm][hi-lo-1] + (hi-lo)·uf`: the table `opt0` counts the forward
steps of the re-computations and all backward steps; the `hi - lo` steps of the first sweep over
the segment are the extra term.
-/
namespace Ckpt.RC

theorem opt0Get_row1_all (lmax mmax uf ub l : Nat) (hmm : 1 ≤ mmax) (hl : l ≤ lmax) :
    opt0Get (opt0Table lmax mmax uf ub) 1 l = (l + 1) * ub + l * (l + 1) / 2 * uf := by
  rcases Nat.lt_or_ge l 2 with h | h
  · rcases Nat.eq_zero_or_pos l with rfl | h1
    · rw [opt0Get_zero _ _ _ _ _ hmm]; simp
    · have : l = 1 := by omega
      subst this
      rw [opt0Get_one _ _ _ _ _ (le_refl _) hmm]
      norm_num; omega
  · exact opt0Get_row1 lmax mmax uf ub l hmm h hl

/-- At the split `a` chosen by `revolveSplit` the recurrence of the table holds with equality. -/
theorem revolveSplit_bellman (lmax mmax uf ub m k a : Nat) (hm : 2 ≤ m) (hml : m - 1 ≤ lmax)
    (hk : k ≤ mmax) (h : revolveSplit (opt0Table lmax mmax uf ub) uf m k = some a) :
    1 ≤ k ∧ 1 ≤ a ∧ a ≤ m - 1 ∧
    opt0Get (opt0Table lmax mmax uf ub) k (m - 1) =
      a * uf + opt0Get (opt0Table lmax mmax uf ub) (k - 1) (m - 1 - a)
        + opt0Get (opt0Table lmax mmax uf ub) k (a - 1) := by
  unfold revolveSplit at h
  dsimp only at h
  by_cases hk0 : k = 0
  · rw [if_pos hk0] at h; cases h
  rw [if_neg hk0] at h
  have hk1 : 1 ≤ k := by omega
  by_cases hc : m - 1 = 1 ∨ k = 1
  · rw [if_pos hc] at h
    injection h with h
    subst h
    refine ⟨hk1, by omega, le_refl _, ?_⟩
    by_cases hl1 : m - 1 = 1
    · rw [hl1, opt0Get_one _ _ _ _ _ hk1 hk, Nat.sub_self, opt0Get_zero _ _ _ _ _ (by omega),
        opt0Get_zero _ _ _ _ _ hk]
      omega
    · have hk' : k = 1 := by rcases hc with hc | hc; exact absurd hc hl1; exact hc
      subst hk'
      obtain ⟨n, hn⟩ : ∃ n, m - 1 = n + 1 := ⟨m - 2, by omega⟩
      rw [hn]
      simp only [Nat.sub_self, Nat.add_sub_cancel]
      rw [opt0Get_zero _ _ _ _ _ (by omega),
        opt0Get_row1_all _ _ _ _ _ hk (by omega), opt0Get_row1_all _ _ _ _ _ hk (by omega),
        tri_succ, Nat.add_mul]
      ring
  · rw [if_neg hc] at h
    injection h with h
    have hl2 : 2 ≤ m - 1 := by omega
    have hk2 : 2 ≤ k := by omega
    obtain ⟨heq, _, _⟩ := opt0Get_rec lmax mmax uf ub k (m - 1) hk2 hk hl2 hml
    obtain ⟨h1, h2, hg⟩ := argminO_range'_map_some (fun j =>
      j * uf + opt0Get (opt0Table lmax mmax uf ub) (k - 1) (m - 1 - j) +
        opt0Get (opt0Table lmax mmax uf ub) k (j - 1)) (m - 1 - 1) (by omega)
    rw [List.map_map] at h1 h2 hg
    rw [← heq] at hg
    exact ⟨hk1, h ▸ h1, by have := h ▸ h2; omega, (h ▸ hg).symm⟩

theorem revSeg_cost (c : Costs) (N lmax mmax cm : Nat) (hcm : cm ≤ mmax) (spine : Bool)
    (lo hi : Nat) (evs : List Ev)
    (h : revSeg N (opt0Table lmax mmax c.uf c.ub) c.uf cm spine lo hi = some evs)
    (hlt : lo < hi) (hl : hi - lo - 1 ≤ lmax) :
    cost c evs = opt0Get (opt0Table lmax mmax c.uf c.ub) cm (hi - lo - 1) + (hi - lo) * c.uf := by
  refine segWith_cost c N (revolveSplit (opt0Table lmax mmax c.uf c.ub) c.uf) cm
    (fun _ => Storage.ram) false
    (fun m k => opt0Get (opt0Table lmax mmax c.uf c.ub) k (m - 1) + m * c.uf)
    (fun m k => m - 1 ≤ lmax ∧ k ≤ mmax) (fun _ h => by cases h) ?_ ?_ _ _ _ _ _ 0 evs h hlt ⟨hl, hcm⟩
  · intro k hd
    show opt0Get _ k (1 - 1) + 1 * c.uf = _
    rw [opt0Get_zero _ _ _ _ _ hd.2]
    omega
  · intro m k a hm hd ha
    obtain ⟨hk1, ha1, ha2, hbell⟩ := revolveSplit_bellman lmax mmax c.uf c.ub m k a hm hd.1 hd.2 ha
    refine ⟨ha1, by omega, ⟨by omega, hd.2⟩, ⟨by omega, by omega⟩, ?_⟩
    have hsplit : m * c.uf = a * c.uf + (m - a) * c.uf := by
      rw [← Nat.add_mul]; congr 1; omega
    show opt0Get _ k (m - 1) + m * c.uf = a * c.uf + (opt0Get _ k (a - 1) + a * c.uf) +
      (opt0Get _ (k - 1) (m - a - 1) + (m - a) * c.uf)
    rw [hbell, hsplit, show m - a - 1 = m - 1 - a by omega]
    omega

/-- C07 for Revolve: the cost of the stream is the optimal-cost table entry (plus the `N` steps of
the initial forward sweep, which the table does not count) -/
theorem revolve_cost (N cm : Nat) (c : Costs) (hN : 1 ≤ N) (evs : List Ev)
    (h : revolveEvs N cm c = .ok evs) :
    cost c evs = opt0Get (opt0Table (N - 1) cm c.uf c.ub) cm (N - 1) + N * c.uf := by
  unfold revolveEvs at h
  dsimp only at h
  split at h
  · cases h
  · rename_i seg hseg
    injection h with h
    have := revSeg_cost c N (N - 1) cm cm (le_refl _) true 0 N seg hseg (by omega) (by omega)
    rw [← h, cost_append, this]
    simp [evCost]

-- a concrete instance: N = 10, 3 RAM units, uf = 2, ub = 3
example : (match revolveEvs 10 3 ⟨2, 3, 5, 7⟩ with | .ok evs => cost ⟨2, 3, 5, 7⟩ evs | .error _ => 0)
    = opt0Get (opt0Table 9 3 2 3) 3 9 + 10 * 2 := by decide +kernel

end Ckpt.RC
