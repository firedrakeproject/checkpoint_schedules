import CkptVerif.Proofs.MultistageSteps
import CkptVerif.Proofs.MixedSteps
import CkptVerif.Proofs.MultistageE2E
import CkptVerif.Model.Online
/-!
# Step counts at the level of the schedule classes

(a) the two definitions of "number of forward steps of a stream" agree;
(b) `MultistageCheckpointSchedule(N, ram, disk)`: the stream performs exactly
`N + optimal_extra_steps(N, min(ram + disk, N - 1))` forward steps — the value of
`optimal_steps_binomial(N, ram + disk)` — independent of the split into RAM and disk units and of
the trajectory;
(c) `TwoLevelCheckpointSchedule(p, b)`: every period block of length `L` is recomputed with exactly the
binomial optimum `L + optimal_extra_steps(L, min(b + 1, L - 1))` forward steps.
-/
namespace Ckpt.GW

theorem evFwd_eq_fwdLen (e : Ev) : evFwd e = e.fwdLen := rfl

theorem fwdSteps_bridge (evs : List Ev) : Ckpt.fwdSteps evs = GW.fwdSteps evs := by
  rw [fwdSteps_eq_sum]
  rfl

/-- what `multistageEvs` returns: the segment stream for `min (ram + disk) (N - 1)` units and the
labelling computed by `__init__` -/
theorem multistageEvs_ok (N ram disk : Nat) (traj : Traj) (hN : 1 ≤ N) (evs : List Ev)
    (h : multistageEvs N ram disk traj = .ok evs) :
    ∃ storage, multistageStorage N ram disk traj = some storage ∧
      (∀ x ∈ storage, x.isStore = true) ∧
      storage.length = min (ram + disk) (N - 1) ∧
      multistageSeg N (min (ram + disk) (N - 1)) (fun d => storage.getD d .none) traj = some evs := by
  obtain ⟨storage, hsto, hst, _, _, hlen⟩ := multistageStorage_spec N ram disk traj hN
  refine ⟨storage, hsto, hst, hlen, ?_⟩
  unfold multistageEvs at h
  rw [if_neg (by omega), hsto] at h
  simp only at h
  split at h
  · cases h
  · rw [hlen] at h
    cases hseg : multistageSeg N (min (ram + disk) (N - 1)) (fun d => storage.getD d .none) traj with
    | none => rw [hseg] at h; cases h
    | some evs' =>
      rw [hseg] at h
      injection h with h
      rw [h]

theorem multistage_fwdSteps (N ram disk : Nat) (traj : Traj)
    (hv : validMultistage N ram disk = true) (evs : List Ev)
    (h : multistageEvs N ram disk traj = .ok evs) :
    GW.fwdSteps evs = N + extraCell N (clampS N (ram + disk)) := by
  simp only [validMultistage, Bool.and_eq_true, Bool.or_eq_true, decide_eq_true_eq] at hv
  obtain ⟨h1, hunit⟩ := hv
  obtain ⟨storage, _, _, _, hseg⟩ := multistageEvs_ok N ram disk traj h1 evs h
  rw [multistageSeg_fwdSteps N _ _ traj evs hseg h1 (by intro h2; rcases hunit with h' | h' <;> omega),
    clampS_min]

/-- the number of forward steps depends on `ram + disk` only: not on the split, not on the trajectory -/
theorem multistage_fwdSteps_split_indep (N ram disk ram' disk' : Nat) (traj traj' : Traj)
    (hv : validMultistage N ram disk = true) (hv' : validMultistage N ram' disk' = true)
    (hsum : ram + disk = ram' + disk') (evs evs' : List Ev)
    (h : multistageEvs N ram disk traj = .ok evs) (h' : multistageEvs N ram' disk' traj' = .ok evs') :
    GW.fwdSteps evs = GW.fwdSteps evs' := by
  rw [multistage_fwdSteps N ram disk traj hv evs h, multistage_fwdSteps N ram' disk' traj' hv' evs' h',
    hsum]

/-- the stream performs the number of forward steps published by `optimal_steps_binomial` -/
theorem multistage_fwdSteps_optimal (N ram disk : Nat) (traj : Traj)
    (hv : validMultistage N ram disk = true) (evs : List Ev)
    (h : multistageEvs N ram disk traj = .ok evs) :
    optimalStepsBinomial N (ram + disk) = some (GW.fwdSteps evs) := by
  rw [multistage_fwdSteps N ram disk traj hv evs h]
  simp only [validMultistage, Bool.and_eq_true, Bool.or_eq_true, decide_eq_true_eq] at hv
  obtain ⟨h1, hunit⟩ := hv
  have hk : validKey N (clampS N (ram + disk)) = true := by
    rw [validKey_iff]
    unfold clampS
    rcases hunit with h' | h' <;> omega
  unfold optimalStepsBinomial extraSpec
  simp only [hk, if_true, Option.map_some]

/-- with the other definition of `fwdSteps` -/
theorem multistage_fwdSteps' (N ram disk : Nat) (traj : Traj)
    (hv : validMultistage N ram disk = true) (evs : List Ev)
    (h : multistageEvs N ram disk traj = .ok evs) :
    Ckpt.fwdSteps evs = N + extraCell N (clampS N (ram + disk)) := by
  rw [fwdSteps_bridge]; exact multistage_fwdSteps N ram disk traj hv evs h

example (traj : Traj) (evs : List Ev) (h : multistageEvs 10 1 2 traj = .ok evs) :
    GW.fwdSteps evs = 25 := by
  rw [multistage_fwdSteps 10 1 2 traj (by decide) evs h]
  have : clampS 10 (1 + 2) = 3 := by decide
  rw [this]
  have := extraCell_closed 10 3 2 (by decide) (by decide) (by decide) (by decide) (by decide)
  have e : Nat.choose (3 + 2) (2 - 1) = 5 := by decide
  omega

example : (match multistageEvs 6 1 2 .revolve with | .ok evs => some (GW.fwdSteps evs) | _ => none) =
    (match multistageEvs 6 2 1 .maximum with | .ok evs => some (GW.fwdSteps evs) | _ => none) := by
  decide

/-- one period block `[lo, hi)`: the binomial optimum for `hi - lo` steps and `b + 1` units (the periodic
disk checkpoint at `lo` plus the `b` binomial snapshots), whatever the labelling, the fuel, `persist` -/
theorem block_fwdSteps (N b : Nat) (alloc : Nat → Storage) (persist : Bool) (traj : Traj)
    (fuel : Nat) (stored spine : Bool) (lo hi : Nat) (seg : List Ev)
    (h : segWith N (fun m k => nAdvance m k traj) (b + 1) alloc persist fuel stored spine lo hi 0 = some seg)
    (hlt : lo < hi) :
    GW.fwdSteps seg = (hi - lo) + extraCell (hi - lo) (clampS (hi - lo) (b + 1)) := by
  have := segWith_fwdSteps _ _ _ _ _ (nAdvance_attainsMin traj) _ _ _ _ _ _ _ h hlt (Or.inr (by omega))
  rw [Nat.sub_zero] at this
  exact this

/-- length of the `j`-th period block -/
def blockLen (N p j : Nat) : Nat := min (j * p + p) N - j * p

theorem blockLen_full (N p j : Nat) (h : (j + 1) * p ≤ N) : blockLen N p j = p := by
  unfold blockLen
  have : (j + 1) * p = j * p + p := by rw [Nat.add_mul, Nat.one_mul]
  omega

theorem blockLen_pos (N p j : Nat) (hp : 1 ≤ p) (h : j * p < N) : 1 ≤ blockLen N p j := by
  unfold blockLen; omega

/-- the binomial optimum for one block -/
def blockOpt (N p b j : Nat) : Nat :=
  blockLen N p j + extraCell (blockLen N p j) (clampS (blockLen N p j) (b + 1))

theorem block_index_lt (N p q j : Nat) (hp : 1 ≤ p) (hq : q ≤ (N + p - 1) / p) (hj : j < q) :
    j * p < N := by
  have h1 : j + 1 ≤ (N + p - 1) / p := by omega
  have h2 := (Nat.le_div_iff_mul_le (by omega)).1 h1
  have : (j + 1) * p = j * p + p := by rw [Nat.add_mul, Nat.one_mul]
  omega

/-- **All blocks of one adjoint calculation**: block `j` performs `blockOpt N p b j` forward steps -/
theorem twoLevelBlocks_fwdSteps (N p b : Nat) (st : Storage) (traj : Traj) (hp : 1 ≤ p) :
    ∀ (q : Nat) (evs : List Ev), q ≤ (N + p - 1) / p →
      twoLevelBlocks N p b st traj q = some evs →
      GW.fwdSteps evs = ((List.range q).map (blockOpt N p b)).sum := by
  intro q
  induction q with
  | zero =>
    intro evs _ h
    have : evs = [] := by
      unfold twoLevelBlocks at h; exact (Option.some.inj h).symm
    subst this; rfl
  | succ q ih =>
    intro evs hq h
    unfold twoLevelBlocks at h
    dsimp only at h
    cases hseg : segWith N (fun m k => nAdvance m k traj) (b + 1)
        (fun d => if d = 0 then Storage.disk else st) true (min (q * p + p) N - q * p + 1) true false
        (q * p) (min (q * p + p) N) 0 with
    | none => rw [hseg] at h; cases h
    | some seg =>
      rw [hseg] at h
      dsimp only at h
      cases hrest : twoLevelBlocks N p b st traj q with
      | none => rw [hrest] at h; cases h
      | some rest =>
        rw [hrest] at h
        have h' := Option.some.inj h
        subst h'
        have hlt : q * p < min (q * p + p) N := by
          have := block_index_lt N p (q + 1) q hp hq (by omega)
          omega
        rw [fwdSteps_append, block_fwdSteps N b _ true traj _ true false _ _ seg hseg hlt,
          ih rest (by omega) hrest, List.range_succ, List.map_append, List.sum_append]
        simp only [List.map_cons, List.map_nil, List.sum_cons, List.sum_nil, Nat.add_zero]
        unfold blockOpt blockLen
        omega

/-- the whole reverse pass of `TwoLevelCheckpointSchedule` for `max_n = N` -/
theorem twoLevelPass_fwdSteps (N p b : Nat) (st : Storage) (traj : Traj) (hp : 1 ≤ p)
    (evs : List Ev) (h : twoLevelBlocks N p b st traj ((N + p - 1) / p) = some evs) :
    GW.fwdSteps (twoLevelPass N p b st traj) =
      ((List.range ((N + p - 1) / p)).map (blockOpt N p b)).sum := by
  unfold twoLevelPass
  rw [h]
  dsimp only
  rw [fwdSteps_append, twoLevelBlocks_fwdSteps N p b st traj hp _ evs (Nat.le_refl _) h]
  rfl

/-- the forward sweep before finalisation: `Forward(n, n + p, True, False, DISK)` -/
theorem twoLevelSched_fwdEv (p b : Nat) (st : Storage) (traj : Traj) (s : Sched)
    (h : twoLevelSched p b st traj = .ok s) (n : Nat) :
    (s.fwdEv n).act = .forward n (n + p) true false .disk ∧ (s.fwdEv n).n = n + p := by
  unfold twoLevelSched at h
  split at h
  · cases h
  · split at h
    · cases h
    · injection h with h
      subst h
      exact ⟨rfl, rfl⟩

/-- `N = 10`, period 4, 1 binomial snapshot: blocks of lengths 4, 4, 2 -/
example : (List.range 3).map (blockLen 10 4) = [4, 4, 2] := by decide

example : (twoLevelBlocks 10 4 1 .ram .revolve 3).map GW.fwdSteps = some (8 + 8 + 3) := by decide

end Ckpt.GW
