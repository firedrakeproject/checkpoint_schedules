import CkptVerif.Model.Segment
import CkptVerif.Proofs.ExtraRec
import CkptVerif.Proofs.Cost
import CkptVerif.Proofs.SegWith
/-!
# Number of forward steps of the generic binomial segment

`fwdSteps evs`: the sum of `n1 - n0` over the `Forward(n0, n1, …)` actions of a stream.

`segWith_fwdSteps`: if the split function `σ` attains the minimum of the recurrence of
`optimal_extra_steps` at every key, the stream `segWith … lo hi d` advances the forward exactly
`(hi - lo) + optimal_extra_steps(hi - lo, min(S - d, hi - lo - 1))` steps.

`segWith_cost` is an instance of `segWith_induction`; the step count is its instance `uf = 1`, all
else free.
-/
namespace Ckpt.RC

/-- a segment `[lo, lo + m)` that is not a unit has at least two steps -/
private theorem two_le_of_ne_unit {lo m : Nat} (hlt : lo < lo + m) (hu : lo + m ≠ lo + 1) : 2 ≤ m := by
  omega

/-- **The cost of the generic binomial segment.**  If at every key `(m, k)` of a domain closed under
the recursion the split `a = σ m k` satisfies `V m k = a·uf + V a k + V (m-a) (k-1)`, and
`V 1 k = uf + ub`, then the stream on `[lo, hi)` at depth `d` costs `V (hi-lo) (S-d)`.  DISK
positions must be free of charge (or absent). -/
theorem segWith_cost (c : Costs) (N : Nat) (σ : Nat → Nat → Option Nat) (S : Nat)
    (alloc : Nat → Storage) (persist : Bool) (V : Nat → Nat → Nat) (Dom : Nat → Nat → Prop)
    (hfree : ∀ d, alloc d = .disk → c.wd = 0 ∧ c.rd = 0)
    (hunit : ∀ k, Dom 1 k → V 1 k = c.uf + c.ub)
    (hstep : ∀ m k a, 2 ≤ m → Dom m k → σ m k = some a →
      1 ≤ a ∧ a < m ∧ Dom a k ∧ Dom (m - a) (k - 1) ∧
        V m k = a * c.uf + V a k + V (m - a) (k - 1)) :
    ∀ (fuel : Nat) (stored spine : Bool) (lo hi d : Nat) (evs : List Ev),
      segWith N σ S alloc persist fuel stored spine lo hi d = some evs → lo < hi →
      Dom (hi - lo) (S - d) → cost c evs = V (hi - lo) (S - d) := by
  have hrd : ∀ d, (if alloc d = .disk then c.rd else 0) = 0 := fun d => by
    split
    · exact (hfree d ‹_›).2
    · rfl
  have hwd : ∀ d, (if alloc d = .disk then c.wd else 0) = 0 := fun d => by
    split
    · exact (hfree d ‹_›).1
    · rfl
  refine segWith_induction N σ S alloc persist (motive := fun _ _ lo hi d evs =>
      lo < hi → Dom (hi - lo) (S - d) → cost c evs = V (hi - lo) (S - d))
    (fun stored spine lo d hlt hdom => ?_) (fun stored spine lo hi d a right left hu ha cr cl hlt hdom => ?_)
  · have e : lo + 1 - lo = 1 := Nat.add_sub_cancel_left _ _
    rw [e] at hdom ⊢
    rw [hunit _ hdom, cost_append, cost_append, cost_append,
      cost_ite _ _ _ (by split <;> exact hrd d), cost_ite _ _ _ rfl]
    show 0 + ((lo + 1 - lo) * c.uf + 0 + 0) + 0 + ((lo + 1 - lo) * c.ub + 0) = c.uf + c.ub
    rw [e, Nat.one_mul, Nat.one_mul, Nat.zero_add]
    rfl
  · -- write `hi = lo + m`: the key is `(m, S - d)`, the parts have lengths `m - a` and `a`
    obtain ⟨m, rfl⟩ := Nat.exists_eq_add_of_le hlt.le
    have em : lo + m - lo = m := Nat.add_sub_cancel_left _ _
    rw [em] at hdom ha ⊢
    obtain ⟨ha1, ha2, hda, hdr, hV⟩ := hstep m _ a (two_le_of_ne_unit hlt hu) hdom ha
    have e3 : lo + a - lo = a := Nat.add_sub_cancel_left _ _
    rw [Nat.add_sub_add_left, Nat.sub_add_eq] at cr
    rw [e3] at cl
    replace cr := cr (Nat.add_lt_add_left ha2 lo) hdr
    replace cl := cl (Nat.lt_add_of_pos_right ha1) hda
    have hfirst : cost c (if stored = true
        then [(⟨Action.copy lo (alloc d) .work, lo, N - (lo + m)⟩ : Ev),
          ⟨Action.forward lo (lo + a) false false .work, lo + a, N - (lo + m)⟩]
        else [⟨Action.forward lo (lo + a) true false (alloc d), lo + a, N - (lo + m)⟩]) = a * c.uf := by
      split
      · show (if alloc d = .disk then c.rd else 0) + ((lo + a - lo) * c.uf + 0 + 0) = a * c.uf
        rw [hrd, e3]
        exact Nat.zero_add _
      · show (lo + a - lo) * c.uf + (if alloc d = .disk then c.wd else 0) + 0 = a * c.uf
        rw [hwd, e3]
        rfl
    rw [cost_append, cost_append, hfirst, cr, cl, hV]
    exact Nat.add_right_comm _ _ _

end Ckpt.RC

namespace Ckpt.GW

def evFwd (e : Ev) : Nat :=
  match e.act with
  | .forward n0 n1 _ _ _ => n1 - n0
  | _ => 0

def fwdSteps : List Ev → Nat
  | [] => 0
  | e :: es => evFwd e + fwdSteps es

theorem fwdSteps_nil : fwdSteps [] = 0 := rfl

theorem fwdSteps_cons (e : Ev) (es : List Ev) : fwdSteps (e :: es) = evFwd e + fwdSteps es := rfl

theorem fwdSteps_append (l1 l2 : List Ev) : fwdSteps (l1 ++ l2) = fwdSteps l1 + fwdSteps l2 := by
  induction l1 with
  | nil => simp [fwdSteps]
  | cons e es ih => rw [List.cons_append, fwdSteps_cons, fwdSteps_cons, ih]; omega

theorem fwdSteps_eq_sum (l : List Ev) : fwdSteps l = (l.map evFwd).sum := by
  induction l with
  | nil => rfl
  | cons e es ih => rw [fwdSteps_cons, List.map_cons, List.sum_cons, ih]

/-- the split function attains the minimum of the recurrence of `optimal_extra_steps` -/
def AttainsMin (σ : Nat → Nat → Option Nat) : Prop :=
  ∀ m k, 2 ≤ m → 1 ≤ k → ∃ a, σ m k = some a ∧ 1 ≤ a ∧ a ≤ m - 1 ∧
    a + extraCell a (clampS a k) + extraCell (m - a) (clampS (m - a) (k - 1)) =
      extraCell m (clampS m k)

/-- forward steps are the cost with `uf = 1` and everything else free -/
theorem fwdSteps_eq_cost (l : List Ev) : fwdSteps l = RC.cost ⟨1, 0, 0, 0⟩ l := by
  induction l with
  | nil => rfl
  | cons e es ih =>
    rw [fwdSteps_cons, RC.cost_cons, ih]
    congr 1
    obtain ⟨act, n, r⟩ := e
    cases act <;> simp [evFwd, RC.evCost]

/-- the forward steps of a split at `a`: `a` steps to reach the split point, then the steps of the two
parts, of lengths `a` and `m - a` -/
private theorem steps_split {m a : Nat} (h : a ≤ m) (x y : Nat) :
    m + (a + x + y) = a * 1 + (a + x) + (m - a + y) := by
  omega

/-- The step count for a split function that attains the minimum of the recurrence of
`optimal_extra_steps` on a set `Dom` of keys closed under splitting. -/
theorem segWith_fwdSteps_on (N : Nat) (σ : Nat → Nat → Option Nat) (S : Nat) (alloc : Nat → Storage)
    (persist : Bool) (Dom : Nat → Nat → Prop)
    (hclosed : ∀ m k a, Dom m k → 1 ≤ a → a ≤ m - 1 → Dom a k ∧ Dom (m - a) (k - 1))
    (hσ : ∀ m k, 2 ≤ m → 1 ≤ k → Dom m k → ∃ a, σ m k = some a ∧ 1 ≤ a ∧ a ≤ m - 1 ∧
      a + extraCell a (clampS a k) + extraCell (m - a) (clampS (m - a) (k - 1)) =
        extraCell m (clampS m k))
    (fuel : Nat) (stored spine : Bool) (lo hi d : Nat) (evs : List Ev)
    (h : segWith N σ S alloc persist fuel stored spine lo hi d = some evs)
    (hlt : lo < hi) (hk : hi = lo + 1 ∨ 1 ≤ S - d) (hd : Dom (hi - lo) (S - d)) :
    fwdSteps evs = (hi - lo) + extraCell (hi - lo) (clampS (hi - lo) (S - d)) := by
  rw [fwdSteps_eq_cost]
  refine RC.segWith_cost ⟨1, 0, 0, 0⟩ N σ S alloc persist
    (fun m k => m + extraCell m (clampS m k)) (fun m k => (m = 1 ∨ 1 ≤ k) ∧ Dom m k)
    (fun _ _ => ⟨rfl, rfl⟩) (fun k _ => by rw [extraCell_le_one 1 _ (Nat.le_refl _)]) ?_
    fuel stored spine lo hi d evs h hlt
    ⟨hk.imp_left fun hu => by rw [hu, Nat.add_sub_cancel_left], hd⟩
  intro m k a hm hdom ha
  have hk1 : 1 ≤ k := hdom.1.resolve_left (Nat.ne_of_gt hm)
  obtain ⟨a', ha', h1, h2, hmin⟩ := hσ m k hm hk1 hdom.2
  rw [ha] at ha'
  cases ha'
  obtain ⟨hda, hdr⟩ := hclosed m k a hdom.2 h1 h2
  have ham : a < m := Nat.lt_of_le_sub_one (Nat.zero_lt_of_lt hm) h2
  refine ⟨h1, ham, ⟨Or.inr hk1, hda⟩, ⟨?_, hdr⟩, ?_⟩
  · -- with one unit left the split is at `m - 1`: the right part is a unit segment
    rcases Nat.eq_or_lt_of_le hk1 with rfl | hk2
    · exact Or.inl (one_unit_split m a h1 h2 hmin)
    · exact Or.inr (Nat.le_sub_one_of_lt hk2)
  · show m + extraCell m (clampS m k) = a * 1 + (a + extraCell a (clampS a k)) +
      (m - a + extraCell (m - a) (clampS (m - a) (k - 1)))
    rw [← hmin]
    exact steps_split ham.le _ _

theorem segWith_fwdSteps (N : Nat) (σ : Nat → Nat → Option Nat) (S : Nat) (alloc : Nat → Storage)
    (persist : Bool)
    (hσ : ∀ m k, 2 ≤ m → 1 ≤ k → ∃ a, σ m k = some a ∧ 1 ≤ a ∧ a ≤ m - 1 ∧
      a + extraCell a (clampS a k) + extraCell (m - a) (clampS (m - a) (k - 1)) =
        extraCell m (clampS m k))
    (fuel : Nat) (stored spine : Bool) (lo hi d : Nat) (evs : List Ev)
    (h : segWith N σ S alloc persist fuel stored spine lo hi d = some evs)
    (hlt : lo < hi) (hk : hi = lo + 1 ∨ 1 ≤ S - d) :
    fwdSteps evs = (hi - lo) + extraCell (hi - lo) (clampS (hi - lo) (S - d)) :=
  segWith_fwdSteps_on N σ S alloc persist (fun _ _ => True) (fun _ _ _ _ _ _ => ⟨trivial, trivial⟩)
    (fun m k hm hk _ => hσ m k hm hk) fuel stored spine lo hi d evs h hlt hk trivial

/-- a concrete stream: 5 steps with 2 units (split function `n_advance`) advance
`5 + E(5,2) = 5 + 6 = 11` steps -/
example : (segWith 5 (fun m k => nAdvance m k .maximum) 2 (fun _ => .ram) false 5 false true 0 5 0).map
    fwdSteps = some 11 := by decide

end Ckpt.GW
