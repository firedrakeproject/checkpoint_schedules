import CkptVerif.Model.Revolve
import CkptVerif.Proofs.Argmin
import Mathlib.Tactic
/-!
# The memory-only cost table `opt0Table` satisfies its recurrence

`opt[m][0] = ub`, `opt[m][1] = uf + 2 ub` (`m ≥ 1`), `opt[1][l] = (l+1) ub + l(l+1)/2 uf`, and for
`m, l ≥ 2`: `opt[m][l] = min_{1 ≤ j ≤ l-1} (j uf + opt[m-1][l-j] + opt[m][j-1])`.
-/
namespace Ckpt

/-- Invariant of a fold that pushes `f row l` for `l = s, s+1, …, s+n-1` onto an array of size `s`:
earlier entries are never changed, and entry `i` is `f` of a row that agrees with the final one
below `i`. -/
theorem pushFold_spec {α : Type} (f : Array α → Nat → α) :
    ∀ (n s : Nat) (init : Array α), init.size = s →
      ((List.range' s n).foldl (fun row l => row.push (f row l)) init).size = s + n ∧
      (∀ i, i < s → ((List.range' s n).foldl (fun row l => row.push (f row l)) init)[i]? = init[i]?) ∧
      ∀ i, s ≤ i → i < s + n → ∃ row : Array α, row.size = i ∧
        (∀ j, j < i → row[j]? = ((List.range' s n).foldl (fun row l => row.push (f row l)) init)[j]?) ∧
        ((List.range' s n).foldl (fun row l => row.push (f row l)) init)[i]? = some (f row i) := by
  intro n
  induction n with
  | zero =>
    intro s init hs
    refine ⟨by simpa using hs, fun _ _ => rfl, fun i h1 h2 => by omega⟩
  | succ n ih =>
    intro s init hs
    rw [List.range'_succ, List.foldl_cons]
    obtain ⟨h1, h2, h3⟩ := ih (s + 1) (init.push (f init s)) (by simp [hs])
    refine ⟨by omega, ?_, ?_⟩
    · intro i hi
      rw [h2 i (by omega), Array.getElem?_push, if_neg (by omega)]
    · intro i hi1 hi2
      rcases Nat.eq_or_lt_of_le hi1 with rfl | hlt
      · refine ⟨init, hs, ?_, ?_⟩
        · intro j hj
          rw [h2 j (by omega), Array.getElem?_push, if_neg (by omega)]
        · rw [h2 s (by omega), ← hs, Array.getElem?_push_size]
      · exact h3 i hlt (by omega)

/-- A table that starts with two entries and pushes `f row l` for `l = 2 … n`, where `f row l` reads
only the entries of `row` below `l`: the finished table satisfies its own recurrence. -/
theorem pushFold2_fix {α : Type} (d : α) (f : Array α → Nat → α) (a b : α) (n : Nat) (T : Array α)
    (hT : T = (List.range' 2 (n - 1)).foldl (fun row l => row.push (f row l)) #[a, b])
    (hf : ∀ (row row' : Array α) (l : Nat), 2 ≤ l → (∀ j, j < l → row[j]? = row'[j]?) →
      f row l = f row' l) :
    T.getD 0 d = a ∧ T.getD 1 d = b ∧ ∀ l, 2 ≤ l → l ≤ n → T.getD l d = f T l := by
  subst hT
  obtain ⟨_, h2, h3⟩ := pushFold_spec f (n - 1) 2 #[a, b] rfl
  refine ⟨?_, ?_, ?_⟩
  · rw [Array.getD_eq_getD_getElem?, h2 0 (by omega)]; rfl
  · rw [Array.getD_eq_getD_getElem?, h2 1 (by omega)]; rfl
  · intro l hl2 hl
    obtain ⟨row, _, hrow, hval⟩ := h3 l hl2 (by omega)
    rw [Array.getD_eq_getD_getElem?, hval, hf row _ l hl2 hrow]
    rfl

/-- the candidates of the recurrence for `opt[m][l]`, reading row `m-1` from `prev` and row `m` from `row` -/
def opt0Cands (uf : Nat) (prev row : Array Nat) (l : Nat) : List Nat :=
  (List.range' 1 (l - 1)).map (fun j => j * uf + prev.getD (l - j) 0 + row.getD (j - 1) 0)

theorem opt0Row_eq (uf ub lmax : Nat) (prev : Array Nat) :
    opt0Row uf ub lmax prev = (List.range' 2 (lmax - 1)).foldl (fun row l =>
      row.push ((opt0Cands uf prev row l).foldl min ((opt0Cands uf prev row l).headD 0))) #[ub, uf + 2 * ub] := rfl

theorem opt0Cands_congr (uf : Nat) (prev row row' : Array Nat) (l : Nat)
    (h : ∀ j, j < l → row[j]? = row'[j]?) : opt0Cands uf prev row l = opt0Cands uf prev row' l := by
  unfold opt0Cands
  apply List.map_congr_left
  intro j hj
  have := List.mem_range'_1.1 hj
  simp only [Array.getD_eq_getD_getElem?]
  rw [h (j - 1) (by omega)]

theorem opt0Row_spec (uf ub lmax : Nat) (prev : Array Nat) :
    (opt0Row uf ub lmax prev).getD 0 0 = ub ∧ (opt0Row uf ub lmax prev).getD 1 0 = uf + 2 * ub ∧
    ∀ l, 2 ≤ l → l ≤ lmax → (opt0Row uf ub lmax prev).getD l 0 =
      (opt0Cands uf prev (opt0Row uf ub lmax prev) l).foldl min
        ((opt0Cands uf prev (opt0Row uf ub lmax prev) l).headD 0) := by
  exact pushFold2_fix 0 (fun row l =>
    (opt0Cands uf prev row l).foldl min ((opt0Cands uf prev row l).headD 0)) ub (uf + 2 * ub) lmax _
    (opt0Row_eq uf ub lmax prev) (fun row row' l _ h => by rw [opt0Cands_congr uf prev row row' l h])

/-- row 1 of the table: the closed form -/
def opt0Row1 (lmax uf ub : Nat) : Array Nat :=
  (List.range' 2 (lmax - 1)).foldl (fun row l =>
    row.push ((l + 1) * ub + l * (l + 1) / 2 * uf)) #[ub, uf + 2 * ub]

theorem opt0Row1_spec (lmax uf ub : Nat) :
    (opt0Row1 lmax uf ub).getD 0 0 = ub ∧ (opt0Row1 lmax uf ub).getD 1 0 = uf + 2 * ub ∧
    ∀ l, 2 ≤ l → l ≤ lmax → (opt0Row1 lmax uf ub).getD l 0 = (l + 1) * ub + l * (l + 1) / 2 * uf := by
  exact pushFold2_fix 0 (fun _ l => (l + 1) * ub + l * (l + 1) / 2 * uf) ub (uf + 2 * ub) lmax _ rfl
    (fun _ _ _ _ _ => rfl)

theorem opt0Table_zero (lmax uf ub : Nat) : opt0Table lmax 0 uf ub = #[#[ub]] := by
  simp [opt0Table]

theorem opt0Table_pos (lmax mmax uf ub : Nat) (h : 1 ≤ mmax) :
    opt0Table lmax mmax uf ub = (List.range' 2 (mmax - 1)).foldl (fun (t : Array (Array Nat)) m =>
      t.push (opt0Row uf ub lmax (t.getD (m - 1) #[]))) #[#[ub], opt0Row1 lmax uf ub] := by
  have : ¬ mmax = 0 := by omega
  simp only [opt0Table, this, if_false]
  rfl

theorem opt0Table_rows (lmax mmax uf ub : Nat) (h : 1 ≤ mmax) :
    (opt0Table lmax mmax uf ub).getD 0 #[] = #[ub] ∧
    (opt0Table lmax mmax uf ub).getD 1 #[] = opt0Row1 lmax uf ub ∧
    ∀ m, 2 ≤ m → m ≤ mmax → (opt0Table lmax mmax uf ub).getD m #[] =
      opt0Row uf ub lmax ((opt0Table lmax mmax uf ub).getD (m - 1) #[]) := by
  exact pushFold2_fix #[] (fun t m => opt0Row uf ub lmax (t.getD (m - 1) #[])) #[ub]
    (opt0Row1 lmax uf ub) mmax _ (opt0Table_pos lmax mmax uf ub h) (fun t t' m hm h => by
      simp only [Array.getD_eq_getD_getElem?]
      rw [h (m - 1) (by omega)])

theorem opt0Get_zero (lmax mmax uf ub m : Nat) (hm : m ≤ mmax) :
    opt0Get (opt0Table lmax mmax uf ub) m 0 = ub := by
  unfold opt0Get
  rcases Nat.eq_zero_or_pos mmax with h0 | hpos
  · subst h0
    have : m = 0 := by omega
    subst this
    rw [opt0Table_zero]; rfl
  · obtain ⟨r0, r1, r2⟩ := opt0Table_rows lmax mmax uf ub hpos
    rcases Nat.lt_or_ge m 2 with hlt | hge
    · rcases Nat.eq_zero_or_pos m with rfl | hm1
      · rw [r0]; rfl
      · have : m = 1 := by omega
        subst this
        rw [r1]; exact (opt0Row1_spec lmax uf ub).1
    · rw [r2 m hge hm]; exact (opt0Row_spec uf ub lmax _).1

theorem opt0Get_one (lmax mmax uf ub m : Nat) (hm1 : 1 ≤ m) (hm : m ≤ mmax) :
    opt0Get (opt0Table lmax mmax uf ub) m 1 = uf + 2 * ub := by
  unfold opt0Get
  obtain ⟨_, r1, r2⟩ := opt0Table_rows lmax mmax uf ub (by omega)
  rcases Nat.lt_or_ge m 2 with hlt | hge
  · have : m = 1 := by omega
    subst this
    rw [r1]; exact (opt0Row1_spec lmax uf ub).2.1
  · rw [r2 m hge hm]; exact (opt0Row_spec uf ub lmax _).2.1

theorem opt0Get_row1 (lmax mmax uf ub l : Nat) (hmm : 1 ≤ mmax) (hl2 : 2 ≤ l) (hl : l ≤ lmax) :
    opt0Get (opt0Table lmax mmax uf ub) 1 l = (l + 1) * ub + l * (l + 1) / 2 * uf := by
  unfold opt0Get
  rw [(opt0Table_rows lmax mmax uf ub hmm).2.1]
  exact (opt0Row1_spec lmax uf ub).2.2 l hl2 hl

/-- The recurrence, with the minimum written exactly as in the model, plus the two facts that
characterise it as a minimum. -/
theorem opt0Get_rec (lmax mmax uf ub m l : Nat) (hm2 : 2 ≤ m) (hm : m ≤ mmax) (hl2 : 2 ≤ l)
    (hl : l ≤ lmax) :
    let t := opt0Table lmax mmax uf ub
    let cands := (List.range' 1 (l - 1)).map (fun j =>
      j * uf + opt0Get t (m - 1) (l - j) + opt0Get t m (j - 1))
    opt0Get t m l = cands.foldl min (cands.headD 0) ∧
    (∀ x ∈ cands, opt0Get t m l ≤ x) ∧ opt0Get t m l ∈ cands := by
  intro t cands
  have hrow := (opt0Table_rows lmax mmax uf ub (by omega)).2.2 m hm2 hm
  have hc : cands = opt0Cands uf (t.getD (m - 1) #[]) (t.getD m #[]) l := rfl
  have hne : cands ≠ [] := map_range'_ne_nil _ (by omega)
  have heq : opt0Get t m l = cands.foldl min (cands.headD 0) := by
    rw [hc]
    show (t.getD m #[]).getD l 0 = _
    have := (opt0Row_spec uf ub lmax (t.getD (m - 1) #[])).2.2 l hl2 hl
    rw [← hrow] at this
    exact this
  refine ⟨heq, ?_, ?_⟩
  · rw [heq]; exact foldl_min_le cands
  · rw [heq]; exact List.mem_of_getElem? (argminO_map_some_get cands hne)

/-- the same in index form -/
theorem opt0Get_rec_index (lmax mmax uf ub m l : Nat) (hm2 : 2 ≤ m) (hm : m ≤ mmax) (hl2 : 2 ≤ l)
    (hl : l ≤ lmax) :
    let t := opt0Table lmax mmax uf ub
    (∀ j, 1 ≤ j → j ≤ l - 1 →
      opt0Get t m l ≤ j * uf + opt0Get t (m - 1) (l - j) + opt0Get t m (j - 1)) ∧
    ∃ j, 1 ≤ j ∧ j ≤ l - 1 ∧
      opt0Get t m l = j * uf + opt0Get t (m - 1) (l - j) + opt0Get t m (j - 1) := by
  intro t
  obtain ⟨_, h2, h3⟩ := opt0Get_rec lmax mmax uf ub m l hm2 hm hl2 hl
  constructor
  · intro j hj1 hj2
    apply h2
    exact List.mem_map.2 ⟨j, List.mem_range'_1.2 ⟨hj1, by omega⟩, rfl⟩
  · obtain ⟨j, hj, hjv⟩ := List.mem_map.1 h3
    have := List.mem_range'_1.1 hj
    exact ⟨j, this.1, by omega, hjv.symm⟩

-- concrete instance: lmax = 6, mmax = 3, uf = ub = 1
example : opt0Get (opt0Table 6 3 1 1) 3 6 = 16 ∧ opt0Get (opt0Table 6 3 1 1) 2 4 = 11 := by decide

/-! ## the cost table does not depend on `lmax` -/

theorem opt0Get_row0 (lmax mmax uf ub l : Nat) (hl : 1 ≤ l) :
    opt0Get (opt0Table lmax mmax uf ub) 0 l = 0 := by
  unfold opt0Get
  rcases Nat.eq_zero_or_pos mmax with h0 | hpos
  · subst h0
    rw [opt0Table_zero]
    simp [Array.getD]
    omega
  · rw [(opt0Table_rows lmax mmax uf ub hpos).1]
    simp [Array.getD]
    omega

theorem opt0Table_agree (L1 L2 M uf ub : Nat) :
    ∀ (m l : Nat), m ≤ M → l ≤ L1 → l ≤ L2 →
      opt0Get (opt0Table L1 M uf ub) m l = opt0Get (opt0Table L2 M uf ub) m l := by
  intro m
  induction m using Nat.strong_induction_on with
  | _ m ihm =>
    intro l
    induction l using Nat.strong_induction_on with
    | _ l ihl =>
      intro hm h1 h2
      rcases Nat.eq_zero_or_pos l with rfl | hl1
      · rw [opt0Get_zero L1 M uf ub m hm, opt0Get_zero L2 M uf ub m hm]
      rcases Nat.eq_zero_or_pos m with rfl | hm1
      · rw [opt0Get_row0 L1 M uf ub l hl1, opt0Get_row0 L2 M uf ub l hl1]
      by_cases hl : l = 1
      · subst hl
        rw [opt0Get_one L1 M uf ub m hm1 hm, opt0Get_one L2 M uf ub m hm1 hm]
      by_cases hm' : m = 1
      · subst hm'
        rw [opt0Get_row1 L1 M uf ub l (by omega) (by omega) h1,
          opt0Get_row1 L2 M uf ub l (by omega) (by omega) h2]
      have r1 := (opt0Get_rec L1 M uf ub m l (by omega) hm (by omega) h1).1
      have r2 := (opt0Get_rec L2 M uf ub m l (by omega) hm (by omega) h2).1
      rw [r1, r2]
      have : (List.range' 1 (l - 1)).map (fun j =>
          j * uf + opt0Get (opt0Table L1 M uf ub) (m - 1) (l - j) +
            opt0Get (opt0Table L1 M uf ub) m (j - 1)) =
        (List.range' 1 (l - 1)).map (fun j =>
          j * uf + opt0Get (opt0Table L2 M uf ub) (m - 1) (l - j) +
            opt0Get (opt0Table L2 M uf ub) m (j - 1)) := by
        apply List.map_congr_left
        intro j hj
        rw [List.mem_range'_1] at hj
        rw [ihm (m - 1) (by omega) (l - j) (by omega) (by omega) (by omega),
          ihl (j - 1) (by omega) hm (by omega) (by omega)]
      rw [this]

end Ckpt
