import CkptVerif.Spec.Exec
import Mathlib.Tactic
/-!
# Per-action lemmas for the specification executor

For each kind of action emitted by the generators one lemma states the precondition under which
`step` records no violation at all (of any tag) and what the successor state is; the variants that
follow a general lemma are its instances for a checkpoint stack `top :: rest ++ base`.  The
acceptance proofs of the schedule classes chain these lemmas (`Clean.cons`, `Clean.append`); the
stretches that recur in several of them (`turn_clean`, `Clean.whole`) are at the end.
-/
namespace Ckpt

theorem maxsize_pos : 0 < maxsize := by decide

/-- a finalised executor state, all fields explicit -/
def X (fwd : Option Nat) (r : Nat) (wIcs wDeps : Option (Nat × Nat)) (cps : List Cp)
    (ended : Bool) (done : Nat) (snap : List Cp) : XS :=
  { fwd := fwd, r := r, wIcs := wIcs, wDeps := wDeps, cps := cps, ended := ended, fin := true,
    done := done, snap := snap }

/-- the observation a generator event yields while the schedule is not exhausted -/
def Ev.obs (e : Ev) (N : Nat) : Obs := ⟨e.act, e.n, e.r, some N, false, true⟩

/-- after `dn` completed adjoint calculations `cfg.passes` permits another one -/
def Alive (cfg : Cfg) (dn : Nat) : Prop :=
  cfg.passes ≠ some 0 ∧ ∀ k, cfg.passes = some k → dn < k

theorem alive_one {cfg : Cfg} (hp : cfg.passes = some 1) : Alive cfg 0 :=
  ⟨by rw [hp]; simp, by intro k hk; rw [hp] at hk; injection hk with hk; omega⟩

theorem alive_of_passes_none {cfg : Cfg} (h : cfg.passes = none) (dn : Nat) : Alive cfg dn :=
  ⟨by rw [h]; simp, by intro k hk; rw [h] at hk; cases hk⟩

/-- while further calculations are permitted the stream has not ended; stated on a state written
out in full, so that it rewrites the states before and after a step -/
theorem finished_mk {cfg : Cfg} {dn : Nat} (h : Alive cfg dn) (f : Option Nat) (r : Nat)
    (wi wd : Option (Nat × Nat)) (cps : List Cp) (e fn : Bool) (sn : List Cp) :
    finished cfg ⟨f, r, wi, wd, cps, e, fn, dn, sn⟩ = false := by
  unfold finished
  rcases hp : cfg.passes with _ | k
  · rfl
  · cases k with
    | zero => exact absurd hp h.1
    | succ k =>
      have := h.2 _ hp
      simp; omega

theorem run_append (cfg : Cfg) (i : Nat) (x : XS) (as bs : List Obs) :
    runFrom cfg i x (as ++ bs) =
      let p := runFrom cfg i x as
      let q := runFrom cfg (i + as.length) p.1 bs
      (q.1, p.2 ++ q.2) := by
  induction as generalizing i x with
  | nil => simp [runFrom]
  | cons a as ih =>
    simp only [List.cons_append, runFrom, List.length_cons]
    rw [ih]
    simp only [List.append_assoc]
    have : i + 1 + as.length = i + (as.length + 1) := by omega
    rw [this]

/-- `Clean cfg x os x'`: running `os` from `x` records no violation and ends in `x'`.  The index
`i` only numbers the violations and is irrelevant (`runFrom_index` in `Canon.lean`); it is
quantified so that `Clean.append` is one rewrite with `run_append`. -/
def Clean (cfg : Cfg) (x : XS) (os : List Obs) (x' : XS) : Prop :=
  ∀ i, runFrom cfg i x os = (x', [])

theorem Clean.nil (cfg : Cfg) (x : XS) : Clean cfg x [] x := fun _ => rfl

theorem Clean.cons {cfg : Cfg} {x x' x'' : XS} {o : Obs} {os : List Obs}
    (h1 : step cfg x o = (x', [])) (h2 : Clean cfg x' os x'') : Clean cfg x (o :: os) x'' := by
  intro i
  simp only [runFrom, h1, h2 (i+1)]
  rfl

theorem Clean.append {cfg : Cfg} {x x' x'' : XS} {as bs : List Obs}
    (h1 : Clean cfg x as x') (h2 : Clean cfg x' bs x'') : Clean cfg x (as ++ bs) x'' := by
  intro i
  rw [run_append, h1 i]
  simp only [h2 (i + as.length)]
  rfl

theorem Clean.single {cfg : Cfg} {x x' : XS} {o : Obs} (h : step cfg x o = (x', [])) :
    Clean cfg x [o] x' := Clean.cons h (Clean.nil cfg x')

theorem countSt_cons (cp : Cp) (l : List Cp) (s : Storage) :
    countSt (cp :: l) s = (if cp.st = s then 1 else 0) + countSt l s := by
  unfold countSt
  rw [List.filter_cons]
  by_cases h : cp.st = s
  · simp [h]; omega
  · simp [h]

theorem countSt_append (a b : List Cp) (s : Storage) :
    countSt (a ++ b) s = countSt a s + countSt b s := by
  simp [countSt]

theorem countSt_all {st : Storage} {stack : List Cp} (h : ∀ c ∈ stack, c.st = st) (s : Storage) :
    countSt stack s = if st = s then stack.length else 0 := by
  induction stack with
  | nil => simp [countSt]
  | cons c rest ih =>
    rw [countSt_cons, ih fun c' hc' => h c' (List.mem_cons_of_mem _ hc'), h c List.mem_cons_self]
    split <;> simp [Nat.add_comm]

theorem withinBudget_congr (cfg : Cfg) (c c' : Cp) (cps : List Cp) (h : c.st = c'.st) :
    withinBudget cfg (c :: cps) = withinBudget cfg (c' :: cps) := by
  simp only [withinBudget, countSt_cons, h]

/-- labels of a checkpoint stack (most recent first): position `i` from the bottom is in `alloc i` -/
def Labelled (alloc : Nat → Storage) : List Cp → Prop
  | [] => True
  | c :: rest => c.st = alloc rest.length ∧ Labelled alloc rest

theorem Labelled.const {alloc : Nat → Storage} {st : Storage} (ha : ∀ i, alloc i = st) :
    ∀ {stack : List Cp}, Labelled alloc stack → ∀ c ∈ stack, c.st = st
  | [], _, _, hc => by cases hc
  | _ :: _, ⟨h, hrest⟩, c, hc => by
    rcases List.mem_cons.mp hc with rfl | hc'
    · rw [h, ha]
    · exact Labelled.const ha hrest c hc'

def Below (cps : List Cp) (lo : Nat) : Prop := ∀ c ∈ cps, c.n < lo

def Outside (cps : List Cp) (lo hi : Nat) : Prop := ∀ c ∈ cps, c.n < lo ∨ hi ≤ c.n

theorem Below.mono {cps : List Cp} {lo lo' : Nat} (h : Below cps lo) (hl : lo ≤ lo') : Below cps lo' :=
  fun c hc => Nat.lt_of_lt_of_le (h c hc) hl

theorem Below.cons {rest : List Cp} {lo lo' : Nat} {c : Cp} (h : Below rest lo) (hc : c.n = lo) (hl : lo < lo') :
    Below (c :: rest) lo' := by
  intro c' hc'
  rcases List.mem_cons.mp hc' with rfl | h'
  · omega
  · have := h c' h'; omega

theorem Below.outside {cps : List Cp} {lo : Nat} (h : Below cps lo) (hi : Nat) : Outside cps lo hi :=
  fun c hc => Or.inl (h c hc)

theorem Outside.mono {cps : List Cp} {lo hi lo' hi' : Nat} (h : Outside cps lo hi) (hl : lo ≤ lo') (hh : hi' ≤ hi) :
    Outside cps lo' hi' := by
  intro c hc
  rcases h c hc with h1 | h1
  · left; omega
  · right; omega

theorem key_free {rest base : List Cp} {lo lo0 hi0 : Nat} (hr : Below rest lo) (hb : Outside base lo0 hi0)
    (h0 : lo0 ≤ lo) (h1 : lo < hi0) : ∀ c ∈ rest ++ base, c.n ≠ lo := by
  intro c hc
  rcases List.mem_append.mp hc with h | h
  · have := hr c h; omega
  · have := hb c h; omega

theorem findCp_none {rest base : List Cp} {lo lo0 hi0 : Nat} (hr : Below rest lo) (hb : Outside base lo0 hi0)
    (h0 : lo0 ≤ lo) (h1 : lo < hi0) (st : Storage) : findCp (rest ++ base) lo st = none := by
  unfold findCp
  rw [List.find?_eq_none]
  intro c hc
  simp [key_free hr hb h0 h1 c hc]

theorem findCp_top (c : Cp) (cps : List Cp) : findCp (c :: cps) c.n c.st = some c := by
  simp [findCp]

theorem eraseCp_top (c : Cp) {cps : List Cp} (h : ∀ c' ∈ cps, c'.n ≠ c.n) :
    eraseCp (c :: cps) c.n c.st = cps := by
  unfold eraseCp
  rw [List.filter_cons, if_neg (by simp), List.filter_eq_self]
  intro c' hc'
  simp [h c' hc']

section steps
variable (cfg : Cfg) (N : Nat)

/-- a Forward that stores nothing; with `wa` it records the adjoint dependencies in WORK, which
only the turn-around step may do -/
theorem step_forward_work (wa : Bool) (f : Option Nat) (lo a r : Nat) (wi wd : Option (Nat × Nat))
    (cps : List Cp) (e : Bool) (dn : Nat) (sn : List Cp) (hN : cfg.N = N) (hal : Alive cfg dn)
    (h : lo + a ≤ N - r) (ha : 0 < a) (hf : f = some lo) (hwa : wa = true → a = 1 ∧ lo + 1 = N - r) :
    step cfg (X f r wi wd cps e dn sn) (Ev.obs ⟨.forward lo (lo + a) false wa .work, lo + a, r⟩ N)
      = (X (some (lo + a)) r none (if wa then some (lo, lo + a) else none) cps e dn sn, []) := by
  subst hf hN
  cases wa
  · simp [step, stepViols, actViols, nextState, obsViols, chk, clip, X, Ev.obs, Storage.isStore,
      finished_mk hal, h, ha]
  · obtain ⟨rfl, h1⟩ := hwa rfl
    simp [step, stepViols, actViols, nextState, obsViols, chk, clip, X, Ev.obs, Storage.isStore,
      finished_mk hal, h1]
    omega

theorem step_plain (f : Option Nat) (lo a r : Nat) (wi wd : Option (Nat × Nat)) (cps : List Cp) (e : Bool)
    (dn : Nat) (sn : List Cp) (hN : cfg.N = N) (hal : Alive cfg dn)
    (h : lo + a ≤ N - r) (ha : 0 < a) (hf : f = some lo) :
    step cfg (X f r wi wd cps e dn sn) (Ev.obs ⟨.forward lo (lo + a) false false .work, lo + a, r⟩ N)
      = (X (some (lo + a)) r none none cps e dn sn, []) :=
  step_forward_work cfg N false f lo a r wi wd cps e dn sn hN hal h ha hf (fun h => by cases h)

theorem step_turn (f : Option Nat) (lo r : Nat) (wi wd : Option (Nat × Nat)) (cps : List Cp) (e : Bool)
    (dn : Nat) (sn : List Cp) (hN : cfg.N = N) (hal : Alive cfg dn)
    (h : lo + 1 = N - r) (hf : f = some lo) :
    step cfg (X f r wi wd cps e dn sn) (Ev.obs ⟨.forward lo (lo + 1) false true .work, lo + 1, r⟩ N)
      = (X (some (lo + 1)) r none (some (lo, lo + 1)) cps e dn sn, []) :=
  step_forward_work cfg N true f lo 1 r wi wd cps e dn sn hN hal (Nat.le_of_eq h) Nat.one_pos hf
    (fun _ => ⟨rfl, h⟩)

/-- a Forward that stores a checkpoint for `lo` in `st`: restart data for the `a` steps advanced
(`wa = false`), or the adjoint dependencies of the single step advanced (`wa = true`) -/
theorem step_forward_store (wa : Bool) (st : Storage) (f : Option Nat) (lo a r : Nat)
    (wi wd : Option (Nat × Nat)) (cps : List Cp) (e : Bool) (dn : Nat) (sn : List Cp)
    (hN : cfg.N = N) (hal : Alive cfg dn) (h : lo + a ≤ N - r) (ha : 0 < a) (hf : f = some lo)
    (hwa : wa = true → a = 1) (hst : st.isStore = true) (hfind : findCp cps lo st = none)
    (hB : withinBudget cfg (⟨lo, st, 0, 0⟩ :: cps) = true) :
    step cfg (X f r wi wd cps e dn sn) (Ev.obs ⟨.forward lo (lo + a) (!wa) wa st, lo + a, r⟩ N)
      = (X (some (lo + a)) r none none
          (⟨lo, st, if wa then 0 else a, if wa then a else 0⟩ :: cps) e dn sn, []) := by
  have hnw : st ≠ .work := by rintro rfl; cases hst
  have hnn : st ≠ .none := by rintro rfl; cases hst
  subst hf hN
  cases wa
  · simp [step, stepViols, actViols, nextState, obsViols, chk, clip, X, Ev.obs, finished_mk hal,
      h, ha, hst, hfind, hB, hnw, hnn]
  · obtain rfl := hwa rfl
    simp [step, stepViols, actViols, nextState, obsViols, chk, clip, X, Ev.obs, finished_mk hal,
      h, hst, hfind, hB, hnw, hnn]

theorem step_write (st : Storage) (base : List Cp) (lo0 hi0 : Nat)
    (f : Option Nat) (lo a r : Nat) (wi wd : Option (Nat × Nat)) (rest : List Cp) (e : Bool)
    (dn : Nat) (sn : List Cp) (hN : cfg.N = N) (hal : Alive cfg dn)
    (h : lo + a ≤ N - r) (ha : 0 < a) (hf : f = some lo) (hst : st.isStore = true)
    (hr : Below rest lo) (hb : Outside base lo0 hi0) (h0 : lo0 ≤ lo) (h1 : lo < hi0)
    (hB : withinBudget cfg (⟨lo, st, a, 0⟩ :: (rest ++ base)) = true) :
    step cfg (X f r wi wd (rest ++ base) e dn sn)
        (Ev.obs ⟨.forward lo (lo + a) true false st, lo + a, r⟩ N)
      = (X (some (lo + a)) r none none (⟨lo, st, a, 0⟩ :: (rest ++ base)) e dn sn, []) :=
  step_forward_store cfg N false st f lo a r wi wd _ e dn sn hN hal h ha hf (fun h => by cases h) hst
    (findCp_none hr hb h0 h1 st) (by rw [← hB]; exact withinBudget_congr cfg _ _ _ rfl)

theorem step_reverse_gen (f : Option Nat) (n lo hi r : Nat) (clear : Bool) (wi wd : Option (Nat × Nat))
    (cps : List Cp) (dn : Nat) (sn : List Cp) (hN : cfg.N = N) (hal : Alive cfg dn)
    (hlt : lo < hi) (h : hi = N - r) (hf : f = some n ∨ f = none) (hc : covers wd lo hi = true) :
    step cfg (X f r wi wd cps true dn sn) ⟨.reverse hi lo clear, n, r + (hi - lo), some N, false, true⟩
      = (X f (r + (hi - lo)) wi (if clear then none else wd) cps true dn sn, []) := by
  subst h hN
  rcases hf with rfl | rfl <;>
    simp [step, stepViols, actViols, nextState, obsViols, chk, X, finished_mk hal, hlt, hc]

theorem step_reverse (f : Option Nat) (lo r : Nat) (wi : Option (Nat × Nat)) (cps : List Cp)
    (dn : Nat) (sn : List Cp) (hN : cfg.N = N) (hal : Alive cfg dn)
    (h : lo + 1 = N - r) (hf : f = some (lo + 1)) :
    step cfg (X f r wi (some (lo, lo + 1)) cps true dn sn) (Ev.obs ⟨.reverse (lo + 1) lo true, lo + 1, r + 1⟩ N)
      = (X f (r + 1) wi none cps true dn sn, []) := by
  have := step_reverse_gen cfg N f (lo + 1) lo (lo + 1) r true wi (some (lo, lo + 1)) cps dn sn hN hal
    (Nat.lt_succ_self lo) h (Or.inl hf) (by simp [covers])
  rwa [Nat.add_sub_cancel_left] at this

theorem step_endForward (wi wd : Option (Nat × Nat)) (cps : List Cp)
    (dn : Nat) (sn : List Cp) (hN : cfg.N = N) (hal : Alive cfg dn) :
    step cfg (X (some N) 0 wi wd cps false dn sn) (Ev.obs ⟨.endForward, N, 0⟩ N)
      = (X (some N) 0 wi wd cps true dn cps, []) := by
  subst hN
  simp [step, stepViols, actViols, nextState, obsViols, chk, X, Ev.obs, finished_mk hal]

/-- load restart data for `[lo, lo + k)` from `st` into WORK, by `Move` (`mv`, deleting the
checkpoint) or by `Copy` -/
theorem step_load (mv : Bool) (f : Option Nat) (lo k r : Nat) (st : Storage) (cps : List Cp)
    (dn : Nat) (sn : List Cp) (hN : cfg.N = N) (hal : Alive cfg dn) (hst : st.isStore = true)
    (h : N - r ≤ lo + k) (hlo : lo < N - r)
    (hfind : findCp cps lo st = some ⟨lo, st, k, 0⟩) :
    step cfg (X f r none none cps true dn sn)
        (Ev.obs ⟨if mv then .move lo st .work else .copy lo st .work, lo, r⟩ N)
      = (X (some lo) r (some (lo, lo + k)) none (if mv then eraseCp cps lo st else cps) true dn sn, []) := by
  have hw : Storage.work.isStore = false := rfl
  have hk : 0 < k := by omega
  subst hN
  cases mv <;>
    simp [step, stepViols, actViols, actViols.loadViols, nextState, obsViols, chk, X, Ev.obs,
      finished_mk hal, hw, hst, hfind, hk, h, hlo]

/-- load the adjoint dependencies of step `lo` (a checkpoint without restart data) from `st` into
WORK; the forward state becomes undefined, so the reported `n` is unconstrained -/
theorem step_load_deps (mv : Bool) (f : Option Nat) (lo d n r : Nat) (st : Storage) (cps : List Cp)
    (dn : Nat) (sn : List Cp) (hN : cfg.N = N) (hal : Alive cfg dn) (hst : st.isStore = true)
    (hd : 0 < d) (h : lo + 1 = N - r) (hfind : findCp cps lo st = some ⟨lo, st, 0, d⟩) :
    step cfg (X f r none none cps true dn sn)
        (Ev.obs ⟨if mv then .move lo st .work else .copy lo st .work, n, r⟩ N)
      = (X none r none (some (lo, lo + d)) (if mv then eraseCp cps lo st else cps) true dn sn, []) := by
  have hw : Storage.work.isStore = false := rfl
  have hlo : lo < N - r := by omega
  subst hN
  cases mv <;>
    simp [step, stepViols, actViols, actViols.loadViols, nextState, obsViols, chk, X, Ev.obs,
      finished_mk hal, hw, hst, hfind, hd, h, hlo]

theorem step_copy (base : List Cp) (f : Option Nat) (lo k r : Nat) (st : Storage) (rest : List Cp)
    (dn : Nat) (sn : List Cp) (hN : cfg.N = N) (hal : Alive cfg dn)
    (hst : st.isStore = true) (h : N - r ≤ lo + k) (hlo : lo < N - r) :
    step cfg (X f r none none (⟨lo, st, k, 0⟩ :: (rest ++ base)) true dn sn)
        (Ev.obs ⟨.copy lo st .work, lo, r⟩ N)
      = (X (some lo) r (some (lo, lo + k)) none (⟨lo, st, k, 0⟩ :: (rest ++ base)) true dn sn, []) :=
  step_load cfg N false f lo k r st _ dn sn hN hal hst h hlo (findCp_top ⟨lo, st, k, 0⟩ _)

theorem step_move (base : List Cp) (lo0 hi0 : Nat) (f : Option Nat) (lo k r : Nat) (st : Storage) (rest : List Cp)
    (dn : Nat) (sn : List Cp) (hN : cfg.N = N) (hal : Alive cfg dn)
    (hst : st.isStore = true) (h : N - r ≤ lo + k) (hlo : lo < N - r)
    (hr : Below rest lo) (hb : Outside base lo0 hi0) (h0 : lo0 ≤ lo) (h1 : lo < hi0) :
    step cfg (X f r none none (⟨lo, st, k, 0⟩ :: (rest ++ base)) true dn sn)
        (Ev.obs ⟨.move lo st .work, lo, r⟩ N)
      = (X (some lo) r (some (lo, lo + k)) none (rest ++ base) true dn sn, []) := by
  have := step_load cfg N true f lo k r st _ dn sn hN hal hst h hlo
    (findCp_top ⟨lo, st, k, 0⟩ (rest ++ base))
  rwa [if_pos rfl, eraseCp_top ⟨lo, st, k, 0⟩ (key_free hr hb h0 h1)] at this

theorem step_endReverse_final' (n : Nat) (f : Option Nat) (sn : List Cp)
    (hN : cfg.N = N) (hp : cfg.passes = some 1) (hf : f = none ∨ f = some n) :
    step cfg (X f N none none [] true 0 sn) ⟨.endReverse, n, N, some N, true, true⟩
      = (X f N none none [] true 1 sn, []) := by
  rcases hf with rfl | rfl <;>
  simp [step, stepViols, actViols, nextState, obsViols, chk, X, finished, hN, hp]

theorem step_endReverse_final (n : Nat) (sn : List Cp) (hN : cfg.N = N) (hp : cfg.passes = some 1) :
    step cfg (X (some n) N none none [] true 0 sn) ⟨.endReverse, n, N, some N, true, true⟩
      = (X (some n) N none none [] true 1 sn, []) :=
  step_endReverse_final' cfg N n _ sn hN hp (Or.inr rfl)

theorem step_endReverse_again (f : Option Nat) (n : Nat) (wi wd : Option (Nat × Nat))
    (cps : List Cp) (dn : Nat) (sn : List Cp) (hN : cfg.N = N) (hp : cfg.passes = none)
    (hf : f = some n ∨ f = none) (hs : sameCps cps sn = true) :
    step cfg (X f N wi wd cps true dn sn) ⟨.endReverse, n, 0, some N, false, true⟩
      = (X f 0 wi wd cps true (dn + 1) sn, []) := by
  rcases hf with rfl | rfl <;>
    simp [step, stepViols, actViols, nextState, obsViols, chk, X, finished, hN, hp, hs]

end steps

/-! ### below an adjoint position

A segment `[lo, hi)` is reversed with the adjoint standing at `hi ≤ N`, that is `r = N - hi`.  In
this form the side conditions are free of truncated subtraction. -/

section segment
variable {cfg : Cfg} {N dn : Nat} (hN : cfg.N = N) (hal : Alive cfg dn)
include hN hal

theorem seg_plain (lo a hi : Nat) (wi wd : Option (Nat × Nat)) (cps : List Cp) (e : Bool) (sn : List Cp)
    (h : lo + a ≤ hi) (hhi : hi ≤ N) (ha : 0 < a) :
    step cfg (X (some lo) (N - hi) wi wd cps e dn sn)
        (Ev.obs ⟨.forward lo (lo + a) false false .work, lo + a, N - hi⟩ N)
      = (X (some (lo + a)) (N - hi) none none cps e dn sn, []) :=
  step_plain cfg N _ lo a _ wi wd cps e dn sn hN hal (by omega) ha rfl

theorem seg_write (st : Storage) (base : List Cp) (lo0 hi0 lo a hi : Nat) (wi wd : Option (Nat × Nat))
    (rest : List Cp) (e : Bool) (sn : List Cp) (h : lo + a ≤ hi) (hhi : hi ≤ N) (ha : 0 < a)
    (hst : st.isStore = true) (hr : Below rest lo) (hb : Outside base lo0 hi0) (h0 : lo0 ≤ lo) (h1 : lo < hi0)
    (hB : withinBudget cfg (⟨lo, st, a, 0⟩ :: (rest ++ base)) = true) :
    step cfg (X (some lo) (N - hi) wi wd (rest ++ base) e dn sn)
        (Ev.obs ⟨.forward lo (lo + a) true false st, lo + a, N - hi⟩ N)
      = (X (some (lo + a)) (N - hi) none none (⟨lo, st, a, 0⟩ :: (rest ++ base)) e dn sn, []) :=
  step_write cfg N st base lo0 hi0 _ lo a _ wi wd rest e dn sn hN hal (by omega) ha rfl hst hr hb h0 h1 hB

/-- re-load the restart checkpoint on top of the stack: by `Copy` if it is to be kept, by `Move`
(deleting it) if this is the last time -/
theorem seg_reload (keep : Bool) (base : List Cp) (lo0 hi0 : Nat) (f : Option Nat) (lo k hi : Nat)
    (st : Storage) (rest sn : List Cp) (hst : st.isStore = true) (h : hi ≤ lo + k) (hlo : lo < hi)
    (hhi : hi ≤ N) (hr : Below rest lo) (hb : Outside base lo0 hi0) (h0 : lo0 ≤ lo) (h1 : lo < hi0) :
    step cfg (X f (N - hi) none none (⟨lo, st, k, 0⟩ :: (rest ++ base)) true dn sn)
        (Ev.obs (if keep then ⟨.copy lo st .work, lo, N - hi⟩ else ⟨.move lo st .work, lo, N - hi⟩) N)
      = (X (some lo) (N - hi) (some (lo, lo + k)) none
          ((if keep then ⟨lo, st, k, 0⟩ :: rest else rest) ++ base) true dn sn, []) := by
  cases keep
  · exact step_move cfg N base lo0 hi0 f lo k _ st rest dn sn hN hal hst (by omega) (by omega)
      hr hb h0 h1
  · exact step_copy cfg N base f lo k _ st rest dn sn hN hal hst (by omega) (by omega)

end segment

/-- the single step `[lo, lo + 1)` below the adjoint position: advance recording the dependencies,
(`EndForward` if this is the end of the forward sweep,) reverse -/
theorem turn_clean {cfg : Cfg} {N dn : Nat} (hN : cfg.N = N) (hal : Alive cfg dn) (lo : Nat) (spine : Bool)
    (wi wd : Option (Nat × Nat)) (cps sn : List Cp) (h1 : lo + 1 ≤ N) (hsp : spine = true → lo + 1 = N) :
    Clean cfg (X (some lo) (N - (lo + 1)) wi wd cps (!spine) dn sn)
      (([⟨.forward lo (lo + 1) false true .work, lo + 1, N - (lo + 1)⟩] ++
        (if spine then [⟨.endForward, lo + 1, N - (lo + 1)⟩] else []) ++
        [⟨.reverse (lo + 1) lo true, lo + 1, N - (lo + 1) + 1⟩] : List Ev).map (Ev.obs · N))
      (X (some (lo + 1)) (N - lo) none none cps true dn (if spine then cps else sn)) := by
  have hr : lo + 1 = N - (N - (lo + 1)) := by omega
  have hr2 : N - lo = N - (lo + 1) + 1 := by omega
  rw [hr2]
  cases spine with
  | false =>
    exact Clean.cons (step_turn cfg N _ lo _ wi wd cps true dn sn hN hal hr rfl)
      (Clean.single (step_reverse cfg N _ lo _ none cps dn sn hN hal hr rfl))
  | true =>
    obtain rfl := hsp rfl
    rw [Nat.sub_self]
    exact Clean.cons (step_turn cfg _ _ lo 0 wi wd cps false dn sn hN hal rfl rfl)
      (Clean.cons (step_endForward cfg _ none _ cps dn sn hN hal)
        (Clean.single (step_reverse cfg _ _ lo 0 none cps dn cps hN hal rfl rfl)))

/-- a single-adjoint offline schedule: once its events have taken the adjoint from `N` down to `0`
with storage empty, the final `EndReverse` completes an accepted stream -/
theorem Clean.whole {cfg : Cfg} {N : Nat} {evs : List Ev} {f : Option Nat} {sn : List Cp}
    (hN : cfg.N = N) (hp : cfg.passes = some 1) (hon : cfg.online = false) (hf : f = none ∨ f = some 1)
    (h : Clean cfg (X (some 0) 0 none none [] false 0 []) (evs.map (Ev.obs · N))
      (X f N none none [] true 0 sn)) :
    Clean cfg (XS.init cfg) (evs.map (Ev.obs · N) ++ [⟨.endReverse, 1, N, some N, true, true⟩])
      (X f N none none [] true 1 sn) := by
  have hinit : XS.init cfg = X (some 0) 0 none none [] false 0 [] := by simp [XS.init, X, hon]
  rw [hinit]
  exact h.append (Clean.single (step_endReverse_final' cfg N 1 f sn hN hp hf))

end Ckpt
