import CkptVerif.Model.Multistage
import Mathlib.Data.List.Perm.Basic
import Mathlib.Order.Basic
import Mathlib.Data.List.Induction
import Mathlib.Algebra.Order.BigOperators.Group.List
/-! The RAM/disk allocation of `allocate_snapshots`: `sortDesc` is a stable descending sort, and
labelling the first `a` positions of the sorted order RAM minimises the total weight left on
disk. -/
namespace Ckpt
open List

/-! ## (a) `sortDesc` is a stable descending sort -/

theorem insDesc_perm (x : Nat × Nat) (l : List (Nat × Nat)) : insDesc x l ~ x :: l := by
  induction l with
  | nil => exact Perm.refl _
  | cons y ys ih =>
    unfold insDesc
    split
    · exact (ih.cons y).trans (Perm.swap x y ys)
    · exact Perm.refl _

theorem sortDesc_nil : sortDesc [] = [] := rfl

theorem sortDesc_snoc (l : List (Nat × Nat)) (x : Nat × Nat) :
    sortDesc (l ++ [x]) = insDesc x (sortDesc l) := by
  simp [sortDesc, List.foldl_append]

/-- (a1) `sortDesc l` is a permutation of `l` -/
theorem sortDesc_perm (l : List (Nat × Nat)) : sortDesc l ~ l := by
  induction l using List.reverseRecOn with
  | nil => exact Perm.refl _
  | append_singleton l x ih =>
    rw [sortDesc_snoc]
    exact (insDesc_perm x _).trans ((ih.cons x).trans (perm_append_singleton x l).symm)

theorem mem_sortDesc {l : List (Nat × Nat)} {p : Nat × Nat} : p ∈ sortDesc l ↔ p ∈ l :=
  (sortDesc_perm l).mem_iff

theorem length_sortDesc (l : List (Nat × Nat)) : (sortDesc l).length = l.length :=
  (sortDesc_perm l).length_eq

/-- descending by weight, ties broken by the relation `R` -/
def DescLex (R : Nat × Nat → Nat × Nat → Prop) (x y : Nat × Nat) : Prop :=
  x.2 > y.2 ∨ (x.2 = y.2 ∧ R x y)

theorem DescLex.ge {R} {x y : Nat × Nat} (h : DescLex R x y) : x.2 ≥ y.2 := by
  rcases h with h | ⟨h, _⟩ <;> omega

theorem insDesc_pairwise (R : Nat × Nat → Nat × Nat → Prop) (x : Nat × Nat)
    (acc : List (Nat × Nat)) (hp : acc.Pairwise (DescLex R)) (hR : ∀ a ∈ acc, R a x) :
    (insDesc x acc).Pairwise (DescLex R) := by
  induction acc with
  | nil => simp [insDesc]
  | cons y ys ih =>
    obtain ⟨h1, h2⟩ := pairwise_cons.1 hp
    unfold insDesc
    split
    · rename_i hge
      refine pairwise_cons.2 ⟨?_, ih h2 (fun a ha => hR a (mem_cons_of_mem _ ha))⟩
      intro z hz
      rcases mem_cons.1 ((insDesc_perm x ys).mem_iff.1 hz) with rfl | hz
      · rcases Nat.lt_or_ge z.2 y.2 with h | h
        · exact Or.inl h
        · exact Or.inr ⟨by omega, hR y mem_cons_self⟩
      · exact h1 z hz
    · rename_i hlt
      refine pairwise_cons.2 ⟨?_, hp⟩
      intro z hz
      rcases mem_cons.1 hz with rfl | hz
      · exact Or.inl (by omega)
      · have := (h1 z hz).ge
        exact Or.inl (by omega)

/-- (a3) stability, relational form: whatever relation `R` holds between each earlier and each
later element of the input is kept between elements of equal weight in the output. -/
theorem sortDesc_pairwise_lex (R : Nat × Nat → Nat × Nat → Prop) (l : List (Nat × Nat))
    (h : l.Pairwise R) : (sortDesc l).Pairwise (DescLex R) := by
  induction l using List.reverseRecOn with
  | nil => exact Pairwise.nil
  | append_singleton l x ih =>
    rw [sortDesc_snoc]
    obtain ⟨h1, _, h3⟩ := pairwise_append.1 h
    exact insDesc_pairwise R x _ (ih h1)
      (fun a ha => h3 a (mem_sortDesc.1 ha) x (mem_singleton.2 rfl))

/-- (a2) `sortDesc l` is sorted by descending weight -/
theorem sortDesc_sorted (l : List (Nat × Nat)) :
    (sortDesc l).Pairwise (fun x y => x.2 ≥ y.2) :=
  (sortDesc_pairwise_lex (fun _ _ => True) l (pairwise_of_forall (fun _ _ => trivial))).imp
    (fun h => h.ge)

theorem insDesc_filter (x : Nat × Nat) (v : Nat) (acc : List (Nat × Nat))
    (hp : acc.Pairwise (fun x y => x.2 ≥ y.2)) :
    (insDesc x acc).filter (fun p => p.2 == v) =
      acc.filter (fun p => p.2 == v) ++ (if x.2 = v then [x] else []) := by
  induction acc with
  | nil => by_cases h : x.2 = v <;> simp [insDesc, h]
  | cons y ys ih =>
    obtain ⟨h1, h2⟩ := pairwise_cons.1 hp
    unfold insDesc
    split
    · rw [filter_cons, filter_cons, ih h2]
      by_cases hy : (y.2 == v) = true <;> simp [hy]
    · rename_i hlt
      by_cases hx : x.2 = v
      · have hnil : (y :: ys).filter (fun p => p.2 == v) = [] := by
          rw [filter_eq_nil_iff]
          intro z hz
          have : z.2 ≤ y.2 := by
            rcases mem_cons.1 hz with rfl | hz
            · exact le_refl _
            · exact h1 z hz
          simp only [beq_iff_eq]; omega
        rw [filter_cons, hnil]; simp [hx]
      · rw [filter_cons]; simp [hx]

/-- (a3) stability, filter form: for every weight `v` the elements of weight `v` appear in
`sortDesc l` in exactly the order in which they appear in `l`. -/
theorem sortDesc_stable (l : List (Nat × Nat)) (v : Nat) :
    (sortDesc l).filter (fun p => p.2 == v) = l.filter (fun p => p.2 == v) := by
  induction l using List.reverseRecOn with
  | nil => rfl
  | append_singleton l x ih =>
    rw [sortDesc_snoc, insDesc_filter x v _ (sortDesc_sorted l), ih, filter_append]
    by_cases hx : x.2 = v <;> simp [hx]

/-- the three facts of (a) together -/
theorem sortDesc_spec (l : List (Nat × Nat)) :
    sortDesc l ~ l ∧ (sortDesc l).Pairwise (fun x y => x.2 ≥ y.2) ∧
    ∀ v, (sortDesc l).filter (fun p => p.2 == v) = l.filter (fun p => p.2 == v) :=
  ⟨sortDesc_perm l, sortDesc_sorted l, sortDesc_stable l⟩

example : sortDesc [(0, 2), (1, 5), (2, 2), (3, 7), (4, 5)] = [(3, 7), (1, 5), (4, 5), (0, 2), (2, 2)] := by
  decide

/-! ## (b) top-`a` optimality -/

/-- the `(index, weight)` pairs that `allocate` sorts -/
def idxPairs (w : List Nat) : List (Nat × Nat) := w.zipIdx.map (fun p => (p.2, p.1))

/-- the stack positions labelled RAM when `a` RAM units are available -/
def ramIdx (w : List Nat) (a : Nat) : List Nat := ((sortDesc (idxPairs w)).take a).map (·.1)

theorem ramIdx_def (w : List Nat) (a : Nat) :
    ramIdx w a = ((sortDesc (w.zipIdx.map (fun p => (p.2, p.1)))).take a).map (·.1) := rfl

theorem idxPairs_map_fst (w : List Nat) : (idxPairs w).map (·.1) = List.range w.length := by
  unfold idxPairs
  rw [map_map]
  have : ((fun x : Nat × Nat => x.1) ∘ fun p : Nat × Nat => (p.2, p.1)) = Prod.snd := by
    funext p; rfl
  rw [this, zipIdx_map_snd, range_eq_range']

theorem idxPairs_map_snd (w : List Nat) : (idxPairs w).map (·.2) = w := by
  unfold idxPairs
  rw [map_map]
  have : ((fun x : Nat × Nat => x.2) ∘ fun p : Nat × Nat => (p.2, p.1)) = Prod.fst := by
    funext p; rfl
  rw [this, zipIdx_map_fst]

theorem mem_idxPairs {w : List Nat} {p : Nat × Nat} (h : p ∈ idxPairs w) :
    w[p.1]? = some p.2 := by
  unfold idxPairs at h
  obtain ⟨q, hq, rfl⟩ := mem_map.1 h
  exact mem_zipIdx_iff_getElem?.1 hq

theorem idxPairs_weight {w : List Nat} {p : Nat × Nat} (h : p ∈ idxPairs w) :
    w.getD p.1 0 = p.2 := by
  rw [getD_eq_getElem?_getD, mem_idxPairs h]; rfl

theorem length_idxPairs (w : List Nat) : (idxPairs w).length = w.length := by
  simp [idxPairs]

/-- the index components of the sorted pairs are a permutation of `0 … n-1` -/
theorem sortDesc_idx_perm (w : List Nat) :
    (sortDesc (idxPairs w)).map (·.1) ~ List.range w.length := by
  rw [← idxPairs_map_fst]; exact (sortDesc_perm _).map _

theorem sortDesc_weights_perm (w : List Nat) : (sortDesc (idxPairs w)).map (·.2) ~ w := by
  have := (sortDesc_perm (idxPairs w)).map (·.2)
  rwa [idxPairs_map_snd] at this

theorem ramIdx_eq_take (w : List Nat) (a : Nat) :
    ramIdx w a = ((sortDesc (idxPairs w)).map (·.1)).take a := by
  unfold ramIdx; rw [map_take]

theorem ramIdx_nodup (w : List Nat) (a : Nat) : (ramIdx w a).Nodup := by
  rw [ramIdx_eq_take]
  exact ((sortDesc_idx_perm w).nodup_iff.2 nodup_range).sublist (take_sublist _ _)

theorem ramIdx_length (w : List Nat) (a : Nat) : (ramIdx w a).length = min a w.length := by
  simp [ramIdx, length_sortDesc, length_idxPairs]

theorem ramIdx_lt (w : List Nat) (a : Nat) : ∀ i ∈ ramIdx w a, i < w.length := by
  intro i hi
  rw [ramIdx_eq_take] at hi
  have := (sortDesc_idx_perm w).mem_iff.1 (mem_of_mem_take hi)
  exact mem_range.1 this

/-- the weights of the chosen positions are the first `a` weights of the sorted order -/
theorem ramIdx_weights (w : List Nat) (a : Nat) :
    (ramIdx w a).map (fun i => w.getD i 0) = ((sortDesc (idxPairs w)).map (·.2)).take a := by
  unfold ramIdx
  rw [map_map, ← map_take]
  apply map_congr_left
  intro p hp
  exact idxPairs_weight (mem_sortDesc.1 (mem_of_mem_take hp))

/-- the sum of the first `a` elements of a descending list dominates any sublist of length ≤ a -/
theorem sum_le_sum_take_of_sublist : ∀ (D : List Nat), D.Pairwise (fun x y => x ≥ y) →
    ∀ (a : Nat) (M : List Nat), M <+ D → M.length ≤ a → M.sum ≤ (D.take a).sum
  | [], _, a, M, hs, _ => by
    have := eq_nil_of_sublist_nil hs
    subst this; simp
  | d :: ds, hp, a, M, hs, hl => by
    cases M with
    | nil => simp
    | cons m M' =>
      cases a with
      | zero => simp at hl
      | succ a' =>
        have hp' := pairwise_cons.1 hp
        have hm : m ≤ d ∧ M' <+ ds := by
          cases hs with
          | cons _ h =>
            exact ⟨hp'.1 m (h.subset mem_cons_self), (sublist_cons_self m M').trans h⟩
          | cons_cons _ h => exact ⟨le_refl _, h⟩
        have ih := sum_le_sum_take_of_sublist ds hp'.2 a' M' hm.2 (by simpa using hl)
        simp only [take_succ_cons, sum_cons]
        omega

/-- … and any sub-multiset of at most `a` elements -/
theorem sum_le_sum_take_of_subperm (D : List Nat) (hD : D.Pairwise (fun x y => x ≥ y)) (a : Nat)
    (M : List Nat) (hs : M <+~ D) (hl : M.length ≤ a) : M.sum ≤ (D.take a).sum := by
  obtain ⟨M', hperm, hsub⟩ := hs
  rw [← hperm.sum_nat]
  exact sum_le_sum_take_of_sublist D hD a M' hsub (by rw [hperm.length_eq]; exact hl)

theorem map_getD_range (w : List Nat) : (List.range w.length).map (fun i => w.getD i 0) = w := by
  apply ext_getElem (by simp)
  intro i h1 h2
  simp only [length_map, length_range] at h1
  simp [getD_eq_getElem?_getD, getElem?_eq_getElem h1]

theorem filter_contains_range_perm (n : Nat) (S : List Nat) (hS : S.Nodup)
    (hlt : ∀ i ∈ S, i < n) : (List.range n).filter (fun i => S.contains i) ~ S := by
  apply (perm_ext_iff_of_nodup (nodup_range.filter _) hS).2
  intro i
  simp only [mem_filter, mem_range, contains_iff_mem]
  exact ⟨fun h => h.2, fun h => ⟨hlt i h, h⟩⟩

/-- splitting the total weight into selected and unselected positions -/
theorem sum_split (w : List Nat) (S : List Nat) (hS : S.Nodup) (hlt : ∀ i ∈ S, i < w.length) :
    (((List.range w.length).filter (fun i => !S.contains i)).map (fun i => w.getD i 0)).sum
      + (S.map (fun i => w.getD i 0)).sum = w.sum := by
  have h1 := filter_contains_range_perm w.length S hS hlt
  have h2 := filter_append_perm (fun i => S.contains i) (List.range w.length)
  have h3 := (h2.map (fun i => w.getD i 0)).sum_nat
  rw [map_getD_range, map_append, sum_append, (h1.map _).sum_nat] at h3
  omega

/-- the selected weight of any admissible choice is at most that of `ramIdx` -/
theorem ramIdx_max_selected (w : List Nat) (a : Nat) (R : List Nat) (hR : R.Nodup)
    (hlen : R.length ≤ a) (hlt : ∀ i ∈ R, i < w.length) :
    (R.map (fun i => w.getD i 0)).sum ≤ ((ramIdx w a).map (fun i => w.getD i 0)).sum := by
  rw [ramIdx_weights]
  apply sum_le_sum_take_of_subperm _ ((pairwise_map).2 (sortDesc_sorted _)) a _ _ (by simpa using hlen)
  have hsub : R <+~ List.range w.length :=
    subperm_of_subset hR (fun i hi => mem_range.2 (hlt i hi))
  have h2 : R.map (fun i => w.getD i 0) <+~ w := by
    obtain ⟨R', hp, hs⟩ := hsub
    have : R'.map (fun i => w.getD i 0) <+ w := by
      have := hs.map (fun i => w.getD i 0)
      rwa [map_getD_range] at this
    exact ⟨_, hp.map _, this⟩
  exact h2.trans (sortDesc_weights_perm w).symm.subperm

/-- (b) Top-`a` optimality: `chosen` (the positions labelled RAM) is duplicate-free, has
`min a n` members, all in range, and leaves the least possible total weight on disk among all
choices of at most `a` positions. -/
theorem topk_optimal (w : List Nat) (a : Nat) :
    let chosen := ((sortDesc (w.zipIdx.map (fun p => (p.2, p.1)))).take a).map (·.1)
    chosen.Nodup ∧ chosen.length = min a w.length ∧ (∀ i ∈ chosen, i < w.length) ∧
    ∀ R : List Nat, R.Nodup → R.length ≤ a → (∀ i ∈ R, i < w.length) →
      (((List.range w.length).filter (fun i => !chosen.contains i)).map (fun i => w.getD i 0)).sum
        ≤ (((List.range w.length).filter (fun i => !R.contains i)).map (fun i => w.getD i 0)).sum := by
  intro chosen
  have hc : chosen = ramIdx w a := rfl
  rw [hc]
  refine ⟨ramIdx_nodup w a, ramIdx_length w a, ramIdx_lt w a, ?_⟩
  intro R hR hlen hlt
  have e1 := sum_split w (ramIdx w a) (ramIdx_nodup w a) (ramIdx_lt w a)
  have e2 := sum_split w R hR hlt
  have e3 := ramIdx_max_selected w a R hR hlen hlt
  omega

-- a concrete instance: weights [2,5,2,7,5], two RAM units: positions 3 and 1 (first of the 5s)
example : ramIdx [2, 5, 2, 7, 5] 2 = [3, 1] := by decide
example : ([0, 4] : List Nat).Nodup ∧ [0, 4].length ≤ 2 ∧ ∀ i ∈ [0, 4], i < [2, 5, 2, 7, 5].length := by
  decide

/-! ## (c) `allocate` -/

theorem dryRun_length (S : Nat) : ∀ (evs : List Ev) (top : Nat) (w : List Nat) (top' : Nat)
    (w' : List Nat), dryRun S evs top w = some (top', w') → w'.length = w.length
  | [], top, w, top', w', h => by
    simp only [dryRun, Option.some.injEq, Prod.mk.injEq] at h
    rw [← h.2]
  | e :: es, top, w, top', w', h => by
    simp only [dryRun] at h
    split at h <;> (try split at h) <;>
      first
        | (exact absurd h (by simp))
        | (have := dryRun_length S es _ _ _ _ h; simpa [length_modify] using this)

/-- the shape of a successful `allocate`: the weight vector has one entry per stack position and
the allocation labels exactly the positions of `ramIdx` RAM, all others DISK -/
theorem allocate_shape (N ram disk : Nat) (traj : Traj) (w : List Nat) (alloc : List Storage)
    (h : allocate N ram disk traj = some (w, alloc)) :
    w.length = min (min ram (N - 1) + min disk (N - 1)) (N - 1) ∧
    alloc = (List.range w.length).map (fun i =>
      if (ramIdx w (min ram (N - 1))).contains i then Storage.ram else Storage.disk) := by
  simp only [allocate] at h
  split at h
  · cases h
  · split at h
    · cases h
    · rename_i evs _ top w0 hdry
      split at h
      · cases h
      · simp only [Option.some.injEq, Prod.mk.injEq] at h
        obtain ⟨rfl, rfl⟩ := h
        have hl := dryRun_length _ _ _ _ _ _ hdry
        rw [length_replicate] at hl
        exact ⟨hl, by rw [hl]; rfl⟩

/-- (c) the allocation returned by `allocate_snapshots` -/
theorem allocate_spec (N ram disk : Nat) (traj : Traj) (w : List Nat) (alloc : List Storage)
    (h : allocate N ram disk traj = some (w, alloc)) :
    let chosen :=
      ((sortDesc (w.zipIdx.map (fun p => (p.2, p.1)))).take (min ram (N - 1))).map (·.1)
    alloc.length = w.length ∧
    alloc.count .ram = min (min ram (N - 1)) w.length ∧
    (∀ i, i < w.length → (alloc[i]? = some .ram ↔ i ∈ chosen)) ∧
    (∀ i, i < w.length → (alloc[i]? = some .disk ↔ i ∉ chosen)) := by
  intro chosen
  have hc : chosen = ramIdx w (min ram (N - 1)) := rfl
  obtain ⟨_, halloc⟩ := allocate_shape N ram disk traj w alloc h
  rw [hc]
  set c := ramIdx w (min ram (N - 1)) with hcdef
  refine ⟨by rw [halloc]; simp, ?_, ?_, ?_⟩
  · rw [halloc, count_eq_countP, countP_map, countP_eq_length_filter]
    have : ((fun x : Storage => x == Storage.ram) ∘ fun i =>
        if c.contains i then Storage.ram else Storage.disk) = fun i => c.contains i := by
      funext i
      by_cases hi : i ∈ c <;> simp [hi]
    rw [this, (filter_contains_range_perm w.length c (ramIdx_nodup _ _) (ramIdx_lt _ _)).length_eq,
      hcdef, ramIdx_length]
  · intro i hi
    rw [halloc, getElem?_map, getElem?_range hi]
    by_cases hm : i ∈ c <;> simp [hm]
  · intro i hi
    rw [halloc, getElem?_map, getElem?_range hi]
    by_cases hm : i ∈ c <;> simp [hm]

/-- at most the declared number of RAM units is used -/
theorem allocate_ram_le (N ram disk : Nat) (traj : Traj) (w : List Nat) (alloc : List Storage)
    (h : allocate N ram disk traj = some (w, alloc)) : alloc.count .ram ≤ ram := by
  have := (allocate_spec N ram disk traj w alloc h).2.1
  omega

/-- (b)+(c): the allocation computed by `allocate` minimises the total weight on disk -/
theorem allocate_optimal (N ram disk : Nat) (traj : Traj) (w : List Nat) (alloc : List Storage)
    (h : allocate N ram disk traj = some (w, alloc)) (R : List Nat) (hR : R.Nodup)
    (hlen : R.length ≤ min ram (N - 1)) (hlt : ∀ i ∈ R, i < w.length) :
    (((List.range w.length).filter (fun i => alloc.getD i .disk != .ram)).map
        (fun i => w.getD i 0)).sum
      ≤ (((List.range w.length).filter (fun i => !R.contains i)).map (fun i => w.getD i 0)).sum := by
  obtain ⟨_, halloc⟩ := allocate_shape N ram disk traj w alloc h
  have key := (topk_optimal w (min ram (N - 1))).2.2.2 R hR hlen hlt
  have hf : (List.range w.length).filter (fun i => alloc.getD i .disk != .ram)
      = (List.range w.length).filter (fun i => !(ramIdx w (min ram (N - 1))).contains i) := by
    apply filter_congr
    intro i hi
    have hi' := mem_range.1 hi
    rw [halloc, getD_eq_getElem?_getD, getElem?_map, getElem?_range hi']
    by_cases hm : i ∈ ramIdx w (min ram (N - 1)) <;> simp [hm]
  rw [hf]
  exact key

-- the hypothesis is satisfiable: 6 steps, 2 RAM + 2 disk units
example : allocate 6 2 2 .revolve =
    some ([2, 2, 2, 3], [Storage.ram, Storage.disk, Storage.disk, Storage.ram]) := by decide

end Ckpt
