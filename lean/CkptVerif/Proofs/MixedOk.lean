import CkptVerif.Proofs.MixedSegLemmas
import CkptVerif.Proofs.ExecLemmas
import CkptVerif.Spec.Configs
/-!
# MixedCheckpointSchedule: the model stream is accepted by the specification executor

`mseg_ok`: for ANY planner with the shape `PlanHyp` (in particular `memoPlan`, hence also the
tabulated planner), the stream `mseg … lo hi k` runs through the executor without a single
violation (of any tag) and takes "forward at `lo`, adjoint at `hi`, stack of `S - k` checkpoints
with keys below `lo`" to "adjoint at `lo`, same stack".  `mixed_clean`: the complete stream of
`MixedCheckpointSchedule(N, s, storage)` is accepted under `cfgMixed s st N`, for all `N ≥ 1`,
all `s ≥ min 1 (N-1)` and both storages.
-/
namespace Ckpt

structure MixHyp (cfg : Cfg) (N : Nat) (plan : Planner) (S : Nat) (st : Storage)
    (base : List Cp) (lo0 hi0 dn : Nat) : Prop where
  hN : cfg.N = N
  alive : Alive cfg dn
  plan : PlanHyp plan
  store : st.isStore = true
  budget : ∀ stack : List Cp, (∀ c ∈ stack, c.st = st) → stack.length ≤ S →
    withinBudget cfg (stack ++ base) = true
  base : Outside base lo0 hi0

/-- the end of a `WRITE_ADJ_DEPS` segment: the dependencies of step `lo` come back from storage,
which leaves the forward state undefined, and the step is reversed -/
theorem depsTurn_clean {cfg : Cfg} {N dn : Nat} (hN : cfg.N = N) (hal : Alive cfg dn) (base : List Cp)
    (lo0 hi0 : Nat) (hb : Outside base lo0 hi0) (f : Option Nat) (lo : Nat) (st : Storage)
    (rest sn : List Cp) (hst : st.isStore = true) (hlo : lo + 1 ≤ N) (hr : Below rest lo)
    (h0 : lo0 ≤ lo) (h1 : lo < hi0) :
    Clean cfg (X f (N - (lo + 1)) none none (⟨lo, st, 0, 1⟩ :: (rest ++ base)) true dn sn)
      (([⟨.move lo st .work, lo + 1, N - (lo + 1)⟩, ⟨.reverse (lo + 1) lo true, lo + 1, N - lo⟩] :
        List Ev).map (Ev.obs · N))
      (X none (N - lo) none none (rest ++ base) true dn sn) := by
  have hpos : lo + 1 = N - (N - (lo + 1)) := (Nat.sub_sub_self hlo).symm
  have hm := step_load_deps cfg N true f lo 1 (lo + 1) (N - (lo + 1)) st (⟨lo, st, 0, 1⟩ :: (rest ++ base))
    dn sn hN hal hst Nat.one_pos hpos (findCp_top ⟨lo, st, 0, 1⟩ _)
  have hrv := step_reverse_gen cfg N none (lo + 1) lo (lo + 1) (N - (lo + 1)) true none
    (some (lo, lo + 1)) (rest ++ base) dn sn hN hal (Nat.lt_succ_self lo) hpos (Or.inr rfl)
    (by simp [covers])
  have hr2 : N - (lo + 1) + (lo + 1 - lo) = N - lo := by omega
  rw [hr2] at hrv
  rw [if_pos rfl, eraseCp_top ⟨lo, st, 0, 1⟩ (key_free hr hb h0 h1)] at hm
  exact Clean.cons hm (Clean.single hrv)

/-- `[lo, hi)` is reversed with `k` free units.  `reuse`: a restart checkpoint `⟨lo, st, kk, 0⟩`
covering the segment is on top of the stack and occupies one of the `k` units; the segment
consumes it. -/
theorem mseg_ok {cfg : Cfg} {N : Nat} {plan : Planner} {S : Nat} {st : Storage}
    {base : List Cp} {lo0 hi0 dn : Nat} (H : MixHyp cfg N plan S st base lo0 hi0 dn) :
    ∀ (fuel : Nat) (spine reuse : Bool) (lo hi k : Nat) (rest : List Cp) (kk : Nat)
      (wi wd : Option (Nat × Nat)) (sn : List Cp),
      hi - lo ≤ fuel → lo < hi → hi ≤ N → lo0 ≤ lo → hi ≤ hi0 →
      (spine = true → hi = N ∧ reuse = false) →
      Below rest lo → (∀ c ∈ rest, c.st = st) → rest.length + k = S →
      (hi - lo = 1 ∨ 1 ≤ k) →
      (reuse = true → hi ≤ lo + kk ∧ 0 < kk ∧
        ∃ c, plan (hi - lo) k = some c ∧ c.kind = stWriteIcs) →
      ∃ evs sn' f', mseg N plan st fuel lo hi k spine reuse = some evs ∧
        (spine = false → sn' = sn) ∧ (f' = none ∨ f' = some (lo + 1)) ∧
        Clean cfg
          (X (some lo) (N - hi) wi wd ((if reuse then ⟨lo, st, kk, 0⟩ :: rest else rest) ++ base)
            (!spine) dn sn)
          (evs.map (Ev.obs · N))
          (X f' (N - lo) none none (rest ++ base) true dn sn') := by
  intro fuel
  induction fuel with
  | zero => intro _ _ lo hi _ _ _ _ _ _ h1 h2; omega
  | succ fuel ih =>
    intro spine reuse lo hi k rest kk wi wd sn hfuel hlt hN hlo0 hhi0 hspine hbelow hlab hlen
      hvalid hreuse
    have hcN := H.hN
    have hal := H.alive
    have hlo1 : lo < hi0 := Nat.lt_of_lt_of_le hlt hhi0
    -- the segment by its length `m`
    obtain ⟨m, rfl⟩ : ∃ m, hi = lo + m := ⟨hi - lo, (Nat.add_sub_of_le hlt.le).symm⟩
    have hm : lo + m - lo = m := Nat.add_sub_cancel_left ..
    rw [hm] at hfuel hvalid
    simp only [hm] at hreuse
    -- a restart checkpoint is reused only where the planner writes one
    have hnoreuse : ∀ c, plan m k = some c → c.kind ≠ stWriteIcs → reuse = false := by
      intro c hc hk
      cases reuse with
      | false => rfl
      | true =>
        obtain ⟨_, _, c', hc', hk'⟩ := hreuse rfl
        rw [hc] at hc'
        cases hc'
        exact absurd hk' hk
    have hlab' : ∀ kk' dp, ∀ c' ∈ (⟨lo, st, kk', dp⟩ : Cp) :: rest, c'.st = st := by
      intro kk' dp c' hc'
      rcases List.mem_cons.mp hc' with rfl | h
      · rfl
      · exact hlab _ h
    by_cases hbase : m = 1
    · -- a single step: FORWARD_REVERSE
      subst hbase
      obtain ⟨c, hc, hck, hcl⟩ := H.plan.one k
      obtain rfl := hnoreuse c hc (by rw [hck]; decide)
      refine ⟨_, if spine then rest ++ base else sn, some (lo + 1),
        mseg_FR N plan st fuel lo (lo + 1) k spine c (by rwa [hm]) hck hm hcl,
        fun h => by rw [h]; rfl, Or.inr rfl, ?_⟩
      exact turn_clean hcN hal lo spine wi wd (rest ++ base) sn hN fun h => (hspine h).1
    · have hm2 : 2 ≤ m := by omega
      have hk1 : 1 ≤ k := hvalid.resolve_left hbase
      obtain ⟨c, hc, hcase⟩ := H.plan.big m k hm2 hk1
      have hc' : plan (lo + m - lo) k = some c := by rwa [hm]
      -- case distinctions and subtractions left in the context would be split again by every
      -- later `omega`
      clear hvalid hbase hm
      -- one more checkpoint fits on the stack, and then `k - 1` units are free
      have hroom : rest.length + 1 ≤ S := by omega
      have hlen' : rest.length + 1 + (k - 1) = S := by omega
      rcases hcase with ⟨hck, hcl, hk2⟩ | ⟨hck, hl2, hlm, hlone⟩
      · -- WRITE_ADJ_DEPS: store the dependencies of step `lo`, reverse the rest, fetch them
        obtain rfl := hnoreuse c hc (by rw [hck]; decide)
        have hvalid : lo + m - (lo + 1) = 1 ∨ 1 ≤ k - 1 := by
          rcases Nat.eq_or_lt_of_le hm2 with rfl | h
          · exact Or.inl (Nat.add_sub_add_left ..)
          · exact Or.inr (Nat.le_sub_one_of_lt (hk2 h))
        clear hk2
        have hstep : lo + 1 ≤ lo + m := Nat.add_le_add_left (Nat.le_of_succ_le hm2) lo
        have hB := H.budget (⟨lo, st, 0, 1⟩ :: rest) (hlab' 0 1) hroom
        have hw := step_forward_store cfg N true st (some lo) lo 1 (N - (lo + m)) wi wd (rest ++ base)
          (!spine) dn sn hcN hal (by rwa [Nat.sub_sub_self hN]) Nat.one_pos rfl (fun _ => rfl) H.store
          (findCp_none hbelow H.base hlo0 hlo1 st) (by rw [← hB]; exact withinBudget_congr cfg _ _ _ rfl)
        obtain ⟨right, sn1, f1, hevs, hsn1, _, hrun⟩ := ih spine false (lo + 1) (lo + m) (k - 1)
          (⟨lo, st, 0, 1⟩ :: rest) 0 none none sn (Nat.sub_le_of_le_add (by omega))
          (Nat.add_lt_add_left hm2 lo) hN (Nat.le_add_right_of_le hlo0) hhi0
          (fun h => ⟨(hspine h).1, rfl⟩) (hbelow.cons rfl (Nat.lt_succ_self lo)) (hlab' 0 1)
          hlen' hvalid (fun h => by cases h)
        refine ⟨_, sn1, none,
          mseg_WAD N plan st fuel lo (lo + m) k spine c right hc' hck hcl (Nat.ne_of_gt hk1)
            (by rwa [Nat.add_sub_cancel_left]) hevs,
          hsn1, Or.inl rfl, ?_⟩
        rw [List.map_append]
        exact Clean.append (Clean.cons hw hrun) (depsTurn_clean hcN hal base lo0 hi0 H.base f1 lo st rest
          sn1 H.store (hstep.trans hN) hbelow hlo0 hlo1)
      · -- WRITE_ICS: a restart checkpoint at `lo`, the right part, re-load, the left part
        obtain ⟨c2, hc2, _⟩ := H.plan.big c.len k hl2 hk1
        have hlm' : c.len < m := Nat.lt_of_le_sub_one (Nat.lt_of_lt_of_le Nat.two_pos hm2) hlm
        -- with a single unit the right part is a single step
        have hvalid : lo + m - (lo + c.len) = 1 ∨ 1 ≤ k - 1 := by
          rcases Nat.eq_or_lt_of_le hk1 with hk | hk
          · left
            rw [Nat.add_sub_add_left, hlone hk.symm]
            exact Nat.sub_sub_self (Nat.le_of_succ_le hm2)
          · exact Or.inr (Nat.le_sub_one_of_lt hk)
        clear hlm hlone
        have hlpos : 0 < c.len := Nat.lt_of_lt_of_le Nat.two_pos hl2
        have hmid : lo < lo + c.len := Nat.lt_add_of_pos_right hlpos
        have hmid' : lo + c.len < lo + m := Nat.add_lt_add_left hlm' lo
        have hmidN : lo + c.len ≤ N := hmid'.le.trans hN
        -- the first action writes the checkpoint, or advances if it is already there
        obtain ⟨kk', hkk', hfirst⟩ : ∃ kk', c.len ≤ kk' ∧
            Clean cfg
              (X (some lo) (N - (lo + m)) wi wd
                ((if reuse then ⟨lo, st, kk, 0⟩ :: rest else rest) ++ base) (!spine) dn sn)
              ([Ev.obs (if reuse then ⟨.forward lo (lo + c.len) false false .work, lo + c.len, N - (lo + m)⟩
                 else ⟨.forward lo (lo + c.len) true false st, lo + c.len, N - (lo + m)⟩) N])
              (X (some (lo + c.len)) (N - (lo + m)) none none (⟨lo, st, kk', 0⟩ :: (rest ++ base))
                (!spine) dn sn) := by
          cases reuse with
          | false =>
            exact ⟨c.len, le_refl _, Clean.single (seg_write hcN hal st base lo0 hi0 lo c.len (lo + m) wi wd
              rest (!spine) sn hmid'.le hN hlpos H.store hbelow H.base hlo0 hlo1
              (H.budget (⟨lo, st, c.len, 0⟩ :: rest) (hlab' _ _) hroom))⟩
          | true =>
            have hkk : c.len ≤ kk := Nat.le_of_add_le_add_left (hmid'.le.trans (hreuse rfl).1)
            exact ⟨kk, hkk, Clean.single (seg_plain hcN hal lo c.len (lo + m) wi wd _ _ sn hmid'.le hN
              hlpos)⟩
        obtain ⟨right, sn1, f1, hright, hsn1, _, hrun_right⟩ := ih spine false (lo + c.len) (lo + m) (k - 1)
          (⟨lo, st, kk', 0⟩ :: rest) 0 none none sn (Nat.sub_le_of_le_add (by omega)) hmid' hN
          (Nat.le_add_right_of_le hlo0) hhi0 (fun h => ⟨(hspine h).1, rfl⟩) (hbelow.cons rfl hmid)
          (hlab' _ _) hlen' hvalid (fun h => by cases h)
        -- the checkpoint is kept iff the left part starts by reusing it
        have hload := seg_reload hcN hal (decide (c2.kind = stWriteIcs)) base lo0 hi0 f1 lo kk' (lo + c.len) st
          rest sn1 H.store (Nat.add_le_add_left hkk' lo) hmid hmidN hbelow H.base hlo0 hlo1
        obtain ⟨left, sn2, f2, hleft, hsn2, hf2, hrun_left⟩ := ih false (decide (c2.kind = stWriteIcs)) lo
          (lo + c.len) k rest kk' (some (lo, lo + kk')) none sn1
          (Nat.sub_le_of_le_add (by omega)) hmid hmidN hlo0 (hmid'.le.trans hhi0)
          (fun h => by cases h) hbelow hlab hlen (Or.inr hk1)
          (fun h => ⟨Nat.add_le_add_left hkk' lo, Nat.lt_of_lt_of_le hlpos hkk', c2,
            by rwa [Nat.add_sub_cancel_left ..], of_decide_eq_true h⟩)
        refine ⟨_, sn2, f2,
          mseg_WICS N plan st fuel lo (lo + m) k spine reuse c c2 right left hc' hck hl2
            (by rwa [Nat.add_sub_cancel_left]) (Nat.ne_of_gt hk1) hright hc2 hleft,
          fun h => by rw [hsn2 rfl, hsn1 h], hf2, ?_⟩
        simp only [List.map_append, List.map_cons, List.map_nil]
        exact Clean.append (Clean.append (Clean.append hfirst hrun_right) (Clean.single hload)) hrun_left

theorem mixHyp_cfgMixed (plan : Planner) (hp : PlanHyp plan) (N s : Nat) (st : Storage)
    (hst : st = .ram ∨ st = .disk) :
    MixHyp (cfgMixed s st N) N plan (min s (N - 1)) st [] 0 N 0 where
  hN := rfl
  alive := ⟨by simp [cfgMixed], by intro k hk; simp [cfgMixed] at hk; omega⟩
  plan := hp
  store := by rcases hst with rfl | rfl <;> rfl
  budget := by
    intro stack hl hlen
    have hr := countSt_all hl .ram
    have hd := countSt_all hl .disk
    simp only [withinBudget, List.append_nil, Bool.and_eq_true]
    rcases hst with rfl | rfl
    · simp [cfgMixed, withinOpt, hr, hd]; omega
    · simp [cfgMixed, withinOpt, hr, hd]; omega
  base := by intro c hc; simp at hc

/-- The Mixed stream of any planner of the right shape is accepted. -/
theorem mixed_clean_plan (plan : Planner) (hp : PlanHyp plan) (N s : Nat) (st : Storage)
    (hst : st = .ram ∨ st = .disk) (hN : 1 ≤ N) (hs : min 1 (N - 1) ≤ s) :
    ∃ evs sn f, mixedEvs plan N s st = .ok (evs ++ [⟨.endReverse, 1, N⟩]) ∧
      (f = none ∨ f = some 1) ∧
      Clean (cfgMixed s st N) (XS.init (cfgMixed s st N))
        (evs.map (Ev.obs · N) ++ [⟨.endReverse, 1, N, some N, true, true⟩])
        (X f N none none [] true 1 sn) := by
  have H := mixHyp_cfgMixed plan hp N s st hst
  -- a single step needs no unit; otherwise `min 1 (N - 1) = 1`, so there is one
  have hunits : N - 0 = 1 ∨ 1 ≤ min s (N - 1) := by
    rcases Nat.eq_or_lt_of_le hN with h | h
    · exact Or.inl h.symm
    · have h1 : 1 ≤ N - 1 := Nat.le_sub_one_of_lt h
      rw [Nat.min_eq_left h1] at hs
      exact Or.inr (le_min hs h1)
  obtain ⟨evs, sn', f', hseg, _, hf', hclean⟩ := mseg_ok H N true false 0 N (min s (N - 1)) [] 0
    none none [] (Nat.sub_le ..) hN (le_refl _) (le_refl _) (le_refl _)
    (fun _ => ⟨rfl, rfl⟩) (by intro c hc; simp at hc) (by intro c hc; simp at hc)
    (Nat.zero_add _) hunits (fun h => by cases h)
  refine ⟨evs, sn', f', by unfold mixedEvs; rw [hseg], by simpa using hf',
    Clean.whole rfl rfl rfl (by simpa using hf') ?_⟩
  simpa using hclean

/-- `MixedCheckpointSchedule(N, s, storage)` with the memoised planner: accepted by the
specification executor, for every `N ≥ 1`, every `s ≥ min(1, N-1)`, RAM or DISK.  The final forward
state is undefined (`f = none`) when the last step was restored from a dependency checkpoint. -/
theorem mixed_clean (N s : Nat) (st : Storage) (hst : st = .ram ∨ st = .disk) (hN : 1 ≤ N)
    (hs : min 1 (N - 1) ≤ s) :
    ∃ evs sn f, mixedEvs memoPlan N s st = .ok (evs ++ [⟨.endReverse, 1, N⟩]) ∧
      (f = none ∨ f = some 1) ∧
      Clean (cfgMixed s st N) (XS.init (cfgMixed s st N))
        (evs.map (Ev.obs · N) ++ [⟨.endReverse, 1, N, some N, true, true⟩])
        (X f N none none [] true 1 sn) :=
  mixed_clean_plan memoPlan memoPlan_hyp N s st hst hN hs

end Ckpt
