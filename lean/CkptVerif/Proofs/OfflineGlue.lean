import CkptVerif.Proofs.Canon
import CkptVerif.Proofs.Meaning
/-!
# Generic end-to-end glue for offline single-adjoint classes

Class-level acceptance theorems have the shape
`Clean cfg (XS.init cfg) (evs.map (Ev.obs · N) ++ [⟨.endReverse, nE, N, some N, true, true⟩]) xf`.
This file turns such a statement into "the monitor accepts the canonical trace of the schedule
object" (`monitor … (canon …) = []`).

The side conditions of `monitor_offline_clean` about the stream itself need no look at how the
stream was generated; executor acceptance implies them:

* a single-adjoint stream that is accepted up to and including a last observation cannot contain
  an earlier `EndReverse` (the action following it would violate C02/9);
* an accepted stream never names a storage whose budget is 0 (writing to it violates C03, loading
  from it finds no checkpoint, C01/4).
-/
namespace Ckpt

theorem obsOffline_snoc_endReverse (N : Nat) (evs : List Ev) (nE : Nat) :
    obsOffline N (evs ++ [⟨.endReverse, nE, N⟩]) =
      evs.map (Ev.obs · N) ++ [⟨.endReverse, nE, N, some N, true, true⟩] := by
  rw [obsOffline_eq_rec, obsRec_snoc]

theorem Clean.run_viols {cfg : Cfg} {x' : XS} {os : List Obs} (h : Clean cfg (XS.init cfg) os x') :
    (run cfg os).2 = [] := by rw [run, h 0]

theorem Clean.run_state {cfg : Cfg} {x' : XS} {os : List Obs} (h : Clean cfg (XS.init cfg) os x') :
    (run cfg os).1 = x' := by rw [run, h 0]

theorem Clean.cons_inv {cfg : Cfg} {x x' : XS} {o : Obs} {os : List Obs}
    (h : Clean cfg x (o :: os) x') :
    (step cfg x o).2 = [] ∧ Clean cfg (step cfg x o).1 os x' := by
  have h0 := h 0
  simp only [runFrom] at h0
  have hv : (step cfg x o).2 = [] := by
    have := congrArg Prod.snd h0
    simp only [List.append_eq_nil_iff, List.map_eq_nil_iff] at this
    exact this.1
  refine ⟨hv, fun i => ?_⟩
  rw [hv, List.map_nil, List.nil_append] at h0
  obtain ⟨e1, e2⟩ := Prod.mk.inj h0
  have h1 := runFrom_index cfg os (step cfg x o).1 (0 + 1) i
  exact Prod.ext (h1.1.symm.trans e1) (h1.2 e2)

theorem Clean.no_inner_endReverse {cfg : Cfg} (hp : cfg.passes = some 1) :
    ∀ {os : List Obs} {x x' : XS} {o : Obs}, Clean cfg x (os ++ [o]) x' →
      ∀ o' ∈ os, o'.act ≠ .endReverse := by
  intro os
  induction os with
  | nil => intro _ _ _ _ o' ho'; cases ho'
  | cons a os ih =>
    intro x x' o h o' ho'
    obtain ⟨-, hrest⟩ := Clean.cons_inv (List.cons_append ▸ h)
    rcases List.mem_cons.mp ho' with rfl | ho'
    · intro ha
      -- the next observation exists and is rejected: the stream has ended
      obtain ⟨b, bs, hb⟩ : ∃ b bs, os ++ [o] = b :: bs := by
        cases os with
        | nil => exact ⟨_, _, rfl⟩
        | cons c cs => exact ⟨_, _, rfl⟩
      rw [hb] at hrest
      have hv2 := hrest.cons_inv.1
      have hfin : finished cfg (nextState cfg x o'.act) = true := by
        rw [ha]; exact finished_of_done cfg hp _ (Nat.le_add_left 1 _)
      simp only [step, stepViols, chk, hfin, List.append_eq_nil_iff] at hv2
      exact absurd hv2.1.1 (by simp)
    · exact ih hrest o' ho'

def NoCpIn (st : Storage) (x : XS) : Prop := ∀ c ∈ x.cps, c.st ≠ st

/-- the budget of `st` is 0 -/
def ZeroBudget (cfg : Cfg) (st : Storage) : Prop :=
  ∀ (c : Cp) (cps : List Cp), c.st = st → withinBudget cfg (c :: cps) = false

theorem zeroBudget_disk (cfg : Cfg) (h : cfg.disk = some 0) : ZeroBudget cfg .disk := by
  intro c cps hc
  simp [withinBudget, withinOpt, h, countSt, hc]

theorem zeroBudget_ram (cfg : Cfg) (h : cfg.ram = some 0) : ZeroBudget cfg .ram := by
  intro c cps hc
  simp [withinBudget, withinOpt, h, countSt, hc]

theorem findCp_mem {cps : List Cp} {n : Nat} {s : Storage} {c : Cp}
    (h : findCp cps n s = some c) : c ∈ cps :=
  (Mean.findCp_some h).1

theorem step_zeroBudget (cfg : Cfg) (st : Storage) (hst : st.isStore = true)
    (hz : ZeroBudget cfg st) (x : XS) (o : Obs) (hx : NoCpIn st x)
    (hs : (step cfg x o).2 = []) :
    touches st o.act = false ∧ NoCpIn st (step cfg x o).1 := by
  simp only [step, stepViols, List.append_eq_nil_iff] at hs
  obtain ⟨⟨_, hact⟩, _⟩ := hs
  -- an accepted load finds its checkpoint (so not in `st`) and does not store into `st`
  have hload : ∀ n src dst, actViols.loadViols cfg x n src dst = [] →
      ∃ c0, findCp x.cps n src = some c0 ∧ src ≠ st ∧ dst ≠ st := by
    intro n src dst hl
    simp only [actViols.loadViols, List.append_eq_nil_iff] at hl
    cases hf : findCp x.cps n src with
    | none => rw [hf] at hl; simp at hl
    | some c0 =>
      rw [hf] at hl
      refine ⟨c0, rfl, ?_, ?_⟩
      · rintro rfl
        exact hx c0 (findCp_mem hf) (Mean.findCp_some hf).2.2
      · rintro rfl
        simp only [hst, if_true, List.append_eq_nil_iff] at hl
        have hb := hl.2.2.2
        rw [hz _ _ rfl] at hb
        simp [chk] at hb
  show touches st o.act = false ∧ NoCpIn st (nextState cfg x o.act)
  generalize o.act = a at hact ⊢
  cases a with
  | forward n0 n1 wi wa s =>
    have hs' : s ≠ st := by
      rintro rfl
      simp only [actViols, hst, if_true, List.append_eq_nil_iff] at hact
      have hb := hact.1.2.2
      rw [hz _ _ rfl] at hb
      simp [chk] at hb
    refine ⟨by simp [touches, hs'], fun c hc => ?_⟩
    rw [Mean.nextState_cps_forward] at hc
    split at hc
    · rcases List.mem_cons.mp hc with rfl | hc
      · exact hs'
      · exact hx c hc
    · exact hx c hc
  | reverse n1 n0 cl => exact ⟨rfl, hx⟩
  | endForward => exact ⟨rfl, hx⟩
  | endReverse => exact ⟨rfl, hx⟩
  | copy n src dst =>
    obtain ⟨c0, hf, hsrc, hdst⟩ := hload n src dst hact
    refine ⟨by simp [touches, hsrc, hdst], fun c hc => ?_⟩
    rw [Mean.nextState_cps_copy, hf] at hc
    dsimp only at hc
    split at hc
    · rcases List.mem_cons.mp hc with rfl | hc
      · exact hdst
      · exact hx c hc
    · exact hx c hc
  | move n src dst =>
    obtain ⟨c0, hf, hsrc, hdst⟩ := hload n src dst hact
    refine ⟨by simp [touches, hsrc, hdst], fun c hc => ?_⟩
    rw [Mean.nextState_cps_move, hf] at hc
    dsimp only at hc
    split at hc
    · rcases List.mem_cons.mp hc with rfl | hc
      · exact hdst
      · exact hx c (Mean.mem_eraseCp hc)
    · exact hx c (Mean.mem_eraseCp hc)

theorem clean_zeroBudget (cfg : Cfg) (st : Storage) (hst : st.isStore = true)
    (hz : ZeroBudget cfg st) : ∀ (os : List Obs) (x x' : XS), NoCpIn st x → Clean cfg x os x' →
      ∀ o ∈ os, touches st o.act = false := by
  intro os
  induction os with
  | nil => intro _ _ _ _ o ho; cases ho
  | cons a os ih =>
    intro x x' hx h o ho
    obtain ⟨hv, hrest⟩ := h.cons_inv
    obtain ⟨h1, h2⟩ := step_zeroBudget cfg st hst hz x a hx hv
    rcases List.mem_cons.mp ho with rfl | ho
    · exact h1
    · exact ih _ _ h2 hrest o ho

/-- so `uses_storage_type` may deny a storage of budget 0 -/
theorem Clean.uses_of_budget {cfg : Cfg} {os : List Obs} {xf : XS}
    (hclean : Clean cfg (XS.init cfg) os xf) {st : Storage} (hst : st.isStore = true)
    {u : Option Bool} (h : u = some true ∨ ZeroBudget cfg st) :
    (∃ o ∈ os, touches st o.act = true) → u = some true := by
  rintro ⟨o, ho, ht⟩
  rcases h with h | hz
  · exact h
  · rw [clean_zeroBudget cfg st hst hz _ _ _ (fun c hc => by cases hc) hclean o ho] at ht
    cases ht

theorem Clean.untouched {cfg : Cfg} {N : Nat} {evs : List Ev} {o : Obs} {xf : XS}
    (hclean : Clean cfg (XS.init cfg) (evs.map (Ev.obs · N) ++ [o]) xf) {st : Storage}
    (hst : st.isStore = true) (hz : ZeroBudget cfg st) :
    ¬ ∃ e ∈ evs, touches st e.act = true := by
  rintro ⟨e, he, ht⟩
  have := hclean.uses_of_budget hst (u := none) (.inr hz)
    ⟨Ev.obs e N, List.mem_append_left _ (List.mem_map.mpr ⟨e, he, rfl⟩), ht⟩
  cases this

/-- **Glue theorem**: from class-level acceptance by the executor to acceptance of the
canonical trace of the schedule object by the whole monitor. -/
theorem offline_end_to_end (cfg : Cfg) (N k fuel : Nat) (evs : List Ev) (nE : Nat)
    (uses : Storage → Option Bool) (xf : XS)
    (hN : cfg.N = N) (hon : cfg.online = false) (hp : cfg.passes = some 1)
    (hfuel : evs.length + 5 ≤ fuel)
    (hclean : Clean cfg (XS.init cfg)
      (evs.map (Ev.obs · N) ++ [⟨.endReverse, nE, N, some N, true, true⟩]) xf)
    (huses : ∀ st, (uses st).isSome = true)
    (hram : (∃ e ∈ evs, touches .ram e.act = true) → uses .ram = some true)
    (hdisk : (∃ e ∈ evs, touches .disk e.act = true) → uses .disk = some true) :
    monitor cfg k
      ((offlineSched N (.ok (evs ++ [⟨.endReverse, nE, N⟩])) uses).canon N k fuel) = [] := by
  have hpre : ∀ e ∈ evs, e.act ≠ .endReverse := fun e he =>
    hclean.no_inner_endReverse hp (Ev.obs e N) (List.mem_map.mpr ⟨e, he, rfl⟩)
  have hmem : ∀ st, (∃ e ∈ evs ++ [(⟨.endReverse, nE, N⟩ : Ev)], touches st e.act = true) →
      ∃ e ∈ evs, touches st e.act = true := by
    rintro st ⟨e, he, ht⟩
    rcases List.mem_append.mp he with he | he
    · exact ⟨e, he, ht⟩
    · rw [List.mem_singleton.mp he] at ht; cases ht
  apply monitor_offline_clean_gen cfg N N k fuel evs nE N uses hN hon hp
    (by rw [List.length_append, List.length_singleton]; omega) hpre
  · rw [obsOffline_snoc_endReverse]; exact hclean.run_viols
  · exact huses
  · exact fun h => hram (hmem _ h)
  · exact fun h => hdisk (hmem _ h)

/-- the shape shared by the end-to-end theorems of the offline classes: the constructor returns
the offline object over the generator's stream, the stream ends in `EndReverse` and is accepted -/
theorem offline_class_clean {cfg : Cfg} {N nE : Nat} {sch : Except Err Sched}
    {gen : Except Err (List Ev)} {uses : Storage → Option Bool} {evs : List Ev} {xf : XS}
    (hN : cfg.N = N) (hon : cfg.online = false) (hp : cfg.passes = some 1)
    (hsch : sch = .ok (offlineSched N gen uses))
    (hgen : gen = .ok (evs ++ [⟨.endReverse, nE, N⟩]))
    (hclean : Clean cfg (XS.init cfg)
      (evs.map (Ev.obs · N) ++ [⟨.endReverse, nE, N, some N, true, true⟩]) xf)
    (huses : ∀ st, (uses st).isSome = true)
    (hram : (∃ e ∈ evs, touches .ram e.act = true) → uses .ram = some true)
    (hdisk : (∃ e ∈ evs, touches .disk e.act = true) → uses .disk = some true) :
    ∃ s evs', sch = .ok s ∧ gen = .ok evs' ∧
      ∀ k fuel, evs'.length + 4 ≤ fuel → monitor cfg k (s.canon N k fuel) = [] := by
  subst hsch hgen
  refine ⟨_, _, rfl, rfl, fun k fuel hfuel => ?_⟩
  rw [List.length_append, List.length_singleton] at hfuel
  exact offline_end_to_end cfg N k fuel evs nE uses xf hN hon hp (by omega) hclean huses hram hdisk

/-- non-vacuity: the example of `Canon.lean` in `Clean` form -/
example : ∃ xf, Clean exCfg (XS.init exCfg)
    (exPre.map (Ev.obs · 2) ++ [⟨.endReverse, 1, 2, some 2, true, true⟩]) xf :=
  ⟨_, clean_of_runFrom exCfg _ _ (by decide)⟩

end Ckpt

section AxiomCheck
open Ckpt
#print axioms obsOffline_snoc_endReverse
#print axioms Clean.run_viols
#print axioms Clean.no_inner_endReverse
#print axioms clean_zeroBudget
#print axioms offline_end_to_end
end AxiomCheck
