import CkptVerif.Proofs.LBPlans
import CkptVerif.Model.Revolve
import Mathlib.Tactic
/-!
# Achievable costs of hierarchical (two-level) reversal strategies

`A c false k n m v`  ("T"):  `v` is the cost (forward steps at `uf`, disk writes at `wd`, disk reads at `rd`;
the `ub` per reversed step is left out) of a hierarchical strategy that reverses `n` steps, the first
state being in working storage, with `k` free RAM units and `m` free DISK units.
`A c true k n m v`  ("T'"): the same when the first state is in working storage AND already stored on
DISK in one of the `m` units (`m ≥ 1`).

The constructors are the recurrences of the two-level H-Revolve table (with `c0 := k` RAM units);
for `k = 0` the last step of a split may be a single step (no storage needed for it).

Main results: monotonicity in `k` and `m`, `T' ≤ T`, the increment lemmas and the **RAM recurrence
inequality** `star`: `T_k(n,m) ≤ j·uf + T_k(j,m) + T_{k-1}(n-j,m)`.
-/
namespace Ckpt.HLB
open Ckpt.GW

/-- all-RAM cost of `n` steps with `k` RAM units (meaningful for `k ≥ 1` or `n = 1`) -/
def Rr (c : Costs) (n k : Nat) : Nat := c.uf * gwT n k

theorem Rr_one (c : Costs) (k : Nat) : Rr c 1 k = c.uf := by
  unfold Rr; rw [gwT_one]; omega

theorem Rr_rec (c : Costs) (n k i : Nat) (hk : 1 ≤ k) (h1 : 1 ≤ i) (h2 : i < n)
    (h0 : k = 1 → n - i = 1) : Rr c n k ≤ i * c.uf + Rr c i k + Rr c (n - i) (k - 1) := by
  unfold Rr
  have h := Nat.mul_le_mul_left c.uf (gwT_rec_le1 n k i hk h1 h2 h0)
  have e : c.uf * (i + gwT i k + gwT (n - i) (k - 1)) =
      i * c.uf + c.uf * gwT i k + c.uf * gwT (n - i) (k - 1) := by ring
  omega

theorem Rr_anti (c : Costs) (n k : Nat) (hk : 1 ≤ k) (hn : 1 ≤ n) : Rr c n (k + 1) ≤ Rr c n k := by
  unfold Rr
  exact Nat.mul_le_mul_left c.uf (gwT_anti k hk n hn)

theorem Rr_ge (c : Costs) (n k : Nat) (hn : 1 ≤ n) : c.uf ≤ Rr c n k := by
  unfold Rr
  have := gwT_ge n k
  calc c.uf = c.uf * 1 := by omega
    _ ≤ c.uf * gwT n k := Nat.mul_le_mul_left c.uf (by omega)

/-- achievable costs; the `Bool` says whether the first state is already on DISK -/
inductive A (c : Costs) : Bool → Nat → Nat → Nat → Nat → Prop
  | t_one (k m : Nat) : A c false k 1 m c.uf
  | t_ram (k n m : Nat) (hk : 1 ≤ k) (hn : 2 ≤ n) : A c false k n m (Rr c n k)
  | t_disk (k n m v : Nat) (hm : 1 ≤ m) (h : A c true k n m v) : A c false k n m (c.wd + v)
  | p_one (k m : Nat) (hm : 1 ≤ m) : A c true k 1 m c.uf
  | p_ram (k n m : Nat) (hk : 1 ≤ k) (hn : 2 ≤ n) (hm : 1 ≤ m) : A c true k n m (Rr c n k)
  | p_split (k n m j v1 v2 : Nat) (hm : 1 ≤ m) (hj1 : 1 ≤ j) (hj2 : j < n) (hjk : 1 ≤ k → j + 2 ≤ n)
      (h1 : A c false k (n - j) (m - 1) v1) (h2 : A c true k j m v2) :
      A c true k n m (j * c.uf + v1 + c.rd + v2)

theorem A_false_inv {c : Costs} {k n m v : Nat} (h : A c false k n m v) :
    (n = 1 ∧ v = c.uf) ∨ (1 ≤ k ∧ 2 ≤ n ∧ v = Rr c n k) ∨
      (1 ≤ m ∧ ∃ v', A c true k n m v' ∧ v = c.wd + v') := by
  cases h with
  | t_one => exact Or.inl ⟨rfl, rfl⟩
  | t_ram _ _ _ hk hn => exact Or.inr (Or.inl ⟨hk, hn, rfl⟩)
  | t_disk _ _ _ v' hm h' => exact Or.inr (Or.inr ⟨hm, v', h', rfl⟩)

theorem A_true_inv {c : Costs} {k n m v : Nat} (h : A c true k n m v) :
    1 ≤ m ∧ ((n = 1 ∧ v = c.uf) ∨ (1 ≤ k ∧ 2 ≤ n ∧ v = Rr c n k) ∨
      ∃ j v1 v2, 1 ≤ j ∧ j < n ∧ (1 ≤ k → j + 2 ≤ n) ∧ A c false k (n - j) (m - 1) v1 ∧
        A c true k j m v2 ∧ v = j * c.uf + v1 + c.rd + v2) := by
  cases h with
  | p_one _ _ hm => exact ⟨hm, Or.inl ⟨rfl, rfl⟩⟩
  | p_ram _ _ _ hk hn hm => exact ⟨hm, Or.inr (Or.inl ⟨hk, hn, rfl⟩)⟩
  | p_split _ _ _ j v1 v2 hm hj1 hj2 hjk h1 h2 =>
    exact ⟨hm, Or.inr (Or.inr ⟨j, v1, v2, hj1, hj2, hjk, h1, h2, rfl⟩)⟩

theorem A_pos {c : Costs} {p : Bool} {k n m v : Nat} (h : A c p k n m v) : 1 ≤ n := by
  induction h with
  | t_one => exact le_refl _
  | t_ram _ _ _ _ hn => omega
  | t_disk _ _ _ _ _ _ ih => exact ih
  | p_one => exact le_refl _
  | p_ram _ _ _ _ hn _ => omega
  | p_split _ _ _ _ _ _ _ hj1 hj2 _ _ _ _ _ => omega

theorem A_ge_uf {c : Costs} {p : Bool} {k n m v : Nat} (h : A c p k n m v) : c.uf ≤ v := by
  induction h with
  | t_one => exact le_refl _
  | t_ram _ n _ _ hn => exact Rr_ge c n _ (by omega)
  | t_disk _ _ _ _ _ _ ih => omega
  | p_one => exact le_refl _
  | p_ram _ n _ _ hn _ => exact Rr_ge c n _ (by omega)
  | p_split _ _ _ _ _ _ _ _ _ _ _ _ ih1 ih2 => omega

/-- the all-RAM cost `Rr c n k` is achievable (with a unit, or for a single step) -/
theorem A_R (c : Costs) (k n m : Nat) (h : 1 ≤ k ∨ n = 1) (hn : 1 ≤ n) : A c false k n m (Rr c n k) := by
  rcases Nat.eq_or_lt_of_le hn with h1 | h2
  · subst h1; rw [Rr_one]; exact A.t_one k m
  · rcases h with hk | h1
    · exact A.t_ram k n m hk h2
    · omega

theorem A_ram' (c : Costs) (k n m : Nat) (hk : 1 ≤ k) (hn : 1 ≤ n) : A c false k n m (Rr c n k) :=
  A_R c k n m (Or.inl hk) hn

theorem Ap_ram' (c : Costs) (k n m : Nat) (hk : 1 ≤ k) (hn : 1 ≤ n) (hm : 1 ≤ m) :
    A c true k n m (Rr c n k) := by
  rcases Nat.eq_or_lt_of_le hn with h1 | h2
  · subst h1; rw [Rr_one]; exact A.p_one k m hm
  · exact A.p_ram k n m hk h2 hm

theorem A_mono_m {c : Costs} {p : Bool} {k n m v : Nat} (h : A c p k n m v) :
    ∃ v', v' ≤ v ∧ A c p k n (m + 1) v' := by
  induction h with
  | t_one k m => exact ⟨_, le_refl _, A.t_one k (m + 1)⟩
  | t_ram k n m hk hn => exact ⟨_, le_refl _, A.t_ram k n (m + 1) hk hn⟩
  | t_disk k n m v hm _ ih =>
    obtain ⟨v', hv, h'⟩ := ih
    exact ⟨c.wd + v', by omega, A.t_disk k n (m + 1) v' (by omega) h'⟩
  | p_one k m hm => exact ⟨_, le_refl _, A.p_one k (m + 1) (by omega)⟩
  | p_ram k n m hk hn hm => exact ⟨_, le_refl _, A.p_ram k n (m + 1) hk hn (by omega)⟩
  | p_split k n m j v1 v2 hm hj1 hj2 hjk h1 h2 ih1 ih2 =>
    obtain ⟨w1, hw1, g1⟩ := ih1
    obtain ⟨w2, hw2, g2⟩ := ih2
    have e : m - 1 + 1 = m + 1 - 1 := by omega
    rw [e] at g1
    exact ⟨j * c.uf + w1 + c.rd + w2, by omega,
      A.p_split k n (m + 1) j w1 w2 (by omega) hj1 hj2 hjk g1 g2⟩

/-- a strategy that does not need the disk copy of the first state can ignore it -/
theorem prime_le {c : Costs} {k n m v : Nat} (h : A c false k n m v) (hm : 1 ≤ m) :
    ∃ v', v' ≤ v ∧ A c true k n m v' := by
  rcases A_false_inv h with ⟨rfl, rfl⟩ | ⟨hk, hn, rfl⟩ | ⟨_, v', h', rfl⟩
  · exact ⟨_, le_refl _, A.p_one k m hm⟩
  · exact ⟨_, le_refl _, A.p_ram k n m hk hn hm⟩
  · exact ⟨v', by omega, h'⟩

/-- `T_k(n,m) ≤ j·uf + T_k(j,m) + T_{k-1}(n-j,m)` for totals of `n` steps -/
def Star (c : Costs) (n : Nat) : Prop :=
  ∀ k m j v1 v2, 1 ≤ k → 1 ≤ j → j < n → A c false k j m v1 → A c false (k - 1) (n - j) m v2 →
    ∃ v, A c false k n m v ∧ v ≤ j * c.uf + v1 + v2

/-- the exchange of a unit: a RAM unit more is at least as good as the disk unit that holds the first
state (`k - 1` RAM units and the first state on DISK against `k` RAM units and `m - 1` disk units) -/
theorem wex (c : Costs) (N : Nat) (hS : ∀ n, n < N → Star c n) :
    ∀ j, j < N → ∀ k m w, 1 ≤ k → A c true (k - 1) j m w →
      ∃ w', w' ≤ w ∧ A c false k j (m - 1) w' := by
  intro j
  induction j using Nat.strong_induction_on with
  | _ j ih =>
    intro hjN k m w hk h
    obtain ⟨hm, hcase⟩ := A_true_inv h
    rcases hcase with ⟨rfl, rfl⟩ | ⟨hk1, hj, rfl⟩ | ⟨j', a1, a2, hj1, hj2, _, h1, h2, rfl⟩
    · exact ⟨_, le_refl _, A.t_one k (m - 1)⟩
    · refine ⟨Rr c j k, ?_, A.t_ram k j (m - 1) hk hj⟩
      have := Rr_anti c j (k - 1) hk1 (by omega)
      have e : k - 1 + 1 = k := by omega
      rw [e] at this
      exact this
    · obtain ⟨a2', ha2, g2⟩ := ih j' hj2 (by omega) k m a2 hk h2
      obtain ⟨v, hv, hle⟩ := hS j hjN k (m - 1) j' a2' a1 hk hj1 hj2 g2 h1
      exact ⟨v, by omega, hv⟩

/-- the three forms the cost `v2` of the right part of a split (`k - 1` RAM units) can take: a single
step, all-RAM, or through DISK; in the last case in terms of `k` RAM units (`wex`) -/
theorem v2norm (c : Costs) (N : Nat) (hS : ∀ n, n < N → Star c n) :
    ∀ n', n' < N → ∀ k m v2, 1 ≤ k → A c false (k - 1) n' m v2 →
      (n' = 1 ∧ c.uf ≤ v2) ∨ (2 ≤ k ∧ 2 ≤ n' ∧ Rr c n' (k - 1) ≤ v2) ∨
      (1 ≤ m ∧ 2 ≤ n' ∧ ∃ w, A c false k n' (m - 1) w ∧ c.wd + w + c.rd ≤ v2) := by
  intro n' hn' k m v2 hk h
  rcases A_false_inv h with ⟨rfl, rfl⟩ | ⟨hk1, hn, rfl⟩ | ⟨hm, v', hp, rfl⟩
  · exact Or.inl ⟨rfl, le_refl _⟩
  · exact Or.inr (Or.inl ⟨by omega, hn, le_refl _⟩)
  · obtain ⟨_, hcase⟩ := A_true_inv hp
    rcases hcase with ⟨rfl, rfl⟩ | ⟨hk1, hn, rfl⟩ | ⟨j', w1, w2, hj1, hj2, _, h1, h2, rfl⟩
    · exact Or.inl ⟨rfl, by omega⟩
    · exact Or.inr (Or.inl ⟨by omega, hn, by omega⟩)
    · obtain ⟨w2', hw2, g2⟩ := wex c N hS j' (by omega) k m w2 hk h2
      obtain ⟨w, hw, hle⟩ := hS n' hn' k (m - 1) j' w2' w1 hk hj1 hj2 g2 h1
      exact Or.inr (Or.inr ⟨hm, by omega, w, hw, by omega⟩)

/-- the split inequality (`Star`) when the first state is on disk and the right part is all-RAM -/
theorem ss (c : Costs) (N : Nat) (hS : ∀ n, n < N → Star c n) (k m n j v1 : Nat) (hnN : n ≤ N)
    (hk : 1 ≤ k) (hj1 : 1 ≤ j) (hj2 : j < n) (h0 : k = 1 → n - j = 1) (h : A c true k j m v1) :
    ∃ v', A c true k n m v' ∧ v' ≤ j * c.uf + v1 + Rr c (n - j) (k - 1) := by
  obtain ⟨hm, hcase⟩ := A_true_inv h
  rcases hcase with ⟨rfl, rfl⟩ | ⟨_, _, rfl⟩ | ⟨j', w1, w2, hj1', hj2', hjk', h1, h2, rfl⟩
  · refine ⟨Rr c n k, A.p_ram k n m hk (by omega) hm, ?_⟩
    have := Rr_rec c n k 1 hk (le_refl _) hj2 h0
    rw [Rr_one] at this
    omega
  · exact ⟨Rr c n k, A.p_ram k n m hk (by omega) hm, Rr_rec c n k j hk hj1 hj2 h0⟩
  · have hR : A c false (k - 1) (n - j' - (j - j')) (m - 1) (Rr c (n - j) (k - 1)) := by
      have e : n - j' - (j - j') = n - j := by omega
      rw [e]
      apply A_R
      · by_cases hk1 : k = 1
        · right; exact h0 hk1
        · left; omega
      · omega
    obtain ⟨w1', hw1, hle⟩ := hS (n - j') (by omega) k (m - 1) (j - j') w1 _ hk (by omega) (by omega) h1 hR
    refine ⟨j' * c.uf + w1' + c.rd + w2,
      A.p_split k n m j' w1' w2 hm hj1' (by omega) (fun hk' => by have := hjk' hk'; omega) hw1 h2, ?_⟩
    have : j' * c.uf + (j - j') * c.uf = j * c.uf := by rw [← Nat.add_mul, Nat.add_sub_of_le (by omega)]
    omega

theorem star_step (c : Costs) (N : Nat) (hS : ∀ n, n < N → Star c n) : Star c N := by
  intro k m j v1 v2 hk hj1 hj2 h1 h2
  -- the case "right part all-RAM (or a single step)"
  have ramcase : Rr c (N - j) (k - 1) ≤ v2 → (k = 1 → N - j = 1) →
      ∃ v, A c false k N m v ∧ v ≤ j * c.uf + v1 + v2 := by
    intro hR h0
    rcases A_false_inv h1 with ⟨rfl, rfl⟩ | ⟨_, _, rfl⟩ | ⟨hm, v1', hp, rfl⟩
    · refine ⟨Rr c N k, A.t_ram k N m hk (by omega), ?_⟩
      have := Rr_rec c N k 1 hk (le_refl _) hj2 h0
      rw [Rr_one] at this
      omega
    · refine ⟨Rr c N k, A.t_ram k N m hk (by omega), ?_⟩
      have := Rr_rec c N k j hk hj1 hj2 h0
      omega
    · obtain ⟨v', hv', hle⟩ := ss c N hS k m N j v1' (le_refl _) hk hj1 hj2 h0 hp
      exact ⟨c.wd + v', A.t_disk k N m v' hm hv', by omega⟩
  rcases v2norm c N hS (N - j) (by omega) k m v2 hk h2 with ⟨hn1, hv2⟩ | ⟨hk2, hn2, hv2⟩ |
      ⟨hm, hn2, w, hw, hv2⟩
  · apply ramcase
    · rw [hn1, Rr_one]; exact hv2
    · intro _; exact hn1
  · apply ramcase hv2
    intro hk1; omega
  · obtain ⟨u, hu, hpu⟩ := prime_le h1 hm
    refine ⟨c.wd + (j * c.uf + w + c.rd + u),
      A.t_disk k N m _ hm (A.p_split k N m j w u hm hj1 hj2 (fun _ => by omega) hw hpu), by omega⟩

theorem star (c : Costs) : ∀ n, Star c n := by
  intro n
  induction n using Nat.strong_induction_on with
  | _ n ih => exact star_step c n ih

theorem inc_T {c : Costs} {k n m v : Nat} (h : A c false k n m v) (hk : 1 ≤ k) :
    ∃ v', A c false k (n + 1) m v' ∧ v' ≤ v + n * c.uf + c.uf := by
  have hn := A_pos h
  have h1 : A c false (k - 1) (n + 1 - n) m c.uf := by
    have e : n + 1 - n = 1 := by omega
    rw [e]; exact A.t_one _ _
  obtain ⟨v', hv', hle⟩ := star c (n + 1) k m n v c.uf hk hn (by omega) h h1
  exact ⟨v', hv', by omega⟩

theorem inc_P {c : Costs} {k n m v : Nat} (h : A c true k n m v) (hk : 1 ≤ k) :
    ∃ v', A c true k (n + 1) m v' ∧ v' ≤ v + n * c.uf + c.uf := by
  obtain ⟨hm, hcase⟩ := A_true_inv h
  rcases hcase with ⟨rfl, rfl⟩ | ⟨_, hn, rfl⟩ | ⟨j, v1, v2, hj1, hj2, hjk, h1, h2, rfl⟩
  · refine ⟨Rr c 2 k, A.p_ram k 2 m hk (le_refl _) hm, ?_⟩
    unfold Rr; rw [gwT_two k hk]; omega
  · refine ⟨Rr c (n + 1) k, A.p_ram k (n + 1) m hk (by omega) hm, ?_⟩
    have := Rr_rec c (n + 1) k n hk (by omega) (by omega) (fun _ => by omega)
    have e : n + 1 - n = 1 := by omega
    rw [e, Rr_one] at this
    omega
  · obtain ⟨v1', hv1, hle⟩ := inc_T h1 hk
    have e : n - j + 1 = n + 1 - j := by omega
    rw [e] at hv1
    have hjk' := hjk hk
    refine ⟨j * c.uf + v1' + c.rd + v2,
      A.p_split k (n + 1) m j v1' v2 hm hj1 (by omega) (fun _ => by omega) hv1 h2, ?_⟩
    have : (n - j) * c.uf ≤ n * c.uf := Nat.mul_le_mul_right _ (by omega)
    omega

/-- a split whose right part may be a single step, for every `k` -/
theorem p_split_le {c : Costs} {k j n' m v1 v2 : Nat} (h2 : A c true k j m v2)
    (h1 : A c false k n' (m - 1) v1) :
    ∃ p, A c true k (j + n') m p ∧ p ≤ j * c.uf + v1 + c.rd + v2 := by
  have hj := A_pos h2
  have hn' := A_pos h1
  obtain ⟨hm, _⟩ := A_true_inv h2
  by_cases hcase : 1 ≤ k ∧ n' = 1
  · obtain ⟨hk, rfl⟩ := hcase
    obtain ⟨p, hp, hle⟩ := inc_P h2 hk
    have := A_ge_uf h1
    exact ⟨p, hp, by omega⟩
  · have e : j + n' - j = n' := by omega
    refine ⟨_, A.p_split k (j + n') m j v1 v2 hm hj (by omega) (fun hk => by omega) (by rw [e]; exact h1) h2,
      le_refl _⟩

theorem A_mono_k {c : Costs} {p : Bool} {k n m v : Nat} (h : A c p k n m v) :
    ∃ v', v' ≤ v ∧ A c p (k + 1) n m v' := by
  induction h with
  | t_one k m => exact ⟨_, le_refl _, A.t_one (k + 1) m⟩
  | t_ram k n m hk hn => exact ⟨_, Rr_anti c n k hk (by omega), A.t_ram (k + 1) n m (by omega) hn⟩
  | t_disk k n m v hm _ ih =>
    obtain ⟨v', hv, h'⟩ := ih
    exact ⟨c.wd + v', by omega, A.t_disk (k + 1) n m v' hm h'⟩
  | p_one k m hm => exact ⟨_, le_refl _, A.p_one (k + 1) m hm⟩
  | p_ram k n m hk hn hm =>
    exact ⟨_, Rr_anti c n k hk (by omega), A.p_ram (k + 1) n m (by omega) hn hm⟩
  | p_split k n m j v1 v2 hm hj1 hj2 hjk h1 h2 ih1 ih2 =>
    obtain ⟨w1, hw1, g1⟩ := ih1
    obtain ⟨w2, hw2, g2⟩ := ih2
    obtain ⟨p, hp, hle⟩ := p_split_le g2 g1
    have e : j + (n - j) = n := by omega
    rw [e] at hp
    exact ⟨p, by omega, hp⟩

theorem A_mono {c : Costs} {p : Bool} {k n m v : Nat} (h : A c p k n m v) :
    ∀ k' m', k ≤ k' → m ≤ m' → ∃ v', v' ≤ v ∧ A c p k' n m' v' := by
  intro k' m' hk hm
  obtain ⟨dk, rfl⟩ := Nat.exists_eq_add_of_le hk
  obtain ⟨dm, rfl⟩ := Nat.exists_eq_add_of_le hm
  clear hk hm
  induction dk with
  | zero =>
    induction dm with
    | zero => exact ⟨v, le_refl _, h⟩
    | succ d ih =>
      obtain ⟨v', hv, h'⟩ := ih
      obtain ⟨v'', hv', h''⟩ := A_mono_m h'
      exact ⟨v'', by omega, h''⟩
  | succ d ih =>
    obtain ⟨v', hv, h'⟩ := ih
    obtain ⟨v'', hv', h''⟩ := A_mono_k h'
    exact ⟨v'', by omega, h''⟩

end Ckpt.HLB

#print axioms Ckpt.HLB.star
#print axioms Ckpt.HLB.A_mono
