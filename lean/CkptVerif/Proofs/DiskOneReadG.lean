import CkptVerif.Proofs.LBPlans
import CkptVerif.Proofs.OptInf
import CkptVerif.Proofs.RevolveSteps
import Mathlib.Tactic
/-!
# The cost function behind the one-read-disk lower bound

`Gd uf wr k n`: the cheapest way (forward steps priced `uf`, every disk checkpoint priced
`wr = wd + rd`) to reverse `n` steps from a state held in working storage, with `k` RAM units and
one-read disk checkpoints.  It is the minimum over *compositions* `n = l_1 + … + l_m + top`:
the segments `l_i` start at a disk checkpoint (price `wr`), are swept once (`uf·l_i`) and reversed
with memory only (`uf·gwT l_i k`), the top part is reversed with memory only.

Facts proved here: the recurrence inequalities (`Gd_le_mem`, `Gd_le_split`), `Gd_one`, monotonicity
in `k` (`Gd_anti`), the disk merge `Gd_P2`, the RAM merge `Gd_P1`, and the link with the table
`optInfTable` (`optInf_le_Gd`).
-/
namespace Ckpt.LB7
open Ckpt.GW Ckpt.RC

/-- `CC uf wr k n c`: `c` is the price of some composition of `n ≥ 1` steps with `k` units.
With no unit at all a memory-only part is a single step. -/
inductive CC (uf wr k : Nat) : Nat → Nat → Prop
  | mem (n : Nat) (hn : 1 ≤ n) (hk : 1 ≤ k ∨ n = 1) : CC uf wr k n (uf * gwT n k)
  | split (n j c : Nat) (hj : 1 ≤ j) (hjn : j < n) (hk : 1 ≤ k ∨ j = 1) (h : CC uf wr k (n - j) c) :
      CC uf wr k n (wr + uf * j + uf * gwT j k + c)

theorem CC.pos {uf wr k n c : Nat} (h : CC uf wr k n c) : 1 ≤ n := by
  cases h with
  | mem n hn _ => exact hn
  | split n j c hj hjn _ _ => omega

theorem CC.exists (uf wr k : Nat) : ∀ n, 1 ≤ n → ∃ c, CC uf wr k n c := by
  intro n
  induction n using Nat.strong_induction_on with
  | _ n ih =>
    intro hn
    rcases Nat.eq_or_lt_of_le hn with rfl | h2
    · exact ⟨_, CC.mem 1 (le_refl _) (Or.inr rfl)⟩
    · obtain ⟨c, hc⟩ := ih (n - 1) (by omega) (by omega)
      exact ⟨_, CC.split n 1 c (le_refl _) h2 (Or.inr rfl) hc⟩

noncomputable def Gd (uf wr k n : Nat) : Nat := sInf {c | CC uf wr k n c}

theorem Gd_mem (uf wr k n : Nat) (hn : 1 ≤ n) : CC uf wr k n (Gd uf wr k n) := by
  have : {c | CC uf wr k n c}.Nonempty := CC.exists uf wr k n hn
  exact Nat.sInf_mem this

theorem Gd_le {uf wr k n c : Nat} (h : CC uf wr k n c) : Gd uf wr k n ≤ c := Nat.sInf_le h

theorem Gd_le_mem (uf wr k n : Nat) (hn : 1 ≤ n) (hk : 1 ≤ k ∨ n = 1) :
    Gd uf wr k n ≤ uf * gwT n k := Gd_le (CC.mem n hn hk)

theorem Gd_le_split (uf wr k n j : Nat) (hj : 1 ≤ j) (hjn : j < n) (hk : 1 ≤ k ∨ j = 1) :
    Gd uf wr k n ≤ wr + uf * j + uf * gwT j k + Gd uf wr k (n - j) :=
  Gd_le (CC.split n j _ hj hjn hk (Gd_mem uf wr k (n - j) (by omega)))

theorem Gd_one (uf wr k : Nat) : Gd uf wr k 1 = uf := by
  have h := Gd_mem uf wr k 1 (le_refl _)
  generalize Gd uf wr k 1 = c at h
  cases h with
  | mem _ _ _ => rw [gwT_one]; omega
  | split _ j c hj hjn _ _ => omega

theorem gwT_le_pred (l k : Nat) (h : 1 ≤ k ∨ l = 1) (hl : 1 ≤ l) : gwT l (k + 1) ≤ gwT l k := by
  rcases h with h | h
  · exact gwT_anti k h l hl
  · subst h; rw [gwT_one, gwT_one]

theorem CC_anti {uf wr k n c : Nat} (h : CC uf wr k n c) : ∃ c', c' ≤ c ∧ CC uf wr (k + 1) n c' := by
  induction h with
  | mem n hn hk =>
    exact ⟨_, Nat.mul_le_mul_left uf (gwT_le_pred n k hk hn), CC.mem n hn (Or.inl (by omega))⟩
  | split n j c hj hjn hk _ ih =>
    obtain ⟨c', hc', hcc⟩ := ih
    refine ⟨wr + uf * j + uf * gwT j (k + 1) + c', ?_, CC.split n j c' hj hjn (Or.inl (by omega)) hcc⟩
    have := Nat.mul_le_mul_left uf (gwT_le_pred j k hk hj)
    omega

theorem Gd_anti (uf wr k n : Nat) (hn : 1 ≤ n) : Gd uf wr (k + 1) n ≤ Gd uf wr k n := by
  obtain ⟨c', hc', hcc⟩ := CC_anti (Gd_mem uf wr k n hn)
  exact le_trans (Gd_le hcc) hc'

theorem Gd_anti' (uf wr : Nat) {k k' : Nat} (h : k ≤ k') (n : Nat) (hn : 1 ≤ n) :
    Gd uf wr k' n ≤ Gd uf wr k n := by
  induction h with
  | refl => exact le_refl _
  | step _ ih => exact le_trans (Gd_anti uf wr _ n hn) ih

/-- A bound on `Gd k n` in terms of a left part of `j` steps and what is right of it (`k'` units, extra
price `d`) that holds for memory-only left parts holds for all left parts: the first segment of the
left part is split off and the rest is treated in the same way. -/
theorem CC_merge {uf wr k k' d : Nat}
    (hmem : ∀ j n, 1 ≤ j → (1 ≤ k ∨ j = 1) → j < n →
      Gd uf wr k n ≤ d + uf * j + uf * gwT j k + Gd uf wr k' (n - j))
    {j c : Nat} (h : CC uf wr k j c) :
    ∀ n, j < n → Gd uf wr k n ≤ d + uf * j + c + Gd uf wr k' (n - j) := by
  induction h with
  | mem j hj hk => exact fun n hjn => hmem j n hj hk hjn
  | split j j' c' hj' hj'j hk _ ih =>
    intro n hjn
    have h1 := Gd_le_split uf wr k n j' hj' (by omega) hk
    have h2 := ih (n - j') (by omega)
    rw [show n - j' - (j - j') = n - j by omega] at h2
    have e2 : uf * j = uf * j' + uf * (j - j') := by rw [← Nat.mul_add]; congr 1; omega
    omega

/-- **the disk merge**: a further disk checkpoint at the base, a sweep of `j` steps -/
theorem Gd_P2 (uf wr k n j : Nat) (hj : 1 ≤ j) (hjn : j < n) :
    Gd uf wr k n ≤ wr + uf * j + Gd uf wr k j + Gd uf wr k (n - j) :=
  CC_merge (fun j n hj hk hjn => Gd_le_split uf wr k n j hj hjn hk) (Gd_mem uf wr k j hj) n hjn

/-- the RAM merge when the left part is memory-only -/
theorem Gd_P1_mem {uf wr k m c : Nat} (h : CC uf wr k m c) :
    ∀ t, 1 ≤ t → Gd uf wr (k + 1) (t + m) ≤ uf * t + uf * gwT t (k + 1) + c := by
  induction h with
  | mem m hm hk =>
    intro t ht
    have h1 := Gd_le_mem uf wr (k + 1) (t + m) (by omega) (Or.inl (by omega))
    have h2 := gwT_rec_le1 (t + m) (k + 1) t (by omega) ht (by omega)
      (by intro hk1; rcases hk with hk | hk <;> omega)
    rw [Nat.add_sub_cancel_left, Nat.add_sub_cancel] at h2
    have := Nat.mul_le_mul_left uf h2
    rw [Nat.mul_add, Nat.mul_add] at this
    omega
  | split m l c' hl hlm hk _ ih =>
    intro t ht
    have h1 := Gd_le_split uf wr (k + 1) (t + m) t ht (by omega) (Or.inl (by omega))
    rw [Nat.add_sub_cancel_left] at h1
    have h2 := ih l hl
    have e : l + (m - l) = m := by omega
    rw [e] at h2
    have h3 := Nat.mul_le_mul_left uf (gwT_le_pred l k hk hl)
    omega

/-- **the RAM merge**: the base stays in a RAM unit, a sweep of `j` steps -/
theorem Gd_P1 (uf wr k n j : Nat) (hj : 1 ≤ j) (hjn : j < n) :
    Gd uf wr (k + 1) n ≤ uf * j + Gd uf wr (k + 1) j + Gd uf wr k (n - j) := by
  have h := CC_merge (k' := k) (d := 0)
    (fun j n hj _ hjn => by
      have := Gd_P1_mem (Gd_mem uf wr k (n - j) (by omega)) j hj
      rw [show j + (n - j) = n by omega] at this
      omega)
    (Gd_mem uf wr (k + 1) j hj) n hjn
  omega

/-- A table `ti` that is below the memory-only prices `o0` and below every candidate of the Disk-Revolve
recurrence is below every composition price (the index `l` stands for `l + 1` steps). -/
theorem le_CC_of_rec (uf ub wr cm lmax : Nat) (hcm : 1 ≤ cm) (o0 ti : Nat → Nat)
    (ho : ∀ l ≤ lmax, o0 l + (l + 1) * uf = (l + 1) * ub + uf * gwT (l + 1) cm)
    (hle : ∀ l ≤ lmax, ti l ≤ o0 l)
    (hrec : ∀ l j, 2 ≤ l → l ≤ lmax → 1 ≤ j → j < l → ti l ≤ wr + j * uf + ti (l - j) + o0 (j - 1))
    {n c : Nat} (h : CC uf wr cm n c) : n ≤ lmax + 1 → ti (n - 1) + n * uf ≤ n * ub + c := by
  induction h with
  | mem n hn _ =>
    intro hn'
    have h1 := hle (n - 1) (by omega)
    have h2 := ho (n - 1) (by omega)
    rw [Nat.sub_add_cancel hn] at h2
    omega
  | split n j c hj hjn _ hc ih =>
    intro hn'
    -- `n = j + r`, the right part has `r` steps
    obtain ⟨r, rfl⟩ : ∃ r, n = j + r := ⟨n - j, by omega⟩
    rw [Nat.add_sub_cancel_left] at hc ih
    have hg := ho (j - 1) (by omega)
    rw [Nat.sub_add_cancel hj] at hg
    have e6 : uf * j = j * uf := Nat.mul_comm _ _
    have e2 : (j + r) * uf = j * uf + r * uf := Nat.add_mul _ _ _
    have e3 : (j + r) * ub = j * ub + r * ub := Nat.add_mul _ _ _
    by_cases hlast : r = 1
    · -- the right part is a single step: the memory-only entry is not worse
      subst hlast
      have h1 := hle (j + 1 - 1) (by omega)
      have h2 := ho (j + 1 - 1) (by omega)
      rw [Nat.add_sub_cancel] at h1 h2
      have h3 := gwT_rec_le1 (j + 1) cm j hcm hj (Nat.lt_succ_self j) (fun _ => Nat.add_sub_cancel_left ..)
      rw [Nat.add_sub_cancel_left, gwT_one] at h3
      have h4 := Nat.mul_le_mul_left uf h3
      rw [Nat.mul_add, Nat.mul_add, Nat.mul_one] at h4
      have hc1 : uf ≤ c := by
        have := Gd_le hc
        rwa [Gd_one] at this
      rw [Nat.add_sub_cancel]
      omega
    · -- a candidate of the recurrence
      have ihc := ih (le_trans (Nat.le_add_left r j) hn')
      obtain ⟨g1, g2, g3, g4⟩ : 2 ≤ j + r - 1 ∧ j + r - 1 ≤ lmax ∧ j < j + r - 1 ∧ j + r - 1 - j = r - 1 := by
        omega
      have hmin := hrec (j + r - 1) j g1 g2 hj g3
      rw [g4] at hmin
      omega

theorem optInf_le_CC (lmax cm uf ub wr : Nat) (hcm : 1 ≤ cm) {n c : Nat} (h : CC uf wr cm n c) :
    n ≤ lmax + 1 →
    (optInfTable lmax cm uf ub wr (opt0Table lmax cm uf ub)).getD (n - 1) 0 + n * uf ≤ n * ub + c :=
  le_CC_of_rec uf ub wr cm lmax hcm (opt0Get (opt0Table lmax cm uf ub) cm)
    (fun l => (optInfTable lmax cm uf ub wr (opt0Table lmax cm uf ub)).getD l 0)
    (fun l hl => opt0_eq_gwT lmax cm uf ub l cm hl hcm (le_refl _))
    (fun l hl => optInf_le_opt0 lmax lmax cm cm uf ub wr hcm (le_refl _) l hl)
    (fun l j hl2 hl hj hjl => by
      rw [(optInfTable_spec lmax cm uf ub wr (opt0Table lmax cm uf ub)).2.2.2 l hl2 hl]
      exact le_trans (Nat.min_le_right _ _)
        (foldl_min_le _ _ (List.mem_map.2 ⟨j, List.mem_range'_1.2 ⟨hj, by omega⟩, rfl⟩)))
    h

/-- the table value plus the first sweep is at most `N·ub + Gd cm N` -/
theorem optInf_le_Gd (N cm uf ub wr : Nat) (hN : 1 ≤ N) (hcm : 1 ≤ cm) :
    (optInfTable (N - 1) cm uf ub wr (opt0Table (N - 1) cm uf ub)).getD (N - 1) 0 + N * uf
      ≤ N * ub + Gd uf wr cm N :=
  optInf_le_CC (N - 1) cm uf ub wr hcm (Gd_mem uf wr cm N hN) (by omega)

end Ckpt.LB7
