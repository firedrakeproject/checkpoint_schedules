import CkptVerif.Model.Revolve
import Mathlib.Data.Nat.Choose.Basic
import Mathlib.Order.Monotone.Basic
/-! `binom`/`beta` of the model are the binomial coefficients; growth of `beta (c+1) ·`. -/
namespace Ckpt

theorem binom_eq_choose (n k : Nat) : binom n k = Nat.choose n k := by
  induction n generalizing k with
  | zero => cases k <;> simp [binom]
  | succ n ih =>
    cases k with
    | zero => simp [binom]
    | succ k => simp [binom, ih, Nat.choose_succ_succ]

theorem beta_eq (x y : Nat) : beta x y = (x + y).choose y := by
  unfold beta; exact binom_eq_choose _ _

/-- Pascal's rule in `beta` form -/
theorem beta_succ_succ (c t : Nat) : beta (c + 1) (t + 1) = beta (c + 1) t + beta c (t + 1) := by
  simp only [beta_eq]
  have e : c + 1 + (t + 1) = (c + 1 + t) + 1 := by omega
  have e' : c + 1 + t = c + (t + 1) := by omega
  rw [e, Nat.choose_succ_succ, e']

theorem beta_pos (x y : Nat) : 1 ≤ beta x y := by
  rw [beta_eq]; exact Nat.choose_pos (by omega)

theorem beta_zero_right (x : Nat) : beta x 0 = 1 := by simp [beta_eq]

theorem beta_lt_succ (c t : Nat) : beta (c + 1) t < beta (c + 1) (t + 1) := by
  have := beta_succ_succ c t
  have := beta_pos c (t + 1)
  omega

theorem beta_succ_ge (c t : Nat) : t + 1 ≤ beta (c + 1) t := by
  induction t with
  | zero => simp [beta_zero_right]
  | succ t ih => have := beta_lt_succ c t; omega

theorem beta_succ_strictMono (c : Nat) : StrictMono (fun t => beta (c + 1) t) :=
  strictMono_nat_of_lt_succ (beta_lt_succ c)

theorem beta_succ_lt_of_lt (c : Nat) {s t : Nat} (h : s < t) : beta (c + 1) s < beta (c + 1) t :=
  beta_succ_strictMono c h

theorem beta_succ_le_of_le (c : Nat) {s t : Nat} (h : s ≤ t) : beta (c + 1) s ≤ beta (c + 1) t :=
  (beta_succ_strictMono c).monotone h

example : beta 3 2 = 10 ∧ (3 + 2).choose 2 = 10 := by decide
example : 4 + 1 ≤ beta (2 + 1) 4 := beta_succ_ge 2 4

end Ckpt
